import GramModel.Lemmas.EvalTracesPin
import GramModel.Lemmas.ArmsTie
import GramModel.Lemmas.ConvCoherence
import GramModel.Lemmas.SoundRun

/-!
# C06 — definitional equality used by the checker agrees with evaluation

`sameX` is the pure reading of `syntactically_equal` (structural equality up to names and
parameter annotations); `convX` is normalise-and-compare.  That the checker's own
`unify`/`normalize_weak_head` agree with the evaluator is proved for the models
(`C06_eval_whnf_agree`, `C06_eval_whnfS_agree`, `C06_conv_reduct`); the `programs` suite replays it on
the binary per program (normalizer vs. evaluator, `unify(t,t)`, `unify(t, reduct)`, symmetry).
-/

/-- Syntactic equality is an equivalence relation. -/
def C06_same_refl_stmt : Prop := ∀ (t : Tm), sameX t t = true
theorem C06_same_refl : C06_same_refl_stmt := OracleLemmas.sameX_refl
def C06_same_symm_stmt : Prop := ∀ (a b : Tm), sameX a b = sameX b a
theorem C06_same_symm : C06_same_symm_stmt := OracleLemmas.sameX_symm
def C06_same_trans_stmt : Prop := ∀ (a b c : Tm), sameX a b = true → sameX b c = true → sameX a c = true
theorem C06_same_trans : C06_same_trans_stmt := fun _ _ _ h1 h2 => OracleLemmas.sameX_trans h1 h2

/-- Every term is judged equal to itself, with any fuel ≥ 1, in any context — even a term that has
no normal form. -/
def C06_conv_refl_stmt : Prop := ∀ (f : Nat) (Δ : DCtxX) (t : Tm), convX (f+1) Δ t t = some true
theorem C06_conv_refl : C06_conv_refl_stmt := by
  intro f Δ t
  unfold convX
  simp [OracleLemmas.sameX_refl]

/-- The checker's normalizer and the evaluator contract the same redexes with the same δ-rule:
on two literals both use `delta` (exact arithmetic, truncating division, undefined on zero). -/
def C06_delta_shared_stmt : Prop :=
  ∀ (f : Nat) (op : BinOp) (x y : Int) (s : St),
    (whnfS (f+2) (.bin op (.lit x) (.lit y)) s =
      .ok (match delta op x y with | some r => r | none => .bin op (.lit x) (.lit y)) s) ∧
    step (.bin op (.lit x) (.lit y)) = delta op x y
theorem C06_delta_shared : C06_delta_shared_stmt := by
  intro f op x y s
  constructor
  · have hl : ∀ n, whnfS (f+1) (.lit n) = pure (.lit n) := by intro n; unfold whnfS; rfl
    have hb : ∀ (a : Tm) (g : Tm → M Tm), (pure a >>= g) = g a := fun _ _ => rfl
    unfold whnfS
    simp only [hl, hb]
    cases delta op x y <;> rfl
  · simp [step, isValue]

/-- Values are fixed points of weak-head normalisation (hole-free values). -/
def C06_whnf_value_stmt : Prop :=
  ∀ (f : Nat) (v : Tm) (s : St), isValue v = true → whnfS (f+1) v s = .ok v s
theorem C06_whnf_value : C06_whnf_value_stmt := by
  intro f v s hv
  cases v <;> simp [isValue] at hv <;> (unfold whnfS; rfl)

/-- The model of `syntactically_equal` (store layer) coincides with `sameX` on hole-free terms,
given enough fuel. -/
def C06_synEq_pure_stmt : Prop :=
  ∀ (a b : Tm) (s : St), a.holeFree = true → b.holeFree = true →
    ∃ n, ∀ f, n ≤ f → synEqS f a b s = .ok (sameX a b) s
theorem C06_synEq_pure : C06_synEq_pure_stmt := by
  intro a b s ha hb
  refine ⟨a.size + 1, fun f hf => ?_⟩
  rw [OracleLemmas.synEqS_pure a b f ha hb hf]
  rfl

/-- Unifying a hole-free term with itself succeeds (through the syntactic shortcut), leaving the
state untouched. -/
def C06_unify_refl_stmt : Prop :=
  ∀ (t : Tm) (s : St), t.holeFree = true → ∃ n, ∀ f, n ≤ f → unifyS f t t s = .ok true s
theorem C06_unify_refl : C06_unify_refl_stmt := by
  intro t s ht
  refine ⟨t.size + 2, fun f hf => ?_⟩
  rw [OracleLemmas.unifyS_refl_holeFree t f ht hf]
  rfl

/-- The store-layer normalizer (the model of `normalize_weak_head`, used by gram's checker) and the
independent checker's normalizer compute the same weak head normal form on hole-free terms under the
same definitions context, whenever both answer. -/
def C06_whnf_layers_agree_stmt : Prop :=
  ∀ (f g : Nat) (t r r' : Tm) (s s' : St), t.holeFree = true → s.store = [] →
    (∀ e ∈ s.dctx, ∀ d o, e = some (d, o) → d.holeFree = true) →
    whnfS f t s = .ok r s' → whnfX g s.dctx t = some r' → r = r'
theorem C06_whnf_layers_agree : C06_whnf_layers_agree_stmt := by
  intro f g t r r' s s' ht _ hD h hx
  exact (WhnfLemmas.whnf_agree f t s r s' ht hD h).2.2 g r' hx

/-- The same without the assumption on the store (a hole-free term never reads it), and with the two
facts the induction carries along: the run of the store-layer normalizer leaves the whole state
(store, contexts, diagnostics) as it was, and its result is again hole-free. -/
def C06_whnf_layers_agree_strong_stmt : Prop :=
  ∀ (f : Nat) (t r : Tm) (s s' : St), t.holeFree = true →
    (∀ e ∈ s.dctx, ∀ d o, e = some (d, o) → d.holeFree = true) →
    whnfS f t s = .ok r s' →
    s' = s ∧ r.holeFree = true ∧ ∀ (g : Nat) (r' : Tm), whnfX g s.dctx t = some r' → r = r'
theorem C06_whnf_layers_agree_strong : C06_whnf_layers_agree_strong_stmt := by
  intro f t r s s' ht hD h
  exact WhnfLemmas.whnf_agree f t s r s' ht hD h

-- non-vacuity: both normalizers answer, with the same term, on a group with a recursive unfolding,
-- a β-redex, arithmetic and a conditional, under a context with a definition
example :
    (match whnfS 30 (.letg (.cons 1 .int (.lit 2) .nil)
                (.ite (.bin .lt (.var 1 0) (.var 2 1)) (.app (.lam 3 false .int (.neg (.var 3 0))) (.var 1 0)) .tt))
              { dctx := [some (.lit 5, 1)] },
           whnfX 30 [some (.lit 5, 1)] (.letg (.cons 1 .int (.lit 2) .nil)
                (.ite (.bin .lt (.var 1 0) (.var 2 1)) (.app (.lam 3 false .int (.neg (.var 3 0))) (.var 1 0)) .tt)) with
     | .ok r _, some r' => r == r' && r == .lit (-2)
     | _, _ => false) = true := by decide +kernel

/-- On hole-free terms the conversion judgement is symmetric (at every fuel, in every context). -/
def C06_conv_symm_stmt : Prop :=
  ∀ (f : Nat) (Δ : DCtxX) (a b : Tm), a.holeFree = true → b.holeFree = true →
    (∀ e ∈ Δ, ∀ d o, e = some (d, o) → d.holeFree = true) →
    convX f Δ a b = convX f Δ b a
theorem C06_conv_symm : C06_conv_symm_stmt :=
  fun f Δ a b _ _ _ => OracleLemmas.convX_symm f Δ a b

/-- Symmetry needs none of the hole-freeness assumptions: the only arms of `convX` that look at one
side alone are the two hole arms, and they are symmetric as a pair. -/
def C06_conv_symm_general_stmt : Prop :=
  ∀ (f : Nat) (Δ : DCtxX) (a b : Tm), convX f Δ a b = convX f Δ b a
theorem C06_conv_symm_general : C06_conv_symm_general_stmt := OracleLemmas.convX_symm

/-- (**Refuted** below.)
gram's own conversion check (the model of `unify`) and the independent checker's `convX` give the
same verdict on hole-free terms under the same (hole-free) definitions context, whenever both answer;
and on such terms `unify` leaves the whole state as it was (it solves nothing, pushes and pops in
pairs) and never panics.  With `C06_conv_symm`, `C06_conv_refl` and the fuel-monotonicity of `convX`
this transfers symmetry and reflexivity to gram's own judgement on hole-free terms. -/
def C06_unify_layers_agree_unrestricted : Prop :=
  ∀ (f : Nat) (a b : Tm) (s : St), a.holeFree = true → b.holeFree = true →
    (∀ e ∈ s.dctx, ∀ d o, e = some (d, o) → d.holeFree = true) →
    (∀ site, unifyS f a b s ≠ .panic site) ∧
    ∀ (r : Bool) (s' : St), unifyS f a b s = .ok r s' →
      s' = s ∧ ∀ (g : Nat) (r' : Bool), convX g s.dctx a b = some r' → r = r'

/-- `C06_unify_layers_agree_unrestricted` is FALSE of the model as stated, in its first conjunct only:
nothing in the hypotheses says that the two terms are *well scoped* in the definitions context.
`unify` weak-head normalises both sides, and `normalize_weak_head` indexes the definitions context
with the variable's de Bruijn index (`definitions_context[index]`), which panics for an index that is
out of range.  Witness: the two distinct variables `x₀` and `x₁` under the empty context — the
syntactic shortcut answers "different", then normalising `x₀` panics at
`normalize_weak_head.definitions_context[index]`.  (Not a defect of the Rust code: the parser's
resolver and the checker's context discipline only ever hand well-scoped terms to `unify`; the
statement simply forgot the assumption.) -/
theorem C06_unify_layers_agree_refuted : ¬ C06_unify_layers_agree_unrestricted := by
  intro h
  have hp : unifyS 3 (.var 0 0) (.var 0 1) {} =
      .panic "normalize_weak_head.definitions_context[index]" := by rfl
  exact (h 3 (.var 0 0) (.var 0 1) {} rfl rfl (fun e he => by cases he)).1 _ hp

/-- Corrected statement, agreement part — **no scoping assumption at all**: on hole-free terms under a
hole-free definitions context, the only panics `unify` can reach are the two context lookups of
`normalize_weak_head` (an index outside the definitions context, or an entry whose offset exceeds
`index + 1`): never `unsigned_shift(..).unwrap()`, never the `let`-after-normalisation arm; a run
that answers leaves the whole state (store, both contexts, diagnostics) exactly as it was, and its
verdict is the verdict of the independent `convX` at every fuel at which `convX` answers. -/
def C06_unify_layers_agree_fixed_stmt : Prop :=
  ∀ (f : Nat) (a b : Tm) (s : St), a.holeFree = true → b.holeFree = true →
    (∀ e ∈ s.dctx, ∀ d o, e = some (d, o) → d.holeFree = true) →
    (∀ site, unifyS f a b s = .panic site →
      site = "normalize_weak_head.definitions_context[index]" ∨
      site = "normalize_weak_head.index+1-offset") ∧
    ∀ (r : Bool) (s' : St), unifyS f a b s = .ok r s' →
      s' = s ∧ ∀ (g : Nat) (r' : Bool), convX g s.dctx a b = some r' → r = r'
theorem C06_unify_layers_agree_fixed : C06_unify_layers_agree_fixed_stmt :=
  fun f a b s ha hb hD => UnifyAgree.unify_agree f a b s ha hb hD

/-- Corrected statement, panic-freedom part (the dropped first conjunct, with the assumption it
needs): if moreover both terms are well scoped in the definitions context, and every definition
recorded in the context has its offset in range (`off ≤ index + 1`) and is itself well scoped in the
part of the context it was pushed over (the context minus the `index + 1 - off` entries pushed after
its group — exactly what `type_check`'s group rule establishes and `pushD none` preserves), then
`unify` does not panic at any site. -/
def C06_unify_no_panic_stmt : Prop :=
  ∀ (f : Nat) (a b : Tm) (s : St), a.holeFree = true → b.holeFree = true →
    (∀ e ∈ s.dctx, ∀ d o, e = some (d, o) → d.holeFree = true) →
    wellScoped s.dctx.length a = true → wellScoped s.dctx.length b = true →
    (∀ i d off, s.dctx[i]? = some (some (d, off)) →
      off ≤ i + 1 ∧ wellScoped (s.dctx.length - (i + 1 - off)) d = true) →
    ∀ site, unifyS f a b s ≠ .panic site
theorem C06_unify_no_panic : C06_unify_no_panic_stmt :=
  fun f a b s ha hb hD hsa hsb hS => UnifyAgree.unify_no_panic f a b s ha hb hD hsa hsb hS

/-- The same for the normalizer alone, with the fact the induction carries: the weak head normal
form of a well-scoped hole-free term is well scoped. -/
def C06_whnf_no_panic_stmt : Prop :=
  ∀ (f : Nat) (t : Tm) (s : St), t.holeFree = true →
    (∀ e ∈ s.dctx, ∀ d o, e = some (d, o) → d.holeFree = true) →
    wellScoped s.dctx.length t = true →
    (∀ i d off, s.dctx[i]? = some (some (d, off)) →
      off ≤ i + 1 ∧ wellScoped (s.dctx.length - (i + 1 - off)) d = true) →
    (∀ site, whnfS f t s ≠ .panic site) ∧
    ∀ r s', whnfS f t s = .ok r s' → wellScoped s.dctx.length r = true
theorem C06_whnf_no_panic : C06_whnf_no_panic_stmt :=
  fun f t s ht hD hst hS => UnifyAgree.whnf_no_panic f t s ht hD hst hS

-- non-vacuity: both checks answer, with the same verdict, on two different convertible functions
-- (β-redex and arithmetic under a binder, a definition from the context), and on two inconvertible ones;
-- the context satisfies the scoping assumption of `C06_unify_no_panic`
example :
    (match unifyS 40 (.lam 1 false .int (.bin .sum (.var 1 0) (.var 2 1)))
              (.lam 3 false .int (.app (.lam 4 false .int (.bin .sum (.var 4 0) (.lit 5))) (.var 3 0)))
              { dctx := [some (.lit 5, 1)], tctx := [(.int, 1)], nerrs := 7 },
           convX 40 [some (.lit 5, 1)] (.lam 1 false .int (.bin .sum (.var 1 0) (.var 2 1)))
              (.lam 3 false .int (.app (.lam 4 false .int (.bin .sum (.var 4 0) (.lit 5))) (.var 3 0))) with
     | .ok r s', some r' => r == r' && r == true && s'.dctx == [some (.lit 5, 1)] && s'.nerrs == 7
     | _, _ => false) = true := by decide +kernel
example :
    (match unifyS 40 (.lam 1 false .int (.bin .sum (.lit 3) (.var 2 1)))
              (.lam 3 false .int (.app (.lam 4 false .int (.bin .sum (.lit 2) (.lit 5))) (.var 3 0)))
              { dctx := [some (.lit 5, 1)] },
           convX 40 [some (.lit 5, 1)] (.lam 1 false .int (.bin .sum (.lit 3) (.var 2 1)))
              (.lam 3 false .int (.app (.lam 4 false .int (.bin .sum (.lit 2) (.lit 5))) (.var 3 0))) with
     | .ok r s', some r' => r == r' && r == false && s'.dctx == [some (.lit 5, 1)]
     | _, _ => false) = true := by decide +kernel

/-- Consequence: on hole-free terms gram's own judgement is symmetric whenever it answers both ways
and the independent check answers at all. -/
def C06_unify_symm_stmt : Prop :=
  ∀ (f f' g : Nat) (a b : Tm) (s s1 s2 : St) (r1 r2 r' : Bool), a.holeFree = true → b.holeFree = true →
    (∀ e ∈ s.dctx, ∀ d o, e = some (d, o) → d.holeFree = true) →
    unifyS f a b s = .ok r1 s1 → unifyS f' b a s = .ok r2 s2 → convX g s.dctx a b = some r' → r1 = r2
theorem C06_unify_symm : C06_unify_symm_stmt := by
  intro f f' g a b s s1 s2 r1 r2 r' ha hb hD h1 h2 hx
  have e1 := ((C06_unify_layers_agree_fixed f a b s ha hb hD).2 r1 s1 h1).2 g r' hx
  have hx' : convX g s.dctx b a = some r' := by rw [OracleLemmas.convX_symm]; exact hx
  have e2 := ((C06_unify_layers_agree_fixed f' b a s hb ha hD).2 r2 s2 h2).2 g r' hx'
  exact e1.trans e2.symm

/-! ## Evaluation, normalisation and the conversion check cohere (`Lemmas/ConvCoherence.lean`)

All of this is derived from confluence of the declarative conversion (`Lemmas/CCPar.lean` …
`CCJoin.lean`): convertible terms have joinable erasures, and joinable weak head normal forms have the
same head. -/

/-- A step of the call-by-value evaluator is a conversion of the declarative rules — in *every*
definitions context, with no assumption on the term: the evaluator never consults the context, its
group rule is literally the `letStep` head reduction, and its congruence rule for the first definition
of a group is the group congruence of `Conv`. -/
def C06_step_conv_stmt : Prop := ∀ (Δ : DCtxX) (t t' : Tm), Step t t' → Conv Δ t t'
theorem C06_step_conv : C06_step_conv_stmt := fun Δ _ _ h => ConvCoherence.step_conv h Δ

def C06_steps_conv_stmt : Prop := ∀ (Δ : DCtxX) (t t' : Tm), Steps t t' → Conv Δ t t'
theorem C06_steps_conv : C06_steps_conv_stmt := fun Δ _ _ h => ConvCoherence.steps_conv h Δ

/-- Evaluation keeps terms well scoped (and hole-free: `Step_holeFree`). -/
def C06_step_scoped_stmt : Prop :=
  ∀ (n : Nat) (t t' : Tm), Step t t' → wellScoped n t = true → wellScoped n t' = true
theorem C06_step_scoped : C06_step_scoped_stmt := fun n _ _ h => Step_wellScoped h n

/-- **Normalising the way the checker does yields the literal that running yields.**  For every
hole-free term (closed or not, accepted or not), under any hole-free definitions context whose offsets
are in range: if running it (any number of steps) ends in an integer literal, `true` or `false`, then
the independent checker's weak head normalizer — at *any* fuel at which it answers — returns exactly
that literal. -/
def C06_eval_whnf_agree_stmt : Prop :=
  ∀ (n f : Nat) (Δ : DCtxX) (t w : Tm), t.holeFree = true →
    (∀ e ∈ Δ, ∀ d o, e = some (d, o) → d.holeFree = true) →
    (∀ p d off, Δ[p]? = some (some (d, off)) → off ≤ p + 1) →
    whnfX f Δ t = some w →
    (∀ k, evalFuel n t = .lit k → w = .lit k) ∧
    (evalFuel n t = .tt → w = .tt) ∧ (evalFuel n t = .ff → w = .ff)
theorem C06_eval_whnf_agree : C06_eval_whnf_agree_stmt := by
  intro n f Δ t w ht hD hW hw
  have hs := evalFuel_steps n t
  refine ⟨fun k e => ?_, fun e => ?_, fun e => ?_⟩ <;> rw [e] at hs
  · exact ConvCoherence.whnfX_steps_ground hD hW ht hs (.inl ⟨k, rfl⟩) hw
  · exact ConvCoherence.whnfX_steps_ground hD hW ht hs (.inr (.inl rfl)) hw
  · exact ConvCoherence.whnfX_steps_ground hD hW ht hs (.inr (.inr rfl)) hw

/-- The closed form (the empty definitions context of a whole program). -/
def C06_eval_whnf_agree_closed_stmt : Prop :=
  ∀ (n f : Nat) (t w : Tm), t.holeFree = true → whnfX f [] t = some w →
    (∀ k, evalFuel n t = .lit k → w = .lit k) ∧
    (evalFuel n t = .tt → w = .tt) ∧ (evalFuel n t = .ff → w = .ff)
theorem C06_eval_whnf_agree_closed : C06_eval_whnf_agree_closed_stmt :=
  fun n f t w ht hw => C06_eval_whnf_agree n f [] t w ht (fun _ he => by cases he)
    (fun p d off e => by simp at e) hw

/-- The same for the model of gram's own `normalize_weak_head` (store layer): a run that answers
returns the literal the evaluator finds, and leaves the whole state as it was. -/
def C06_eval_whnfS_agree_stmt : Prop :=
  ∀ (n f : Nat) (t w : Tm) (s s' : St), t.holeFree = true →
    (∀ e ∈ s.dctx, ∀ d o, e = some (d, o) → d.holeFree = true) →
    (∀ p d off, s.dctx[p]? = some (some (d, off)) → off ≤ p + 1) →
    whnfS f t s = .ok w s' →
    s' = s ∧ (∀ k, evalFuel n t = .lit k → w = .lit k) ∧
    (evalFuel n t = .tt → w = .tt) ∧ (evalFuel n t = .ff → w = .ff)
theorem C06_eval_whnfS_agree : C06_eval_whnfS_agree_stmt := by
  intro n f t w s s' ht hD hW hw
  have hs := evalFuel_steps n t
  have hst : s' = s := (CCPar.whnfS_ok_all ht hD hw).1
  refine ⟨hst, fun k e => ?_, fun e => ?_, fun e => ?_⟩ <;> rw [e] at hs
  · exact (ConvCoherence.whnfS_steps_ground hD hW ht hs (.inl ⟨k, rfl⟩) hw).2
  · exact (ConvCoherence.whnfS_steps_ground hD hW ht hs (.inr (.inl rfl)) hw).2
  · exact (ConvCoherence.whnfS_steps_ground hD hW ht hs (.inr (.inr rfl)) hw).2

/-- Conversely: if the evaluator ends in a *value* and the normalizer answers a literal, the value is
that literal. -/
def C06_whnf_eval_agree_stmt : Prop :=
  ∀ (n f : Nat) (Δ : DCtxX) (t w : Tm), t.holeFree = true →
    (∀ p d off, Δ[p]? = some (some (d, off)) → off ≤ p + 1) →
    isValue (evalFuel n t) = true → whnfX f Δ t = some w →
    ((∃ k, w = .lit k) ∨ w = .tt ∨ w = .ff) → evalFuel n t = w
theorem C06_whnf_eval_agree : C06_whnf_eval_agree_stmt :=
  fun n f _ t _ ht hW hv hw hg =>
    ConvCoherence.steps_value_whnfX_ground (f := f) hW ht (evalFuel_steps n t) hv hg hw

/-- (The converse needs "ends in a value": the normalizer is call-by-name at the head, the evaluator
call-by-value, so the normalizer may discard an argument on which the evaluator gets stuck:
`((x : int) => 3) (1 / 0)` normalises to `3` and is stuck, on the division, under evaluation.) -/
def C06_whnf_eval_agree_unrestricted : Prop :=
  ∀ (n f : Nat) (t w : Tm), t.holeFree = true → step (evalFuel n t) = none → whnfX f [] t = some w →
    ((∃ k, w = .lit k) ∨ w = .tt ∨ w = .ff) → evalFuel n t = w
theorem C06_whnf_eval_agree_refuted : ¬ C06_whnf_eval_agree_unrestricted := by
  intro h
  have := h 5 5 (.app (.lam 1 false .int (.lit 3)) (.bin .quot (.lit 1) (.lit 0))) (.lit 3) rfl
    (by decide) (by decide) (.inl ⟨3, rfl⟩)
  revert this
  decide

/-- **Every term is judged equal to any term it reduces to.**  For a hole-free term and any of its
reducts under evaluation, the independent conversion check — at any fuel, under any hole-free
definitions context whose offsets are in range — answers `true` whenever it answers.  (With
`C06_conv_refl`: and to itself.) -/
def C06_conv_reduct_stmt : Prop :=
  ∀ (f : Nat) (Δ : DCtxX) (t t' : Tm) (r : Bool), t.holeFree = true →
    (∀ e ∈ Δ, ∀ d o, e = some (d, o) → d.holeFree = true) →
    (∀ p d off, Δ[p]? = some (some (d, off)) → off ≤ p + 1) →
    Steps t t' → convX f Δ t t' = some r → r = true
theorem C06_conv_reduct : C06_conv_reduct_stmt := by
  intro f Δ t t' r ht hD hW hs h
  cases r with
  | true => rfl
  | false =>
    exact (ConvCoherence.convX_of_conv ht (Steps_holeFree hs ht) hD hW
      (ConvCoherence.steps_conv hs Δ) h).elim

/-- In particular for the term the fuelled evaluator reaches. -/
def C06_conv_eval_stmt : Prop :=
  ∀ (n f : Nat) (t : Tm) (r : Bool), t.holeFree = true →
    convX f [] t (evalFuel n t) = some r → r = true
theorem C06_conv_eval : C06_conv_eval_stmt :=
  fun n f t r ht h => C06_conv_reduct f [] t _ r ht (fun _ he => by cases he)
    (fun p d off e => by simp at e) (evalFuel_steps n t) h

/-- **Completeness of the conversion check up to fuel**: on hole-free terms, convertible terms are
never judged different. -/
def C06_conv_complete_stmt : Prop :=
  ∀ (f : Nat) (Δ : DCtxX) (a b : Tm), a.holeFree = true → b.holeFree = true →
    (∀ e ∈ Δ, ∀ d o, e = some (d, o) → d.holeFree = true) →
    (∀ p d off, Δ[p]? = some (some (d, off)) → off ≤ p + 1) →
    Conv Δ a b → convX f Δ a b ≠ some false
theorem C06_conv_complete : C06_conv_complete_stmt :=
  fun _ _ _ _ ha hb hD hW hc => ConvCoherence.convX_of_conv ha hb hD hW hc

/-- **The judgement coincides with convertibility** whenever it answers (terms may have no normal
form, so "whenever it answers" cannot be dropped: see `C12_whnfX_omega`): on hole-free terms an answer
`true` is a `Conv` derivation (`C03_conv_sound`) and an answer `false` a refutation of `Conv`. -/
def C06_conv_decides_stmt : Prop :=
  ∀ (f : Nat) (Δ : DCtxX) (a b : Tm) (r : Bool), a.holeFree = true → b.holeFree = true →
    (∀ e ∈ Δ, ∀ d o, e = some (d, o) → d.holeFree = true) →
    (∀ p d off, Δ[p]? = some (some (d, off)) → off ≤ p + 1) →
    convX f Δ a b = some r → (r = true ↔ Conv Δ a b)
theorem C06_conv_decides : C06_conv_decides_stmt :=
  fun _ _ _ _ _ ha hb hD hW h => ConvCoherence.convX_decides ha hb hD hW h

/-- … and convertibility of closed hole-free terms is **equality of normal forms up to names and
parameter annotations** in the only form that makes sense without normalisation: the erasures (names,
parameter annotations and annotations of definitions forgotten) have a common reduct under parallel
reduction; by confluence (`Pars.confluence`) a normal form, if there is one, is that common reduct. -/
def C06_conv_iff_join_stmt : Prop :=
  ∀ (a b : Tm), a.holeFree = true → b.holeFree = true →
    (Conv [] a b ↔ ∃ c, CCPar.Pars [] 0 (CCSubst.er a) c ∧ CCPar.Pars [] 0 (CCSubst.er b) c)
theorem C06_conv_iff_join : C06_conv_iff_join_stmt :=
  fun _ _ ha hb => ConvCoherence.conv_iff_join_closed ha hb

/-- Consequence: besides being reflexive (`C06_conv_refl`) and symmetric (`C06_conv_symm`), the
judgement is transitive on hole-free terms — whenever the third check answers, at whatever fuels. -/
def C06_conv_trans_stmt : Prop :=
  ∀ (f g h : Nat) (Δ : DCtxX) (a b c : Tm) (r : Bool), a.holeFree = true → b.holeFree = true →
    c.holeFree = true →
    (∀ e ∈ Δ, ∀ d o, e = some (d, o) → d.holeFree = true) →
    (∀ p d off, Δ[p]? = some (some (d, off)) → off ≤ p + 1) →
    convX f Δ a b = some true → convX g Δ b c = some true → convX h Δ a c = some r → r = true
theorem C06_conv_trans : C06_conv_trans_stmt := by
  intro f g h Δ a b c r ha hb hc hD hW h1 h2 h3
  exact (ConvCoherence.convX_decides ha hc hD hW h3).2
    (.trans (TypingSound.convX_sound f Δ a b ha hb hD h1) (TypingSound.convX_sound g Δ b c hb hc hD h2))

/-! ### Non-vacuity: one program through the evaluator, both normalizers and both conversion checks -/

/-- `fact = (n : int) => if n == 0 then 1 else n * fact (n - 1); fact 3` -/
def C06_fact3 : Tm :=
  .letg (.cons 0 (.pi 1 false .int .int)
          (.lam 2 false .int
            (.ite (.bin .eq (.var 2 0) (.lit 0)) (.lit 1)
              (.bin .prod (.var 2 0) (.app (.var 0 1) (.bin .diff (.var 2 0) (.lit 1))))))
          .nil)
        (.app (.var 0 0) (.lit 3))

theorem C06_fact3_eval : evalFuel 200 C06_fact3 = .lit 6 := by decide +kernel
theorem C06_fact3_whnf : whnfX 60 [] C06_fact3 = some (.lit 6) := by decide +kernel

example : C06_fact3.holeFree = true ∧ wellScoped 0 C06_fact3 = true := by decide
-- the evaluator, the independent normalizer and the model of gram's normalizer find the same literal
example : evalFuel 200 C06_fact3 = .lit 6 := C06_fact3_eval
example : whnfX 60 [] C06_fact3 = some (.lit 6) := C06_fact3_whnf
example : (match whnfS 60 C06_fact3 {} with | .ok w s => w == .lit 6 && s.store.isEmpty | _ => false) = true := by
  decide +kernel
-- hence an instance of `C06_eval_whnf_agree_closed` with all hypotheses true
example : (Tm.lit 6) = .lit 6 :=
  (C06_eval_whnf_agree_closed 200 60 C06_fact3 (.lit 6) (by decide) C06_fact3_whnf).1 6 C06_fact3_eval
-- the term is judged equal to its value, and to the reduct after 7 steps (a partially evaluated term
-- that still contains the recursive group), by both checks
example : convX 60 [] C06_fact3 (.lit 6) = some true := by decide +kernel
example : (evalFuel 7 C06_fact3 != evalFuel 200 C06_fact3) = true := by rw [C06_fact3_eval]; decide +kernel
example : convX 60 [] C06_fact3 (evalFuel 7 C06_fact3) = some true := by decide +kernel
example : (match unifyS 60 C06_fact3 (evalFuel 7 C06_fact3) {} with
    | .ok r s => r && s.store.isEmpty | _ => false) = true := by decide +kernel
-- and different from a wrong value: `false` answers exist (`C06_conv_decides` is not vacuous on `false`)
example : convX 60 [] C06_fact3 (.lit 7) = some false := by decide +kernel
-- the demo programs of `Lemmas/SoundRun.lean`
example : evalFuel 40 SoundRun.iteProg = .lit 7 ∧ whnfX 40 [] SoundRun.iteProg = some (.lit 7) := by
  decide +kernel
example : evalFuel 40 SoundRun.idProg = .lit 3 ∧ whnfX 40 [] SoundRun.idProg = some (.lit 3) := by
  decide +kernel

/-! ## Normalizer and evaluator contain the same primitive rules; structural equality relates like with like
(tables regenerated from `normalizer.rs` / `equality.rs` on every run by `extract/arms.py`) -/

/-- For each of the nine binary operators, the primitive that the corresponding arm of
`normalizer.rs::normalize_weak_head` applies to two integer literals computes exactly the model's `delta` — the
same function `C02_step_prims_tie` proves for `evaluator.rs::step`: the checker computes what the evaluator
computes, operator by operator, for all operands. -/
def C06_whnf_prims_tie_stmt : Prop :=
  ∀ (op : BinOp) (a b : Int),
    (primOf Generated.whnfPrims op.toV).bind (fun p => p.sem a b) = delta op a b ∧
    (primOf Generated.whnfPrims op.toV).bind (fun p => p.sem a b) =
      (primOf Generated.stepPrims op.toV).bind (fun p => p.sem a b)
theorem C06_whnf_prims_tie : C06_whnf_prims_tie_stmt := by
  intro op a b; exact ⟨whnfPrims_delta op a b, by rw [whnfPrims_delta, stepPrims_delta]⟩

/-- Every structural arm of `equality.rs::syntactically_equal` compares the same variant on both sides, the i-th
child with the i-th child, every child (λ: bodies only), joined by `&&` only. -/
def C06_syneq_pairs_tie_stmt : Prop := pairsOK Generated.synEqPairs = true
theorem C06_syneq_pairs_tie : C06_syneq_pairs_tie_stmt := by unfold C06_syneq_pairs_tie_stmt; decide

/-- `normalizer.rs::normalize_weak_head`: in every arm other than the nine binary operators (C06_whnf_prims_tie covers those) the calls that matter — a variable's definition shifted by `index + 1 - offset` and normalised, the function of an application normalised and β by `open(body, 0, argument, 0)` WITHOUT a value test on the argument (normal order), every member of a group unfolded with `i_index` / `i_index + 1`, a solved hole read through `unsigned_shift(.., 0, shift)` — are, in order, the ones the model `whnfS` performs (regenerated from the source on every run). -/
def C06_whnf_traces_tie_stmt : Prop :=
  tracesOf "normalize_weak_head" Generated.evalTraces = tracesOf "normalize_weak_head" expectedEvalTraces
-- both tables list the same rows, so the two sides unfold to the same term: nothing is evaluated
theorem C06_whnf_traces_tie : C06_whnf_traces_tie_stmt := rfl
