import GramModel.Lemmas.CheckComplete
import GramModel.Lemmas.CheckDiverge

/-!
# C05 — fully annotated well-typed programs are accepted; elaboration only fills holes

Elaboration identity and monotonicity of the store and the diagnostics hold outright.  Completeness relative to the
independent checker is refuted as stated without restriction (divergence: `C05_loop_witness`; implicit parameters:
`C05_implicit_witness`); what holds is "never a wrong rejection, only possibly divergence" for programs without implicit
binders, and completeness under the two extra hypotheses.
-/

/-- The elaborated term is *literally* the input tree: the checker rebuilds every node from its
elaborated children in source order and never replaces a hole node — only cell contents change.
This is "nothing rewritten, reordered, duplicated or dropped". -/
def C05_elab_identity_stmt : Prop :=
  ∀ (fuel : Nat) (t e ty : Tm) (s s' : St), inferS fuel t s = .ok (e, ty) s' → e = t
theorem C05_elab_identity : C05_elab_identity_stmt := by
  intro fuel t e ty s s' h
  exact inferS_elab_id h

/-- Cells only ever go from empty to filled, and no cell disappears: the store after checking
extends the store before. -/
def storeExtends (a b : List (Option Tm)) : Prop :=
  a.length ≤ b.length ∧ ∀ (id : Nat) (t : Tm), a[id]? = some (some t) → b[id]? = some (some t)

theorem storeExtends_iff {a b : List (Option Tm)} : storeExtends a b ↔ StoreMono.StoreLe a b := Iff.rfl

def C05_store_monotone_stmt : Prop :=
  ∀ (fuel : Nat) (t e ty : Tm) (s s' : St), inferS fuel t s = .ok (e, ty) s' →
    storeExtends s.store s'.store
theorem C05_store_monotone : C05_store_monotone_stmt := by
  intro fuel t e ty s s' h
  exact storeExtends_iff.2 (StoreMono.inferS_le h).1

/-- Diagnostics are only ever added (there is no early return that drops one). -/
def C05_errors_monotone_stmt : Prop :=
  ∀ (fuel : Nat) (t e ty : Tm) (s s' : St), inferS fuel t s = .ok (e, ty) s' → s.nerrs ≤ s'.nerrs
theorem C05_errors_monotone : C05_errors_monotone_stmt := by
  intro fuel t e ty s s' h
  exact (StoreMono.inferS_le h).2

/-! ## The repaired group rule (D7), on the witness that overflowed the stack before the fix -/

-- `(y : t = 4; t = u; u = int; y) + 1`: accepted, type `int`
def C05_w_cutoff : Tm :=
  .bin .sum (.letg (.cons 1 (.var 2 1) (.lit 4) (.cons 2 (.hole 0 2) (.var 3 0) (.cons 3 (.hole 1 1) .int .nil))) (.var 1 2)) (.lit 1)
def C05_cutoff_witness_stmt : Prop :=
  (match inferS 60 C05_w_cutoff { store := [none, none] } with
   | .ok (e, ty) s => s.nerrs == 0 && e == C05_w_cutoff && ty == .int
   | _ => false) = true
theorem C05_cutoff_witness : C05_cutoff_witness_stmt := by unfold C05_cutoff_witness_stmt; decide +kernel

/-- **C05 for the model, unrestricted — FALSE** (see `C05_checker_complete_holefree_refuted`).
If the independent checker accepts a closed, hole-free (fully annotated)
program — so that, by `C03_infer_sound`, the program is well typed under the declarative rules — then,
given enough fuel, the model of gram's checker accepts it too: no diagnostic, the elaboration is the
program itself, and the reported type, zonked, is hole-free and convertible with the type the independent
checker computed.  (The hypothesis is an *algorithmic* acceptance on purpose: for a calculus with
`type : type` and general recursion no checker accepts every declaratively well-typed program.)

What is wrong: (1) *divergence* — gram's application rule unifies `Π (_ : ?dom). ?cod` with the type of
the function, and `unify` weak-head normalises the **domain** before it solves `?dom`; the independent
checker (and the declarative rules) never normalise the domain, they compare it with the argument's type,
and two syntactically equal types are equal without normalising.  So a function whose parameter type has
no weak head normal form is accepted by the rules but sends gram into an endless unfolding
(`C05_loop_witness`; on the real binary: stack overflow).  (2) *implicit parameters* — the application
rule builds an **explicit** `Π`, so a function with an implicit parameter can never be applied
(`C05_implicit_witness`), whereas the rules do not look at the flag. -/
def C05_checker_complete_holefree_unrestricted : Prop :=
  ∀ (g : Nat) (t T : Tm), t.holeFree = true → wellScoped 0 t = true → inferX g [] [] t = .ok T →
    ∃ f, ∀ f', f ≤ f' → ∃ (ty zty : Tm) (s : St),
      inferS f' t {} = .ok (t, ty) s ∧ s.nerrs = 0 ∧ zonk f' s.store ty = some zty ∧
      zty.holeFree = true ∧ Conv [] zty T

/-- `T : (int -> type) = (n : int) => T n`
    `(f : T 0 -> int) => (y : T 0) => f y` -/
def C05_w_loop : Tm :=
  .letg (.cons 1 (.pi 0 false .int .type) (.lam 2 false .int (.app (.var 1 1) (.var 2 0))) .nil)
    (.lam 3 false (.pi 0 false (.app (.var 1 0) (.lit 0)) .int)
      (.lam 4 false (.app (.var 1 1) (.lit 0)) (.app (.var 3 1) (.var 4 0))))

/-- The witness is hole-free, closed, without implicit binders, accepted by the independent checker
(with type `ds; (f : T 0 -> int) -> (y : T 0) -> int`), and the model of gram's checker runs out of
fuel on it **at every fuel**: `gram check` does not terminate (real binary: "thread has overflowed
its stack", exit 134). -/
def C05_loop_witness_stmt : Prop :=
  C05_w_loop.holeFree = true ∧ wellScoped 0 C05_w_loop = true ∧ CCPar.explicitT C05_w_loop = true ∧
  (∃ T, inferX 11 [] [] C05_w_loop = .ok T) ∧ ∀ f, inferS f C05_w_loop {} = .fuel
theorem C05_loop_witness : C05_loop_witness_stmt :=
  ⟨by decide, by decide, by decide, CheckDiverge.wLoop_oracle, CheckDiverge.wLoop_fuel⟩

theorem C05_checker_complete_holefree_refuted : ¬ C05_checker_complete_holefree_unrestricted := by
  intro h
  obtain ⟨T, hT⟩ := CheckDiverge.wLoop_oracle
  obtain ⟨f, hf⟩ := h 11 CheckDiverge.wLoop T CheckDiverge.wLoop_holeFree CheckDiverge.wLoop_scoped hT
  obtain ⟨ty, zty, s, h1, _⟩ := hf f (Nat.le_refl _)
  exact CheckDiverge.wLoop_never_ok f _ _ h1

/-- "Whatever the fuel, the run either runs out of fuel or accepts" — **FALSE** without a restriction
on implicit binders (`C05_checker_no_wrong_rejection_refuted`). -/
def C05_checker_no_wrong_rejection_unrestricted : Prop :=
  ∀ (g : Nat) (t T : Tm), t.holeFree = true → wellScoped 0 t = true → inferX g [] [] t = .ok T →
    ∀ f, inferS f t {} = .fuel ∨ ∃ (ty : Tm) (s : St), inferS f t {} = .ok (t, ty) s ∧ s.nerrs = 0

/-- `({a : type} => a) int` : accepted by the independent checker (type `type`), rejected by gram
("This has type `{type} -> type` when a function was expected"): gram's application rule unifies the
function's type with an *explicit* `Π`, and there is no other way to apply a function, so a function with
an implicit parameter can never be applied. -/
def C05_w_implicit : Tm := .app (.lam 1 true .type (.var 1 0)) .int
def C05_implicit_witness_stmt : Prop :=
  C05_w_implicit.holeFree = true ∧ wellScoped 0 C05_w_implicit = true ∧
  inferX 3 [] [] C05_w_implicit = .ok .type ∧
  (match inferS 5 C05_w_implicit {} with
   | .ok _ s => s.nerrs == 1
   | _ => false) = true
theorem C05_implicit_witness : C05_implicit_witness_stmt :=
  ⟨CheckComplete.wImplicit_props.1, CheckComplete.wImplicit_props.2.1,
    CheckComplete.wImplicit_props.2.2, CheckComplete.wImplicit_rejected⟩

theorem C05_checker_no_wrong_rejection_refuted : ¬ C05_checker_no_wrong_rejection_unrestricted := by
  intro h
  have w := C05_implicit_witness
  rcases h 3 C05_w_implicit .type w.1 w.2.1 w.2.2.1 5 with e | ⟨ty, s, e, hn⟩
  · have := w.2.2.2
    rw [e] at this
    cases this
  · have := w.2.2.2
    rw [e] at this
    simp only [beq_iff_eq] at this
    omega

/-- **C05 for the model: never a wrong rejection, only possibly divergence.**  If the independent
checker accepts a closed, hole-free program without implicit binders (`CCPar.explicitT`: every `λ` and
`Π` of the program is explicit), then at *every* fuel the model of gram's checker either runs out of
fuel or accepts: it returns the program itself, reports no diagnostic, and the reported type is
hole-free (so it is its own zonked form) and convertible with the type the independent checker
computed.  In particular no `unify` call made while checking such a program ever answers `false`, and
there is no panic.

The proof goes through confluence of the conversion relation of `Typing.lean` (`Lemmas/CCPar.lean` …
`CheckComplete.lean`). -/
def C05_checker_no_wrong_rejection_stmt : Prop :=
  ∀ (g : Nat) (t T : Tm), t.holeFree = true → wellScoped 0 t = true → CCPar.explicitT t = true →
    inferX g [] [] t = .ok T →
    ∀ f, inferS f t {} = .fuel ∨ ∃ (ty : Tm) (s : St), inferS f t {} = .ok (t, ty) s ∧ s.nerrs = 0 ∧
      ty.holeFree = true ∧ zonk (ty.size + 1) s.store ty = some ty ∧ Conv [] ty T
theorem C05_checker_no_wrong_rejection : C05_checker_no_wrong_rejection_stmt := by
  intro g t T ht hw hx hX f
  exact CheckComplete.checker_fuel_or_accept ht hx hX f

/-- **The corrected completeness statement.**  With the two extra hypotheses that are both necessary
(`C05_loop_witness`: termination; `C05_implicit_witness`: no implicit binders) — the program has no
implicit binder and gram's checker terminates on it (answers at some fuel) — a program accepted by the
independent checker is accepted by the model of gram's checker: no diagnostic, the elaboration is the
program itself, the zonked type is hole-free and convertible with the independent checker's. -/
def C05_checker_complete_holefree_fixed_stmt : Prop :=
  ∀ (g : Nat) (t T : Tm), t.holeFree = true → wellScoped 0 t = true → CCPar.explicitT t = true →
    inferX g [] [] t = .ok T → (∃ f, inferS f t {} ≠ .fuel) →
    ∃ (f n : Nat) (ty zty : Tm) (s : St),
      inferS f t {} = .ok (t, ty) s ∧ s.nerrs = 0 ∧ zonk n s.store ty = some zty ∧
      zty.holeFree = true ∧ Conv [] zty T
theorem C05_checker_complete_holefree_fixed : C05_checker_complete_holefree_fixed_stmt := by
  intro g t T ht hw hx hX ⟨f, hf⟩
  rcases CheckComplete.checker_fuel_or_accept ht hx hX f with e | ⟨ty, s, e, hn, hty, hz, c⟩
  · exact (hf e).elim
  · exact ⟨f, ty.size + 1, ty, ty, s, e, hn, hz, hty, c⟩

/-- Inversion form, without the scoping hypothesis: any answer the checker gives on such a program
is an acceptance. -/
def C05_checker_answer_is_acceptance_stmt : Prop :=
  ∀ (f g : Nat) (t T e ty : Tm) (s : St), t.holeFree = true → CCPar.explicitT t = true →
    inferX g [] [] t = .ok T → inferS f t {} = .ok (e, ty) s →
    e = t ∧ s.nerrs = 0 ∧ ty.holeFree = true ∧ Conv [] ty T
theorem C05_checker_answer_is_acceptance : C05_checker_answer_is_acceptance_stmt := by
  intro f g t T e ty s ht hx hX h
  exact CheckComplete.checker_no_wrong_rejection ht hx hX h
