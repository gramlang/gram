import GramModel.Lemmas.LexerRender
import GramModel.Lemmas.TerminatorKind
import GramModel.Lemmas.PrintedTree

/-!
# C10 — comments, spacing and line layout do not change a program's meaning

The two line-break tables used below are the ones **regenerated from `tokenizer.rs` on every run**
(`Generated.canEnd`, `Generated.canStart`); the table obligations are decided over all 29 token
shapes.
-/

/-- A comment runs from `#` to the end of its line and leaves that line ending in place. -/
def C10_comment_is_newline_stmt : Prop :=
  ∀ (c r : List Char) (pos : Nat), (∀ x ∈ c, x ≠ '\n') →
    skipComment (c ++ '\n' :: r) pos = ('\n' :: r, pos + bytesOf c)
theorem C10_comment_is_newline : C10_comment_is_newline_stmt := skipComment_line

/-- A final comment may end at the end of the file. -/
def C10_comment_at_eof_stmt : Prop :=
  ∀ (c : List Char) (pos : Nat), (∀ x ∈ c, x ≠ '\n') → skipComment c pos = ([], pos + bytesOf c)
theorem C10_comment_at_eof : C10_comment_at_eof_stmt := skipComment_eof

/-- In the scanner a comment behaves exactly like its line ending: scanning `# c ⏎ r` continues as
scanning `⏎ r` (with the position advanced), for every state. -/
def C10_scan_comment_stmt : Prop :=
  ∀ (cc : CharClass), cc.Sane → ∀ (n pos : Nat) (c r : List Char) (s : LexState),
    (∀ x ∈ c, x ≠ '\n') →
    scan cc (n+1) pos ('#' :: (c ++ '\n' :: r)) s = scan cc n (pos + 1 + bytesOf c) ('\n' :: r) s
theorem C10_scan_comment : C10_scan_comment_stmt := by
  intro cc hs n pos c r s hc
  have := (ScanStep.comment (s := s) (pos := pos) hs.hash_plain.1 hs.hash_plain.2 hc (.inr ⟨r, rfl⟩)).scan_eq n
  rwa [bytesOf_cons, ← Nat.add_assoc] at this

/-- Spaces and tabs between tokens are skipped without any effect on the state. -/
def C10_scan_blank_stmt : Prop :=
  ∀ (cc : CharClass), cc.Sane → ∀ (n pos : Nat) (r : List Char) (s : LexState),
    scan cc (n+1) pos (' ' :: r) s = scan cc n (pos + 1) r s ∧
    scan cc (n+1) pos ('\t' :: r) s = scan cc n (pos + 1) r s
theorem C10_scan_blank : C10_scan_blank_stmt := fun cc hs n pos r s =>
  ⟨(ScanStep.blank r (by decide) hs.space_ws.2 rfl hs.space_ws.1).scan_eq n,
    (ScanStep.blank r (by decide) hs.tab_ws.2 rfl hs.tab_ws.1).scan_eq n⟩

/-- A line break yields a terminator exactly when the previous token can end an expression
(first table), and never twice in a row. -/
def C10_scan_newline_stmt : Prop :=
  ∀ (cc : CharClass) (n pos : Nat) (r : List Char) (s : LexState),
    (lastCanEnd s = some true →
      scan cc (n+1) pos ('\n' :: r) s = scan cc n (pos + 1) r (s.push .terminatorLineBreak pos (pos + 1))) ∧
    (lastCanEnd s = some false → scan cc (n+1) pos ('\n' :: r) s = scan cc n (pos + 1) r s)
theorem C10_scan_newline : C10_scan_newline_stmt :=
  fun _ n _ r _ => ⟨fun h => (ScanStep.lineBreak r h).scan_eq n, fun h => (ScanStep.lineFeed r h).scan_eq n⟩

/-- Table obligations over the regenerated tables (all 29 shapes): both tables are total except the
deliberate panic arm; every operator and opening bracket cannot end an expression; every binary
operator and closing bracket cannot start one; `;` counts as both; a line-break terminator never
ends an expression (so two in a row are impossible); identifiers, literals and the atomic keywords
do both. -/
def C10_tables_stmt : Prop :=
  (∀ k ∈ TokKind.all, Generated.canEnd k ≠ none) ∧
  (∀ k ∈ TokKind.all, Generated.canStart k = none ↔ k = .terminatorLineBreak) ∧
  (∀ k ∈ [TokKind.asterisk, .colon, .doubleEquals, .else_, .equals, .greaterThan,
      .greaterThanOrEqualTo, .if_, .leftCurly, .leftParen, .lessThan, .lessThanOrEqualTo, .minus, .plus,
      .slash, .then_, .thickArrow, .thinArrow, .terminatorLineBreak], Generated.canEnd k = some false) ∧
  (∀ k ∈ [TokKind.boolean, .false_, .identifier [], .integer, .integerLiteral 0, .rightCurly, .rightParen,
      .terminatorSemicolon, .true_, .type_], Generated.canEnd k = some true) ∧
  (∀ k ∈ [TokKind.asterisk, .colon, .doubleEquals, .else_, .equals, .greaterThan,
      .greaterThanOrEqualTo, .lessThan, .lessThanOrEqualTo, .minus, .plus, .rightCurly, .rightParen,
      .slash, .then_, .thickArrow, .thinArrow], Generated.canStart k = some false) ∧
  (∀ k ∈ [TokKind.boolean, .false_, .identifier [], .if_, .integer, .integerLiteral 0, .leftCurly,
      .leftParen, .terminatorSemicolon, .true_, .type_], Generated.canStart k = some true)
theorem C10_tables : C10_tables_stmt := by unfold C10_tables_stmt; decide +kernel

/-- The tables do not look at payloads. -/
def C10_tables_payload_stmt : Prop :=
  ∀ (w : List Char) (n : Nat),
    Generated.canEnd (.identifier w) = Generated.canEnd (.identifier []) ∧
    Generated.canStart (.identifier w) = Generated.canStart (.identifier []) ∧
    Generated.canEnd (.integerLiteral n) = Generated.canEnd (.integerLiteral 0) ∧
    Generated.canStart (.integerLiteral n) = Generated.canStart (.integerLiteral 0)
theorem C10_tables_payload : C10_tables_payload_stmt := by intro w n; exact ⟨rfl, rfl, rfl, rfl⟩

/-- The scanner never produces two adjacent line-break terminators. -/
def C10_no_two_linebreaks_stmt : Prop :=
  ∀ (cc : CharClass) (fuel pos : Nat) (cs : List Char) (s : LexState),
    noTwoLB s.toks → noTwoLB (scan cc fuel pos cs s).toks
theorem C10_no_two_linebreaks : C10_no_two_linebreaks_stmt := scan_noTwoLB

/-- The token stream neither starts nor ends with a line-break terminator. -/
def C10_no_leading_trailing_terminator_stmt : Prop :=
  ∀ (cc : CharClass) (text : List Char) (ts : List Tok), tokenize cc text = .ok ts →
    (ts.head?.map (·.kind)) ≠ some .terminatorLineBreak ∧
    (ts.getLast?.map (·.kind)) ≠ some .terminatorLineBreak
theorem C10_no_leading_trailing_terminator : C10_no_leading_trailing_terminator_stmt := by
  intro cc text ts h
  have hf := (tokenize_ok h).2
  constructor
  · have hfirst := scan_first_not_lineBreak cc text.length 0 text { toks := [], errs := [] }
      (by intro t ht; cases ht)
    rw [← List.head?_reverse] at hfirst
    generalize (scan cc text.length 0 text { toks := [], errs := [] }).toks.reverse = l at hf hfirst
    cases l with
    | nil => simp [filterToks] at hf; subst hf; simp
    | cons a r =>
      obtain ⟨r', rfl⟩ := filterToks_head a r ts hf (hfirst a rfl)
      intro hk
      exact hfirst a rfl (by simpa using hk)
  · intro hk
    obtain ⟨t, hg, hk⟩ := Option.map_eq_some_iff.1 hk
    exact filterToks_last _ _ hf t hg hk

/-! ## Non-vacuity: the same program laid out in two ways gives the same kinds -/

def C10_cc : CharClass :=
  { isAlpha := fun c => ('a' ≤ c ∧ c ≤ 'z')
    isAlnum := fun c => ('a' ≤ c ∧ c ≤ 'z') || ('0' ≤ c ∧ c ≤ '9')
    isWs := fun c => c == ' ' || c == '\n' || c == '\t'
    graphemeEnd := fun p => p + 1 }
def kindsOf : LexResult → List Nat
  | .ok ts => ts.map (·.kind.tag)
  | _ => []
-- `x = 1 +⏎  2 #c⏎⏎y`  vs  `x=1+2⏎y`
example : kindsOf (tokenize C10_cc ['x',' ','=',' ','1',' ','+','\n',' ',' ','2',' ','#','c','\n','\n','y'])
        = kindsOf (tokenize C10_cc ['x','=','1','+','2','\n','y']) := by decide +kernel

/-! ## The global render/tokenize law (texts of any length and layout)

A text is a *rendering* (`renderText g0 items eof`, `Lemmas/LexerRender.lean`): a leading gap, lexemes each
followed by a gap of blanks / comment lines / line feeds, and an optional final comment ended by the
end of the file.  `Rendering cc g0 items eof` bundles the hypotheses: every gap item is `ok`, every
lexeme `IsLexeme`, the final comment has no line feed, and adjacent lexemes with an empty gap between
them do not fuse (`SepOK`). -/

/-- **Render/tokenize law.**  For every sane classifier, every rendering tokenizes (no panic, no
error), and the kinds of its tokens depend on the layout only through "does gap `i` contain a line
break": they are `weave` of the lexeme kinds and these flags, i.e. a line-break terminator stands
between lexemes `i` and `i+1` iff gap `i` has a line break, lexeme `i` can end an expression and
lexeme `i+1` can start one. -/
def C10_render_law_stmt : Prop :=
  ∀ (cc : CharClass), cc.Sane2 → ∀ (g0 : Gap) (items : List LexItem) (eof : Option (List Char)),
    Gap.ok cc g0 → ItemsOK cc items → EofOK eof → SepOK cc items →
    ∃ ts, tokenize cc (renderText g0 items eof) = .ok ts ∧
      ts.map (·.kind) = weave (items.map fun it => (it.2.1, Gap.hasNL it.2.2))
theorem C10_render_law : C10_render_law_stmt := render_law

/-- Scanner-level form: before the second pass the token kinds are exactly `rawKinds`: every lexeme, and
a line-break terminator after lexeme `i` iff gap `i` has a line break and lexeme `i` can end an
expression (also after the last lexeme; never before the first). -/
def C10_render_scan_stmt : Prop :=
  ∀ (cc : CharClass), cc.Sane2 → ∀ (g0 : Gap) (items : List LexItem) (eof : Option (List Char)),
    Rendering cc g0 items eof →
    (scan0 cc (renderText g0 items eof)).panic = false ∧ (scan0 cc (renderText g0 items eof)).errs = [] ∧
    (scan0 cc (renderText g0 items eof)).toks.reverse.map (·.kind) = rawKinds (lexFlags items)
theorem C10_render_scan : C10_render_scan_stmt :=
  fun cc hs g0 items eof h => scan_render cc hs g0 items eof h.1 h.2.1 h.2.2.1 h.2.2.2

/-- Layout is irrelevant: two renderings with the same lexeme kinds (in particular: of the same
lexemes) whose gaps agree on "contains a line break" give the same token kinds — whatever the
leading gaps, the blanks, the comments, the number of consecutive line breaks and the final
comments are. -/
def C10_layout_irrelevant_stmt : Prop :=
  ∀ (cc : CharClass), cc.Sane2 → ∀ (g0 g0' : Gap) (items items' : List LexItem)
    (eof eof' : Option (List Char)),
    Rendering cc g0 items eof → Rendering cc g0' items' eof' →
    items.map (·.2.1) = items'.map (·.2.1) →
    (items.map fun it => Gap.hasNL it.2.2) = (items'.map fun it => Gap.hasNL it.2.2) →
    ∃ ts ts', tokenize cc (renderText g0 items eof) = .ok ts ∧
      tokenize cc (renderText g0' items' eof') = .ok ts' ∧ ts.map (·.kind) = ts'.map (·.kind)
theorem C10_layout_irrelevant : C10_layout_irrelevant_stmt := by
  intro cc hs g0 g0' items items' eof eof' h h' hk hn
  exact h.same_kinds hs h' (by rw [lexFlags_eq_zip, lexFlags_eq_zip, hk, hn])

/-- A line break after a lexeme that cannot end an expression (operator, opening bracket, …) is not
a separator: changing gap `i` arbitrarily does not change the kinds. -/
def C10_break_after_cannot_end_stmt : Prop :=
  ∀ (cc : CharClass), cc.Sane2 → ∀ (g0 g0' : Gap) (pre post : List LexItem) (l : List Char)
    (k : TokKind) (g g' : Gap) (eof eof' : Option (List Char)),
    Rendering cc g0 (pre ++ (l, k, g) :: post) eof → Rendering cc g0' (pre ++ (l, k, g') :: post) eof' →
    Generated.canEnd k = some false →
    ∃ ts ts', tokenize cc (renderText g0 (pre ++ (l, k, g) :: post) eof) = .ok ts ∧
      tokenize cc (renderText g0' (pre ++ (l, k, g') :: post) eof') = .ok ts' ∧
      ts.map (·.kind) = ts'.map (·.kind)
theorem C10_break_after_cannot_end : C10_break_after_cannot_end_stmt := by
  intro cc hs g0 g0' pre post l k g g' eof eof' h h' hk
  refine h.same_kinds hs h' ?_
  rw [lexFlags_append, lexFlags_append]
  exact weave_cannot_end _ k _ _ _ hk

/-- A line break before a lexeme that cannot start an expression (binary operator, closing bracket,
`then`, `else`, …) is not a separator either. -/
def C10_break_before_cannot_start_stmt : Prop :=
  ∀ (cc : CharClass), cc.Sane2 → ∀ (g0 g0' : Gap) (pre post : List LexItem) (l l2 : List Char)
    (k k2 : TokKind) (g g' g2 : Gap) (eof eof' : Option (List Char)),
    Rendering cc g0 (pre ++ (l, k, g) :: (l2, k2, g2) :: post) eof →
    Rendering cc g0' (pre ++ (l, k, g') :: (l2, k2, g2) :: post) eof' →
    Generated.canStart k2 = some false →
    ∃ ts ts', tokenize cc (renderText g0 (pre ++ (l, k, g) :: (l2, k2, g2) :: post) eof) = .ok ts ∧
      tokenize cc (renderText g0' (pre ++ (l, k, g') :: (l2, k2, g2) :: post) eof') = .ok ts' ∧
      ts.map (·.kind) = ts'.map (·.kind)
theorem C10_break_before_cannot_start : C10_break_before_cannot_start_stmt := by
  intro cc hs g0 g0' pre post l l2 k k2 g g' g2 eof eof' h h' hk
  refine h.same_kinds hs h' ?_
  rw [lexFlags_append, lexFlags_append]
  exact weave_cannot_start _ k _ _ k2 _ _ hk

/-- A line break between a lexeme that can end an expression and one that can start an expression
separates definitions: the kinds are those of the part before (`A`), one line-break terminator, and
those of the part after (`B`) — whereas the layout with gap `i` on one line gives `A ++ B`. -/
def C10_linebreak_is_separator_stmt : Prop :=
  ∀ (cc : CharClass), cc.Sane2 → ∀ (g0 g0' : Gap) (pre post : List LexItem) (l l2 : List Char)
    (k k2 : TokKind) (g gflat g2 : Gap) (eof eof' : Option (List Char)),
    Rendering cc g0 (pre ++ (l, k, g) :: (l2, k2, g2) :: post) eof →
    Rendering cc g0' (pre ++ (l, k, gflat) :: (l2, k2, g2) :: post) eof' →
    Gap.hasNL g = true → Gap.hasNL gflat = false →
    Generated.canEnd k = some true → Generated.canStart k2 = some true →
    ∃ ts ts', tokenize cc (renderText g0 (pre ++ (l, k, g) :: (l2, k2, g2) :: post) eof) = .ok ts ∧
      tokenize cc (renderText g0' (pre ++ (l, k, gflat) :: (l2, k2, g2) :: post) eof') = .ok ts' ∧
      ts.map (·.kind) = weave (lexFlags (pre ++ [(l, k, g)])) ++
        .terminatorLineBreak :: weave (lexFlags ((l2, k2, g2) :: post)) ∧
      ts'.map (·.kind) = weave (lexFlags (pre ++ [(l, k, g)])) ++ weave (lexFlags ((l2, k2, g2) :: post))
theorem C10_linebreak_is_separator : C10_linebreak_is_separator_stmt := by
  intro cc hs g0 g0' pre post l l2 k k2 g gflat g2 eof eof' h h' hg hf hk hk2
  obtain ⟨ts, h1, h2⟩ := h.law hs
  obtain ⟨ts', h1', h2'⟩ := h'.law hs
  refine ⟨ts, ts', h1, h1', ?_, ?_⟩
  · rw [h2, lexFlags_append, lexFlags_append]
    exact weave_break _ _ _ _ _ _ hg hk hk2
  · rw [h2', lexFlags_append, lexFlags_append]
    exact weave_flat _ _ _ _ _ _ _ hf

/-- `weave` is compositional (the general form of the three statements above). -/
def C10_weave_split_stmt : Prop :=
  ∀ (A : List (TokKind × Bool)) (k : TokKind) (b : Bool) (k' : TokKind) (b' : Bool)
    (B : List (TokKind × Bool)),
    weave (A ++ (k, b) :: (k', b') :: B) =
      weave (A ++ [(k, b)]) ++
        (if b && Generated.canEnd k == some true && Generated.canStart k' == some true
          then [.terminatorLineBreak] else []) ++ weave ((k', b') :: B)
theorem C10_weave_split : C10_weave_split_stmt := weave_split

theorem C10_cc_sane2 : C10_cc.Sane2 :=
  { hash_plain := by decide, nl_plain := by decide, space_ws := by decide, tab_ws := by decide,
    hash_cont := by decide, nl_cont := by decide }

/-- `x = 1 +⏎  2 #c⏎⏎y # end` -/
def C10_itemsA : List LexItem :=
  [(['x'], .identifier ['x'], [.blank ' ']), (['='], .equals, [.blank ' ']),
   (['1'], .integerLiteral 1, [.blank ' ']), (['+'], .plus, [.newline, .blank ' ', .blank ' ']),
   (['2'], .integerLiteral 2, [.blank ' ', .comment ['c'], .newline]),
   (['y'], .identifier ['y'], [.blank ' '])]
/-- `x=1+⏎2⏎y`: the same line-break flags as A, nothing else -/
def C10_itemsB : List LexItem :=
  [(['x'], .identifier ['x'], []), (['='], .equals, []), (['1'], .integerLiteral 1, []),
   (['+'], .plus, [.newline]), (['2'], .integerLiteral 2, [.newline]), (['y'], .identifier ['y'], [])]
/-- `x=1+⏎2 y`: B with the gap between `2` and `y` on one line -/
def C10_itemsC : List LexItem :=
  [(['x'], .identifier ['x'], []), (['='], .equals, []), (['1'], .integerLiteral 1, []),
   (['+'], .plus, [.newline]), (['2'], .integerLiteral 2, [.blank ' ']), (['y'], .identifier ['y'], [])]
/-- `x=1+2⏎y`: B without the line break after `+` -/
def C10_itemsD : List LexItem :=
  [(['x'], .identifier ['x'], []), (['='], .equals, []), (['1'], .integerLiteral 1, []),
   (['+'], .plus, []), (['2'], .integerLiteral 2, [.newline]), (['y'], .identifier ['y'], [])]

theorem C10_renderingA : Rendering C10_cc [] C10_itemsA (some ['e']) :=
  .of_checks (by decide +kernel) (eofOK_some (by decide +kernel))
theorem C10_renderingB : Rendering C10_cc [.newline] C10_itemsB none :=
  .of_checks (by decide +kernel) eofOK_none
theorem C10_renderingC : Rendering C10_cc [] C10_itemsC none :=
  .of_checks (by decide +kernel) eofOK_none
theorem C10_renderingD : Rendering C10_cc [] C10_itemsD none :=
  .of_checks (by decide +kernel) eofOK_none

example : renderText [] C10_itemsA (some ['e']) =
    ['x',' ','=',' ','1',' ','+','\n',' ',' ','2',' ','#','c','\n','\n','y',' ','#','e'] := by decide +kernel
example : renderText [.newline] C10_itemsB none = ['\n','x','=','1','+','\n','2','\n','y'] := by decide +kernel
example : renderText [] C10_itemsD none = ['x','=','1','+','2','\n','y'] := by decide +kernel

/-- both sides of the law, evaluated: the tokenizer's kinds are the woven kinds -/
example : (match tokenize C10_cc (renderText [] C10_itemsA (some ['e'])) with
      | .ok ts => some (ts.map (·.kind)) | _ => none) = some (weave (lexFlags C10_itemsA)) := by decide +kernel
example : weave (lexFlags C10_itemsA) = [.identifier ['x'], .equals, .integerLiteral 1, .plus,
    .integerLiteral 2, .terminatorLineBreak, .identifier ['y']] := by decide +kernel
-- hypotheses of `C10_layout_irrelevant` for A and B
example : C10_itemsA.map (·.2.1) = C10_itemsB.map (·.2.1) ∧
    (C10_itemsA.map fun it => Gap.hasNL it.2.2) = (C10_itemsB.map fun it => Gap.hasNL it.2.2) := by
  decide +kernel
-- hypotheses of `C10_break_after_cannot_end` (gap after `+`, B versus D), of
-- `C10_break_before_cannot_start` (gap before `=`), of `C10_linebreak_is_separator` (gap between `2`
-- and `y`, B versus C)
example : C10_itemsB = C10_itemsB.take 3 ++ (['+'], .plus, [.newline]) :: C10_itemsB.drop 4 ∧
    C10_itemsD = C10_itemsB.take 3 ++ (['+'], .plus, []) :: C10_itemsB.drop 4 ∧
    Generated.canEnd .plus = some false := by decide +kernel
example : C10_itemsA = [] ++ (['x'], .identifier ['x'], [.blank ' ']) :: (['='], .equals, [.blank ' ']) ::
    C10_itemsA.drop 2 ∧ Generated.canStart .equals = some false := by decide +kernel
example : C10_itemsB = C10_itemsB.take 4 ++ (['2'], .integerLiteral 2, [.newline]) ::
      (['y'], .identifier ['y'], []) :: [] ∧
    C10_itemsC = C10_itemsB.take 4 ++ (['2'], .integerLiteral 2, [.blank ' ']) ::
      (['y'], .identifier ['y'], []) :: [] ∧
    Gap.hasNL [GapItem.newline] = true ∧ Gap.hasNL [GapItem.blank ' '] = false ∧
    Generated.canEnd (.integerLiteral 2) = some true ∧
    Generated.canStart (.identifier ['y']) = some true := by decide +kernel

-- the corollaries instantiated at the concrete renderings (all hypotheses hold together)
example : ∃ ts ts', tokenize C10_cc (renderText [] C10_itemsA (some ['e'])) = .ok ts ∧
    tokenize C10_cc (renderText [.newline] C10_itemsB none) = .ok ts' ∧
    ts.map (·.kind) = ts'.map (·.kind) :=
  C10_layout_irrelevant C10_cc C10_cc_sane2 _ _ _ _ _ _ C10_renderingA C10_renderingB
    (by decide) (by decide)
example : ∃ ts ts', tokenize C10_cc (renderText [.newline] C10_itemsB none) = .ok ts ∧
    tokenize C10_cc (renderText [] C10_itemsD none) = .ok ts' ∧ ts.map (·.kind) = ts'.map (·.kind) :=
  C10_break_after_cannot_end C10_cc C10_cc_sane2 [.newline] [] (C10_itemsB.take 3) (C10_itemsB.drop 4)
    ['+'] .plus [.newline] [] none none C10_renderingB C10_renderingD (by decide)
example : ∃ ts ts', tokenize C10_cc (renderText [] C10_itemsA (some ['e'])) = .ok ts ∧
    tokenize C10_cc (renderText [] C10_itemsA (some ['e'])) = .ok ts' ∧
    ts.map (·.kind) = ts'.map (·.kind) :=
  C10_break_before_cannot_start C10_cc C10_cc_sane2 [] [] [] (C10_itemsA.drop 2)
    ['x'] ['='] (.identifier ['x']) .equals [.blank ' '] [.blank ' '] [.blank ' '] (some ['e'])
    (some ['e']) C10_renderingA C10_renderingA (by decide)
example : ∃ ts ts', tokenize C10_cc (renderText [.newline] C10_itemsB none) = .ok ts ∧
    tokenize C10_cc (renderText [] C10_itemsC none) = .ok ts' ∧
    ts.map (·.kind) = [.identifier ['x'], .equals, .integerLiteral 1, .plus, .integerLiteral 2] ++
      .terminatorLineBreak :: [.identifier ['y']] ∧
    ts'.map (·.kind) = [.identifier ['x'], .equals, .integerLiteral 1, .plus, .integerLiteral 2] ++
      [.identifier ['y']] :=
  C10_linebreak_is_separator C10_cc C10_cc_sane2 [.newline] [] (C10_itemsB.take 4) []
    ['2'] ['y'] (.integerLiteral 2) (.identifier ['y']) [.newline] [.blank ' '] [] none none
    C10_renderingB C10_renderingC (by decide) (by decide) (by decide) (by decide)


/-! ## Parser clause: a separating line break is interchangeable with `;`

`PModel.SameUpToTerminator toks toks'` (`Lemmas/TerminatorKind.lean`): same length and, index by index,
the same range and the same kind, except that a terminator of one kind (`;` / line break) may stand
where a terminator of the other kind stands.  The parser model reads the token array only through
primitives that cannot tell the two apart, so all 36 parsing functions are *equal as functions* on
`toks` and `toks'`.

Error *messages* are not modelled (an error is the list of ranges it lists).  In `parser.rs` the
terminator type is inspected in exactly two places, both inside message closures: `error_factory`
("Expected … at the end of this line:" for a line break, "Expected …, but encountered `;`." otherwise)
and the "This parenthesis was never closed" message of `parse_group` ("expected to be closed at the end
of this line" / "before this"); the listed ranges are the same.  So the equalities below are equalities
of results *modulo the wording of error messages*. -/

/-- The parse phase does not see the terminator kind: `runParser` returns the same result (same tree
with the same ranges, `group` flags and recorded errors, same `next`, same `confident`) **and** the same
final state (memo table, hit/miss counters) — or runs out of fuel on both. -/
def C10_terminator_kind_irrelevant_stmt : Prop :=
  ∀ (toks toks' : Array PModel.PTok), PModel.SameUpToTerminator toks toks' →
    PModel.runParser toks' = PModel.runParser toks
theorem C10_terminator_kind_irrelevant : C10_terminator_kind_irrelevant_stmt :=
  fun _ _ h => PModel.runParser_terminator_kind h

/-- The same for every memoised parsing function, every fuel, start position and start state, and for
the cache-free functions `parsePure`; already the 36 bodies agree, whatever the recursive call is. -/
def C10_terminator_kind_irrelevant_everywhere_stmt : Prop :=
  ∀ (toks toks' : Array PModel.PTok), PModel.SameUpToTerminator toks toks' →
    (∀ (rec : PModel.NT → Nat → PModel.ParseM PModel.PResult) (nt : PModel.NT) (start : Nat),
      PModel.parseBody toks' rec nt start = PModel.parseBody toks rec nt start) ∧
    (∀ (fuel : Nat) (nt : PModel.NT) (start : Nat) (st : PModel.PState),
      PModel.parseNT toks' fuel nt start st = PModel.parseNT toks fuel nt start st) ∧
    (∀ (fuel : Nat) (nt : PModel.NT) (start : Nat) (st : PModel.PState),
      PModel.parsePure toks' fuel nt start st = PModel.parsePure toks fuel nt start st)
theorem C10_terminator_kind_irrelevant_everywhere :
    C10_terminator_kind_irrelevant_everywhere_stmt := by
  intro toks toks' h
  refine ⟨fun rec nt start => (PModel.parseBody_congr h rec nt start).symm, ?_, ?_⟩
  · intro fuel nt start st; rw [PModel.parseNT_congr h fuel]
  · intro fuel nt start st; rw [PModel.parsePure_congr h fuel]

/-- The whole front end model `parse` (parser, re-association, resolution, definition-order check)
returns the same outcome; so do the cache statistics. -/
def C10_parse_terminator_irrelevant_stmt : Prop :=
  ∀ (toks toks' : Array PModel.PTok) (context : List Name), PModel.SameUpToTerminator toks toks' →
    PModel.parseModel toks' context = PModel.parseModel toks context ∧
    PModel.parseStats toks' = PModel.parseStats toks
theorem C10_parse_terminator_irrelevant : C10_parse_terminator_irrelevant_stmt :=
  fun _ _ context h =>
    ⟨PModel.parseModel_terminator_kind h context, PModel.parseStats_terminator_kind h⟩

/-- Respelling the terminators of a token array by any function of the terminator type (line break ↦
`;`, `;` ↦ line break, swap, …) changes nothing. -/
def C10_respell_terminators_stmt : Prop :=
  ∀ (f : PModel.TerminatorType → PModel.TerminatorType) (toks : Array PModel.PTok)
    (context : List Name),
    PModel.SameUpToTerminator toks (toks.map (PModel.PTok.respell f)) ∧
    PModel.runParser (toks.map (PModel.PTok.respell f)) = PModel.runParser toks ∧
    PModel.parseModel (toks.map (PModel.PTok.respell f)) context = PModel.parseModel toks context
theorem C10_respell_terminators : C10_respell_terminators_stmt :=
  fun f toks context =>
    have h := PModel.sameUpToTerminator_respell f toks
    ⟨h, PModel.runParser_terminator_kind h, PModel.parseModel_terminator_kind h context⟩

/-- `SameUpToTerminator` is exactly "equal once every terminator is spelled `;`" (hence decidable), and
an equivalence relation. -/
def C10_same_up_to_terminator_char_stmt : Prop :=
  (∀ (toks toks' : Array PModel.PTok),
    PModel.SameUpToTerminator toks toks' ↔
      toks.map PModel.PTok.canon = toks'.map PModel.PTok.canon) ∧
  (∀ toks, PModel.SameUpToTerminator toks toks) ∧
  (∀ toks toks', PModel.SameUpToTerminator toks toks' → PModel.SameUpToTerminator toks' toks) ∧
  (∀ a b c, PModel.SameUpToTerminator a b → PModel.SameUpToTerminator b c →
    PModel.SameUpToTerminator a c)
theorem C10_same_up_to_terminator_char : C10_same_up_to_terminator_char_stmt :=
  ⟨PModel.sameUpToTerminator_iff_canon, PModel.SameUpToTerminator.refl,
    fun _ _ h => h.symm, fun _ _ _ h1 h2 => h1.trans h2⟩

/-- Tokenizer side.  Two renderings of the same lexemes that differ in one gap between a lexeme that
can end an expression and one that can start one: a line break in the first, a `;` lexeme with no line
break around it in the second.  The token kinds are `A ++ ⏎ :: B` and `A ++ ; :: B` for the same `A`,
`B`. -/
def C10_semicolon_vs_linebreak_stmt : Prop :=
  ∀ (cc : CharClass), cc.Sane2 → ∀ (g0 g0' : Gap) (pre post : List LexItem) (l l2 : List Char)
    (k k2 : TokKind) (g g1 g3 g2 : Gap) (eof eof' : Option (List Char)),
    Rendering cc g0 (pre ++ (l, k, g) :: (l2, k2, g2) :: post) eof →
    Rendering cc g0' (pre ++ (l, k, g1) :: ([';'], .terminatorSemicolon, g3) :: (l2, k2, g2) :: post)
      eof' →
    Gap.hasNL g = true → Gap.hasNL g1 = false → Gap.hasNL g3 = false →
    Generated.canEnd k = some true → Generated.canStart k2 = some true →
    ∃ ts ts' A B, tokenize cc (renderText g0 (pre ++ (l, k, g) :: (l2, k2, g2) :: post) eof) = .ok ts ∧
      tokenize cc (renderText g0'
        (pre ++ (l, k, g1) :: ([';'], .terminatorSemicolon, g3) :: (l2, k2, g2) :: post) eof') = .ok ts' ∧
      ts.map (·.kind) = A ++ .terminatorLineBreak :: B ∧
      ts'.map (·.kind) = A ++ .terminatorSemicolon :: B
theorem C10_semicolon_vs_linebreak : C10_semicolon_vs_linebreak_stmt := by
  intro cc hs g0 g0' pre post l l2 k k2 g g1 g3 g2 eof eof' h h' hg hg1 hg3 hk hk2
  obtain ⟨ts, h1, h2⟩ := h.law hs
  obtain ⟨ts', h1', h2'⟩ := h'.law hs
  refine ⟨ts, ts', weave (lexFlags (pre ++ [(l, k, g)])), weave (lexFlags ((l2, k2, g2) :: post)),
    h1, h1', ?_, ?_⟩
  · rw [h2, lexFlags_append, lexFlags_append]
    exact weave_break _ _ _ _ _ _ hg hk hk2
  · rw [h2', lexFlags_append, lexFlags_append]
    -- neither gap around the `;` has a line break
    exact (weave_flat _ _ _ _ _ _ _ hg1).trans (congrArg _ (weave_flat [] _ _ false _ _ _ hg3))

/-- A tokenizer token as a parser token (`I` interns identifier spellings). -/
def C10_toPTok (I : List Char → Name) (t : Tok) : PModel.PTok :=
  ⟨PModel.kindP I t.kind, ⟨t.start, t.stop⟩⟩

/-- End to end, up to ranges (the byte ranges of two different texts differ in general, so the two
kind streams are laid over an arbitrary common list of ranges): under the hypotheses of
`C10_semicolon_vs_linebreak` the two token streams have the same length, and as parser input they are
`SameUpToTerminator`, parse to the same result and give the same outcome of the front end. -/
def C10_semicolon_vs_linebreak_parse_stmt : Prop :=
  ∀ (cc : CharClass), cc.Sane2 → ∀ (g0 g0' : Gap) (pre post : List LexItem) (l l2 : List Char)
    (k k2 : TokKind) (g g1 g3 g2 : Gap) (eof eof' : Option (List Char)),
    Rendering cc g0 (pre ++ (l, k, g) :: (l2, k2, g2) :: post) eof →
    Rendering cc g0' (pre ++ (l, k, g1) :: ([';'], .terminatorSemicolon, g3) :: (l2, k2, g2) :: post)
      eof' →
    Gap.hasNL g = true → Gap.hasNL g1 = false → Gap.hasNL g3 = false →
    Generated.canEnd k = some true → Generated.canStart k2 = some true →
    ∃ ts ts', tokenize cc (renderText g0 (pre ++ (l, k, g) :: (l2, k2, g2) :: post) eof) = .ok ts ∧
      tokenize cc (renderText g0'
        (pre ++ (l, k, g1) :: ([';'], .terminatorSemicolon, g3) :: (l2, k2, g2) :: post) eof') = .ok ts' ∧
      ts.length = ts'.length ∧
      ∀ (I : List Char → Name) (rs : List PModel.SourceRange) (context : List Name),
        let toks := (List.zipWith PModel.PTok.mk (ts.map fun t => PModel.kindP I t.kind) rs).toArray
        let toks' := (List.zipWith PModel.PTok.mk (ts'.map fun t => PModel.kindP I t.kind) rs).toArray
        PModel.SameUpToTerminator toks toks' ∧ PModel.runParser toks' = PModel.runParser toks ∧
        PModel.parseModel toks' context = PModel.parseModel toks context
theorem C10_semicolon_vs_linebreak_parse : C10_semicolon_vs_linebreak_parse_stmt := by
  intro cc hs g0 g0' pre post l l2 k k2 g g1 g3 g2 eof eof' h h' hg hg1 hg3 hk hk2
  obtain ⟨ts, ts', A, B, h1, h1', e, e'⟩ :=
    C10_semicolon_vs_linebreak cc hs g0 g0' pre post l l2 k k2 g g1 g3 g2 eof eof' h h' hg hg1 hg3 hk hk2
  refine ⟨ts, ts', h1, h1', ?_, ?_⟩
  · have hl := congrArg List.length e
    have hl' := congrArg List.length e'
    simp only [List.length_map, List.length_append, List.length_cons] at hl hl'
    rw [hl, hl']
  · intro I rs context toks toks'
    have hk : PModel.All₂ PModel.KindSim ((ts.map (·.kind)).map (PModel.kindP I))
        ((ts'.map (·.kind)).map (PModel.kindP I)) := by
      rw [e, e', List.map_append, List.map_append]
      -- the same kinds, except `⏎` against `;` after `A`
      exact .append (.refl PModel.KindSim.refl _)
        (.cons (PModel.KindSim.terminators _ _) (.refl PModel.KindSim.refl _))
    rw [List.map_map, List.map_map] at hk
    have hsame : PModel.SameUpToTerminator toks toks' := PModel.sameUpToTerminator_zipWith hk rs
    exact ⟨hsame, PModel.runParser_terminator_kind hsame,
      PModel.parseModel_terminator_kind hsame context⟩

/-- `x = 1⏎x` (bytes `x`0 `=`2 `1`4 `⏎`5 `x`6). -/
def C10_toksLB : Array PModel.PTok := #[
  ⟨.identifier 1, ⟨0, 1⟩⟩, ⟨.equals, ⟨2, 3⟩⟩, ⟨.integerLiteral 1, ⟨4, 5⟩⟩,
  ⟨.terminator .lineBreak, ⟨5, 6⟩⟩, ⟨.identifier 1, ⟨6, 7⟩⟩]
/-- `x = 1;x`: the same ranges. -/
def C10_toksSC : Array PModel.PTok := #[
  ⟨.identifier 1, ⟨0, 1⟩⟩, ⟨.equals, ⟨2, 3⟩⟩, ⟨.integerLiteral 1, ⟨4, 5⟩⟩,
  ⟨.terminator .semicolon, ⟨5, 6⟩⟩, ⟨.identifier 1, ⟨6, 7⟩⟩]

example : PModel.SameUpToTerminator C10_toksLB C10_toksSC ∧ C10_toksLB ≠ C10_toksSC := by decide +kernel
example : C10_toksSC = C10_toksLB.map (PModel.PTok.respell fun _ => .semicolon) := by decide +kernel

/-- What the examples observe of a parse result: the recorded errors, `next`, `confident`, and every
node of the tree in preorder (range, `group`). -/
def C10_obs (r : PModel.PResult) :
    (List PModel.PErr × Nat × Bool) × List (PModel.SourceRange × Bool) × List PModel.SourceRange :=
  ((PModel.collectErrors r.term, r.next, r.confident), r.term.nodes, r.term.binders)

-- both spellings, evaluated by the kernel independently of the theorem: the let `0..7` with definition
-- `4..5` and body `6..7`, all 5 tokens consumed, no error
example : ∃ r st, PModel.runParser C10_toksLB = some (r, st) ∧
    C10_obs r = (([], 5, true), [(⟨0, 7⟩, false), (⟨4, 5⟩, false), (⟨6, 7⟩, false)], [⟨0, 1⟩]) :=
  PModel.runParser_eval C10_toksLB 40 _ _ (by decide +kernel)
example : ∃ r st, PModel.runParser C10_toksSC = some (r, st) ∧
    C10_obs r = (([], 5, true), [(⟨0, 7⟩, false), (⟨4, 5⟩, false), (⟨6, 7⟩, false)], [⟨0, 1⟩]) :=
  PModel.runParser_eval C10_toksSC 40 _ _ (by decide +kernel)
-- … and by the theorem: literally the same result and memo table
example : PModel.runParser C10_toksSC = PModel.runParser C10_toksLB :=
  C10_terminator_kind_irrelevant _ _ (by decide)

/-- `( 1⏎x` / `( 1;x`: the recovery scan of `parse_group` stops at the terminator (either kind). -/
def C10_toksLB2 : Array PModel.PTok := #[
  ⟨.leftParen, ⟨0, 1⟩⟩, ⟨.integerLiteral 1, ⟨2, 3⟩⟩, ⟨.terminator .lineBreak, ⟨3, 4⟩⟩,
  ⟨.identifier 1, ⟨4, 5⟩⟩]
def C10_toksSC2 : Array PModel.PTok := #[
  ⟨.leftParen, ⟨0, 1⟩⟩, ⟨.integerLiteral 1, ⟨2, 3⟩⟩, ⟨.terminator .semicolon, ⟨3, 4⟩⟩,
  ⟨.identifier 1, ⟨4, 5⟩⟩]
example : PModel.SameUpToTerminator C10_toksLB2 C10_toksSC2 := by decide +kernel
-- the "never closed" error lists the parenthesis `0..1` and the terminator `3..4` in both
example : ∃ r st, PModel.runParser C10_toksLB2 = some (r, st) ∧
    (PModel.collectErrors r.term, r.next, r.confident) = ([[⟨0, 1⟩, ⟨3, 4⟩]], 2, false) :=
  PModel.runParser_eval C10_toksLB2 40 _ _ (by decide +kernel)
example : ∃ r st, PModel.runParser C10_toksSC2 = some (r, st) ∧
    (PModel.collectErrors r.term, r.next, r.confident) = ([[⟨0, 1⟩, ⟨3, 4⟩]], 2, false) :=
  PModel.runParser_eval C10_toksSC2 40 _ _ (by decide +kernel)

/-- `x=1⏎x`: a line break between `1` and `x`. -/
def C10_itemsLB : List LexItem :=
  [(['x'], .identifier ['x'], []), (['='], .equals, []), (['1'], .integerLiteral 1, [.newline]),
   (['x'], .identifier ['x'], [])]
/-- `x=1;x`: a `;` lexeme there instead. -/
def C10_itemsSC : List LexItem :=
  [(['x'], .identifier ['x'], []), (['='], .equals, []), (['1'], .integerLiteral 1, []),
   ([';'], .terminatorSemicolon, []), (['x'], .identifier ['x'], [])]
theorem C10_renderingLB : Rendering C10_cc [] C10_itemsLB none :=
  .of_checks (by decide +kernel) eofOK_none
theorem C10_renderingSC : Rendering C10_cc [] C10_itemsSC none :=
  .of_checks (by decide +kernel) eofOK_none
example : renderText [] C10_itemsLB none = ['x','=','1','\n','x'] ∧
    renderText [] C10_itemsSC none = ['x','=','1',';','x'] := by decide +kernel
-- the hypotheses of `C10_semicolon_vs_linebreak(_parse)` hold together
example : ∃ ts ts', tokenize C10_cc (renderText [] C10_itemsLB none) = .ok ts ∧
    tokenize C10_cc (renderText [] C10_itemsSC none) = .ok ts' ∧ ts.length = ts'.length ∧
    ∀ (I : List Char → Name) (rs : List PModel.SourceRange) (context : List Name),
      let toks := (List.zipWith PModel.PTok.mk (ts.map fun t => PModel.kindP I t.kind) rs).toArray
      let toks' := (List.zipWith PModel.PTok.mk (ts'.map fun t => PModel.kindP I t.kind) rs).toArray
      PModel.SameUpToTerminator toks toks' ∧ PModel.runParser toks' = PModel.runParser toks ∧
      PModel.parseModel toks' context = PModel.parseModel toks context :=
  C10_semicolon_vs_linebreak_parse C10_cc C10_cc_sane2 [] [] (C10_itemsLB.take 2) [] ['1'] ['x']
    (.integerLiteral 1) (.identifier ['x']) [.newline] [] [] [] none none
    C10_renderingLB C10_renderingSC (by decide) (by decide) (by decide) (by decide) (by decide)
-- here the two texts even have the same byte ranges: the tokenizer's own tokens, converted, are
-- `SameUpToTerminator` (kernel-evaluated), so the front end gives the same outcome on the two texts
example : ∀ (I : List Char → Name) (context : List Name),
    match tokenize C10_cc ['x','=','1','\n','x'], tokenize C10_cc ['x','=','1',';','x'] with
    | .ok ts, .ok ts' =>
        PModel.parseModel (ts'.map (C10_toPTok I)).toArray context
          = PModel.parseModel (ts.map (C10_toPTok I)).toArray context
    | _, _ => False := by
  intro I context
  have e1 : tokenize C10_cc ['x','=','1','\n','x'] = .ok [⟨.identifier ['x'], 0, 1⟩, ⟨.equals, 1, 2⟩,
      ⟨.integerLiteral 1, 2, 3⟩, ⟨.terminatorLineBreak, 3, 4⟩, ⟨.identifier ['x'], 4, 5⟩] := by decide +kernel
  have e2 : tokenize C10_cc ['x','=','1',';','x'] = .ok [⟨.identifier ['x'], 0, 1⟩, ⟨.equals, 1, 2⟩,
      ⟨.integerLiteral 1, 2, 3⟩, ⟨.terminatorSemicolon, 3, 4⟩, ⟨.identifier ['x'], 4, 5⟩] := by decide +kernel
  rw [e1, e2]
  refine (C10_parse_terminator_irrelevant _ _ context ?_).1
  apply PModel.sameUpToTerminator_of_forall₂
  -- index by index the same token, except `⏎` against `;` in the fourth place
  exact .cons ⟨rfl, .refl _⟩ (.cons ⟨rfl, .refl _⟩ (.cons ⟨rfl, .refl _⟩
    (.cons ⟨rfl, .terminators _ _⟩ (.cons ⟨rfl, .refl _⟩ .nil))))
