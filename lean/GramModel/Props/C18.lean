import GramModel.Lemmas.EventTracesPin
import GramModel.Lemmas.Rebase
import GramModel.Lemmas.CtxWrapS

/-!
# C18 — checking under a context matches the closed program; contexts are restored

The model threads both contexts as state and pushes / pops them exactly where the Rust does, so
restoration is an invariant over every arm (including the failing ones), not a triviality.
-/

/-- `normalize_weak_head` leaves both contexts exactly as they were. -/
def C18_whnf_restores_stmt : Prop :=
  ∀ (fuel : Nat) (t r : Tm) (s s' : St), whnfS fuel t s = .ok r s' →
    s'.tctx = s.tctx ∧ s'.dctx = s.dctx
theorem C18_whnf_restores : C18_whnf_restores_stmt := by
  intro fuel t r s s' h
  exact CtxH.restores (whnfS_ctx fuel t) h

/-- `unify` leaves both contexts exactly as they were, whether it succeeds or fails. -/
def C18_unify_restores_stmt : Prop :=
  ∀ (fuel : Nat) (a b : Tm) (res : Bool) (s s' : St), unifyS fuel a b s = .ok res s' →
    s'.tctx = s.tctx ∧ s'.dctx = s.dctx
theorem C18_unify_restores : C18_unify_restores_stmt := by
  intro fuel a b res s s' h
  exact CtxH.restores (unifyS_ctx fuel a b) h

/-- `type_check` leaves both contexts exactly as they were, accepted or rejected (any number of
diagnostics), on every path including rejection part-way through a nested scope. -/
def C18_infer_restores_stmt : Prop :=
  ∀ (fuel : Nat) (t e ty : Tm) (s s' : St), inferS fuel t s = .ok (e, ty) s' →
    s'.tctx = s.tctx ∧ s'.dctx = s.dctx
theorem C18_infer_restores : C18_infer_restores_stmt := by
  intro fuel t e ty s s' h
  exact CtxH.restores (inferS_ctx fuel t) h

/-- The two contexts always have the same length inside the checker if they had on entry
(pushes and pops are paired). -/
def C18_push_pop_paired_stmt : Prop :=
  ∀ (s : St) (ty : Tm × Nat) (d : Option (Tm × Nat)),
    (match (pushCtx ty d >>= fun _ => popCtx) s with
     | .ok _ s' => s'.tctx = s.tctx ∧ s'.dctx = s.dctx
     | _ => False)
theorem C18_push_pop_paired : C18_push_pop_paired_stmt := by
  intro s ty d
  simp [pushCtx, popCtx, modifySt, bind, M.bind]

-- `(x : int) => (y : bool) => x + y` under a one-entry context: one diagnostic, contexts unchanged
example :
    (match inferS 30 (.lam 1 false .int (.lam 2 false .bool (.bin .sum (.var 1 1) (.var 2 0))))
        { tctx := [(.int, 0)], dctx := [none] } with
     | .ok _ s' => s'.nerrs == 1 && s'.tctx == [(Tm.int, 0)] && s'.dctx == [none]
     | _ => false) = true := by decide

/-- **Lambda wrap.**  Checking `(x : A) => t` is: check `A`, require its type to be `type`, then
check `t` with `(A, 0)` / `None` pushed on the two contexts — nothing else; the verdict on the
closed term is the verdict on the open body under the extended context, and its type is the
function type over the body's type. -/
def C18_lam_wrap_stmt : Prop :=
  ∀ (f : Nat) (x : Name) (im : Bool) (A t : Tm) (s : St),
    inferS (f+1) (.lam x im A t) s =
      (do
        let (d', dty) ← inferS f A
        if !(← unifyS f dty .type) then reportError
        pushCtx (d', 0) none
        let (b', cod) ← inferS f t
        popCtx
        pure (Tm.lam x im d' b', Tm.pi x im d' cod)) s
theorem C18_lam_wrap : C18_lam_wrap_stmt := by
  intro f x im A t s
  rfl

/-- Lookups are insensitive to re-basing an entry: an entry `(T, o)` read at index `i` yields
`ushift 0 (i + 1 - o) T`, so the entries `(T, o)` and `(ushift 0 k T, o + k)` — the same type stored
`k` binders further in — give the same type for every lookup that can see them (`o + k ≤ i + 1`). -/
def C18_lookup_rebase_stmt : Prop :=
  ∀ (T : Tm) (o k i : Nat), o + k ≤ i + 1 →
    ushift 0 (i + 1 - (o + k)) (ushift 0 k T) = ushift 0 (i + 1 - o) T
theorem C18_lookup_rebase : C18_lookup_rebase_stmt := by
  intro T o k i h
  rw [ushift_ushift, show i + 1 - (o + k) + k = i + 1 - o by omega]

/-- re-base entry `i` of a typing context by `k`: `(T, o)` becomes `(T lifted by k, o + k)` -/
def rebaseT (Γ : TCtxX) (i k : Nat) : TCtxX :=
  List.mapIdx (fun j (e : Tm × Nat) => if j = i then (ushift 0 k e.1, e.2 + k) else e) Γ
def rebaseD (Δ : DCtxX) (i k : Nat) : DCtxX :=
  List.mapIdx (fun j (e : Option (Tm × Nat)) => if j = i then e.map (fun p => (ushift 0 k p.1, p.2 + k)) else e) Δ

/-- **Context representation is immaterial.**  An entry `(T, o)` at position `i` of a context means "`T`
lifted by `i + 1 - o`".  Writing the same entry `k` binders further in — `(T lifted by k, o + k)`, as long as
`o + k ≤ i + 1` — changes nothing: the independent checker gives the same answer (same type, same error) for
every term, at every fuel; likewise weak-head normalisation and the conversion check under a definitions
context.  (This is the law behind the `programs` suite's C18 oracle, which checks open subterms of generated
programs under the context as the checker builds it and under the fully re-based one.) -/
def C18_rebase_invariant_stmt : Prop :=
  ∀ (f : Nat) (Γ : TCtxX) (Δ : DCtxX) (i k : Nat) (t : Tm),
    (∀ T o, Γ[i]? = some (T, o) → o + k ≤ i + 1) → (∀ d o, Δ[i]? = some (some (d, o)) → o + k ≤ i + 1) →
    inferX f (rebaseT Γ i k) (rebaseD Δ i k) t = inferX f Γ Δ t ∧
    whnfX f (rebaseD Δ i k) t = whnfX f Δ t ∧
    ∀ u, convX f (rebaseD Δ i k) t u = convX f Δ t u
theorem C18_rebase_invariant : C18_rebase_invariant_stmt := by
  intro f Γ Δ i k t hΓ hΔ
  have hT : Rebase.RebT i k Γ (rebaseT Γ i k) := Rebase.RebT.mapIdx Γ i k hΓ
  have hD : Rebase.RebD i k Δ (rebaseD Δ i k) := Rebase.RebD.mapIdx Δ i k hΔ
  exact ⟨Rebase.inferX_reb hT hD t, Rebase.whnfX_reb f i k _ _ t hD,
    fun u => Rebase.convX_reb f i k _ _ t u hD⟩

/-! Non-vacuity: the context `a : type, x : type = a, p : int, w : a` (outermost first), the entry of `x`
(position 2: `(type, 1)` / `some (a, 1)`) re-based by 2, on `(z : int) => ((y : x) => y) w` — `x` is looked up
under the binder `z` in both contexts (typing) and unfolded to `a` there (conversion of `w`'s type with `x`). -/
example :
    let Γ : TCtxX := [(.var 10 2, 0), (.int, 0), (.type, 1), (.type, 0)]
    let Δ : DCtxX := [none, none, some (.var 10 1, 1), none]
    let t : Tm := .lam 3 false .int (.app (.lam 4 false (.var 11 3) (.var 4 0)) (.var 12 1))
    rebaseT Γ 2 2 = [(.var 10 2, 0), (.int, 0), (.type, 3), (.type, 0)] ∧
    rebaseD Δ 2 2 = [none, none, some (.var 10 3, 3), none] ∧
    inferX 10 (rebaseT Γ 2 2) (rebaseD Δ 2 2) t = .ok (.pi 3 false .int (.var 11 3)) ∧
    inferX 10 Γ Δ t = .ok (.pi 3 false .int (.var 11 3)) := ⟨rfl, rfl, rfl, rfl⟩

/-- **Closed program = open body under the group's context.**  Checking a one-definition group
`x : A = d; b` is checking `A` (a type), `d` (at `A`) and `b` under the context extended with
`(A, 1)` / `some (d, 1)` — the entries `type_check` pushes — and the group's type is the body's type closed by
the same group. -/
def C18_let_wrap_stmt : Prop :=
  ∀ (f : Nat) (Γ : TCtxX) (Δ : DCtxX) (x : Name) (A d b B : Tm),
    inferX (f+2) Γ Δ (.letg (.cons x A d .nil) b) = .ok (.letg (.cons x A d .nil) B) ↔
    ((∃ K, inferX f ((A, 1) :: Γ) (some (d, 1) :: Δ) A = .ok K ∧ isTypeX f (some (d, 1) :: Δ) K = .ok ()) ∧
     (∃ D, inferX f ((A, 1) :: Γ) (some (d, 1) :: Δ) d = .ok D ∧
        expectX f (some (d, 1) :: Δ) D A .defMismatch = .ok ()) ∧
     inferX (f+1) ((A, 1) :: Γ) (some (d, 1) :: Δ) b = .ok B)
theorem C18_let_wrap : C18_let_wrap_stmt := by
  intro f Γ Δ x A d b B
  have hp : pushGroupX (.cons x A d .nil) 0 (Γ, Δ) = ((A, 1) :: Γ, some (d, 1) :: Δ) := rfl
  rw [CtxWrap.group_wrap_X, hp, CtxWrap.inferDefsX_cons_ok]
  constructor
  · rintro ⟨⟨hA, hd, _⟩, B', e, hb⟩
    cases e
    exact ⟨hA, hd, hb⟩
  · rintro ⟨hA, hd, hb⟩
    refine ⟨⟨hA, hd, ?_⟩, B, rfl, hb⟩
    cases f with
    | zero => obtain ⟨K, h, _⟩ := hA; cases h
    | succ f => rfl

/-! Non-vacuity: `x : int = 5; x + 1` — accepted with type `x : int = 5; int`, and the three premises hold. -/
example :
    inferX 5 [] [] (.letg (.cons 1 .int (.lit 5) .nil) (.bin .sum (.var 1 0) (.lit 1)))
      = .ok (.letg (.cons 1 .int (.lit 5) .nil) .int) ∧
    inferX 3 [(.int, 1)] [some (.lit 5, 1)] .int = .ok .type ∧
    isTypeX 3 [some (.lit 5, 1)] .type = .ok () ∧
    inferX 3 [(.int, 1)] [some (.lit 5, 1)] (.lit 5) = .ok .int ∧
    expectX 3 [some (.lit 5, 1)] .int .int .defMismatch = .ok () ∧
    inferX 4 [(.int, 1)] [some (.lit 5, 1)] (.bin .sum (.var 1 0) (.lit 1)) = .ok .int :=
  ⟨rfl, rfl, rfl, rfl, rfl, rfl⟩

/-! # Whole contexts: checking under a context = checking the closed program

`Lemmas/CtxWrap.lean`.  A context is a list of layers, outermost first: `Layer.param x im A` (pushes `(A, 0)` /
`none`) or `Layer.group ds` (pushes what `pushGroupX` pushes); `closeCtx ls t` binds the layers around `t`
(`λ` / `letg`), `closeTy ls B` around its type (`Π` / `letg`); `CtxOK ls c` says that every parameter domain is
accepted as a type and every group's definitions are accepted, each under the layers outside it.
`closeParams` / `closePi` / `pushParams` / `ParamsOK` are the same for parameter-only contexts
`ps : List (Name × Bool × Tm)` — outermost parameter first. -/

section WholeContext
open CtxWrap

/-- **The answer never depends on the fuel**: an acceptance and a rejection of the same term in the same
context can only differ by the rejection being "out of fuel". -/
def C18_verdict_fuel_independent_stmt : Prop :=
  ∀ (f g : Nat) (Γ : TCtxX) (Δ : DCtxX) (t : Tm) (r₁ r₂ : Except XErr Tm),
    inferX f Γ Δ t = r₁ → inferX g Γ Δ t = r₂ → r₁ ≠ .error .fuel → r₂ ≠ .error .fuel → r₁ = r₂
theorem C18_verdict_fuel_independent : C18_verdict_fuel_independent_stmt := by
  intro f g Γ Δ t r₁ r₂ h1 h2 n1 n2
  exact FuelLemmas.inferX_det h1 h2 n1 n2

/-- **Lambda wrap for the independent checker.**  `(x : A) => t` is accepted with type `(x : A) -> B` exactly
when `A` is accepted as a type and `t` is accepted with type `B` under the context extended by `(A, 0)` / `none`
(all three sub-checks at the fuel one below). -/
def C18_lam_wrap_X_stmt : Prop :=
  ∀ (f : Nat) (Γ : TCtxX) (Δ : DCtxX) (x : Name) (im : Bool) (A t B : Tm),
    inferX (f+1) Γ Δ (.lam x im A t) = .ok (.pi x im A B) ↔
    (∃ K, inferX f Γ Δ A = .ok K ∧ isTypeX f Δ K = .ok ()) ∧
    inferX f ((A, 0) :: Γ) (none :: Δ) t = .ok B
theorem C18_lam_wrap_X : C18_lam_wrap_X_stmt := by
  intro f Γ Δ x im A t B
  rw [lam_wrap_X]
  constructor
  · rintro ⟨hA, B', e, hB⟩; injection e with _ _ _ e; subst e; exact ⟨hA, hB⟩
  · rintro ⟨hA, hB⟩; exact ⟨hA, B, rfl, hB⟩

/-- … and a λ is never given any other type than that Π; a rejection of the λ is the rejection of the domain,
of "the domain is a type", or of the body (`r.map` keeps an error and wraps a type). -/
def C18_lam_wrap_X_result_stmt : Prop :=
  ∀ (f : Nat) (Γ : TCtxX) (Δ : DCtxX) (x : Name) (im : Bool) (A t K : Tm),
    inferX f Γ Δ A = .ok K → isTypeX f Δ K = .ok () →
    inferX (f+1) Γ Δ (.lam x im A t) = (inferX f ((A, 0) :: Γ) (none :: Δ) t).map (.pi x im A)
theorem C18_lam_wrap_X_result : C18_lam_wrap_X_result_stmt := by
  intro f Γ Δ x im A t K h1 h2
  exact lam_step_ok x im t h1 h2

/-- **Whole-context wrap, acceptance.**  For an accepted context (any mix of parameters and definition groups)
the open term is accepted under the context with type `B` iff the closed program is accepted under the base
context with type `B` closed by the same layers ("for some fuel" on both sides: the answer does not depend
on the fuel). -/
def C18_ctx_wrap_stmt : Prop :=
  ∀ (ls : List Layer) (c : TCtxX × DCtxX) (t B : Tm), CtxOK ls c →
    ((∃ f, inferX f (pushCtxs ls c).1 (pushCtxs ls c).2 t = .ok B) ↔
     (∃ f, inferX f c.1 c.2 (closeCtx ls t) = .ok (closeTy ls B)))
theorem C18_ctx_wrap : C18_ctx_wrap_stmt := by
  intro ls c t B h
  exact ctx_accept ls c t B h

/-- **Whole-context wrap, rejection.**  A genuine type error (not "out of fuel") of the open term under the
context is the *same* error of the closed program, and conversely. -/
def C18_ctx_reject_stmt : Prop :=
  ∀ (ls : List Layer) (c : TCtxX × DCtxX) (t : Tm) (e : XErr), CtxOK ls c → e ≠ .fuel →
    ((∃ f, inferX f (pushCtxs ls c).1 (pushCtxs ls c).2 t = .error e) ↔
     (∃ f, inferX f c.1 c.2 (closeCtx ls t) = .error e))
theorem C18_ctx_reject : C18_ctx_reject_stmt := by
  intro ls c t e h he
  exact ctx_reject ls c t h e he

/-- **Same verdict.**  If the open term is genuinely rejected under the context, the closed program is not
accepted at any fuel; if the closed program is genuinely rejected, the open term is not accepted at any fuel. -/
def C18_ctx_verdict_stmt : Prop :=
  ∀ (ls : List Layer) (c : TCtxX × DCtxX) (t : Tm), CtxOK ls c →
    ((∃ f e, e ≠ .fuel ∧ inferX f (pushCtxs ls c).1 (pushCtxs ls c).2 t = .error e) →
      ∀ g T, inferX g c.1 c.2 (closeCtx ls t) ≠ .ok T) ∧
    ((∃ f e, e ≠ .fuel ∧ inferX f c.1 c.2 (closeCtx ls t) = .error e) →
      ∀ g B, inferX g (pushCtxs ls c).1 (pushCtxs ls c).2 t ≠ .ok B)
theorem C18_ctx_verdict : C18_ctx_verdict_stmt := by
  intro ls c t h
  exact ctx_verdict ls c t h

/-- **Acceptance of a closed program, characterised** (no hypothesis on the context): the closed program is
accepted with type `T` iff the context is accepted, the open term is accepted under it with some type `B`, and
`T` is `B` closed by the same layers. -/
def C18_ctx_accept_iff_stmt : Prop :=
  ∀ (ls : List Layer) (c : TCtxX × DCtxX) (t T : Tm),
    (∃ f, inferX f c.1 c.2 (closeCtx ls t) = .ok T) ↔
    CtxOK ls c ∧ ∃ B, T = closeTy ls B ∧ ∃ f, inferX f (pushCtxs ls c).1 (pushCtxs ls c).2 t = .ok B
theorem C18_ctx_accept_iff : C18_ctx_accept_iff_stmt := by
  intro ls c t T
  exact closed_ok_iff ls c t T

/-- the contexts a parameter list produces over the empty context: the domains innermost first, each with
offset 0, and as many `none`s -/
def C18_params_shape_stmt : Prop :=
  ∀ (ps : Params) (c : TCtxX × DCtxX),
    pushParams ps c = ((ps.reverse.map fun p => (p.2.2, 0)) ++ c.1, List.replicate ps.length none ++ c.2)
theorem C18_params_shape : C18_params_shape_stmt := by
  intro ps c
  exact pushParams_eq ps c

/-- **Parameter contexts.**  `Γ = [(Aₙ,0), …, (A₁,0)]`, `Δ = [none, …, none]` (over any base context `c`, in
particular the empty one), every `Aᵢ` accepted as a type under its prefix: `t` is accepted under `(Γ, Δ)` with
type `B` iff `(x₁ : A₁) => … => (xₙ : Aₙ) => t` is accepted under the base with type
`(x₁ : A₁) -> … -> (xₙ : Aₙ) -> B`. -/
def C18_params_wrap_stmt : Prop :=
  ∀ (ps : Params) (c : TCtxX × DCtxX) (t B : Tm), ParamsOK ps c →
    ((∃ f, inferX f (pushParams ps c).1 (pushParams ps c).2 t = .ok B) ↔
     (∃ f, inferX f c.1 c.2 (closeParams ps t) = .ok (closePi ps B)))
theorem C18_params_wrap : C18_params_wrap_stmt := by
  intro ps c t B h
  exact ctx_accept (paramLayers ps) c t B h

/-- **Parameter contexts, rejection side**: the same genuine error on both sides; and a genuine rejection on
one side excludes acceptance on the other at every fuel. -/
def C18_params_reject_stmt : Prop :=
  ∀ (ps : Params) (c : TCtxX × DCtxX) (t : Tm), ParamsOK ps c →
    (∀ e, e ≠ .fuel →
      ((∃ f, inferX f (pushParams ps c).1 (pushParams ps c).2 t = .error e) ↔
       (∃ f, inferX f c.1 c.2 (closeParams ps t) = .error e))) ∧
    ((∃ f e, e ≠ .fuel ∧ inferX f (pushParams ps c).1 (pushParams ps c).2 t = .error e) →
      ∀ g T, inferX g c.1 c.2 (closeParams ps t) ≠ .ok T) ∧
    ((∃ f e, e ≠ .fuel ∧ inferX f c.1 c.2 (closeParams ps t) = .error e) →
      ∀ g B, inferX g (pushParams ps c).1 (pushParams ps c).2 t ≠ .ok B)
theorem C18_params_reject : C18_params_reject_stmt := by
  intro ps c t h
  exact ⟨fun e he => ctx_reject (paramLayers ps) c t h e he, ctx_verdict (paramLayers ps) c t h⟩

/-- the closed function is accepted only if every domain is accepted as a type in its prefix context, and only
at an iterated function type -/
def C18_params_accept_iff_stmt : Prop :=
  ∀ (ps : Params) (c : TCtxX × DCtxX) (t T : Tm),
    (∃ f, inferX f c.1 c.2 (closeParams ps t) = .ok T) ↔
    ParamsOK ps c ∧ ∃ B, T = closePi ps B ∧ ∃ f, inferX f (pushParams ps c).1 (pushParams ps c).2 t = .ok B
theorem C18_params_accept_iff : C18_params_accept_iff_stmt := by
  intro ps c t T
  exact closed_ok_iff (paramLayers ps) c t T

/-- the entries a group of `n` definitions pushes: definition `i` (source order, 0-based) is at position
`n - 1 - i` with offset `n - i` — annotation in the typing context, definition in the definitions context -/
def C18_group_shape_stmt : Prop :=
  ∀ (ds : Defs) (Γ : TCtxX) (Δ : DCtxX) (i : Nat) (x : Name) (a d : Tm), ds.toList[i]? = some (x, a, d) →
    (pushGroupX ds 0 (Γ, Δ)).1[ds.len - 1 - i]? = some (a, ds.len - i) ∧
    (pushGroupX ds 0 (Γ, Δ)).2[ds.len - 1 - i]? = some (some (d, ds.len - i))
theorem C18_group_shape : C18_group_shape_stmt := by
  intro ds Γ Δ i x a d h
  exact pushGroupX_get ds Γ Δ i x a d h

/-- **Group wrap, any number of definitions, fixed fuel** (generalises `C18_let_wrap`): `ds; b` is accepted with
type `T` iff the definitions check under the pushed group, the body is accepted under the pushed group with some
type `B`, and `T` is `ds; B`. -/
def C18_group_wrap_stmt : Prop :=
  ∀ (f : Nat) (Γ : TCtxX) (Δ : DCtxX) (ds : Defs) (b T : Tm),
    inferX (f+1) Γ Δ (.letg ds b) = .ok T ↔
    inferDefsX f (pushGroupX ds 0 (Γ, Δ)).1 (pushGroupX ds 0 (Γ, Δ)).2 ds = .ok () ∧
    ∃ B, T = .letg ds B ∧ inferX f (pushGroupX ds 0 (Γ, Δ)).1 (pushGroupX ds 0 (Γ, Δ)).2 b = .ok B
theorem C18_group_wrap : C18_group_wrap_stmt := by
  intro f Γ Δ ds b T
  exact group_wrap_X f Γ Δ ds b T

/-- `inferDefsX` accepts a group (at some fuel) iff every definition is accepted: its annotation is accepted as
a type and the definition is accepted with a type convertible with the annotation -/
def C18_defs_accept_iff_stmt : Prop :=
  ∀ (Γ : TCtxX) (Δ : DCtxX) (ds : Defs), DefsAcc Γ Δ ds ↔ ∃ f, inferDefsX f Γ Δ ds = .ok ()
theorem C18_defs_accept_iff : C18_defs_accept_iff_stmt := by
  intro Γ Δ ds
  exact defsAcc_iff Γ Δ ds

/-- **Mixed contexts**: parameters `ps`, then one definition group `ds` of any length on top of them.  With the
domains and the definitions accepted, the body under `pushGroupX ds` over the parameter context gets the same
answer as `(x₁ : A₁) => … => (ds; b)` under the base: same acceptance with the type closed by the group and the
Πs, same genuine error. -/
def C18_mixed_wrap_stmt : Prop :=
  ∀ (ps : Params) (ds : Defs) (c : TCtxX × DCtxX) (b : Tm),
    ParamsOK ps c →
    DefsAcc (pushGroupX ds 0 (pushParams ps c)).1 (pushGroupX ds 0 (pushParams ps c)).2 ds →
    (∀ B, (∃ f, inferX f (pushGroupX ds 0 (pushParams ps c)).1 (pushGroupX ds 0 (pushParams ps c)).2 b = .ok B) ↔
          (∃ f, inferX f c.1 c.2 (closeParams ps (.letg ds b)) = .ok (closePi ps (.letg ds B)))) ∧
    (∀ e, e ≠ .fuel →
      ((∃ f, inferX f (pushGroupX ds 0 (pushParams ps c)).1 (pushGroupX ds 0 (pushParams ps c)).2 b = .error e) ↔
       (∃ f, inferX f c.1 c.2 (closeParams ps (.letg ds b)) = .error e)))
theorem C18_mixed_wrap : C18_mixed_wrap_stmt := by
  intro ps ds c b hps hds
  have hg : CtxOK [Layer.group ds] (pushParams ps c) := ⟨hds, trivial⟩
  constructor
  · intro B
    exact (ctx_accept [Layer.group ds] (pushParams ps c) b B hg).trans
      (ctx_accept (paramLayers ps) c (.letg ds b) (.letg ds B) hps)
  · intro e he
    exact (ctx_reject [Layer.group ds] (pushParams ps c) b hg e he).trans
      (ctx_reject (paramLayers ps) c (.letg ds b) hps e he)

/-- a parameter is inert under normalisation, and a λ / Π is already a weak head normal form -/
def C18_whnf_param_stmt : Prop :=
  ∀ (f : Nat) (Δ : DCtxX) (x : Name) (im : Bool) (A t : Tm),
    whnfX (f+1) (none :: Δ) (.var x 0) = some (.var x 0) ∧
    whnfX (f+1) Δ (.lam x im A t) = some (.lam x im A t) ∧
    whnfX (f+1) Δ (.pi x im A t) = some (.pi x im A t)
theorem C18_whnf_param : C18_whnf_param_stmt := by
  intro f Δ x im A t
  exact ⟨whnfX_param f Δ x, whnfX_lam f Δ x im A t, whnfX_pi f Δ x im A t⟩

/-- **Comparing two functions is comparing their bodies under one more parameter** (names and domain annotations
are irrelevant; one unit of fuel for the binder). -/
def C18_conv_lam_stmt : Prop :=
  ∀ (f : Nat) (Δ : DCtxX) (x y : Name) (im jm : Bool) (A A' t u : Tm),
    convX (f+2) Δ (.lam x im A t) (.lam y jm A' u) =
      if im == jm then convX (f+1) (none :: Δ) t u else some false
theorem C18_conv_lam : C18_conv_lam_stmt := by
  intro f Δ x y im jm A A' t u
  exact convX_lam f Δ x y im jm A A' t u

/-- **Comparing two function types**: the domains in the current context, then the codomains under one more
parameter. -/
def C18_conv_pi_stmt : Prop :=
  ∀ (f : Nat) (Δ : DCtxX) (x y : Name) (im jm : Bool) (A A' t u : Tm),
    convX (f+2) Δ (.pi x im A t) (.pi y jm A' u) =
      if im == jm then
        match convX (f+1) Δ A A' with
        | some true => convX (f+1) (none :: Δ) t u
        | r => r
      else some false
theorem C18_conv_pi : C18_conv_pi_stmt := by
  intro f Δ x y im jm A A' t u
  exact convX_pi f Δ x y im jm A A' t u

/-- **Whole parameter contexts**: the conversion check under `n` parameters is the conversion check of the
closed functions, and of the closed function types (one unit of fuel per binder); convertibility under the
parameters gives convertibility of the closed terms. -/
def C18_conv_params_stmt : Prop :=
  ∀ (ps : Params) (f : Nat) (Δ : DCtxX) (t u : Tm),
    convX (f + 1 + ps.length) Δ (closeParams ps t) (closeParams ps u) =
      convX (f + 1) (List.replicate ps.length none ++ Δ) t u ∧
    convX (f + 1 + ps.length) Δ (closePi ps t) (closePi ps u) =
      convX (f + 1) (List.replicate ps.length none ++ Δ) t u ∧
    (Conv (List.replicate ps.length none ++ Δ) t u →
      Conv Δ (closeParams ps t) (closeParams ps u) ∧ Conv Δ (closePi ps t) (closePi ps u))
theorem C18_conv_params : C18_conv_params_stmt := by
  intro ps f Δ t u
  have e : (pushParams ps ([], Δ)).2 = List.replicate ps.length none ++ Δ := by rw [pushParams_eq]
  rw [← e]
  exact ⟨convX_closeParams ps f Δ t u, convX_closePi ps f Δ t u,
    fun h => ⟨Conv_closeParams ps Δ t u h, Conv_closePi ps Δ t u h⟩⟩

/-- **gram's own `unify`**: once both sides are weak-head normalised (a λ / Π is its own normal form), two λs are
compared by pushing `None`, unifying the bodies, and popping; two Πs by unifying the domains in the current
context first. -/
def C18_unify_binder_stmt : Prop :=
  ∀ (f : Nat) (x y : Name) (im jm : Bool) (A A' t u : Tm),
    whnfS (f+1) (.lam x im A t) = pure (.lam x im A t) ∧
    whnfS (f+1) (.pi x im A t) = pure (.pi x im A t) ∧
    UnifyAgree.unifyHead f (.lam x im A t) (.lam y jm A' u) =
      (if im == jm then do
        pushD none
        let r ← unifyS f t u
        popD
        pure r
      else pure false) ∧
    UnifyAgree.unifyHead f (.pi x im A t) (.pi y jm A' u) =
      (if im == jm then do
        if ← unifyS f A A' then do
          pushD none
          let r ← unifyS f t u
          popD
          pure r
        else pure false
      else pure false)
theorem C18_unify_binder : C18_unify_binder_stmt := by
  intro f x y im jm A A' t u
  exact ⟨whnfS_lam f x im A t, whnfS_pi f x im A t, unifyHead_lam f x y im jm A A' t u,
    unifyHead_pi f x y im jm A A' t u⟩

/-- **Transparent group congruence.**  Terms convertible under the context of a group — where the group's
variables unfold to their definitions (δ) — give convertible closed groups — where the group is unfolded by
substitution.  (`Conv.letg` has this only for opaque group variables.)  Well-formed offsets and hole-free
definitions in the base context; any number of (possibly recursive) definitions. -/
def C18_conv_group_stmt : Prop :=
  ∀ (Γ : TCtxX) (Δ : DCtxX) (ds : Defs) (b b' : Tm), CCPar.DWF Δ → WhnfLemmas.DHF Δ →
    ds.holeFree = true → b.holeFree = true → b'.holeFree = true →
    Conv (pushGroupX ds 0 (Γ, Δ)).2 b b' → Conv Δ (.letg ds b) (.letg ds b')
theorem C18_conv_group : C18_conv_group_stmt := by
  intro Γ Δ ds b b' hW hD hds hb hb' h
  rw [CheckSound.pushGroupX_eq] at h
  exact Conv_group hW hD hds hb hb' h

/-- **Normalisation under a group vs normalisation of the closed group.**  If the open term normalises to `w`
under the group's context and the closed group normalises to `w'`, then `w'` is convertible with `ds; w` (and
`ds; t` with `ds; w`). -/
def C18_whnf_group_stmt : Prop :=
  ∀ (Γ : TCtxX) (Δ : DCtxX) (ds : Defs) (t w w' : Tm) (f g : Nat), CCPar.DWF Δ → WhnfLemmas.DHF Δ →
    ds.holeFree = true → t.holeFree = true → WhnfLemmas.DHF (pushGroupX ds 0 (Γ, Δ)).2 →
    whnfX f (pushGroupX ds 0 (Γ, Δ)).2 t = some w → whnfX g Δ (.letg ds t) = some w' →
    Conv Δ (.letg ds t) (.letg ds w) ∧ Conv Δ w' (.letg ds w)
theorem C18_whnf_group : C18_whnf_group_stmt := by
  intro Γ Δ ds t w w' f g hW hD hds ht _ h h'
  rw [CheckSound.pushGroupX_eq] at h
  exact whnfX_group hW hD hds ht h h'

/-- **The conversion check under a group vs on the closed groups.**  What the check accepts under the group's
context is convertible when closed by the group, and the check on the closed groups never answers "different",
at any fuel. -/
def C18_convX_group_stmt : Prop :=
  ∀ (Γ : TCtxX) (Δ : DCtxX) (ds : Defs) (t u : Tm) (f : Nat), CCPar.DWF Δ → WhnfLemmas.DHF Δ →
    ds.holeFree = true → t.holeFree = true → u.holeFree = true → WhnfLemmas.DHF (pushGroupX ds 0 (Γ, Δ)).2 →
    convX f (pushGroupX ds 0 (Γ, Δ)).2 t u = some true →
    Conv Δ (.letg ds t) (.letg ds u) ∧ ∀ g, convX g Δ (.letg ds t) (.letg ds u) ≠ some false
theorem C18_convX_group : C18_convX_group_stmt := by
  intro Γ Δ ds t u f hW hD hds ht hu _ h
  rw [CheckSound.pushGroupX_eq] at h
  exact convX_group hW hD hds ht hu h

-- lambda wrap: `(x : int) => x + 1 : (x : int) -> int`, with its premises
example :
    inferX 4 [] [] (.lam 1 false .int (.bin .sum (.var 1 0) (.lit 1))) = .ok (.pi 1 false .int .int) ∧
    inferX 3 [] [] .int = .ok .type ∧ isTypeX 3 [] .type = .ok () ∧
    inferX 3 [(.int, 0)] [none] (.bin .sum (.var 1 0) (.lit 1)) = .ok .int := ⟨rfl, rfl, rfl, rfl⟩

/-- the context `a : type, x : a` (outermost first) -/
def c18ExParams : Params := [(10, false, .type), (11, false, .var 10 0)]

theorem c18ExParamsOk : ParamsOK c18ExParams ([], []) := by
  simp only [c18ExParams, ParamsOK_cons, ParamsOK_nil]
  exact ⟨⟨1, .type, rfl, rfl⟩, ⟨2, .type, rfl, rfl⟩, trivial⟩

-- its contexts, the closed wrapper of `x`, and the closed type
example : pushParams c18ExParams ([], []) = ([(.var 10 0, 0), (.type, 0)], [none, none]) := rfl
example : closeParams c18ExParams (.var 11 0) = .lam 10 false .type (.lam 11 false (.var 10 0) (.var 11 0)) := rfl
example : closePi c18ExParams (.var 10 1) = .pi 10 false .type (.pi 11 false (.var 10 0) (.var 10 1)) := rfl

-- acceptance: `x : a` under the context, `(a : type) => (x : a) => x : (a : type) -> (x : a) -> a` closed;
-- both sides of `C18_params_wrap` hold
example :
    inferX 1 (pushParams c18ExParams ([], [])).1 (pushParams c18ExParams ([], [])).2 (.var 11 0) = .ok (.var 10 1) ∧
    inferX 3 [] [] (closeParams c18ExParams (.var 11 0)) = .ok (closePi c18ExParams (.var 10 1)) := ⟨rfl, rfl⟩
example : ∃ f, inferX f [] [] (closeParams c18ExParams (.var 11 0)) = .ok (closePi c18ExParams (.var 10 1)) :=
  (C18_params_wrap c18ExParams ([], []) (.var 11 0) (.var 10 1) c18ExParamsOk).1 ⟨1, rfl⟩

-- rejection: `x + 1` under `a : type, x : a` is "not an integer", and so is the closed wrapper; hence the closed
-- wrapper is not accepted at any fuel
example :
    inferX 3 (pushParams c18ExParams ([], [])).1 (pushParams c18ExParams ([], [])).2 (.bin .sum (.var 11 0) (.lit 1))
      = .error .notInt ∧
    inferX 5 [] [] (closeParams c18ExParams (.bin .sum (.var 11 0) (.lit 1))) = .error .notInt := ⟨rfl, rfl⟩
example : ∀ g T, inferX g [] [] (closeParams c18ExParams (.bin .sum (.var 11 0) (.lit 1))) ≠ .ok T :=
  (C18_params_reject c18ExParams ([], []) (.bin .sum (.var 11 0) (.lit 1)) c18ExParamsOk).2.1
    ⟨3, .notInt, by decide, rfl⟩

-- a domain that is not a type: `(x : 5) => x` is not accepted, and `ParamsOK` fails accordingly
example : inferX 4 [] [] (closeParams [(1, false, .lit 5)] (.var 1 0)) = .error .notType := rfl

/-- the group `n : int = 5; m : int = n + 1` -/
def c18ExGroup : Defs := .cons 1 .int (.lit 5) (.cons 2 .int (.bin .sum (.var 1 1) (.lit 1)) .nil)

-- the entries it pushes (`n` at position 1 with offset 2, `m` at position 0 with offset 1)
example : pushGroupX c18ExGroup 0 ([], []) =
    ([(.int, 1), (.int, 2)], [some (.bin .sum (.var 1 1) (.lit 1), 1), some (.lit 5, 2)]) := rfl

-- group wrap on `n : int = 5; m : int = n + 1; m * n`: the three components of `C18_group_wrap`
example :
    inferX 5 [] [] (.letg c18ExGroup (.bin .prod (.var 2 0) (.var 1 1))) = .ok (.letg c18ExGroup .int) ∧
    inferDefsX 4 (pushGroupX c18ExGroup 0 ([], [])).1 (pushGroupX c18ExGroup 0 ([], [])).2 c18ExGroup = .ok () ∧
    inferX 4 (pushGroupX c18ExGroup 0 ([], [])).1 (pushGroupX c18ExGroup 0 ([], [])).2
      (.bin .prod (.var 2 0) (.var 1 1)) = .ok .int := ⟨rfl, rfl, rfl⟩

-- a rejected body under the group (`if m then 1 else 2`: `m` is not a boolean) is the same rejection closed
example :
    inferX 4 (pushGroupX c18ExGroup 0 ([], [])).1 (pushGroupX c18ExGroup 0 ([], [])).2
      (.ite (.var 2 0) (.lit 1) (.lit 2)) = .error .notBool ∧
    inferX 5 [] [] (.letg c18ExGroup (.ite (.var 2 0) (.lit 1) (.lit 2))) = .error .notBool := ⟨rfl, rfl⟩

-- mixed context `k : int` then the group `n : int = k + 1`, body `n * k`: hypotheses and both sides of
-- `C18_mixed_wrap`
example :
    let ps : Params := [(20, false, .int)]
    let ds : Defs := .cons 1 .int (.bin .sum (.var 20 1) (.lit 1)) .nil
    let b : Tm := .bin .prod (.var 1 0) (.var 20 1)
    ParamsOK ps ([], []) ∧
    DefsAcc (pushGroupX ds 0 (pushParams ps ([], []))).1 (pushGroupX ds 0 (pushParams ps ([], []))).2 ds ∧
    pushGroupX ds 0 (pushParams ps ([], [])) =
      ([(.int, 1), (.int, 0)], [some (.bin .sum (.var 20 1) (.lit 1), 1), none]) ∧
    inferX 3 (pushGroupX ds 0 (pushParams ps ([], []))).1 (pushGroupX ds 0 (pushParams ps ([], []))).2 b = .ok .int ∧
    inferX 6 [] [] (closeParams ps (.letg ds b)) = .ok (closePi ps (.letg ds .int)) := by
  refine ⟨?_, ?_, rfl, rfl, rfl⟩
  · simp only [ParamsOK_cons, ParamsOK_nil]; exact ⟨⟨1, .type, rfl, rfl⟩, trivial⟩
  · exact (C18_defs_accept_iff _ _ _).2 ⟨4, rfl⟩

-- conversion under parameters: `(x : int) => x` vs `(y : bool) => y` (domains are not compared for functions),
-- `(x : int) -> int` vs `(y : bool) -> int` (they are for function types)
example :
    convX 3 [] (.lam 1 false .int (.var 1 0)) (.lam 2 false .bool (.var 2 0)) = some true ∧
    convX 2 [none] (.var 1 0) (.var 2 0) = some true ∧
    convX 3 [] (.pi 1 false .int .int) (.pi 2 false .bool .int) = some false := ⟨rfl, rfl, rfl⟩

-- under `a : type, x : a`: `x` and `((z : type) => z) x`… compared open, and as closed functions
example :
    convX 3 [none, none] (.var 11 0) (.app (.lam 5 false .type (.var 5 0)) (.var 11 0)) = some true ∧
    convX 5 [] (closeParams c18ExParams (.var 11 0))
      (closeParams c18ExParams (.app (.lam 5 false .type (.var 5 0)) (.var 11 0))) = some true := ⟨rfl, rfl⟩

-- definitions: under `n : int = 5`, `n + 1` is convertible with `6` (δ from the context); closed, `n : int = 5; n + 1`
-- is convertible with `n : int = 5; 6`, and the closed term normalises to `6`
example :
    let ds : Defs := .cons 1 .int (.lit 5) .nil
    pushGroupX ds 0 ([], []) = ([(.int, 1)], [some (.lit 5, 1)]) ∧
    convX 4 [some (.lit 5, 1)] (.bin .sum (.var 1 0) (.lit 1)) (.lit 6) = some true ∧
    whnfX 4 [some (.lit 5, 1)] (.bin .sum (.var 1 0) (.lit 1)) = some (.lit 6) ∧
    whnfX 5 [] (.letg ds (.bin .sum (.var 1 0) (.lit 1))) = some (.lit 6) ∧
    convX 6 [] (.letg ds (.bin .sum (.var 1 0) (.lit 1))) (.letg ds (.lit 6)) = some true :=
  ⟨rfl, rfl, rfl, rfl, rfl⟩
example : Conv [] (.letg (.cons 1 .int (.lit 5) .nil) (.bin .sum (.var 1 0) (.lit 1)))
    (.letg (.cons 1 .int (.lit 5) .nil) (.lit 6)) :=
  (C18_convX_group [] [] (.cons 1 .int (.lit 5) .nil) (.bin .sum (.var 1 0) (.lit 1)) (.lit 6) 4
    Canonical.DWF_nil WhnfLemmas.DHF.nil rfl rfl rfl
    (by intro e he d o hd; simp [pushGroupX, pushGroupX.go, Defs.len] at he; subst he; cases hd; rfl)
    rfl).1

end WholeContext

/-- In every arm of `type_check_rec` and in the binder arms of `unify` (tables regenerated from `type_checker.rs` / `unifier.rs`
by `extract/arms.py`), the typing and the definitions context are pushed and popped in LIFO order and every push has its
pop — on the straight-line path, which is the only path: the arms have no early return (`C18_push_pop_paired` is the
same statement about the model).  The groups of `type_check_rec` restore their contexts through a scope guard. -/
def C18_contexts_balanced_tie_stmt : Prop := contextsBalanced Generated.eventTraces = true
theorem C18_contexts_balanced_tie : C18_contexts_balanced_tie_stmt := by
  unfold C18_contexts_balanced_tie_stmt; decide +kernel

/-- The calls that matter in each of these arms — which child is checked when, what is unified with what, where the two
contexts are pushed and popped, which `open` / `unsigned_shift` is applied with which arguments (the cutoff
`definitions.len()` of the group type, the `index + 1 - offset` of a variable's type) — are, in order, the ones the
store-layer model was written from. -/
def C18_checker_event_traces_tie_stmt : Prop := Generated.eventTraces = expectedEventTraces
theorem C18_checker_event_traces_tie : C18_checker_event_traces_tie_stmt :=
  -- the regenerated table and the one the model was written from are the same literal: no string is evaluated
  (rfl : Generated.eventTraces = expectedEventTraces)

/-! # Whole parameter contexts for gram's OWN checker (`inferS`: state-passing, hole cells)

`Lemmas/CtxWrapS.lean`.  The whole-context theorems above are about the independent checker `inferX`; these are about the
store-layer model of `type_check_rec` itself.  `pushParamsS f ps` is the program "for each parameter in turn, outermost
first: check its domain, require its type to be `type` (else report one diagnostic and go on), push `(A', 0)` / `none`",
the `i`-th of `n` domains being checked with fuel `f + (n - i)` — exactly the fuel `inferS (f + n)` gives it. -/

section WholeContextS
open CtxWrap CtxWrapS

/-- **Pi wrap.**  Checking `(x : A) -> B` is: check `A`, require its type to be `type`, push `(A', 0)` / `none`, check
`B`, require its type to be `type` (still under the extended contexts), pop — nothing else. -/
def C18_pi_wrap_S_stmt : Prop :=
  ∀ (f : Nat) (x : Name) (im : Bool) (A B : Tm) (s : St),
    inferS (f+1) (.pi x im A B) s =
      (do
        let (d', dty) ← inferS f A
        if !(← unifyS f dty .type) then reportError
        pushCtx (d', 0) none
        let (c', cty) ← inferS f B
        if !(← unifyS f cty .type) then reportError
        popCtx
        pure (Tm.pi x im d' c', Tm.type)) s
theorem C18_pi_wrap_S : C18_pi_wrap_S_stmt := by
  intro f x im A B s
  rfl

/-- **One-definition group.**  Checking `x : A = d; b` is: push `(A, 1)` / `some (d, 1)` (annotation and definition as
written), then — under the pushed entry — check `A` (its type must be `type`), check `d` (its type must unify with `A`),
check `b`; the type is `letTypeS` of the body's type (the group re-wrapped around it by `open`); pop.  (Fuel: the group
takes one unit, the list of definitions one more, its end a third.) -/
def C18_let1_wrap_S_stmt : Prop :=
  ∀ (f : Nat) (x : Name) (A d b : Tm) (s : St),
    inferS (f+3) (.letg (.cons x A d .nil) b) s =
      (do
        pushCtx (A, 1) (some (d, 1))
        let (_, annTy) ← inferS (f+1) A
        if !(← unifyS (f+1) annTy .type) then reportError
        let (d', dty) ← inferS (f+1) d
        if !(← unifyS (f+1) dty A) then reportError
        let (b', bty) ← inferS (f+2) b
        let ty ← letTypeS (f+2) (.cons x A d' .nil) 1 0 bty
        popCtx
        pure (Tm.letg (.cons x A d' .nil) b', ty)) s
theorem C18_let1_wrap_S : C18_let1_wrap_S_stmt := by
  intro f x A d b s
  rw [let1_wrap_S]

/-- what `pushParamsS` is, one parameter at a time -/
def C18_pushParamsS_eq_stmt : Prop :=
  ∀ (f : Nat) (x : Name) (im : Bool) (A : Tm) (ps : Params),
    pushParamsS f [] = pure [] ∧
    pushParamsS f ((x, im, A) :: ps) =
      (do
        let (d', dty) ← inferS (f + ps.length) A
        if !(← unifyS (f + ps.length) dty .type) then reportError
        pushCtx (d', 0) none
        let ps' ← pushParamsS f ps
        pure ((x, im, d') :: ps'))
theorem C18_pushParamsS_eq : C18_pushParamsS_eq_stmt := by
  intro f x im A ps
  exact ⟨rfl, rfl⟩

/-- **Whole parameter contexts, as an equation of computations.**  Checking `(x₁ : A₁) => … => (xₙ : Aₙ) => t` with
fuel `f + n` **is**: push the parameters one by one (checking each domain), check the open `t` with fuel `f`, pop `n`
times, rebuild the function and its type `(x₁ : A₁') -> … -> (xₙ : Aₙ') -> T` — same value, same diagnostics, same final
store, same out-of-fuel / panic outcome, from every state. -/
def C18_params_wrap_S_stmt : Prop :=
  ∀ (f : Nat) (ps : Params) (t : Tm) (s : St),
    inferS (f + ps.length) (closeParams ps t) s =
      (do
        let ps' ← pushParamsS f ps
        let (t', T) ← inferS f t
        popN ps.length
        pure (closeParams ps' t', closePi ps' T)) s
theorem C18_params_wrap_S : C18_params_wrap_S_stmt := by
  intro f ps t s
  rw [params_wrap_S]

/-- **The closed run computed from the open run.**  Once the parameters are pushed (state `s1`; elaboration returns
the domains unchanged and the contexts are `pushParams ps` over the caller's), the run on the closed function is the
run on the open body from `s1`, re-wrapped, with the caller's two contexts put back and every other component of the
final state (store, diagnostics) the open run's. -/
def C18_params_closed_run_S_stmt : Prop :=
  ∀ (f : Nat) (ps ps' : Params) (t : Tm) (s s1 : St),
    pushParamsS f ps s = .ok ps' s1 →
    (ps' = ps ∧ (s1.tctx, s1.dctx) = pushParams ps (s.tctx, s.dctx)) ∧
    inferS (f + ps.length) (closeParams ps t) s =
      match inferS f t s1 with
      | .ok (t', B) s2 =>
          .ok (closeParams ps t', closePi ps B) { s2 with tctx := s.tctx, dctx := s.dctx }
      | .fuel => .fuel
      | .panic p => .panic p
theorem C18_params_closed_run_S : C18_params_closed_run_S_stmt := by
  intro f ps ps' t s s1 h
  exact ⟨pushParamsS_ok f ps s ps' s1 h, closed_run h⟩

/-- **Checking under a context of parameters = checking the closed function, gram's own checker.**  If every domain
check succeeds without reporting (`pushParamsS` ends in `s1` with the diagnostics count unchanged), then: `s1` carries
the parameters on top of the caller's contexts; the closed function is accepted without a diagnostic iff the open term
is, from `s1`; the reported types are related by `closePi` (the elaborated terms by `closeParams`), with the same
number of diagnostics and the same final store in every case; out-of-fuel and panic outcomes coincide; and after either
run the contexts of its caller are exactly as before (`C18_infer_restores`). -/
def C18_params_verdict_S_stmt : Prop :=
  ∀ (f : Nat) (ps : Params) (t : Tm) (s s1 : St) (ps' : Params),
    pushParamsS f ps s = .ok ps' s1 → s1.nerrs = s.nerrs →
    (ps' = ps ∧ (s1.tctx, s1.dctx) = pushParams ps (s.tctx, s.dctx)) ∧
    ((∃ e T s', inferS (f + ps.length) (closeParams ps t) s = .ok (e, T) s' ∧ s'.nerrs = s.nerrs) ↔
     (∃ t' B s2, inferS f t s1 = .ok (t', B) s2 ∧ s2.nerrs = s1.nerrs)) ∧
    (∀ e T s', inferS (f + ps.length) (closeParams ps t) s = .ok (e, T) s' →
      ∃ t' B s2, inferS f t s1 = .ok (t', B) s2 ∧ e = closeParams ps t' ∧ T = closePi ps B ∧
        s'.nerrs = s2.nerrs ∧ s'.store = s2.store) ∧
    (∀ t' B s2, inferS f t s1 = .ok (t', B) s2 →
      ∃ s', inferS (f + ps.length) (closeParams ps t) s = .ok (closeParams ps t', closePi ps B) s' ∧
        s'.nerrs = s2.nerrs ∧ s'.store = s2.store) ∧
    ((inferS (f + ps.length) (closeParams ps t) s = .fuel ↔ inferS f t s1 = .fuel) ∧
     (∀ p, inferS (f + ps.length) (closeParams ps t) s = .panic p ↔ inferS f t s1 = .panic p)) ∧
    (∀ e T s', inferS (f + ps.length) (closeParams ps t) s = .ok (e, T) s' →
      s'.tctx = s.tctx ∧ s'.dctx = s.dctx) ∧
    (∀ t' B s2, inferS f t s1 = .ok (t', B) s2 → s2.tctx = s1.tctx ∧ s2.dctx = s1.dctx)
theorem C18_params_verdict_S : C18_params_verdict_S_stmt := params_verdict_S

/-- **Acceptance of the closed function, characterised** (no hypothesis; diagnostics are only ever added): the closed
function is accepted without a diagnostic iff every domain check is (the parameters get pushed, nothing reported) and
the open body is accepted without a diagnostic from the state with the parameters pushed. -/
def C18_params_accept_iff_S_stmt : Prop :=
  ∀ (f : Nat) (ps : Params) (t : Tm) (s : St),
    (∃ e T s', inferS (f + ps.length) (closeParams ps t) s = .ok (e, T) s' ∧ s'.nerrs = s.nerrs) ↔
    (∃ s1, pushParamsS f ps s = .ok ps s1 ∧ s1.nerrs = s.nerrs ∧
      ∃ t' B s2, inferS f t s1 = .ok (t', B) s2 ∧ s2.nerrs = s1.nerrs)
theorem C18_params_accept_iff_S : C18_params_accept_iff_S_stmt := by
  intro f ps t s
  exact params_accept_iff_S f ps t s

/-- the state of a caller with nothing in scope, and the state with `a : type, x : a` pushed -/
def c18ExS0 : St := {}
def c18ExS1 : St := { tctx := [(.var 10 0, 0), (.type, 0)], dctx := [none, none] }

-- `(a : type) => (x : a) => x` is accepted by gram's own checker, no diagnostic, with type `(a : type) -> (x : a) -> a`;
-- the caller's contexts are untouched
example :
    (match inferS 12 (.lam 10 false .type (.lam 11 false (.var 10 0) (.var 11 0))) c18ExS0 with
     | .ok (e, T) s' =>
         e == .lam 10 false .type (.lam 11 false (.var 10 0) (.var 11 0)) &&
         T == .pi 10 false .type (.pi 11 false (.var 10 0) (.var 10 1)) &&
         s'.nerrs == 0 && s'.tctx == [] && s'.dctx == []
     | _ => false) = true := by decide

-- the open `x` under the pushed context `a : type, x : a`: accepted, no diagnostic, type `a`; contexts untouched
example :
    (match inferS 10 (.var 11 0) c18ExS1 with
     | .ok (e, T) s' =>
         e == .var 11 0 && T == .var 10 1 && s'.nerrs == 0 &&
         s'.tctx == [(Tm.var 10 0, 0), (Tm.type, 0)] && s'.dctx == [none, none]
     | _ => false) = true := by decide

-- … and these are the two sides of `C18_params_verdict_S`: the closed term / type are `closeParams` / `closePi`
example :
    closeParams c18ExParams (.var 11 0) = .lam 10 false .type (.lam 11 false (.var 10 0) (.var 11 0)) ∧
    closePi c18ExParams (.var 10 1) = .pi 10 false .type (.pi 11 false (.var 10 0) (.var 10 1)) := ⟨rfl, rfl⟩

-- the hypotheses of `C18_params_verdict_S` hold: pushing `a : type, x : a` from the empty state succeeds, reports
-- nothing, and ends in `c18ExS1`
theorem c18ExPushS : pushParamsS 10 c18ExParams c18ExS0 = .ok c18ExParams c18ExS1 := rfl

example : c18ExS1.nerrs = c18ExS0.nerrs := rfl

-- hence (by the theorem, not by running the closed term) the closed function is accepted without a diagnostic
example : ∃ e T s', inferS (10 + c18ExParams.length) (closeParams c18ExParams (.var 11 0)) c18ExS0 = .ok (e, T) s' ∧
    s'.nerrs = c18ExS0.nerrs :=
  (C18_params_verdict_S 10 c18ExParams (.var 11 0) c18ExS0 c18ExS1 c18ExParams c18ExPushS rfl).2.1.2
    ⟨.var 11 0, .var 10 1, c18ExS1, rfl, rfl⟩

-- same verdict on a rejected body: `x + 1` under `a : type, x : a` gets one diagnostic open, and one closed
example :
    (match inferS 10 (.bin .sum (.var 11 0) (.lit 1)) c18ExS1 with
     | .ok (_, T) s' => T == .int && s'.nerrs == 1 && s'.tctx == c18ExS1.tctx && s'.dctx == c18ExS1.dctx
     | _ => false) = true := by decide
example :
    (match inferS 12 (closeParams c18ExParams (.bin .sum (.var 11 0) (.lit 1))) c18ExS0 with
     | .ok (_, T) s' => T == closePi c18ExParams .int && s'.nerrs == 1 && s'.tctx == [] && s'.dctx == []
     | _ => false) = true := by decide

-- a domain that is not a type: `(x : 5) => x` — the domain check reports, so the hypothesis of the verdict theorem
-- fails, and so does acceptance of the closed function (one diagnostic), as `C18_params_accept_iff_S` says
example :
    (match pushParamsS 10 [(1, false, .lit 5)] c18ExS0 with
     | .ok _ s1 => s1.nerrs == 1
     | _ => false) = true := by decide
example :
    (match inferS 11 (closeParams [(1, false, .lit 5)] (.var 1 0)) c18ExS0 with
     | .ok _ s' => s'.nerrs == 1 && s'.tctx == [] && s'.dctx == []
     | _ => false) = true := by decide

-- Π wrap and one-definition group: `(x : int) -> int : type`, `x : int = 5; x + 1 : int` (after `open`)
example :
    (match inferS 10 (.pi 1 false .int .int) c18ExS0 with
     | .ok (_, T) s' => T == .type && s'.nerrs == 0 && s'.tctx == [] && s'.dctx == []
     | _ => false) = true := by decide
example :
    (match inferS 10 (.letg (.cons 1 .int (.lit 5) .nil) (.bin .sum (.var 1 0) (.lit 1))) c18ExS0 with
     | .ok (_, T) s' => T == .int && s'.nerrs == 0 && s'.tctx == [] && s'.dctx == []
     | _ => false) = true := by decide

end WholeContextS
