import GramModel.Lemmas.TokenizerTie
import GramModel.Lemmas.LexerGaps

/-!
# C09 — tokens partition the source text exactly

All statements hold for every text and every Unicode classifier / grapheme oracle `cc` (the real one is
supplied by the harness per input), except `C09_no_token_in_comment_fixed` and `C09_errors_exact`, which
name the side conditions on `cc` they need.
-/

/-- Tokenizing returns tokens or a list of unexpected symbols — the panic arm ("two consecutive
line break terminators") is unreachable. -/
def C09_total_stmt : Prop := ∀ (cc : CharClass) (text : List Char), ∀ r, tokenize cc text = r →
  (∃ ts, r = .ok ts) ∨ (∃ es, r = .err es)
theorem C09_total : C09_total_stmt := by
  rintro cc text r rfl
  rcases tokenize_spec cc text with ⟨ts, h, _⟩ | ⟨h, _⟩
  · exact .inl ⟨ts, h⟩
  · exact .inr ⟨_, h⟩

/-- A failure lists at least one unexpected symbol. -/
def C09_err_nonempty_stmt : Prop :=
  ∀ (cc : CharClass) (text : List Char) (es : List (Nat × Nat)), tokenize cc text = .err es → es ≠ []
theorem C09_err_nonempty : C09_err_nonempty_stmt := fun _ _ _ h => (tokenize_err h).2

/-- Tokens come in source order, with disjoint non-empty byte ranges inside the text. -/
def C09_ordered_disjoint_stmt : Prop :=
  ∀ (cc : CharClass) (text : List Char) (ts : List Tok), tokenize cc text = .ok ts →
    orderedIn ts 0 (bytesOf text)
theorem C09_ordered_disjoint : C09_ordered_disjoint_stmt := by
  intro cc text ts h
  have hf := (tokenize_ok h).2
  have hc := scan_chain cc text.length 0 text { toks := [], errs := [] } trivial
  have ho := chain_orderedIn _ [] _ (0 + bytesOf text) hc (Nat.le_refl _)
  rw [List.append_nil, Nat.zero_add] at ho
  exact orderedIn_sublist (filterToks_sublist _ _ hf) ho

/-- A word is a keyword token iff its text *equals* the keyword (whole words only); otherwise it is
an identifier carrying exactly its text. -/
def C09_keyword_iff_stmt : Prop :=
  ∀ (w : List Char),
    (∀ k, (k, w) ∈ Generated.keywords → wordKind w = k) ∧
    ((∀ k, (k, w) ∉ Generated.keywords) → wordKind w = .identifier w)
theorem C09_keyword_iff : C09_keyword_iff_stmt := by
  intro w
  constructor
  · intro k hk
    have : ∀ p ∈ Generated.keywords, wordKind p.2 = p.1 := by decide +kernel
    exact this (k, w) hk
  · intro h
    unfold wordKind
    rw [List.find?_eq_none.2 fun p hp hpw => h p.1 (eq_of_beq hpw ▸ hp)]

/-- The keyword table (regenerated from `token.rs` / `tokenizer.rs`) is a function: no word is two
keywords and no keyword kind has two spellings; and every keyword kind is one that carries no
payload (tags 9 and 12 are `identifier` and `integerLiteral`). -/
def C09_keyword_table_stmt : Prop :=
  (Generated.keywords.map (·.2)).Nodup ∧ (Generated.keywords.map (·.1)).Nodup ∧
  ∀ p ∈ Generated.keywords, p.2 ≠ [] ∧ p.1.tag ≠ 9 ∧ p.1.tag ≠ 12
theorem C09_keyword_table : C09_keyword_table_stmt := by unfold C09_keyword_table_stmt; decide +kernel

/-- An integer literal keeps its exact decimal value whatever its length (positional value, in
unbounded `Nat`). -/
def C09_literal_value_stmt : Prop :=
  ∀ (ds : List Char) (d : Char), digitsValue (ds ++ [d]) = digitsValue ds * 10 + (d.toNat - 48)
theorem C09_literal_value : C09_literal_value_stmt := by
  intro ds d
  simp [digitsValue, List.foldl_append]

/-- Each token's range contains exactly the token's own text. -/
def C09_lexeme_slice_stmt : Prop :=
  ∀ (cc : CharClass) (text : List Char) (ts : List Tok), tokenize cc text = .ok ts →
    ∀ t ∈ ts, ∃ pre lex post, text = pre ++ lex ++ post ∧ bytesOf pre = t.start ∧
      bytesOf lex = t.stop - t.start ∧
      (match t.kind with
       | .identifier w => lex = w
       | .integerLiteral n => digitsValue lex = n ∧ ∀ c ∈ lex, isDigit c = true
       | .terminatorLineBreak => lex = ['\n']
       | _ => True)
theorem C09_lexeme_slice : C09_lexeme_slice_stmt :=
  -- the conclusion is `Slice text t` written out
  fun cc text _ h t ht => (scan_tokAt cc text t (tokenize_mem_scan h ht)).slice

def C09_cc : CharClass :=
  { isAlpha := fun c => ('a' ≤ c ∧ c ≤ 'z') || c == 'é'
    isAlnum := fun c => ('a' ≤ c ∧ c ≤ 'z') || ('0' ≤ c ∧ c ≤ '9') || c == 'é'
    isWs := fun c => c == ' ' || c == '\n'
    graphemeEnd := fun p => p + 1 }
-- `if é1 = 007 # c` newline `x`: a keyword, a two-byte identifier character, a literal with leading zeros
example : tokenize C09_cc ['i','f',' ','é','1',' ','=',' ','0','0','7',' ','#',' ','c','\n','x'] =
    .ok [⟨.if_, 0, 2⟩, ⟨.identifier ['é', '1'], 3, 6⟩, ⟨.equals, 7, 8⟩, ⟨.integerLiteral 7, 9, 12⟩,
         ⟨.terminatorLineBreak, 16, 17⟩, ⟨.identifier ['x'], 17, 18⟩] := by decide +kernel
example : tokenize C09_cc ['a',' ','$'] = .err [(2, 3)] := by decide +kernel

/-- byte offset of the `i`-th character of a text -/
def offsetOf (text : List Char) (i : Nat) : Nat := bytesOf (text.take i)

/-- is the `i`-th character inside a comment, i.e. after a `#` on the same line (the `#` itself
included, the terminating line feed excluded)? -/
def inComment (text : List Char) (i : Nat) : Bool :=
  let before := (text.take (i + 1)).reverse        -- the character itself first, then backwards
  let line := before.takeWhile (· != '\n')
  text[i]? != some '\n' && line.contains '#'

/-- the lemmas of `Lemmas/LexerGaps.lean` speak of `offs` and `inCom`, the same functions -/
theorem offsetOf_eq_offs : offsetOf = offs := rfl
theorem inComment_eq_inCom : inComment = inCom := rfl

/-- **Maximal munch**: the character right after an identifier or keyword is not a word character,
and the character right after a number is not a digit. -/
def C09_maximal_munch_stmt : Prop :=
  ∀ (cc : CharClass) (text : List Char) (ts : List Tok), tokenize cc text = .ok ts →
    ∀ t ∈ ts, ∀ (pre post : List Char) (c : Char), text = pre ++ c :: post → bytesOf pre = t.stop →
      (match t.kind with
       | .identifier _ | .boolean | .else_ | .false_ | .if_ | .integer | .then_ | .true_ | .type_ =>
           identCont cc c = false
       | .integerLiteral _ => isDigit c = false
       | _ => True)
theorem C09_maximal_munch : C09_maximal_munch_stmt := by
  intro cc text ts h t ht pre post c htext hpre
  obtain ⟨p, lex, rest, h1, h2, h3⟩ := (scan_tokAt cc text t (tokenize_mem_scan h ht)).shape
  have hsplit : (p ++ lex) ++ rest = pre ++ c :: post := by rw [← h1, htext]
  obtain ⟨_, hrest⟩ := bytes_prefix_unique _ _ _ _ hsplit (by rw [h2, hpre])
  generalize t.kind = k at h3 ⊢
  -- the statement's `match` has the nine `wordish` kinds, then the literal, then the rest
  rcases h3 with ⟨_, hw, hn⟩ | ⟨_, _, _, _, _, hnext, hk⟩ | ⟨_, hnext, hk⟩
  · split
    iterate 9 cases hw
    · exact absurd rfl (hn _)
    · trivial
  · have hw := wordish_wordKind lex
    rw [← hk] at hw
    have hc := hnext c post hrest
    split
    iterate 9 exact hc
    · cases hw
    · trivial
  · rw [hk]; exact hnext c post hrest

/-- **Only whitespace and comments between tokens**: a character that lies in no token's range is
whitespace, a line feed, or inside a comment. -/
def C09_gaps_blank_stmt : Prop :=
  ∀ (cc : CharClass) (text : List Char) (ts : List Tok), tokenize cc text = .ok ts →
    ∀ (i : Nat) (c : Char), text[i]? = some c →
      (∀ t ∈ ts, ¬ (t.start ≤ offsetOf text i ∧ offsetOf text i < t.stop)) →
      cc.isWs c = true ∨ c = '\n' ∨ inComment text i = true
theorem C09_gaps_blank : C09_gaps_blank_stmt := by
  rw [C09_gaps_blank_stmt, offsetOf_eq_offs, inComment_eq_inCom]
  intro cc text ts h i c hic hno
  obtain ⟨he, hf⟩ := tokenize_ok h
  rcases scan_cov cc text he i c hic with ⟨t, ht, h1, h2, h3⟩ | h | h | h
  · rcases filterToks_dropped _ _ hf t (List.mem_reverse.2 ht) with hin | hlb
    · exact absurd ⟨h1, h2⟩ (hno t hin)
    · exact Or.inr (Or.inl (h3 hlb))
  · exact Or.inl h
  · exact Or.inr (Or.inl h)
  · exact Or.inr (Or.inr h)

/-- **No token inside a comment**: a comment really runs to the end of its line. -/
def C09_no_token_in_comment_unrestricted : Prop :=
  ∀ (cc : CharClass) (text : List Char) (ts : List Tok), tokenize cc text = .ok ts →
    ∀ (i : Nat), inComment text i = true → ∀ t ∈ ts, ¬ (t.start ≤ offsetOf text i ∧ offsetOf text i < t.stop)

/-- a classifier for which `#` is alphabetic -/
def C09_cc_hashAlpha : CharClass :=
  { isAlpha := fun c => ('a' ≤ c ∧ c ≤ 'z') || c == '#'
    isAlnum := fun c => ('a' ≤ c ∧ c ≤ 'z') || ('0' ≤ c ∧ c ≤ '9')
    isWs := fun c => c == ' '
    graphemeEnd := fun p => p + 1 }
/-- `C09_no_token_in_comment_unrestricted` is false: it quantifies over every classifier, including
ones that make `#` a word character.  With `isAlphabetic '#'` the text `#` is one identifier token,
yet position 0 counts as "inside a comment". -/
theorem C09_no_token_in_comment_refuted : ¬ C09_no_token_in_comment_unrestricted := by
  intro h
  exact h C09_cc_hashAlpha ['#'] [⟨.identifier ['#'], 0, 1⟩] (by decide +kernel) 0 (by decide +kernel) _
    (List.mem_singleton.2 rfl) (by decide +kernel)

/-- `cc.Sane` alone is not enough either: it says nothing about `identCont cc '#'`.  With
`isAlphanumeric '#'` (and a sane classifier otherwise) `a#b` is one identifier token. -/
def C09_cc_hashCont : CharClass :=
  { isAlpha := fun c => ('a' ≤ c ∧ c ≤ 'z')
    isAlnum := fun c => ('a' ≤ c ∧ c ≤ 'z') || ('0' ≤ c ∧ c ≤ '9') || c == '#'
    isWs := fun c => c == ' ' || c == '\t'
    graphemeEnd := fun p => p + 1 }
theorem C09_no_token_in_comment_sane_refuted :
    ¬ (∀ (cc : CharClass) (text : List Char) (ts : List Tok), cc.Sane → tokenize cc text = .ok ts →
      ∀ (i : Nat), inComment text i = true →
        ∀ t ∈ ts, ¬ (t.start ≤ offsetOf text i ∧ offsetOf text i < t.stop)) := by
  intro h
  exact h C09_cc_hashCont ['a', '#', 'b'] [⟨.identifier ['a', '#', 'b'], 0, 3⟩]
    (by constructor <;> decide +kernel) (by decide +kernel) 2 (by decide +kernel) _
    (List.mem_singleton.2 rfl) (by decide +kernel)

/-- **No token inside a comment**: for a classifier under which `#` is neither a word
character (start or continuation) nor whitespace, a comment really runs to the end of its line. -/
def C09_no_token_in_comment_fixed_stmt : Prop :=
  ∀ (cc : CharClass) (text : List Char) (ts : List Tok), cc.Sane → identCont cc '#' = false →
    tokenize cc text = .ok ts →
    ∀ (i : Nat), inComment text i = true → ∀ t ∈ ts, ¬ (t.start ≤ offsetOf text i ∧ offsetOf text i < t.stop)
theorem C09_no_token_in_comment_fixed : C09_no_token_in_comment_fixed_stmt := by
  rw [C09_no_token_in_comment_fixed_stmt, offsetOf_eq_offs, inComment_eq_inCom]
  intro cc text ts hs hcont h i hi t ht
  exact scan_no_token_in_comment cc (.of_sane hs hcont) text t
    (tokenize_mem_scan h ht) i hi

/-- is the `i`-th character outside comments and in no class the scanner tests for: not a symbol character,
not the start of a word, not a digit, not whitespace, not `#`? -/
def unexpectedAt (cc : CharClass) (text : List Char) (i : Nat) : Bool :=
  match text[i]? with
  | none => false
  | some c =>
      !inComment text i && !(symbolChars.contains c) && !(identStart cc c) && !(isDigit c)
        && !(cc.isWs c) && c != '#'

theorem unexpectedAt_eq_unexp : unexpectedAt = unexp := rfl

/-- **Every unexpected symbol is reported, and nothing else**: on failure the reported ranges
start, in order, exactly at the characters that are outside comments and belong to no token class
(not a symbol character, not a word character, not a digit, not whitespace, not `#`). -/
def C09_errors_exact_stmt : Prop :=
  ∀ (cc : CharClass) (text : List Char) (es : List (Nat × Nat)), cc.Sane →
    (∀ c, identCont cc c = true → identStart cc c = true ∨ isDigit c = true) →
    tokenize cc text = .err es →
    es.map (·.1) = ((List.range text.length).filter (unexpectedAt cc text)).map (offsetOf text)
theorem C09_errors_exact : C09_errors_exact_stmt := by
  rw [C09_errors_exact_stmt, offsetOf_eq_offs, unexpectedAt_eq_unexp]
  intro cc text es hs hcont h
  -- if `#` continued a word it would start one or be a digit
  have hp : HashPlain cc := .of_sane hs <| Bool.eq_false_iff.2 fun hc =>
    (hcont _ hc).elim (fun h => Bool.false_ne_true (hs.hash_plain.1.symm.trans h)) (by decide)
  rw [(tokenize_err h).1]
  exact scan_errors cc hp hcont text

/-- Every symbol arm of the first pass of `tokenize` — read off `tokenizer.rs` by `extract/arms.py`: first character, the
second character if the arm peeks and consumes one, byte length, token kind — is a step of the model scanner, for every
classifier, position, state and rest of the text (the one-character token when no two-character arm applies). -/
def C09_symbol_arms_tie_stmt : Prop := ∀ r ∈ Generated.symbolArms, armHolds r
theorem C09_symbol_arms_tie : C09_symbol_arms_tie_stmt := symbolArms_hold

/-- The extracted arms are exactly the 18 entries of the symbol table over which the render/tokenize law is proved, and
every token is as long as its text (all symbols are ASCII). -/
def C09_symbol_table_tie_stmt : Prop :=
  (∀ x, x ∈ armLexemes ↔ x ∈ symTable) ∧ armLexemes.length = symTable.length ∧
  (∀ r ∈ Generated.symbolArms, r.2.2.1 = 1 + (match r.2.1 with | some _ => 1 | none => 0))
theorem C09_symbol_table_tie : C09_symbol_table_tie_stmt := armLexemes_symTable

/-- The order in which the scanner tries its arms is the one the model's `if`-chain follows: symbols (the line feed among
them), identifier start (`is_alphabetic` or `_`), digit, whitespace, `#`, unexpected symbol. -/
def C09_scan_arm_order_stmt : Prop := Generated.scanArmOrder = scanArmOrderExpected
theorem C09_scan_arm_order : C09_scan_arm_order_stmt := rfl

/-- The inner loops of the scanner, read off `tokenizer.rs` on every run: an identifier continues over `is_alphanumeric() || '_'`
(the model's `identCont`), a number over ASCII digits only (`isDigit`), and an integer literal's value is the arbitrary-precision
decimal value of exactly the scanned bytes (`digitsValue`; no machine-word fast path). -/
def C09_scan_loops_tie_stmt : Prop :=
  Generated.scanLoops = scanLoopsExpected ∧ Generated.literalValue = literalValueExpected
theorem C09_scan_loops_tie : C09_scan_loops_tie_stmt := ⟨rfl, rfl⟩
