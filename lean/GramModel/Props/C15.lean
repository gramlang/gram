import GramModel.Lemmas.ArmsTie
import GramModel.Lemmas.Listing
import GramModel.Lemmas.ParserPure
import GramModel.Lemmas.ResolveRanges

/-!
# C15 — diagnostics point at the offending source text

Four parts: the excerpt renderer (below); the parser side, every syntax node carries the byte range of its own
tokens; the sites of type diagnostics; the scoping diagnostics of `resolve_variables`.  Each of the later parts
starts with its own vocabulary.

The excerpt renderer: statements about `Listing.listing`, the model of `listing` in `src/error.rs` (uncoloured mode), which
the harness compares with the Rust function on every generated text and range (suite `listing`).
Unicode whitespace is a parameter `ws`; every statement holds for every classification.

Vocabulary (defined in `Lemmas/Listing.lean`): `linesOf text` lists `(k, ls, l)` for every line of the
text — 0-based index, byte offset of its first character, contents — and `C15_line_table` says what
that means in terms of the text alone.  `shownLines text start stop` are the entries with
`ls < stop ∧ start < ls + len l + 1`.  `IsBoundary s n`: `n` is a character boundary of `s`.
`byteOfCol t j`: byte offset of the character in column `j` of `t`.
-/

open Listing

/-- The model always answers: a rendered excerpt or `panic` (there is no fuel to run out of). -/
def C15_total_stmt : Prop :=
  ∀ (ws : Char → Bool) (text : List Char) (start stop : Nat),
    (∃ out, listing ws text start stop = .ok out) ∨ listing ws text start stop = .panic
theorem C15_total : C15_total_stmt := by
  intro ws text start stop
  cases h : listing ws text start stop with
  | ok out => exact Or.inl ⟨out, rfl⟩
  | panic => exact Or.inr rfl

/-- `panic` is returned exactly when one of Rust's slice expressions `line[..s]`, `line[s..e]`,
`line[e..]` would panic for a recorded line: an offset that is not a character boundary of the
trimmed line, or `s > e`. -/
def C15_panic_exactly_stmt : Prop :=
  ∀ (ws : Char → Bool) (text : List Char) (start stop : Nat),
    listing ws text start stop = .panic ↔
      ∃ r ∈ rowsOf ws text start stop,
        ¬ (IsBoundary r.line r.secStart ∧ IsBoundary r.line r.secEnd ∧ r.secStart ≤ r.secEnd)
theorem C15_panic_exactly : C15_panic_exactly_stmt := listing_panic_iff

/-- What the line table means: the indices are `0, 1, …, (number of line feeds)`; entry `(k, ls, l)`
is a line-feed-free piece of the text that starts at byte `ls`, is preceded by exactly `k` line feeds,
and is delimited by line feeds or the ends of the text. -/
def C15_line_table_stmt : Prop :=
  ∀ (text : List Char),
    (linesOf text).map (·.1) = List.range (text.count '\n' + 1) ∧
    ∀ e ∈ linesOf text, '\n' ∉ e.2.2 ∧ ∃ pre post,
      text = pre ++ e.2.2 ++ post ∧ utf8Len pre = e.2.1 ∧ pre.count '\n' = e.1 ∧
      (pre = [] ∨ ∃ p, pre = p ++ ['\n']) ∧ (post = [] ∨ ∃ q, post = '\n' :: q)
theorem C15_line_table : C15_line_table_stmt := by
  intro text
  refine ⟨linesOf_index text, ?_⟩
  intro e he
  exact ⟨splitLines_no_nl text _ (lineTable_mem _ _ _ e he), linesOf_spec text e he⟩

/-- The line numbers shown are exactly the 1-based indices of the lines `[ls, le)` with
`ls < stop ∧ le + 1 > start`, in increasing order — for every range whatsoever. -/
def C15_lines_shown_stmt : Prop :=
  ∀ (ws : Char → Bool) (text : List Char) (start stop : Nat),
    (rowsOf ws text start stop).map (·.num) =
      ((linesOf text).filter
        (fun e => decide (e.2.1 < stop ∧ e.2.1 + utf8Len e.2.2 + 1 > start))).map (fun e => e.1 + 1) ∧
    List.Pairwise (· < ·) ((rowsOf ws text start stop).map (·.num))
theorem C15_lines_shown : C15_lines_shown_stmt := by
  intro ws text start stop
  have hfun : (fun e : Nat × Nat × List Char => decide (e.2.1 < stop ∧ e.2.1 + utf8Len e.2.2 + 1 > start))
      = touches start stop := funext fun _ => Bool.decide_and ..
  have h1 : (rowsOf ws text start stop).map (·.num) =
      ((linesOf text).filter (touches start stop)).map (fun e => e.1 + 1) := by
    rw [rowsOf_eq, List.map_map]; rfl
  refine ⟨by rw [hfun]; exact h1, ?_⟩
  rw [h1, List.pairwise_map]
  exact ((linesOf_pairwise text).filter _).imp (by intro a b h; omega)

/-- The number printed for the line with index `k` (the line preceded by `k` line feeds) is `k + 1` in
decimal, right-aligned in a gutter whose width is the same for all rows, followed by ` │ `. -/
def C15_line_numbers_stmt : Prop :=
  ∀ (ws : Char → Bool) (text : List Char) (start stop : Nat) (out : List Char),
    listing ws text start stop = .ok out →
    ∃ xs, out = joinNl xs ∧ xs.length = (shownLines text start stop).length ∧
      ∀ (j : Nat) (e : Nat × Nat × List Char), (shownLines text start stop)[j]? = some e →
        ∃ pad rest, xs[j]? = some (pad ++ Nat.toDigits 10 (e.1 + 1) ++ [' ', '│', ' '] ++ rest) ∧
          (∀ c ∈ pad, c = ' ') ∧
          pad.length + (Nat.toDigits 10 (e.1 + 1)).length = gutterWidth (rowsOf ws text start stop)
theorem C15_line_numbers : C15_line_numbers_stmt := by
  intro ws text start stop out h
  obtain ⟨xs, h1, h2, h3⟩ := listing_ok_spec ws text start stop out h
  refine ⟨xs, h1, h2, fun j e hj => ?_⟩
  obtain ⟨m, e4, e5, _⟩ := h3 j e hj
  -- the padding (`spaces`, inside `gutter`) and the rest (line, marker row) are read off the row `e4`
  refine ⟨_, _, by rw [e4, List.append_assoc]; rfl, ?_, ?_⟩
  · intro c hc; exact (List.mem_replicate.1 hc).2
  · simp only [gutter, List.length_append] at e5
    exact Nat.add_right_cancel e5

/-- Each shown row carries, right after the gutter (`gutter width + 3` characters), the source line
with its trailing whitespace removed, and then the line feed that starts the marker row.  "Trailing
whitespace removed": what is cut off is whitespace only, and what remains does not end in
whitespace. -/
def C15_line_text_stmt : Prop :=
  (∀ (ws : Char → Bool) (text : List Char) (start stop : Nat) (out : List Char),
    listing ws text start stop = .ok out →
    ∃ xs, out = joinNl xs ∧ xs.length = (shownLines text start stop).length ∧
      ∀ (j : Nat) (e : Nat × Nat × List Char), (shownLines text start stop)[j]? = some e →
        ∃ g m, xs[j]? = some (g ++ trimEnd ws e.2.2 ++ '\n' :: m) ∧
          g.length = gutterWidth (rowsOf ws text start stop) + 3) ∧
  (∀ (ws : Char → Bool) (l : List Char), ∃ suf, l = trimEnd ws l ++ suf ∧ (∀ c ∈ suf, ws c = true) ∧
    (∀ c, (trimEnd ws l).getLast? = some c → ws c = false))
theorem C15_line_text : C15_line_text_stmt := by
  refine ⟨fun ws text start stop out h => ?_, trimEnd_spec⟩
  obtain ⟨xs, h1, h2, h3⟩ := listing_ok_spec ws text start stop out h
  refine ⟨xs, h1, h2, fun j e hj => ?_⟩
  obtain ⟨m, e4, e5, -⟩ := h3 j e hj
  exact ⟨_, m, e4, e5⟩

/-- On each shown line the marked character columns are those of the section `[s, e)`: the marker row
is aligned with the text (same `gutter width + 3` prefix length) and has `‾` in column `col` exactly
when the character in column `col` of the trimmed line starts at a byte in `[s, e)`.  The section: on
the first line (`start > ls`) it is the range clipped to the trimmed line; on continuation lines it
ends where the range (clipped) ends and starts at the first non-whitespace character (or is empty
when the line is blank). -/
def C15_marks_stmt : Prop :=
  (∀ (ws : Char → Bool) (text : List Char) (start stop : Nat) (out : List Char),
    listing ws text start stop = .ok out →
    ∃ xs, out = joinNl xs ∧ xs.length = (shownLines text start stop).length ∧
      ∀ (j : Nat) (e : Nat × Nat × List Char), (shownLines text start stop)[j]? = some e →
        ∃ g m, xs[j]? = some (g ++ trimEnd ws e.2.2 ++ '\n' :: m) ∧
          g.length = gutterWidth (rowsOf ws text start stop) + 3 ∧
          ∀ col, m[gutterWidth (rowsOf ws text start stop) + 3 + col]? = some '‾' ↔
            ((section_ ws start stop e.2.1 (trimEnd ws e.2.2)).1 ≤ byteOfCol (trimEnd ws e.2.2) col ∧
              byteOfCol (trimEnd ws e.2.2) col < (section_ ws start stop e.2.1 (trimEnd ws e.2.2)).2)) ∧
  (∀ (ws : Char → Bool) (start stop ls : Nat) (t : List Char),
    (start > ls → section_ ws start stop ls t =
      (min (start - ls) (utf8Len t), min (stop - ls) (utf8Len t))) ∧
    (start ≤ ls → (section_ ws start stop ls t).2 = min (stop - ls) (utf8Len t) ∧
      (∀ f, findNonWs ws t 0 = some f → (section_ ws start stop ls t).1 = f ∧
        ∃ a c b, t = a ++ c :: b ∧ utf8Len a = f ∧ ws c = false ∧ ∀ x ∈ a, ws x = true) ∧
      (findNonWs ws t 0 = none →
        (section_ ws start stop ls t).1 = (section_ ws start stop ls t).2 ∧ ∀ x ∈ t, ws x = true)))
theorem C15_marks : C15_marks_stmt := by
  constructor
  · intro ws text start stop out h
    obtain ⟨xs, h1, h2, h3⟩ := listing_ok_spec ws text start stop out h
    refine ⟨xs, h1, h2, fun j e hj => ?_⟩
    obtain ⟨m, e4, e5, e6⟩ := h3 j e hj
    exact ⟨_, m, e4, e5, e6⟩
  · intro ws start stop ls t
    constructor
    · intro hgt; exact if_pos hgt
    · intro hle
      have hs : section_ ws start stop ls t = _ := if_neg (Nat.not_lt.2 hle)
      rw [hs]
      refine ⟨rfl, ?_, ?_⟩
      · intro f hf
        refine ⟨by rw [hf]; rfl, ?_⟩
        obtain ⟨a, c, b, e1, e2, e3, e4⟩ := findNonWs_some hf
        exact ⟨a, c, b, e1, by omega, e3, e4⟩
      · intro hf
        exact ⟨by rw [hf]; rfl, findNonWs_none hf⟩

/-- No panic: if `start ≤ stop`, both are character boundaries of the text, and on every continuation
line (a line beginning at or after `start` and before `stop`) the range reaches at least the first
non-whitespace character, the model never returns `panic`. -/
def C15_no_panic_stmt : Prop :=
  ∀ (ws : Char → Bool) (text : List Char) (start stop : Nat),
    start ≤ stop → IsBoundary text start → IsBoundary text stop →
    (∀ e ∈ linesOf text, start ≤ e.2.1 → e.2.1 < stop →
      ∀ f, findNonWs ws (trimEnd ws e.2.2) 0 = some f → e.2.1 + f ≤ stop) →
    listing ws text start stop ≠ .panic
theorem C15_no_panic : C15_no_panic_stmt := by
  intro ws text start stop hss hbs hbe hreach hp
  obtain ⟨r, hr, hn⟩ := (listing_panic_iff ws text start stop).mp hp
  rw [rowsOf_eq] at hr
  obtain ⟨e, he, rfl⟩ := List.mem_map.mp hr
  obtain ⟨he1, he2⟩ := List.mem_filter.mp he
  apply hn
  apply mkRow_sliceable ws text start stop hss hbs hbe e he1 he2
  intro hle f hf
  have hlt : e.2.1 < stop := by
    simp only [touches, Bool.and_eq_true, decide_eq_true_eq] at he2; exact he2.1
  exact hreach e he1 hle hlt f hf

/-- In particular the ranges diagnostics carry never make the model panic: a range that starts on a
character boundary and ends right after a non-whitespace character (the end of a token). -/
def C15_no_panic_token_end_stmt : Prop :=
  ∀ (ws : Char → Bool) (a b : List Char) (c : Char) (start : Nat),
    ws c = false → start ≤ utf8Len a + c.utf8Size → IsBoundary (a ++ c :: b) start →
    listing ws (a ++ c :: b) start (utf8Len a + c.utf8Size) ≠ .panic
theorem C15_no_panic_token_end : C15_no_panic_token_end_stmt := by
  intro ws a b c start hc hss hbs
  apply C15_no_panic ws (a ++ c :: b) start _ hss hbs
  · refine ⟨a ++ [c], b, by simp, ?_⟩
    rw [utf8Len_append]; simp [utf8Len]
  · intro e he _ hlt f hf
    exact reach_of_token_end ws _ _ a b c rfl rfl hc e he hlt f hf

def C15_ws : Char → Bool := fun c => c == ' ' || c == '\n' || c == '\t' || c == '\r'

-- `é = 1; zz` with the range of `zz` (bytes 8..10): the mark sits under `zz` (columns 7, 8), although
-- `é` is two bytes long
example : listing C15_ws ['é',' ','=',' ','1',';',' ','z','z'] 8 10 =
    .ok ['1',' ','│',' ','é',' ','=',' ','1',';',' ','z','z','\n',
         ' ',' ',' ',' ',' ',' ',' ',' ',' ',' ',' ','‾','‾'] := by decide +kernel

-- a two-line range with indentation and a CRLF line ending: `f (a,⏎    b) c` from `(` to `)`
example : listing C15_ws ['f',' ','(','a',',','\r','\n',' ',' ',' ',' ','b',')',' ','c'] 2 13 =
    .ok ['1',' ','│',' ','f',' ','(','a',',','\n',
         ' ',' ','┊',' ',' ',' ','‾','‾','‾','\n',
         '2',' ','│',' ',' ',' ',' ',' ','b',')',' ','c','\n',
         ' ',' ',' ',' ',' ',' ',' ',' ','‾','‾'] := by decide +kernel

-- an empty range in the middle of a line: the line is shown, nothing is marked
example : listing C15_ws ['a','b'] 1 1 = .ok ['1',' ','│',' ','a','b','\n',' ',' ',' '] := by decide +kernel

-- an empty range at the very start of a line shows nothing at all
example : listing C15_ws ['a','\n','b'] 2 2 = .ok [] := by decide +kernel

-- a range that is not on a character boundary of its line panics, like the Rust slice
example : listing C15_ws ['é','a'] 1 3 = .panic := by decide +kernel

-- so does a range that covers only part of the indentation of a line it starts at column 0 of
example : listing C15_ws ['\t','\t','a'] 0 1 = .panic := by decide +kernel

/-! ## The parser side: every syntax node carries the byte range of its own tokens

Statements about the 36 packrat functions of `PModel` (`Parser.lean`, the model of `src/parser.rs`),
proved in `Lemmas/ParserSpan.lean`.  They concern the tree as the `parse_*` functions return it,
*before* the three re-association passes (which rebuild chain nodes: the range of a rebuilt chain that begins
with a parenthesised chain operand starts inside that parenthesis, `KF-range-paren-chain`).

Vocabulary.  `PModel.rng toks a b = span(token_source_range(a), token_source_range(b - 1))`, for
`a < b ≤ toks.size` the range from the start of token `a` to the end of token `b - 1`
(`C15_rng_tokens`).  `PModel.SegT toks nt a b t`: `t` is the parse tree of the tokens `a … b-1` derived
from `nt` — one constructor per production of `grammar.y`, each stating that the node built is
`⟨rng toks a b, group := false, …, errors := []⟩` over the children's `SegT`, binder variables carrying
`token_source_range` of their identifier token (the anonymous binder of `a -> b`: the empty range at the
start of `a`), and for `( t )` the inner node itself with `group := true` and the range extended to the
parentheses.  `PModel.Spanned toks a b t` reads the same discipline off the tree alone (range of `t` is
`rng toks a b`; the children are `Spanned` on sub-segments `[a', b')`, `a ≤ a' < b' ≤ b`, one after the
other in field order; binders are identifier tokens of the segment).  `PModel.Nested t` is the byte-level
reading: every range non-empty, children inside the parent, siblings disjoint and in source order.
`PModel.CacheInvT toks st`: every entry of the memo table satisfies the statement being proved
(the empty table does: `C15_span_exact_from_empty`). -/

/-- `rng` with explicit indexing. -/
def C15_rng_tokens_stmt : Prop :=
  ∀ (toks : Array PModel.PTok) (a b : Nat) (h1 : a < b) (h2 : b ≤ toks.size),
    PModel.rng toks a b =
      ⟨(toks[a]'(by omega)).range.start, (toks[b - 1]'(by omega)).range.stop⟩
theorem C15_rng_tokens : C15_rng_tokens_stmt := fun _ _ _ h1 h2 => PModel.rng_eq h1 h2

/-- **Span exactness.**  Whatever the nonterminal, the start position, the fuel and the (invariant)
memo table: a result without recorded error is the parse tree of the segment `[start, r.next)`, and
the memo table left behind satisfies the invariant again. -/
def C15_span_exact_stmt : Prop :=
  ∀ (toks : Array PModel.PTok) (fuel : Nat) (nt : PModel.NT) (start : Nat) (r : PModel.PResult)
    (st st' : PModel.PState),
    PModel.CacheInvT toks st → PModel.parseNT toks fuel nt start st = some (r, st') →
    PModel.collectErrors r.term = [] →
    PModel.SegT toks nt start r.next r.term ∧ PModel.CacheInvT toks st'
theorem C15_span_exact : C15_span_exact_stmt :=
  fun _ _ _ _ _ _ _ hI h hce => PModel.parse_spans hI h hce

/-- The parse phase of `parse` (`parse_term` at 0 from the empty table). -/
def C15_span_exact_from_empty_stmt : Prop :=
  (∀ toks, PModel.CacheInvT toks PModel.PState.init) ∧
  ∀ (toks : Array PModel.PTok) (r : PModel.PResult) (st : PModel.PState),
    PModel.runParser toks = some (r, st) → PModel.collectErrors r.term = [] →
    PModel.SegT toks .term 0 r.next r.term
theorem C15_span_exact_from_empty : C15_span_exact_from_empty_stmt :=
  ⟨PModel.CacheInvT.init, fun _ _ _ h hce => PModel.runParser_spans h hce⟩

/-- A parse tree of a segment is a derivation of the segment (`Seg`, the relation of C07) and obeys
the range discipline `Spanned`: the node's range is that of its own segment, recursively. -/
def C15_tree_spanned_stmt : Prop :=
  ∀ (toks : Array PModel.PTok) (nt : PModel.NT) (a b : Nat) (t : PModel.Src),
    PModel.SegT toks nt a b t →
    PModel.Seg toks nt a b ∧ PModel.Spanned toks a b t ∧ a < b ∧ b ≤ toks.size ∧
      t.range = PModel.rng toks a b
theorem C15_tree_spanned : C15_tree_spanned_stmt :=
  fun _ _ _ _ _ h => ⟨h.toSeg, h.spanned, h.spanned.bounds.1, h.spanned.bounds.2, h.range⟩

/-- The root's range starts where the first token starts and ends where the last consumed token
ends. -/
def C15_root_range_stmt : Prop :=
  ∀ (toks : Array PModel.PTok) (fuel : Nat) (nt : PModel.NT) (start : Nat) (r : PModel.PResult)
    (st st' : PModel.PState),
    PModel.CacheInvT toks st → PModel.parseNT toks fuel nt start st = some (r, st') →
    PModel.collectErrors r.term = [] →
    ∃ (h1 : start < toks.size) (h2 : r.next - 1 < toks.size), start < r.next ∧ r.next ≤ toks.size ∧
      r.term.range.start = toks[start].range.start ∧
      r.term.range.stop = toks[r.next - 1].range.stop
theorem C15_root_range : C15_root_range_stmt :=
  fun _ _ _ _ _ _ _ hI h hce => PModel.parse_root_range hI h hce

/-- Every descendant's range lies within its parent's, is non-empty, and siblings are disjoint and
in source order: on the level of token positions always (`Spanned`), on the level of byte offsets
(`Nested`) as soon as the token ranges themselves are non-empty and ordered (which the tokenizer
guarantees, `C09_ordered_disjoint`). -/
def C15_ranges_nested_stmt : Prop :=
  ∀ (toks : Array PModel.PTok) (fuel : Nat) (nt : PModel.NT) (start : Nat) (r : PModel.PResult)
    (st st' : PModel.PState),
    PModel.CacheInvT toks st → PModel.parseNT toks fuel nt start st = some (r, st') →
    PModel.collectErrors r.term = [] →
    PModel.Spanned toks start r.next r.term ∧ (PModel.TokensOrdered toks → PModel.Nested r.term)
theorem C15_ranges_nested : C15_ranges_nested_stmt :=
  fun _ _ _ _ _ _ _ hI h hce => PModel.parse_ranges_nested hI h hce

/-- The memo table is transparent: what the cache-free functions `parsePure` (the same 36 bodies
without `cache_check!`) return is what the parse phase returns.  (Used to evaluate the parser inside
the kernel, where `Std.HashMap` does not reduce.) -/
def C15_memo_transparent_stmt : Prop :=
  ∀ (toks : Array PModel.PTok) (fuel : Nat) (st0 st0' : PModel.PState) (x : PModel.PResult),
    PModel.parsePure toks fuel .term 0 st0 = some (x, st0') →
    ∃ st, PModel.runParser toks = some (x, st)
theorem C15_memo_transparent : C15_memo_transparent_stmt :=
  fun _ _ _ _ _ h => PModel.runParser_eq_pure h

/-! ### Non-vacuity: concrete token arrays, evaluated by the kernel -/

/-- The tokens of `( f x ) + 1` (bytes: `(`0 `f`2 `x`4 `)`6 `+`8 `1`10). -/
def C15_exToks : Array PModel.PTok := #[
  ⟨.leftParen, ⟨0, 1⟩⟩, ⟨.identifier 1, ⟨2, 3⟩⟩, ⟨.identifier 2, ⟨4, 5⟩⟩, ⟨.rightParen, ⟨6, 7⟩⟩,
  ⟨.plus, ⟨8, 9⟩⟩, ⟨.integerLiteral 1, ⟨10, 11⟩⟩]

-- `( f x ) + 1`: no error, all 6 tokens consumed; in preorder: the sum `0..11`; its left operand, the
-- application `f x` with `group = true` and the range of the parentheses `0..7`; `f` `2..3`; `x` `4..5`
-- (the children keep their ranges); the literal `10..11`
theorem C15_exToks_parse : ∃ r st, PModel.runParser C15_exToks = some (r, st) ∧
    (PModel.collectErrors r.term, r.next, r.term.nodes) =
      ([], 6, [(⟨0, 11⟩, false), (⟨0, 7⟩, true), (⟨2, 3⟩, false), (⟨4, 5⟩, false),
        (⟨10, 11⟩, false)]) :=
  PModel.runParser_eval C15_exToks 60 _ _ (by decide +kernel)

example : ∃ r st, PModel.runParser C15_exToks = some (r, st) ∧
    (PModel.collectErrors r.term, r.next, r.term.nodes) =
      ([], 6, [(⟨0, 11⟩, false), (⟨0, 7⟩, true), (⟨2, 3⟩, false), (⟨4, 5⟩, false),
        (⟨10, 11⟩, false)]) := C15_exToks_parse

-- the token ranges of the example are non-empty and ordered, so the byte-level conclusion applies too
theorem C15_exToks_ordered : PModel.TokensOrdered C15_exToks :=
  PModel.tokensOrderedB_sound (by decide +kernel)

example : PModel.TokensOrdered C15_exToks := C15_exToks_ordered

example : ∃ r st, PModel.runParser C15_exToks = some (r, st) ∧ PModel.Nested r.term := by
  obtain ⟨r, st, h, ho⟩ := C15_exToks_parse
  exact ⟨r, st, h, (PModel.parse_ranges_nested (PModel.CacheInvT.init _) h (congrArg Prod.fst ho)).2
    C15_exToks_ordered⟩

/-- The tokens of `x : t = ( y => y ) ; a -> x` (one byte per token, one space between tokens). -/
def C15_exToks2 : Array PModel.PTok := #[
  ⟨.identifier 1, ⟨0, 1⟩⟩, ⟨.colon, ⟨2, 3⟩⟩, ⟨.identifier 2, ⟨4, 5⟩⟩, ⟨.equals, ⟨6, 7⟩⟩,
  ⟨.leftParen, ⟨8, 9⟩⟩, ⟨.identifier 3, ⟨10, 11⟩⟩, ⟨.thickArrow, ⟨12, 14⟩⟩, ⟨.identifier 3, ⟨15, 16⟩⟩,
  ⟨.rightParen, ⟨17, 18⟩⟩, ⟨.terminator .semicolon, ⟨19, 20⟩⟩, ⟨.identifier 4, ⟨21, 22⟩⟩,
  ⟨.thinArrow, ⟨23, 25⟩⟩, ⟨.identifier 1, ⟨26, 27⟩⟩]

-- the let `0..27`; annotation `t` `4..5`; the grouped lambda `8..18` with its body `y` `15..16`; the
-- arrow type `21..27` with `a` `21..22` and `x` `26..27`.  Binders: `x` `0..1` (its identifier token),
-- `y` `10..11` (inside the parentheses), and the anonymous binder of `a -> x`: empty, at the start of `a`
example : ∃ r st, PModel.runParser C15_exToks2 = some (r, st) ∧
    (PModel.collectErrors r.term, r.next, r.term.nodes, r.term.binders) =
      ([], 13, [(⟨0, 27⟩, false), (⟨4, 5⟩, false), (⟨8, 18⟩, true), (⟨15, 16⟩, false),
        (⟨21, 27⟩, false), (⟨21, 22⟩, false), (⟨26, 27⟩, false)],
       [⟨0, 1⟩, ⟨10, 11⟩, ⟨21, 21⟩]) :=
  PModel.runParser_eval C15_exToks2 80 _ _ (by decide +kernel)

/-! ## Type diagnostics point at the subterm whose type did not fit (table regenerated from `type_checker.rs` on every run) -/

/-- Every diagnostic of `type_check_rec` is raised by a failed `unify(&x_type, …)` and carries the source range of that very
`x` — the domain / codomain of a function type, the applicand / argument of an application, the annotation / definition of
a definition, the operand of an operator, the condition of a conditional — with the single exception of the comparison
of the two branches of a conditional, reported at the whole conditional; and every arm reports exactly the sites it is
known to report, in order.  Together with span exactness (the range of a node is its text) this is "for type errors
the range is precisely the text of the offending subexpression" at every reporting site of the checker. -/
def C15_type_error_sites_stmt : Prop := errSitesOK Generated.checkErrSites = true
theorem C15_type_error_sites : C15_type_error_sites_stmt := by unfold C15_type_error_sites_stmt; decide +kernel

/-! ## Scoping diagnostics: which range `resolve_variables` reports, when, and in which order

Statements about `PModel.resolve` / `PModel.resolveAux` (the model of `resolve_variables` in
`src/parser.rs`), proved in `Lemmas/ResolveRanges.lean`.

Vocabulary.  `PModel.events t chain` is the sequence of *scope events* of the resolver on `t` in the order
in which they happen: `Ev.var r x` (a variable node of range `r`), `Ev.bind v` (entry of a binder — λ, Π, or
a definition of a group; `v.range` is the range of the binder's identifier), `Ev.unbind x` (a scope guard
removes `x`).  For a group all `bind` events of the flattened group come first, then annotation and definition
of each member in source order, then the body, then the `unbind`s.  `PModel.runE evs B` interprets a sequence
from the set of bound names `B`: a `var` event reports `r` iff `x` is not the placeholder and not bound at
that point; a `bind` event reports `v.range` iff `v.name` is not the placeholder and bound at that point
(`C15_scope_error_classified`); nothing else reports.  Every report is a one-range listing `[r]`.
`PModel.varRanges t` / `PModel.binderRanges t`: the ranges of the non-placeholder variable nodes / binder
identifiers of `t`, by structural recursion.  `PModel.traversalRanges t`: the candidate ranges in event
order. -/

/-- **Exactness** (C08 at range level).  In any context and at any depth, `resolve` appends to the error list
exactly what the event interpretation reports on the tree, starting from the keys of the current context. -/
def C15_scope_errors_exact_stmt : Prop :=
  ∀ (t : PModel.Src) (depth : Nat) (st st' : PModel.RState) (r : PModel.RTm),
    PModel.resolve t depth st = some (r, st') →
    st'.errors = st.errors ++
      (PModel.runE (PModel.events t false) (PModel.Ctx.keys st.ctx)).map (fun r => [r])
theorem C15_scope_errors_exact : C15_scope_errors_exact_stmt :=
  fun _ _ _ _ _ h => PModel.resolve_errors_exact h

/-- What the interpretation reports: exactly the unbound variable occurrences (range of the variable node)
and the re-bound binders (range of the binder's identifier), placeholders never. -/
def C15_scope_error_classified_stmt : Prop :=
  ∀ (evs : List PModel.Ev) (B : PModel.Bound) (r : PModel.SourceRange),
    r ∈ PModel.runE evs B ↔
      (∃ pre post x, evs = pre ++ .var r x :: post ∧ x ≠ PModel.placeholder ∧
        PModel.runB pre B x = false) ∨
      (∃ pre post v, evs = pre ++ .bind v :: post ∧ v.name ≠ PModel.placeholder ∧
        PModel.runB pre B v.name = true ∧ r = v.range)
theorem C15_scope_error_classified : C15_scope_error_classified_stmt := PModel.mem_runE

/-- Every error recorded by the resolver on `t` (any context, any depth, any chain position) is a one-range
listing whose range is that of a variable node of `t` or the identifier range of a binder of `t`. -/
def C15_scope_error_ranges_stmt : Prop :=
  ∀ (t : PModel.Src) (chain : Option (Nat × Nat)) (depth : Nat) (st st' : PModel.RState)
    (res : PModel.RDefs × PModel.RTm),
    PModel.resolveAux t chain depth st = some (res, st') →
    ∃ new : List PModel.PErr, st'.errors = st.errors ++ new ∧
      ∀ e ∈ new, ∃ r, e = [r] ∧ (r ∈ PModel.varRanges t ∨ r ∈ PModel.binderRanges t)
theorem C15_scope_error_ranges : C15_scope_error_ranges_stmt := by
  intro t chain depth st st' res h
  obtain ⟨rs, h1, h2⟩ := PModel.resolveAux_errors_ranges h
  refine ⟨_, h1, fun e he => ?_⟩
  obtain ⟨r, hr, rfl⟩ := List.mem_map.1 he
  exact ⟨r, rfl, h2 r hr⟩

/-- The errors are recorded in traversal order: the new ranges form a sublist of `traversalRanges t`.
(This is *not* source order for a group: all the names of the group are registered before any annotation or
definition is resolved — see the example `a = u; a = v; w` below.) -/
def C15_scope_errors_in_traversal_order_stmt : Prop :=
  ∀ (t : PModel.Src) (depth : Nat) (st st' : PModel.RState) (r : PModel.RTm),
    PModel.resolve t depth st = some (r, st') →
    ∃ rs : List PModel.SourceRange, st'.errors = st.errors ++ rs.map (fun r => [r]) ∧
      rs.Sublist (PModel.traversalRanges t) ∧
      ∀ r ∈ rs, r ∈ PModel.varRanges t ∨ r ∈ PModel.binderRanges t
theorem C15_scope_errors_in_traversal_order : C15_scope_errors_in_traversal_order_stmt :=
  fun _ _ _ _ _ h => PModel.resolve_errors_sublist h

/-- The three re-association passes between parsing and resolution do not change the event sequence (they
re-bracket chains; events are a list). -/
def C15_reassoc_keeps_events_stmt : Prop :=
  ∀ (t t1 t2 t3 : PModel.Src), PModel.reassociateApplications t = some t1 →
    PModel.reassociateProductsAndQuotients t1 = some t2 →
    PModel.reassociateSumsAndDifferences t2 = some t3 →
    PModel.events t3 false = PModel.events t false
theorem C15_reassoc_keeps_events : C15_reassoc_keeps_events_stmt :=
  fun _ _ _ _ h1 h2 h3 => PModel.reassoc_passes_events h1 h2 h3

/-- The unrestricted statement: every scoping range of a parsed program is exactly the range of an
identifier token.  **False**: `parse_group` returns the inner node with the range of the parentheses, so for
a parenthesised variable `(y)` the "not in scope" diagnostic underlines `(y)`. -/
def C15_scope_error_is_identifier_unrestricted : Prop :=
  ∀ (toks : Array PModel.PTok) (nt : PModel.NT) (a b : Nat) (s s1 s2 s3 : PModel.Src) (depth : Nat)
    (st st' : PModel.RState) (r : PModel.RTm),
    PModel.SegT toks nt a b s → PModel.reassociateApplications s = some s1 →
    PModel.reassociateProductsAndQuotients s1 = some s2 →
    PModel.reassociateSumsAndDifferences s2 = some s3 →
    PModel.resolve s3 depth st = some (r, st') →
    ∃ new : List PModel.PErr, st'.errors = st.errors ++ new ∧
      ∀ e ∈ new, ∃ (i : Nat) (hi : i < toks.size) (x : Name), a ≤ i ∧ i < b ∧
        toks[i].kind = .identifier x ∧ e = [toks[i].range]

/-- The tokens of `(y)` (bytes: `(`0 `y`1 `)`2). -/
def C15_parenToks : Array PModel.PTok := #[
  ⟨.leftParen, ⟨0, 1⟩⟩, ⟨.identifier 1, ⟨1, 2⟩⟩, ⟨.rightParen, ⟨2, 3⟩⟩]

theorem C15_parenToks_no_0_3 :
    ∀ i : Fin C15_parenToks.size, C15_parenToks[i].range ≠ ⟨0, 3⟩ := by decide +kernel

/-- `(y)` parses without error and reports the range of the group `0..3`. -/
theorem C15_parenToks_parse : ∃ r st, PModel.runParser C15_parenToks = some (r, st) ∧
    (PModel.collectErrors r.term, r.next, PModel.scopeErrorsOf r.term []) =
      ([], 3, some [[⟨0, 3⟩]]) :=
  PModel.runParser_eval C15_parenToks 40 _ _ (by decide +kernel)

theorem C15_scope_error_is_identifier_refuted : ¬ C15_scope_error_is_identifier_unrestricted := by
  intro H
  obtain ⟨r, st, hr, ho⟩ := C15_parenToks_parse
  simp only [Prod.mk.injEq] at ho
  obtain ⟨t1, t2, t3, res, st', h1, h2, h3, h4, h5⟩ := PModel.scopeErrorsOf_some ho.2.2
  obtain ⟨new, hnew, hall⟩ :=
    H _ _ _ _ _ _ _ _ _ _ _ _ (PModel.runParser_spans hr ho.1) h1 h2 h3 h4
  -- the one new error is `[⟨0, 3⟩]`
  cases h5.symm.trans hnew
  obtain ⟨i, hi, x, _, _, _, he⟩ := hall _ (List.mem_singleton.2 rfl)
  exact C15_parenToks_no_0_3 ⟨i, hi⟩ (by simpa using he.symm)

/-- **Corrected statement.**  For a tree `s` that is the parse tree of the tokens `[a, b)`, re-associated and
then resolved (any context, any depth): every scoping error is a one-range listing, the ranges come in the
traversal order of `s`, and each range is `ScopeRange toks a b`: either the segment
`( … ( x ) … )` of an identifier token `x` of `[a, b)` wrapped in `k ≥ 0` pairs of parentheses (an unbound
variable: `k = 0` is the bare identifier token), or the identifier token of a binder of `[a, b)`
(a re-bound name). -/
def C15_scope_error_is_identifier_fixed_stmt : Prop :=
  ∀ (toks : Array PModel.PTok) (nt : PModel.NT) (a b : Nat) (s s1 s2 s3 : PModel.Src) (depth : Nat)
    (st st' : PModel.RState) (r : PModel.RTm),
    PModel.SegT toks nt a b s → PModel.reassociateApplications s = some s1 →
    PModel.reassociateProductsAndQuotients s1 = some s2 →
    PModel.reassociateSumsAndDifferences s2 = some s3 →
    PModel.resolve s3 depth st = some (r, st') →
    ∃ rs : List PModel.SourceRange, st'.errors = st.errors ++ rs.map (fun r => [r]) ∧
      rs.Sublist (PModel.traversalRanges s) ∧
      ∀ r ∈ rs,
        (∃ lo hi x k, a ≤ lo ∧ hi ≤ b ∧ hi = lo + 2 * k + 1 ∧
          PModel.KAt toks (lo + k) (.identifier x) ∧
          (∀ j, j < k → PModel.KAt toks (lo + j) .leftParen ∧ PModel.KAt toks (hi - 1 - j) .rightParen) ∧
          r = PModel.rng toks lo hi) ∨
        (∃ (i : Nat) (hi : i < toks.size) (x : Name), a ≤ i ∧ i < b ∧
          toks[i].kind = .identifier x ∧ r = toks[i].range)
theorem C15_scope_error_is_identifier_fixed : C15_scope_error_is_identifier_fixed_stmt := by
  intro toks nt a b s s1 s2 s3 depth st st' r hs h1 h2 h3 h
  obtain ⟨rs, e1, e2, e3⟩ := PModel.parsed_scope_errors hs h1 h2 h3 h
  refine ⟨rs, e1, e2, fun r hr => ?_⟩
  rcases e3 r hr with ⟨lo, hi, x, p1, p2, ⟨k, q1, q2, q3⟩, p4⟩ | ⟨i, x, p1, p2, ⟨hlt, hk⟩, rfl⟩
  · exact Or.inl ⟨lo, hi, x, k, p1, p2, q1, q2, q3, p4⟩
  · exact Or.inr ⟨i, hlt, x, p1, p2, hk, PModel.tokenRange_lt hlt⟩

/-- Where no identifier stands alone between parentheses (`( x )` does not occur in the token array), the
unrestricted statement holds: every scoping range is exactly the range of an identifier token of `[a, b)`. -/
def C15_scope_error_is_identifier_stmt : Prop :=
  ∀ (toks : Array PModel.PTok) (nt : PModel.NT) (a b : Nat) (s s1 s2 s3 : PModel.Src) (depth : Nat)
    (st st' : PModel.RState) (r : PModel.RTm),
    (∀ i x, PModel.KAt toks i .leftParen → PModel.KAt toks (i + 1) (.identifier x) →
      PModel.KAt toks (i + 2) .rightParen → False) →
    PModel.SegT toks nt a b s → PModel.reassociateApplications s = some s1 →
    PModel.reassociateProductsAndQuotients s1 = some s2 →
    PModel.reassociateSumsAndDifferences s2 = some s3 →
    PModel.resolve s3 depth st = some (r, st') →
    ∃ new : List PModel.PErr, st'.errors = st.errors ++ new ∧
      ∀ e ∈ new, ∃ (i : Nat) (hi : i < toks.size) (x : Name), a ≤ i ∧ i < b ∧
        toks[i].kind = .identifier x ∧ e = [toks[i].range]
theorem C15_scope_error_is_identifier : C15_scope_error_is_identifier_stmt := by
  intro toks nt a b s s1 s2 s3 depth st st' r hn hs h1 h2 h3 h
  obtain ⟨rs, e1, _, e3⟩ := PModel.parsed_scope_errors hs h1 h2 h3 h
  refine ⟨_, e1, fun e he => ?_⟩
  obtain ⟨r, hr, rfl⟩ := List.mem_map.1 he
  obtain ⟨i, hi, x, p1, p2, p3, p4⟩ := (e3 r hr).ident hn
  exact ⟨i, hi, x, p1, p2, p3, by rw [p4]⟩

/-! ### Non-vacuity: programs with scoping errors, evaluated by the kernel

Each example runs the parse phase (cache-free twin, `C15_memo_transparent`), checks that no syntax error was
recorded and all tokens were consumed, and then `scopeErrorsOf` = the three passes + `resolve` from the empty
context. -/

/-- The tokens of `x => y` (bytes: `x`0 `=>`2 `y`5). -/
def C15_scopeToks1 : Array PModel.PTok := #[
  ⟨.identifier 1, ⟨0, 1⟩⟩, ⟨.thickArrow, ⟨2, 4⟩⟩, ⟨.identifier 2, ⟨5, 6⟩⟩]

-- unbound `y`: one error, the range of the `y` token
example : ∃ r st, PModel.runParser C15_scopeToks1 = some (r, st) ∧
    (PModel.collectErrors r.term, r.next, PModel.scopeErrorsOf r.term []) =
      ([], 3, some [[⟨5, 6⟩]]) :=
  PModel.runParser_eval C15_scopeToks1 40 _ _ (by decide +kernel)

/-- The tokens of `(x : int) => (x : int) => x`
(bytes: `(`0 `x`1 `:`3 `int`5 `)`8 `=>`10 `(`13 `x`14 `:`16 `int`18 `)`21 `=>`23 `x`26). -/
def C15_scopeToks2 : Array PModel.PTok := #[
  ⟨.leftParen, ⟨0, 1⟩⟩, ⟨.identifier 1, ⟨1, 2⟩⟩, ⟨.colon, ⟨3, 4⟩⟩, ⟨.integer, ⟨5, 8⟩⟩,
  ⟨.rightParen, ⟨8, 9⟩⟩, ⟨.thickArrow, ⟨10, 12⟩⟩,
  ⟨.leftParen, ⟨13, 14⟩⟩, ⟨.identifier 1, ⟨14, 15⟩⟩, ⟨.colon, ⟨16, 17⟩⟩, ⟨.integer, ⟨18, 21⟩⟩,
  ⟨.rightParen, ⟨21, 22⟩⟩, ⟨.thickArrow, ⟨23, 25⟩⟩, ⟨.identifier 1, ⟨26, 27⟩⟩]

-- re-bound `x`: one error, the range of the second binder's identifier token
example : ∃ r st, PModel.runParser C15_scopeToks2 = some (r, st) ∧
    (PModel.collectErrors r.term, r.next, PModel.scopeErrorsOf r.term []) =
      ([], 13, some [[⟨14, 15⟩]]) :=
  PModel.runParser_eval C15_scopeToks2 80 _ _ (by decide +kernel)

/-- The tokens of `a = 1; a = 2; a` (bytes: `a`0 `=`2 `1`4 `;`5 `a`7 `=`9 `2`11 `;`12 `a`14). -/
def C15_scopeToks3 : Array PModel.PTok := #[
  ⟨.identifier 1, ⟨0, 1⟩⟩, ⟨.equals, ⟨2, 3⟩⟩, ⟨.integerLiteral 1, ⟨4, 5⟩⟩,
  ⟨.terminator .semicolon, ⟨5, 6⟩⟩,
  ⟨.identifier 1, ⟨7, 8⟩⟩, ⟨.equals, ⟨9, 10⟩⟩, ⟨.integerLiteral 2, ⟨11, 12⟩⟩,
  ⟨.terminator .semicolon, ⟨12, 13⟩⟩, ⟨.identifier 1, ⟨14, 15⟩⟩]

-- a group defining `a` twice: one error, the range of the second `a` on the left of `=`
example : ∃ r st, PModel.runParser C15_scopeToks3 = some (r, st) ∧
    (PModel.collectErrors r.term, r.next, PModel.scopeErrorsOf r.term []) =
      ([], 9, some [[⟨7, 8⟩]]) :=
  PModel.runParser_eval C15_scopeToks3 80 _ _ (by decide +kernel)

/-- The tokens of `a = u; a = v; w` (same layout, `u` `v` `w` unbound). -/
def C15_scopeToks4 : Array PModel.PTok := #[
  ⟨.identifier 1, ⟨0, 1⟩⟩, ⟨.equals, ⟨2, 3⟩⟩, ⟨.identifier 2, ⟨4, 5⟩⟩,
  ⟨.terminator .semicolon, ⟨5, 6⟩⟩,
  ⟨.identifier 1, ⟨7, 8⟩⟩, ⟨.equals, ⟨9, 10⟩⟩, ⟨.identifier 3, ⟨11, 12⟩⟩,
  ⟨.terminator .semicolon, ⟨12, 13⟩⟩, ⟨.identifier 4, ⟨14, 15⟩⟩]

-- traversal order is not source order: the duplicate name `a` (byte 7) is reported *before* the unbound `u`
-- (byte 4), because the names of a group are registered before its definitions are resolved
theorem C15_scopeToks4_parse : ∃ r st, PModel.runParser C15_scopeToks4 = some (r, st) ∧
    (PModel.collectErrors r.term, r.next, PModel.scopeErrorsOf r.term [],
      PModel.traversalRanges r.term) =
      ([], 9, some [[⟨7, 8⟩], [⟨4, 5⟩], [⟨11, 12⟩], [⟨14, 15⟩]],
        [⟨0, 1⟩, ⟨7, 8⟩, ⟨4, 5⟩, ⟨11, 12⟩, ⟨14, 15⟩]) :=
  PModel.runParser_eval C15_scopeToks4 80 _ _ (by decide +kernel)

example : ∃ r st, PModel.runParser C15_scopeToks4 = some (r, st) ∧
    (PModel.collectErrors r.term, r.next, PModel.scopeErrorsOf r.term [],
      PModel.traversalRanges r.term) =
      ([], 9, some [[⟨7, 8⟩], [⟨4, 5⟩], [⟨11, 12⟩], [⟨14, 15⟩]],
        [⟨0, 1⟩, ⟨7, 8⟩, ⟨4, 5⟩, ⟨11, 12⟩, ⟨14, 15⟩]) := C15_scopeToks4_parse

/-- "The scoping errors of a program come in source order" — **false** for a group (example above). -/
def C15_scope_errors_in_source_order_unrestricted : Prop :=
  ∀ (toks : Array PModel.PTok) (r : PModel.PResult) (st : PModel.PState) (es : List PModel.PErr),
    PModel.runParser toks = some (r, st) → PModel.collectErrors r.term = [] →
    PModel.scopeErrorsOf r.term [] = some es →
    es.Pairwise (fun e1 e2 => ∀ r1 ∈ e1, ∀ r2 ∈ e2, r1.start ≤ r2.start)

theorem C15_scope_errors_in_source_order_refuted : ¬ C15_scope_errors_in_source_order_unrestricted := by
  intro H
  obtain ⟨r, st, hr, ho⟩ := C15_scopeToks4_parse
  simp only [Prod.mk.injEq] at ho
  -- `[⟨7, 8⟩]` is reported before `[⟨4, 5⟩]`
  have := List.rel_of_pairwise_cons (H _ _ _ _ hr ho.1 ho.2.2.1) (List.mem_cons_self ..) _
    (List.mem_singleton.2 rfl) _ (List.mem_singleton.2 rfl)
  exact absurd this (by decide)

-- the counterexample of `C15_scope_error_is_identifier_refuted`: `(y)` reports the range of the group `0..3`
example : ∃ r st, PModel.runParser C15_parenToks = some (r, st) ∧
    (PModel.collectErrors r.term, r.next, PModel.scopeErrorsOf r.term []) =
      ([], 3, some [[⟨0, 3⟩]]) := C15_parenToks_parse

theorem C15_scopeToks1_no_paren :
    ∀ i : Fin C15_scopeToks1.size, C15_scopeToks1[i].kind ≠ .leftParen := by decide +kernel

-- the hypothesis of `C15_scope_error_is_identifier` holds of the first example's tokens
example : ∀ i x, PModel.KAt C15_scopeToks1 i .leftParen → PModel.KAt C15_scopeToks1 (i + 1) (.identifier x) →
    PModel.KAt C15_scopeToks1 (i + 2) .rightParen → False := by
  intro i x ⟨h, hk⟩ _ _
  exact C15_scopeToks1_no_paren ⟨i, h⟩ hk
