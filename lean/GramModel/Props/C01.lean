import GramModel.Lemmas.SoundRun
import GramModel.Lemmas.FrontEnd

/-!
# C01 — accepted programs never get stuck (progress)

The full statement ("every accepted program, at every step, is a value, can step, or is at a
division by zero") is **false of the code**: the negation is proved below from concrete accepted
programs (replayed on the real binary by the `pipeline` suite, and recorded as known findings
KF-order and KF-barehole).  What holds without exception is the classification of stuck terms,
which turns "stops only because of a division by zero" into a decidable property of the final term.
-/

/-- A term that neither steps nor is a value is stuck for a classified reason … -/
def C01_stuck_classified_stmt : Prop :=
  ∀ (t : Tm), step t = none → isValue t = false → ∃ r, stuckReason t = some r
theorem C01_stuck_classified : C01_stuck_classified_stmt := stuckReason_complete

/-- … and only such terms are classified as stuck. -/
def C01_classified_is_stuck_stmt : Prop :=
  ∀ (t : Tm) (r : StuckReason), stuckReason t = some r → step t = none ∧ isValue t = false
theorem C01_classified_is_stuck : C01_classified_is_stuck_stmt := stuckReason_sound

/-- Values are never stuck and never step (so "produces a value" and "is stuck" exclude each other). -/
def C01_value_not_stuck_stmt : Prop :=
  ∀ (t : Tm), isValue t = true → step t = none ∧ stuckReason t = none
theorem C01_value_not_stuck : C01_value_not_stuck_stmt := value_not_stuck

/-- `x = y + 1; y = 2; x` as the parser produces it (both annotations omitted: holes with shifts
2 and 1) -/
def C01_w_forward : Tm :=
  .letg (.cons 1 (.hole 0 2) (.bin .sum (.var 2 0) (.lit 1)) (.cons 2 (.hole 1 1) (.lit 2) .nil)) (.var 1 1)

/-- `fuel` serves the checker and the evaluator; `cells`: the empty store cells allocated beforehand for the holes
of `w` -/
def acceptedAndStuck (fuel : Nat) (w : Tm) (cells : Nat) (why : StuckReason) : Bool :=
  match inferS fuel w { store := List.replicate cells none } with
  | .ok (e, _) s => s.nerrs == 0 && (stuckReason (evalFuel fuel e) == some why)
  | _ => false

/-- KF-order: the checker accepts the program (no diagnostics) and evaluation is stuck on a variable. -/
def C01_false_forward_stmt : Prop := acceptedAndStuck 40 C01_w_forward 2 .variable = true
theorem C01_false_forward : C01_false_forward_stmt := by unfold C01_false_forward_stmt; decide

/-- KF-barehole: the program `_` is accepted (type `type`) and is stuck on its hole. -/
def C01_false_barehole_stmt : Prop := acceptedAndStuck 10 (.hole 0 0) 1 .hole = true
theorem C01_false_barehole : C01_false_barehole_stmt := by unfold C01_false_barehole_stmt; decide

/-- **A well-typed term is never stuck for a kind reason.**  If the independent checker accepts a
hole-free term (in any context) and the term neither steps nor is a value, then it is stuck at a
variable in evaluation position (a definition that is not available yet — the only way a
*closed* accepted program can stop, and exactly the recorded finding KF-order) or at a division by
zero: never at a call of a non-function, arithmetic or comparison on a non-literal, a branch on a
non-boolean, or a hole. -/
def C01_typed_stuck_only_var_or_div_stmt : Prop :=
  ∀ (f : Nat) (Γ : TCtxX) (Δ : DCtxX) (t T : Tm) (r : StuckReason), t.holeFree = true →
    inferX f Γ Δ t = .ok T → stuckReason t = some r → r = .variable ∨ r = .divZero
theorem C01_typed_stuck_only_var_or_div : C01_typed_stuck_only_var_or_div_stmt :=
  fun f Γ Δ t T r hf h hs => OracleLemmas.typed_stuck_only_var_or_div t r hs f Γ Δ T hf h

/-- **Progress, in the usual form.**  A hole-free term accepted by the independent checker is a
value, or takes a step of the call-by-value semantics, or is stuck at a variable in evaluation
position, or is stuck at a division by zero — nothing else. -/
def C01_typed_progress_stmt : Prop :=
  ∀ (f : Nat) (Γ : TCtxX) (Δ : DCtxX) (t T : Tm), t.holeFree = true → inferX f Γ Δ t = .ok T →
    isValue t = true ∨ (∃ t', Step t t') ∨ stuckReason t = some .variable ∨
      stuckReason t = some .divZero
theorem C01_typed_progress : C01_typed_progress_stmt :=
  fun f Γ Δ t T hf h => progress_of_stuck fun r hr => C01_typed_stuck_only_var_or_div f Γ Δ t T r hf h hr

/-- **Progress under the declarative rules.**  A closed hole-free term that is well typed under the rules of
`Typing.lean` is a value, or takes a step, or is stuck at a variable of a definition group that is not
available yet (the recorded finding KF-order), or at a division by zero — never for a kind reason. -/
def C01_declarative_progress_stmt : Prop :=
  ∀ (t T : Tm), t.holeFree = true → HasType [] [] t T →
    isValue t = true ∨ (∃ t', Step t t') ∨ stuckReason t = some .variable ∨ stuckReason t = some .divZero
theorem C01_declarative_progress : C01_declarative_progress_stmt :=
  fun _ _ _ h => Canonical.progress Canonical.DWF_nil h

/-- **Type soundness of gram's checker model on fully annotated programs.**  If the model of the checker
accepts a closed hole-free program without error, then however many steps the program is run, the term
reached is never stuck for a kind reason (call of a non-function, arithmetic/comparison/branching on a value
of the wrong kind, a hole): it is a value, or can step, or is stuck at a not-yet-available definition
(KF-order) or a division by zero. -/
def C01_checker_sound_run_stmt : Prop :=
  ∀ (fuel n : Nat) (t e ty : Tm) (s : St), t.holeFree = true → wellScoped 0 t = true →
    inferS fuel t {} = .ok (e, ty) s → s.nerrs = 0 →
    let r := evalFuel n t
    isValue r = true ∨ (∃ r', Step r r') ∨ stuckReason r = some .variable ∨ stuckReason r = some .divZero

/-- **Type soundness on the group-free fragment** (functions, dependent function types, arithmetic,
comparisons, conditionals — no definition groups).  Subject reduction holds there
(`C04_preservation_nolet`); for groups it fails for *intermediate* terms w.r.t. the declarative rules
(`C04_preservation_refuted`: unfolding the first definition re-binds its variable in front of a group whose
other members already mention the unfolding — the program still runs fine, but the intermediate term has no
type), which is why `C01_checker_sound_run_stmt` above stays open. -/
def C01_checker_sound_run_nolet_stmt : Prop :=
  ∀ (fuel n : Nat) (t e ty : Tm) (s : St), t.holeFree = true → wellScoped 0 t = true → CheckSound.noLet t = true →
    inferS fuel t {} = .ok (e, ty) s → s.nerrs = 0 →
    let r := evalFuel n t
    isValue r = true ∨ (∃ r', Step r r') ∨ stuckReason r = some .divZero
theorem C01_checker_sound_run_nolet : C01_checker_sound_run_nolet_stmt :=
  fun fuel n t e ty s ht _ hnl h hn => SoundRun.checker_sound_run_nolet fuel n t e ty s ht hnl h hn

/-- The hypotheses of `C01_checker_sound_run_nolet` are satisfiable on non-trivial programs (checked by the
kernel): the polymorphic identity instantiated and applied, `((a : type) => (x : a) => x) int 3`, is hole-free,
closed, group-free and accepted without diagnostics (checker fuel 40); run for 5 steps it is the value `3`. -/
example : ∃ (fuel n : Nat) (t e ty : Tm) (s : St), t.holeFree = true ∧ wellScoped 0 t = true ∧
    CheckSound.noLet t = true ∧ inferS fuel t {} = .ok (e, ty) s ∧ s.nerrs = 0 ∧
    t = .app (.app (.lam 1 false .type (.lam 2 false (.var 1 0) (.var 2 0))) .int) (.lit 3) ∧
    evalFuel n t = .lit 3 :=
  let ⟨e, ty, s, h1, h2, h3, h4, h5, _, _, h8⟩ := SoundRun.demoOK_spec SoundRun.idProg_ok
  ⟨40, 5, SoundRun.idProg, e, ty, s, h1, h2, h3, h4, h5, rfl, h8⟩

/-- The same for a program with a higher-order function, a conditional, arithmetic and a comparison:
`((f : int -> int) => (b : bool) => if b then f (2 * 3) else 0 - 1) ((y : int) => y + 1) (1 < 2)` is accepted
and runs to `7` in 10 steps, every intermediate term being a value or able to step
(`C01_checker_sound_run_nolet` instantiated). -/
example : ∀ n, isValue (evalFuel n SoundRun.iteProg) = true ∨ (∃ r', Step (evalFuel n SoundRun.iteProg) r') ∨
    stuckReason (evalFuel n SoundRun.iteProg) = some .divZero :=
  fun n =>
    let ⟨e, ty, s, h1, h2, h3, h4, h5, _⟩ := SoundRun.demoOK_spec SoundRun.iteProg_ok
    C01_checker_sound_run_nolet 40 n SoundRun.iteProg e ty s h1 h2 h3 h4 h5

/-- **Type soundness from the text on** (group-free, fully annotated programs): take any text, any classifier and interner.
If the front end (`frontEnd`, Lemmas/FrontEnd.lean: `tokenize`, token conversion, `parse` — parse phase, re-association, name
resolution, definition-order check — in the empty context) answers with a term that is hole-free (every parameter annotated, no
`_`) and has no definition group, and the model of the type checker accepts that term from the initial state without a
diagnostic, then however many steps the program is run, the term reached is a value, or can take a step, or is stuck at a
division by zero — never at a variable, a call of a non-function, arithmetic / comparison / branching on a value of the wrong
kind, or a hole.  This is `C01_checker_sound_run_nolet` with the front end in front: its well-scopedness hypothesis is
discharged by `frontEnd_term_scoped` (`C14_front_end_scoped`: resolution soundness C08 + "`check_definitions` only appends
diagnostics"), and by `C14_front_end_total` the front end itself never panics.  (Literals: the tokenizer's `Nat` payload
becomes the `Int` literal `Int.ofNat n` in `parse_integer_literal`; negative numbers are negations.) -/
def C01_pipeline_nolet_stmt : Prop :=
  ∀ (cc : CharClass) (I : List Char → Name) (text : List Char) (r : PModel.RTm) (fuel n : Nat) (e ty : Tm) (s : St),
    frontEnd cc I text [] = .ok (.term r) → r.erase.holeFree = true → CheckSound.noLet r.erase = true →
    inferS fuel r.erase {} = .ok (e, ty) s → s.nerrs = 0 →
    let v := evalFuel n r.erase
    isValue v = true ∨ (∃ v', Step v v') ∨ stuckReason v = some .divZero
theorem C01_pipeline_nolet : C01_pipeline_nolet_stmt :=
  fun _ _ _ r fuel n e ty s h hf hnl hi hn =>
    C01_checker_sound_run_nolet fuel n r.erase e ty s hf
      (frontEnd_term_scoped (ctx := []) List.nodup_nil (fun _ hx => nomatch hx) h) hnl hi hn

/-- Non-vacuity, end to end and by kernel evaluation: the text `((x : int) => x + 1) 2` (classifier `C10_cc`, identifiers
interned by their length) satisfies every hypothesis of `C01_pipeline_nolet` — the front end answers with the hole-free,
group-free term `((x : int) => x + 1) 2`, the checker model (fuel 40) accepts it without a diagnostic at type `int` — and run
for 5 steps it is the value `3`. -/
example : ∃ (r : PModel.RTm) (e ty : Tm) (s : St),
    frontEnd C10_cc List.length FrontEndDemo.text [] = .ok (.term r) ∧ r.erase.holeFree = true ∧
    CheckSound.noLet r.erase = true ∧ inferS 40 r.erase {} = .ok (e, ty) s ∧ s.nerrs = 0 ∧
    zonk 40 s.store ty = some .int ∧ isValue (evalFuel 5 r.erase) = true ∧ evalFuel 5 r.erase = .lit 3 := by
  obtain ⟨r, h1, h2⟩ := FrontEndDemo.frontEnd_text
  have hd : SoundRun.demoOK 40 5 FrontEndDemo.tm .int (.lit 3) = true := by decide +kernel
  obtain ⟨e, ty, s, a1, _, a3, a4, a5, a6, a7, a8⟩ := SoundRun.demoOK_spec hd
  rw [← h2] at a1 a3 a4 a7 a8
  exact ⟨r, e, ty, s, h1, a1, a3, a4, a5, a6, a7, a8⟩
