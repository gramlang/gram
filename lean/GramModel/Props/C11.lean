import GramModel.Lemmas.ArmsTie
import GramModel.Lemmas.Named
import GramModel.Lemmas.StoreTransparent

/-!
# C11 — substitution and index shifting are capture-avoiding

Statements (`C11_*_stmt`) with their theorems and non-vacuity examples, and the named calculus `NTm` with
its translation lemmas (the list facts are in `Lemmas/Named.lean`).  All statements quantify over *every* term (all term formers, groups of any length), every cutoff,
amount and index — no bound.
-/

/-- Shifting by zero is the identity. -/
def C11_shift_zero_stmt : Prop := ∀ (t : Tm) (c : Nat), sshift c 0 t = some t
theorem C11_shift_zero : C11_shift_zero_stmt := sshift_zero

/-- The total unsigned shift is the signed shift with a non-negative amount (which never fails). -/
def C11_unsigned_is_signed_stmt : Prop :=
  ∀ (t : Tm) (c a : Nat), sshift c (a : Int) t = some (ushift c a t)
theorem C11_unsigned_is_signed : C11_unsigned_is_signed_stmt := sshift_ushift

/-- Shifts compose additively. -/
def C11_shift_additive_stmt : Prop :=
  ∀ (t : Tm) (c a b : Nat), ushift c a (ushift c b t) = ushift c (a + b) t
theorem C11_shift_additive : C11_shift_additive_stmt := ushift_ushift

/-- A downward shift undoes an upward one. -/
def C11_down_undoes_up_stmt : Prop :=
  ∀ (t : Tm) (c a : Nat), sshift c (-(a : Int)) (ushift c a t) = some t
theorem C11_down_undoes_up : C11_down_undoes_up_stmt := sshift_neg_ushift

/-- A downward shift fails exactly when a variable would become unbound. -/
def C11_down_fails_iff_stmt : Prop :=
  ∀ (t : Tm) (c k : Nat), t.holeFree = true →
    (sshift c (-(k : Int)) t = none ↔ ∃ j, c ≤ j ∧ j < c + k ∧ freeAt t j = true)
theorem C11_down_fails_iff : C11_down_fails_iff_stmt := by
  intro t c k hf
  rw [← lowFree_iff_freeAt t c k hf]
  have := sshift_down_isSome t c k
  cases h : sshift c (-(k : Int)) t <;> cases h2 : lowFree t c k <;> simp_all

/-- Opening a term in which the variable does not occur merely lowers the indices above it. -/
def C11_open_not_free_stmt : Prop :=
  ∀ (t : Tm) (i : Nat) (u : Tm) (s : Nat), t.holeFree = true → freeAt t i = false →
    sshift i (-1) t = some (openT t i u s)
theorem C11_open_not_free : C11_open_not_free_stmt := by
  intro t i u s hf hfree
  apply open_not_free
  cases h : lowFree t i 1 with
  | false => rfl
  | true =>
    obtain ⟨j, h1, h2, h3⟩ := (lowFree_iff_freeAt t i 1 hf).mp h
    have : j = i := by omega
    subst this
    rw [hfree] at h3; contradiction

/-- The free variables of a shifted term are exactly those predicted. -/
def C11_fv_shift_stmt : Prop :=
  ∀ (t : Tm) (c a j : Nat),
    freeAt (ushift c a t) j =
      if j < c then freeAt t j else if j < c + a then false else freeAt t (j - a)
theorem C11_fv_shift : C11_fv_shift_stmt := freeAt_ushift

/-- The free variables of an opened term are exactly those predicted: those of `t` below `i`
unchanged, those above lowered by one, and — iff `i` occurred — those of `u` raised by `s`. -/
def C11_fv_open_stmt : Prop :=
  ∀ (t : Tm) (i : Nat) (u : Tm) (s j : Nat),
    freeAt (openT t i u s) j =
      ((decide (j < i) && freeAt t j) || (decide (i ≤ j) && freeAt t (j+1))
        || (freeAt t i && decide (s ≤ j) && freeAt u (j - s)))
theorem C11_fv_open : C11_fv_open_stmt := freeAt_openT

/-- Opening right after lifting over the same index gives back the term. -/
def C11_open_lift_cancel_stmt : Prop :=
  ∀ (t : Tm) (i : Nat) (u : Tm) (s : Nat), openT (ushift i 1 t) i u s = t
theorem C11_open_lift_cancel : C11_open_lift_cancel_stmt := open_ushift_cancel

/-- The set of numbers the implementation's `free_variables` is compared against (`freeVars`) is
the predicate the theorems above speak about. -/
def C11_fv_list_stmt : Prop :=
  ∀ (t : Tm) (c j : Nat), j ∈ freeVars t c ↔ freeAt t (j + c) = true
theorem C11_fv_list : C11_fv_list_stmt := mem_freeVars

/-- The substitution lemma: opening commutes with opening. -/
def C11_open_open_unrestricted : Prop :=
  ∀ (t u v : Tm) (i j : Nat), i ≤ j →
    openT (openT t i u 0) j v 0 = openT (openT t (j+1) v 0) i (openT u j v 0) 0

/-- `C11_open_open_unrestricted` is **false as stated** (left pending, never claimed): `v` lives in the
context from which both variables have been removed, so before it is substituted for `j+1` in `t`
— where variable `i` is still bound — it must be lifted over `i`.  Counterexample: `t = var 1`,
`i = j = 0`, `u = 5`, `v = var 0`: the left side is `var 0`, the right side `5`. -/
def C11_open_open_refuted_stmt : Prop := ¬ C11_open_open_unrestricted
theorem C11_open_open_refuted : C11_open_open_refuted_stmt := by
  intro h
  have := h (.var 0 1) (.lit 5) (.var 0 0) 0 0 (Nat.le_refl _)
  revert this
  decide

/-- The substitution lemma (corrected): opening commutes with opening, the second substituted term
being lifted over the first opened variable. -/
def C11_open_open_fixed_stmt : Prop :=
  ∀ (t u v : Tm) (i j : Nat), i ≤ j →
    openT (openT t i u 0) j v 0 = openT (openT t (j+1) (ushift i 1 v) 0) i (openT u j v 0) 0
theorem C11_open_open_fixed : C11_open_open_fixed_stmt := open_open

/-- The same under `n` binders (the form the induction needs: both substituted terms are lifted by
the depth at the point of substitution). -/
def C11_open_open_depth_stmt : Prop :=
  ∀ (t u v : Tm) (i j n : Nat), i ≤ j →
    openT (openT t (i + n) u n) (j + n) v n =
      openT (openT t (j + n + 1) (ushift i 1 v) n) (i + n) (openT u j v 0) n
theorem C11_open_open_depth : C11_open_open_depth_stmt := open_open_gen

/-- Lifting commutes with lifting at a lower cutoff. -/
def C11_ushift_comm_stmt : Prop :=
  ∀ (t : Tm) (c d a b : Nat), c ≤ d →
    ushift c a (ushift d b t) = ushift (d + a) b (ushift c a t)
theorem C11_ushift_comm : C11_ushift_comm_stmt := ushift_comm

/-- Opening commutes with lifting above the opened index. -/
def C11_open_ushift_comm_unrestricted : Prop :=
  ∀ (t u : Tm) (i c a s : Nat), i ≤ c →
    ushift c a (openT t i u s) = openT (ushift (c + 1) a t) i (ushift (c - s) a u) s

/-- `C11_open_ushift_comm_unrestricted` is **false as stated** (left pending, never claimed), because of
holes: an unresolved hole with shift `k = i = c` is lifted by `ushift c` but not by `ushift (c+1)`,
and `openT` leaves it alone.  Counterexample: `t = hole 0 0`, `i = c = s = 0`, `a = 1`: the left
side is `hole 0 1`, the right side `hole 0 0`. -/
def C11_open_ushift_comm_refuted_stmt : Prop := ¬ C11_open_ushift_comm_unrestricted
theorem C11_open_ushift_comm_refuted : C11_open_ushift_comm_refuted_stmt := by
  intro h
  have := h (.hole 0 0) (.lit 5) 0 0 1 0 (Nat.le_refl _)
  revert this
  decide

/-- Opening commutes with lifting above the opened index (corrected: `t` hole-free — the domain of
C11; `u` is arbitrary). -/
def C11_open_ushift_comm_fixed_stmt : Prop :=
  ∀ (t u : Tm) (i c a s : Nat), t.holeFree = true → i ≤ c →
    ushift c a (openT t i u s) = openT (ushift (c + 1) a t) i (ushift (c - s) a u) s
theorem C11_open_ushift_comm_fixed : C11_open_ushift_comm_fixed_stmt := open_ushift_high

/-- Opening commutes with lifting below the opened index (every term, holes included). -/
def C11_open_ushift_low_stmt : Prop :=
  ∀ (t u : Tm) (i c a s : Nat), c ≤ i → c ≤ s →
    ushift c a (openT t i u s) = openT (ushift c a t) (i + a) u (s + a)
theorem C11_open_ushift_low : C11_open_ushift_low_stmt := open_ushift_low

/-- Two lifts whose ranges touch merge into one. -/
def C11_ushift_merge_stmt : Prop :=
  ∀ (t : Tm) (c d a b : Nat), d ≤ c → c ≤ d + b → ushift c a (ushift d b t) = ushift d (a + b) t
theorem C11_ushift_merge : C11_ushift_merge_stmt := ushift_ushift_mid

/-! ## Non-vacuity: concrete non-trivial instances of the hypotheses -/

-- a two-definition group with a variable pointing outside it: shifting down by 1 at cutoff 0 fails
-- exactly because variable 0 (index 2 inside the group) is free
def C11_ex1 : Tm := .letg (.cons 0 .int (.var 1 2) (.cons 1 .int (.var 0 1) .nil)) (.var 0 0)
example : C11_ex1.holeFree = true ∧ sshift 0 (-1) C11_ex1 = none ∧ freeAt C11_ex1 0 = true := by
  decide

-- and succeeds, agreeing with `openT`, when the outside variable is 1
def C11_ex2 : Tm := .letg (.cons 0 .int (.var 1 3) (.cons 1 .int (.var 0 1) .nil)) (.var 0 0)
example : C11_ex2.holeFree = true ∧ freeAt C11_ex2 0 = false ∧
    sshift 0 (-1) C11_ex2 = some (openT C11_ex2 0 (.lit 5) 0) := by decide

/-- Named terms (the group-free fragment: variables by name, binders `x => b`, `(x : d) -> c`, application,
arithmetic, conditionals, constants). -/
inductive NTm : Type
  | var (x : Name)
  | lam (x : Name) (d b : NTm)
  | pi (x : Name) (d c : NTm)
  | app (f a : NTm)
  | neg (a : NTm)
  | bin (op : BinOp) (a b : NTm)
  | ite (c a b : NTm)
  | lit (n : Int)
  | tt | ff | type | int | bool

/-- translation to de Bruijn terms under the stack of enclosing binder names (innermost first): a variable
becomes the position of the nearest binder of its name; an unbound name has no translation -/
def NTm.toDB (Γ : List Name) : NTm → Option Tm
  | .var x => (Γ.idxOf? x).map (Tm.var x)
  | .lam x d b =>
      match d.toDB Γ, b.toDB (x :: Γ) with
      | some d', some b' => some (.lam x false d' b')
      | _, _ => none
  | .pi x d c =>
      match d.toDB Γ, c.toDB (x :: Γ) with
      | some d', some c' => some (.pi x false d' c')
      | _, _ => none
  | .app f a =>
      match f.toDB Γ, a.toDB Γ with
      | some f', some a' => some (.app f' a')
      | _, _ => none
  | .neg a =>
      match a.toDB Γ with
      | some a' => some (.neg a')
      | none => none
  | .bin op a b =>
      match a.toDB Γ, b.toDB Γ with
      | some a', some b' => some (.bin op a' b')
      | _, _ => none
  | .ite c a b =>
      match c.toDB Γ, a.toDB Γ, b.toDB Γ with
      | some c', some a', some b' => some (.ite c' a' b')
      | _, _, _ => none
  | .lit n => some (.lit n)
  | .tt => some .tt
  | .ff => some .ff
  | .type => some .type
  | .int => some .int
  | .bool => some .bool

def NTm.binders : NTm → List Name
  | .lam x d b => x :: (d.binders ++ b.binders)
  | .pi x d b => x :: (d.binders ++ b.binders)
  | .app f a => f.binders ++ a.binders
  | .neg a => a.binders
  | .bin _ a b => a.binders ++ b.binders
  | .ite c a b => c.binders ++ a.binders ++ b.binders
  | _ => []

def NTm.free : NTm → List Name
  | .var x => [x]
  | .lam x d b => d.free ++ (b.free.filter (· ≠ x))
  | .pi x d b => d.free ++ (b.free.filter (· ≠ x))
  | .app f a => f.free ++ a.free
  | .neg a => a.free
  | .bin _ a b => a.free ++ b.free
  | .ite c a b => c.free ++ a.free ++ b.free
  | _ => []

/-- substitution of `u` for the free occurrences of `x`; it is capture avoiding whenever no binder of the term
binds `x` or a free name of `u` — gram's own discipline (re-binding a name in scope is an error) -/
def NTm.subst (x : Name) (u : NTm) : NTm → NTm
  | .var y => if y = x then u else .var y
  | .lam y d b => .lam y (NTm.subst x u d) (let b' := NTm.subst x u b; if y = x then b else b')
  | .pi y d c => .pi y (NTm.subst x u d) (let c' := NTm.subst x u c; if y = x then c else c')
  | .app f a => .app (NTm.subst x u f) (NTm.subst x u a)
  | .neg a => .neg (NTm.subst x u a)
  | .bin op a b => .bin op (NTm.subst x u a) (NTm.subst x u b)
  | .ite c a b => .ite (NTm.subst x u c) (NTm.subst x u a) (NTm.subst x u b)
  | .lit n => .lit n
  | .tt => .tt
  | .ff => .ff
  | .type => .type
  | .int => .int
  | .bool => .bool

namespace NamedLemmas

theorem free_under_binder {l Γ₁ Δ : List Name} {x : Name}
    (hf : ∀ y ∈ l.filter (· ≠ x), y ∉ Γ₁ → y ∉ Δ) : ∀ y ∈ l, y ∉ x :: Γ₁ → y ∉ Δ :=
  fun y hy hn => hf y (List.mem_filter.2 ⟨hy, decide_eq_true fun e => hn (e ▸ List.mem_cons_self)⟩)
    fun h => hn (List.mem_cons_of_mem _ h)

/-- **Weakening, general form**: inserting the names `Δ` at depth `Γ₁.length` shifts the translation by `Δ.length`
at cutoff `Γ₁.length` (and a term with an unbound name still has none), provided no free name of `t` that is not
already captured by `Γ₁` is among the inserted names.  Nothing is asked of the binders of `t`. -/
theorem toDB_insert (t : NTm) : ∀ (Γ₁ Δ Γ₂ : List Name), (∀ y ∈ t.free, y ∉ Γ₁ → y ∉ Δ) →
    t.toDB (Γ₁ ++ (Δ ++ Γ₂)) = (t.toDB (Γ₁ ++ Γ₂)).map (ushift Γ₁.length Δ.length) := by
  induction t with
  | var x =>
    intro Γ₁ Δ Γ₂ hf
    simp only [NTm.toDB, idxOf?_insert x Γ₁ Δ Γ₂ (hf x (.head _)), Option.map_map]
    refine congrArg (Option.map · _) (funext fun i => ?_)
    simp only [Function.comp, ushift]; split <;> rfl
  | lam x d b ihd ihb | pi x d b ihd ihb =>
    intro Γ₁ Δ Γ₂ hf
    have e := ihb (x :: Γ₁) Δ Γ₂ (free_under_binder fun y hy => hf y (List.mem_append_right _ hy))
    simp only [List.cons_append] at e
    simp only [NTm.toDB, ihd Γ₁ Δ Γ₂ fun y hy => hf y (List.mem_append_left _ hy), e]
    cases d.toDB (Γ₁ ++ Γ₂) <;> cases b.toDB (x :: (Γ₁ ++ Γ₂)) <;> rfl
  | app f a ihf iha | bin _ f a ihf iha =>
    intro Γ₁ Δ Γ₂ hf
    simp only [NTm.toDB, ihf Γ₁ Δ Γ₂ fun y hy => hf y (List.mem_append_left _ hy),
      iha Γ₁ Δ Γ₂ fun y hy => hf y (List.mem_append_right _ hy)]
    cases f.toDB (Γ₁ ++ Γ₂) <;> cases a.toDB (Γ₁ ++ Γ₂) <;> rfl
  | neg a iha =>
    intro Γ₁ Δ Γ₂ hf
    simp only [NTm.toDB, iha Γ₁ Δ Γ₂ hf]
    cases a.toDB (Γ₁ ++ Γ₂) <;> rfl
  | ite c a b ihc iha ihb =>
    intro Γ₁ Δ Γ₂ hf
    simp only [NTm.toDB, ihc Γ₁ Δ Γ₂ fun y hy => hf y (List.mem_append_left _ (List.mem_append_left _ hy)),
      iha Γ₁ Δ Γ₂ fun y hy => hf y (List.mem_append_left _ (List.mem_append_right _ hy)),
      ihb Γ₁ Δ Γ₂ fun y hy => hf y (List.mem_append_right _ hy)]
    cases c.toDB (Γ₁ ++ Γ₂) <;> cases a.toDB (Γ₁ ++ Γ₂) <;> cases b.toDB (Γ₁ ++ Γ₂) <;> rfl
  | lit | tt | ff | type | int | bool => intros; rfl

theorem subst_lam {x y : Name} (u d b : NTm) (h : y ≠ x) :
    NTm.subst x u (.lam y d b) = .lam y (NTm.subst x u d) (NTm.subst x u b) :=
  congrArg (NTm.lam y _) (if_neg h)

theorem subst_pi {x y : Name} (u d c : NTm) (h : y ≠ x) :
    NTm.subst x u (.pi y d c) = .pi y (NTm.subst x u d) (NTm.subst x u c) :=
  congrArg (NTm.pi y _) (if_neg h)

/-- **Substitution at depth**: `b` lives under the binders `Γ₁` crossed so far (none of them `x`, none free in `u`),
then `x`, then `Γ`; `u` lives in `Γ`; no binder of `b` re-binds `x` or a free name of `u`.  Translating the
substituted term under `Γ₁ ++ Γ` is opening the translation at index `Γ₁.length`, the inserted term lifted by
`Γ₁.length`.  Distinctness of the names of `Γ`, of the binders of `b`, and freshness of the binders with respect to
`Γ` are not needed; nothing is asked of the binders of `u`. -/
theorem toDB_subst (x : Name) (u : NTm) (u' : Tm) (Γ : List Name) (hu : u.toDB Γ = some u') (b : NTm) :
    ∀ (Γ₁ : List Name), x ∉ Γ₁ → (∀ y ∈ Γ₁, y ∉ u.free) → (∀ y ∈ b.binders, y ≠ x ∧ y ∉ u.free) →
      (NTm.subst x u b).toDB (Γ₁ ++ Γ) =
        (b.toDB (Γ₁ ++ x :: Γ)).map (openT · Γ₁.length u' Γ₁.length) := by
  induction b with
  | var y =>
    intro Γ₁ hx hΓ₁ _
    unfold NTm.subst
    by_cases e : y = x
    · subst e
      have := toDB_insert u [] Γ₁ Γ (fun z hz _ hz' => hΓ₁ z hz' hz)
      simp only [List.nil_append, hu] at this
      rw [if_pos rfl, this, NTm.toDB, idxOf?_middle y Γ₁ Γ hx]
      simp only [Option.map_some, openT, if_pos, List.length_nil]
    · obtain ⟨hne, h2⟩ := idxOf?_remove x y Γ₁ Γ e
      rw [if_neg e, NTm.toDB, NTm.toDB, h2]
      cases hj : (Γ₁ ++ x :: Γ).idxOf? y with
      | none => rfl
      | some j =>
        simp only [Option.map_some, openT, if_neg (fun e => hne (hj.trans (congrArg some e)))]
        split <;> rfl
  | lam y d b ihd ihb | pi y d b ihd ihb =>
    intro Γ₁ hx hΓ₁ hb
    have hy := hb y (.head _)
    have e := ihb (y :: Γ₁) (List.not_mem_cons_of_ne_of_not_mem hy.1.symm hx)
      (List.forall_mem_cons.2 ⟨hy.2, hΓ₁⟩) (fun z hz => hb z (.tail _ (List.mem_append_right _ hz)))
    simp only [List.cons_append] at e
    first | rw [subst_lam u d b hy.1] | rw [subst_pi u d b hy.1]
    simp only [NTm.toDB, ihd Γ₁ hx hΓ₁ fun z hz => hb z (.tail _ (List.mem_append_left _ hz)), e]
    cases d.toDB (Γ₁ ++ x :: Γ) <;> cases b.toDB (y :: (Γ₁ ++ x :: Γ)) <;> rfl
  | app f a ihf iha | bin _ f a ihf iha =>
    intro Γ₁ hx hΓ₁ hb
    simp only [NTm.subst, NTm.toDB, ihf Γ₁ hx hΓ₁ fun z hz => hb z (List.mem_append_left _ hz),
      iha Γ₁ hx hΓ₁ fun z hz => hb z (List.mem_append_right _ hz)]
    cases f.toDB (Γ₁ ++ x :: Γ) <;> cases a.toDB (Γ₁ ++ x :: Γ) <;> rfl
  | neg a iha =>
    intro Γ₁ hx hΓ₁ hb
    simp only [NTm.subst, NTm.toDB, iha Γ₁ hx hΓ₁ hb]
    cases a.toDB (Γ₁ ++ x :: Γ) <;> rfl
  | ite c a b ihc iha ihb =>
    intro Γ₁ hx hΓ₁ hb
    simp only [NTm.subst, NTm.toDB,
      ihc Γ₁ hx hΓ₁ fun z hz => hb z (List.mem_append_left _ (List.mem_append_left _ hz)),
      iha Γ₁ hx hΓ₁ fun z hz => hb z (List.mem_append_left _ (List.mem_append_right _ hz)),
      ihb Γ₁ hx hΓ₁ fun z hz => hb z (List.mem_append_right _ hz)]
    cases c.toDB (Γ₁ ++ x :: Γ) <;> cases a.toDB (Γ₁ ++ x :: Γ) <;> cases b.toDB (Γ₁ ++ x :: Γ) <;> rfl
  | lit | tt | ff | type | int | bool => intros; rfl

end NamedLemmas

/-- **`open` is capture-avoiding substitution.**  Let `b` be a named term in the scope of binders `x :: Γ`
(names pairwise distinct, as gram demands) and `u` a term in the scope of `Γ`, no binder inside `b` re-binding
`x`, a name of `Γ` or a free name of `u`.  Then translating the substituted term is opening the translation:
`toDB Γ (b[u/x]) = open (toDB (x :: Γ) b) 0 (toDB Γ u) 0`. -/
def C11_open_is_named_substitution_stmt : Prop :=
  ∀ (Γ : List Name) (x : Name) (b u : NTm) (b' u' : Tm),
    (x :: Γ).Nodup → (∀ y ∈ b.binders, y ≠ x ∧ y ∉ Γ ∧ y ∉ u.free) → b.binders.Nodup →
    b.toDB (x :: Γ) = some b' → u.toDB Γ = some u' →
    (NTm.subst x u b).toDB Γ = some (openT b' 0 u' 0)
theorem C11_open_is_named_substitution : C11_open_is_named_substitution_stmt := by
  intro Γ x b u b' u' _ hb _ hb' hu
  have := NamedLemmas.toDB_subst x u u' Γ hu b [] (by simp) (by simp)
    (fun y hy => ⟨(hb y hy).1, (hb y hy).2.2⟩)
  rw [List.nil_append, List.nil_append, hb'] at this
  exact this

/-- **Shifting is weakening**: translating a term under one more enclosing binder (a fresh name, inserted at
depth `c`) is shifting the translation by one at cutoff `c`. -/
def C11_shift_is_named_weakening_stmt : Prop :=
  ∀ (Γ₁ Γ₂ : List Name) (z : Name) (t : NTm) (t' : Tm),
    z ∉ Γ₁ → z ∉ t.free → z ∉ t.binders →
    t.toDB (Γ₁ ++ Γ₂) = some t' → t.toDB (Γ₁ ++ z :: Γ₂) = some (ushift Γ₁.length 1 t')
theorem C11_shift_is_named_weakening : C11_shift_is_named_weakening_stmt := by
  intro Γ₁ Γ₂ z t t' _ hz _ h
  have := NamedLemmas.toDB_insert t Γ₁ [z] Γ₂
    (fun y hy _ hy' => hz (by rw [List.mem_singleton] at hy'; exact hy' ▸ hy))
  rw [h] at this
  exact this

/-! ### Non-vacuity of the two named-calculus theorems (names: `x = 0`, `y = 1`, `z = 2`, `w = 3`) -/

-- `(y => x + y)[z 1 / x]` under `Γ = [z]`: every hypothesis of `C11_open_is_named_substitution` holds, both
-- translations exist, and both sides are `y => z 1 + y` with `z` at index 1 under the binder
def C11_ex3_b : NTm := .lam 1 .int (.bin .sum (.var 0) (.var 1))
def C11_ex3_u : NTm := .app (.var 2) (.lit 1)
example :
    (0 :: [2]).Nodup ∧ (∀ y ∈ C11_ex3_b.binders, y ≠ 0 ∧ y ∉ [2] ∧ y ∉ C11_ex3_u.free) ∧
    C11_ex3_b.binders.Nodup ∧
    C11_ex3_b.toDB [0, 2] = some (.lam 1 false .int (.bin .sum (.var 0 1) (.var 1 0))) ∧
    C11_ex3_u.toDB [2] = some (.app (.var 2 0) (.lit 1)) ∧
    (NTm.subst 0 C11_ex3_u C11_ex3_b).toDB [2] =
      some (.lam 1 false .int (.bin .sum (.app (.var 2 1) (.lit 1)) (.var 1 0))) ∧
    openT (.lam 1 false .int (.bin .sum (.var 0 1) (.var 1 0))) 0 (.app (.var 2 0) (.lit 1)) 0 =
      .lam 1 false .int (.bin .sum (.app (.var 2 1) (.lit 1)) (.var 1 0)) := by decide

-- under two binders, the substituted term having a binder of its own whose name (`y`) is also a binder of `b`
-- (harmless: nothing is asked of the binders of `u`): `(y => (w : y) -> x w z)[(y => z y) / x]` under `Γ = [z]`;
-- the inserted copy is lifted by 2 (its `z` is index 3 under its own binder), the outer `z` drops from 3 to 2
def C11_ex4_b : NTm := .lam 1 .int (.pi 3 (.var 1) (.app (.app (.var 0) (.var 3)) (.var 2)))
def C11_ex4_u : NTm := .lam 1 .int (.app (.var 2) (.var 1))
example :
    (0 :: [2]).Nodup ∧ (∀ y ∈ C11_ex4_b.binders, y ≠ 0 ∧ y ∉ [2] ∧ y ∉ C11_ex4_u.free) ∧
    C11_ex4_b.binders.Nodup ∧
    C11_ex4_b.toDB [0, 2] =
      some (.lam 1 false .int (.pi 3 false (.var 1 0) (.app (.app (.var 0 2) (.var 3 0)) (.var 2 3)))) ∧
    C11_ex4_u.toDB [2] = some (.lam 1 false .int (.app (.var 2 1) (.var 1 0))) ∧
    (NTm.subst 0 C11_ex4_u C11_ex4_b).toDB [2] =
      some (.lam 1 false .int (.pi 3 false (.var 1 0)
        (.app (.app (.lam 1 false .int (.app (.var 2 3) (.var 1 0))) (.var 3 0)) (.var 2 2)))) ∧
    openT (.lam 1 false .int (.pi 3 false (.var 1 0) (.app (.app (.var 0 2) (.var 3 0)) (.var 2 3)))) 0
        (.lam 1 false .int (.app (.var 2 1) (.var 1 0))) 0 =
      .lam 1 false .int (.pi 3 false (.var 1 0)
        (.app (.app (.lam 1 false .int (.app (.var 2 3) (.var 1 0))) (.var 3 0)) (.var 2 2))) := by decide

-- weakening: `y => y + w` under `[x, w]`, the fresh name `z` inserted at depth 1: `w` moves from index 2 to 3
def C11_ex5 : NTm := .lam 1 .int (.bin .sum (.var 1) (.var 3))
example :
    (2 : Name) ∉ [0] ∧ 2 ∉ C11_ex5.free ∧ 2 ∉ C11_ex5.binders ∧
    C11_ex5.toDB ([0] ++ [3]) = some (.lam 1 false .int (.bin .sum (.var 1 0) (.var 3 2))) ∧
    C11_ex5.toDB ([0] ++ 2 :: [3]) = some (.lam 1 false .int (.bin .sum (.var 1 0) (.var 3 3))) ∧
    ushift 1 1 (.lam 1 false .int (.bin .sum (.var 1 0) (.var 3 2))) =
      .lam 1 false .int (.bin .sum (.var 1 0) (.var 3 3)) := by decide

-- why the side conditions on the binders of `b` are there: with a binder of `b` named like a free name of `u`
-- (`y => x` and `u = y`, `Γ = [y]`) naive substitution captures — the two sides differ
example :
    (NTm.subst 0 (.var 1) (.lam 1 .int (.var 0))).toDB [1] = some (.lam 1 false .int (.var 1 0)) ∧
    openT (.lam 1 false .int (.var 0 1)) 0 (.var 1 0) 0 = .lam 1 false .int (.var 1 1) := by decide

/-! ## The model functions are what `de_bruijn.rs` / `term.rs` say, arm by arm (tables regenerated on every run)

`Generated/Arms.lean` is rewritten from the Rust sources by `extract/arms.py` on every run: for every match arm of
`signed_shift`, `open` and `free_variables` — one row per Rust variant, nine rows for the nine binary operators —
which children are traversed, where they are put back, and how cutoff / index / shift amount change on the way
down.  `gshift`, `gopen`, `gfv` (`Lemmas/ArmsTie.lean`) interpret the tables; the statements below say the
interpretation IS the model function the other theorems of this file are about.  A changed Rust arm changes its
row and these theorems stop checking. -/

/-- `sshift` is the interpretation of the `signed_shift` table. -/
def C11_shift_arms_tie_stmt : Prop :=
  ∀ (t : Tm) (c : Nat) (amt : Int),
    gshift Generated.shiftArms Generated.shiftLeaves c amt t = sshift c amt t
theorem C11_shift_arms_tie : C11_shift_arms_tie_stmt := gshift_eq

/-- `openT` is the interpretation of the `open` table. -/
def C11_open_arms_tie_stmt : Prop :=
  ∀ (t : Tm) (i : Nat) (u : Tm) (s : Nat),
    gopen Generated.openArms Generated.openLeaves t i u s = some (openT t i u s)
theorem C11_open_arms_tie : C11_open_arms_tie_stmt := gopen_eq

/-- `freeVars` is the interpretation of the `free_variables` table. -/
def C11_fv_arms_tie_stmt : Prop :=
  ∀ (t : Tm) (c : Nat), gfv Generated.fvArms Generated.fvLeaves t c = some (freeVars t c)
theorem C11_fv_arms_tie : C11_fv_arms_tie_stmt := gfv_eq

/-- Every congruence row is well formed (rebuilds the variant it matched; traverses exactly that variant's
children and puts each back in its own place), and the `Variable` / `Unifier` arms — the only arms with
arithmetic on indices — are textually the ones the model was written from (CRC-32 of their comment-free text). -/
def C11_arms_wellformed_stmt : Prop :=
  (∀ a ∈ Generated.shiftArms ++ Generated.openArms ++ Generated.fvArms, a.wf = true) ∧
  Generated.shiftVariableArm = 1290892399 ∧ Generated.openVariableArm = 684542426 ∧
  Generated.fvVariableArm = 158030752 ∧
  Generated.shiftUnifierArm = 2823872755 ∧ Generated.openUnifierArm = 2957908884 ∧
  Generated.fvUnifierArm = 4058066136
theorem C11_arms_wellformed : C11_arms_wellformed_stmt := by
  unfold C11_arms_wellformed_stmt; decide

-- non-vacuity: the interpreted table shifts under a binder and inside a two-definition group
example : gshift Generated.shiftArms Generated.shiftLeaves 0 2
    (.lam 1 false (.var 2 0) (.letg (.cons 3 .int (.var 2 3) (.cons 4 .int (.var 3 1) .nil)) (.bin .quot (.var 2 3) (.var 4 0))))
    = some (.lam 1 false (.var 2 2) (.letg (.cons 3 .int (.var 2 5) (.cons 4 .int (.var 3 1) .nil)) (.bin .quot (.var 2 5) (.var 4 0)))) := by
  decide


/-! ## Transparency of the store layer on fully solved terms

The functions the implementation runs when solved unification holes are around (`sshiftS`, `ushiftS`, `openS` of
`Store.lean`, `freeAtS` of `Print.lean`: the `Unifier(Some(..), k)` arms of `signed_shift`, `open`, `free_variables`,
which read the hole as `unsigned_shift(solution, 0, k)` and go on) compute, on a term all of whose reachable cells
are solved, literally what the pure functions of this file compute on the zonked term — at every fuel at which they
answer — and leave the state as it was.  So every law above transfers. -/

open StoreTransparent in
/-- `FullySolved σ t`: `zonk` answers with a hole-free term; `fullySolvedB` is an executable checker for it. -/
def C11_store_fully_solved_checker_stmt : Prop :=
  ∀ (fuel : Nat) (σ : List (Option Tm)) (t : Tm), fullySolvedB fuel σ t = true → FullySolved σ t
theorem C11_store_fully_solved_checker : C11_store_fully_solved_checker_stmt :=
  fun _ _ _ h => StoreTransparent.fullySolvedB_sound h

/-- `sshiftS` on a fully solved term: the state is unchanged (nothing allocated, nothing written), the answer is
the pure shift of the zonked term — `none` exactly when the pure shift fails — and a returned term is hole-free, so
it is its own zonk.  With fuel `> n + size z` (`n` = a fuel at which `zonk` answers) `sshiftS` does answer. -/
def C11_store_shift_transparent_stmt : Prop :=
  ∀ (n c : Nat) (amt : Int) (t z : Tm) (s : St),
    zonk n s.store t = some z → z.holeFree = true →
    (∀ (f : Nat) (o : Option Tm) (s' : St), sshiftS f c amt t s = .ok o s' →
      s' = s ∧ o = sshift c amt z ∧ (o = none ↔ sshift c amt z = none) ∧
      ∀ t', o = some t' → t'.holeFree = true ∧ sshift c amt z = some t' ∧
        ∃ m, zonk m s.store t' = some t') ∧
    (∀ f, n + z.size < f → sshiftS f c amt t s = .ok (sshift c amt z) s)
theorem C11_store_shift_transparent : C11_store_shift_transparent_stmt := by
  intro n c amt t z s hz hf
  refine ⟨fun f o s' h => ?_, fun f hfu => StoreTransparent.sshiftS_total hz hf hfu⟩
  obtain ⟨rfl, rfl⟩ := StoreTransparent.sshiftS_transparent ⟨n, hz⟩ hf h
  refine ⟨rfl, rfl, Iff.rfl, fun t' e => ?_⟩
  have hf' : t'.holeFree = true := by rw [StoreTransparent.sshift_hf z c amt t' e]; exact hf
  exact ⟨hf', e, UnifySound.Zk_holeFree t' hf'⟩

/-- `unsigned_shift` on a fully solved term is the pure unsigned shift of the zonked term (and never panics at
`unwrap`: with enough fuel it answers). -/
def C11_store_ushift_transparent_stmt : Prop :=
  ∀ (n c a : Nat) (t z : Tm) (s : St),
    zonk n s.store t = some z → z.holeFree = true →
    (∀ (f : Nat) (r : Tm) (s' : St), ushiftS f c a t s = .ok r s' → s' = s ∧ r = ushift c a z) ∧
    (∀ f, n + z.size < f → ushiftS f c a t s = .ok (ushift c a z) s)
theorem C11_store_ushift_transparent : C11_store_ushift_transparent_stmt := by
  intro n c a t z s hz hf
  refine ⟨fun f r s' h => ?_, fun f hfu => StoreTransparent.ushiftS_total hz hf hfu⟩
  obtain ⟨rfl, rfl⟩ := StoreTransparent.ushiftS_solved f c a t z s ⟨n, hz⟩ hf r s' h
  exact ⟨rfl, rfl⟩

/-- `openS` on fully solved `t` and `u` allocates no cell (the state is unchanged) and returns the pure opening of
the zonked terms, a hole-free term. -/
def C11_store_open_transparent_stmt : Prop :=
  ∀ (f n m i sh : Nat) (t u zt zu r : Tm) (s s' : St),
    zonk n s.store t = some zt → zt.holeFree = true →
    zonk m s.store u = some zu → zu.holeFree = true →
    openS f t i u sh s = .ok r s' →
    s' = s ∧ r = openT zt i zu sh ∧ r.holeFree = true ∧ ∃ k, zonk k s.store r = some (openT zt i zu sh)
theorem C11_store_open_transparent : C11_store_open_transparent_stmt := by
  intro f n m i sh t u zt zu r s s' hz hf hzu hfu h
  obtain ⟨rfl, rfl⟩ := StoreTransparent.openS_transparent ⟨n, hz⟩ hf ⟨m, hzu⟩ hfu h
  have hr := openT_holeFree zt i zu sh hf hfu
  exact ⟨rfl, rfl, hr, UnifySound.Zk_holeFree _ hr⟩

/-- The store-aware free-variable test of the printer (`free_variables(t, i, ..).contains(&0)`, `freeAtS`) on a
fully solved term is the pure test on the zonked term; and `free_variables` as a whole (`freeVarsS`, the `Unifier`
arm of `term.rs` included) returns the free variables of the zonked term, in the same order and multiplicity. -/
def C11_store_fv_transparent_stmt : Prop :=
  ∀ (n : Nat) (σ : List (Option Tm)) (t z : Tm),
    zonk n σ t = some z → z.holeFree = true →
    (∀ (f i : Nat) (b : Bool), freeAtS f σ t i = some b → b = freeAt z i) ∧
    (∀ (f c : Nat) (l : List Nat), StoreTransparent.freeVarsS f σ t c = some l → l = freeVars z c)
theorem C11_store_fv_transparent : C11_store_fv_transparent_stmt := by
  intro n σ t z hz hf
  exact ⟨fun f i b h => StoreTransparent.freeAtS_transparent ⟨n, hz⟩ hf h,
    fun f c l h => StoreTransparent.freeVarsS_transparent ⟨n, hz⟩ hf h⟩

/-- The C11 laws transfer to the store layer on fully solved terms, modulo `zonk`: shifting by zero returns the
zonked term; two unsigned shifts compose additively (and agree with the single shift by the sum); a downward shift
undoes an upward one; opening at a variable that (by the store-aware test) does not occur is shifting down by one. -/
def C11_store_laws_stmt : Prop :=
  ∀ (n : Nat) (t z : Tm) (s : St), zonk n s.store t = some z → z.holeFree = true →
    (∀ f c o s', sshiftS f c 0 t s = .ok o s' → o = some z ∧ s' = s) ∧
    (∀ f g h c a b t1 s1 t2 s2 t3 s3, ushiftS f c b t s = .ok t1 s1 → ushiftS g c a t1 s1 = .ok t2 s2 →
      ushiftS h c (a + b) t s = .ok t3 s3 → t2 = ushift c (a + b) z ∧ t3 = t2 ∧ s2 = s ∧ s3 = s) ∧
    (∀ f g c a t1 s1 o s2, ushiftS f c a t s = .ok t1 s1 → sshiftS g c (-(a : Int)) t1 s1 = .ok o s2 →
      o = some z ∧ s2 = s) ∧
    (∀ f g h m i sh u zu r s1 o s2, zonk m s.store u = some zu → zu.holeFree = true →
      freeAtS f s.store t i = some false → openS g t i u sh s = .ok r s1 →
      sshiftS h i (-1) t s = .ok o s2 → o = some r ∧ s1 = s ∧ s2 = s)
theorem C11_store_laws : C11_store_laws_stmt := by
  intro n t z s hz hf
  have hZ : UnifySound.Zk s.store t z := ⟨n, hz⟩
  refine ⟨?_, ?_, ?_, ?_⟩
  · intro f c o s' h
    obtain ⟨rfl, rfl⟩ := StoreTransparent.sshiftS_transparent hZ hf h
    exact ⟨C11_shift_zero z c, rfl⟩
  · intro f g h c a b t1 s1 t2 s2 t3 s3 h1 h2 h3
    obtain ⟨rfl, rfl⟩ := StoreTransparent.ushiftS_solved f c b t z s hZ hf _ _ h1
    have hf1 : (ushift c b z).holeFree = true := by rw [holeFree_ushift]; exact hf
    obtain ⟨rfl, rfl⟩ := StoreTransparent.ushiftS_solved g c a _ _ s1
      (UnifySound.Zk_holeFree _ hf1) hf1 _ _ h2
    obtain ⟨rfl, rfl⟩ := StoreTransparent.ushiftS_solved h c (a + b) t z s2 hZ hf _ _ h3
    exact ⟨ushift_ushift z c a b, (ushift_ushift z c a b).symm, rfl, rfl⟩
  · intro f g c a t1 s1 o s2 h1 h2
    obtain ⟨rfl, rfl⟩ := StoreTransparent.ushiftS_solved f c a t z s hZ hf _ _ h1
    have hf1 : (ushift c a z).holeFree = true := by rw [holeFree_ushift]; exact hf
    obtain ⟨rfl, rfl⟩ := StoreTransparent.sshiftS_transparent (UnifySound.Zk_holeFree _ hf1) hf1 h2
    exact ⟨sshift_neg_ushift z c a, rfl⟩
  · intro f g h m i sh u zu r s1 o s2 hzu hfu hfree ho hs
    have hb := StoreTransparent.freeAtS_transparent hZ hf hfree
    obtain ⟨rfl, rfl⟩ := StoreTransparent.openS_transparent hZ hf ⟨m, hzu⟩ hfu ho
    obtain ⟨rfl, rfl⟩ := StoreTransparent.sshiftS_transparent hZ hf hs
    exact ⟨C11_open_not_free z i zu sh hf hb.symm, rfl, rfl⟩

/-- With enough fuel `openS` and `freeAtS` do answer on fully solved terms (the counterpart of the second half of
`C11_store_shift_transparent`); `f0 = n + size zt + m + size zu + 1` works. -/
def C11_store_open_fv_total_stmt : Prop :=
  ∀ (n m i sh : Nat) (t u zt zu : Tm) (s : St),
    zonk n s.store t = some zt → zt.holeFree = true →
    zonk m s.store u = some zu → zu.holeFree = true →
    ∃ f0, ∀ f, f0 ≤ f →
      openS f t i u sh s = .ok (openT zt i zu sh) s ∧ freeAtS f s.store t i = some (freeAt zt i)
theorem C11_store_open_fv_total : C11_store_open_fv_total_stmt := by
  intro n m i sh t u zt zu s hz hf hzu hfu
  refine ⟨n + zt.size + m + zu.size + 1, fun f hle => ⟨?_, ?_⟩⟩
  · exact StoreTransparent.openS_total hz hf hzu hfu (by omega)
  · exact StoreTransparent.freeAtS_total hz hf (by omega)

/-! ### Non-vacuity: a store with a chain of solved cells with non-zero shifts (cell 0 mentions cell 1 shifted by
one; cell 2 is unsolved and unreachable), a term under a binder mentioning cell 0 shifted by two -/

namespace C11StoreExample
open StoreTransparent

def σ0 : List (Option Tm) :=
  [ some (.app (.var 7 0) (.hole 1 1)),
    some (.lam 8 false .int (.bin .sum (.var 8 0) (.var 9 2))),
    none ]
def b0 : Tm := .app (.hole 0 2) (.var 5 0)
def t0 : Tm := .lam 5 false (.hole 1 0) b0
def zu0 : Tm := .lam 8 false .int (.bin .sum (.var 8 0) (.var 9 5))
def zb0 : Tm := .app (.app (.var 7 2) zu0) (.var 5 0)
def z0 : Tm := .lam 5 false (.lam 8 false .int (.bin .sum (.var 8 0) (.var 9 2))) zb0

example : zonk 12 σ0 t0 = some z0 ∧ z0.holeFree = true ∧ fullySolvedB 12 σ0 t0 = true := by decide
-- upward shift under a cutoff: both sides evaluated
example : runOut (sshiftS 20 1 2 t0 { store := σ0 }) = some (sshift 1 2 z0, σ0) ∧
    sshift 1 2 z0 = some (.lam 5 false (.lam 8 false .int (.bin .sum (.var 8 0) (.var 9 4)))
      (.app (.app (.var 7 4) (.lam 8 false .int (.bin .sum (.var 8 0) (.var 9 7)))) (.var 5 0))) := by decide
-- a failing downward shift fails on both sides, a succeeding one succeeds on both
example : runOut (sshiftS 20 1 (-1) t0 { store := σ0 }) = some (sshift 1 (-1) z0, σ0) ∧
    sshift 1 (-1) z0 = none := by decide
example : runOut (sshiftS 20 2 (-1) t0 { store := σ0 }) = some (sshift 2 (-1) z0, σ0) ∧
    (sshift 2 (-1) z0).isSome = true := by decide
-- opening the body at its bound variable with a solved hole as the argument
example : zonk 12 σ0 b0 = some zb0 ∧ zonk 12 σ0 (.hole 1 3) = some zu0 ∧
    runOut (openS 20 b0 0 (.hole 1 3) 0 { store := σ0 }) = some (openT zb0 0 zu0 0, σ0) ∧
    openT zb0 0 zu0 0 =
      .app (.app (.var 7 1) (.lam 8 false .int (.bin .sum (.var 8 0) (.var 9 4)))) zu0 := by decide
-- the hypothesis is needed: an UNSOLVED hole met by `openS` allocates a cell (the store grows from 3 to 4)
example : (runOut (openS 20 (.app (.hole 2 2) (.var 5 0)) 0 (.hole 1 3) 0 { store := σ0 })).map
    (fun p => p.2.length) = some 4 := by decide
-- free variables
example : freeAtS 20 σ0 t0 1 = some (freeAt z0 1) ∧ freeAtS 20 σ0 t0 0 = some (freeAt z0 0) ∧
    freeAt z0 1 = true ∧ freeAt z0 0 = false := by decide
example : freeVarsS 20 σ0 t0 0 = some (freeVars z0 0) ∧ freeVars z0 0 = [1, 1, 3] := by decide
-- the theorems instantiated on the example
example : ∀ f o s', sshiftS f 1 2 t0 { store := σ0 } = .ok o s' → o = sshift 1 2 z0 :=
  fun f o s' h => ((C11_store_shift_transparent 12 1 2 t0 z0 { store := σ0 } (by decide) (by decide)).1
    f o s' h).2.1

end C11StoreExample
