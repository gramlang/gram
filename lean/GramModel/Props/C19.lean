import GramModel.Lemmas.RewriteTerms
import GramModel.Lemmas.NamesIrrelevant
import GramModel.Lemmas.ResolveRename
import GramModel.Lemmas.ParenTokens

/-!
# C19 — meaning-preserving rewrites change neither acceptance nor result

The main instrument for this property is the search on the implementation (suite `programs`: every
rewrite kind applied at random sites of every generated program, outcome compared through the real
pipeline).  Proved here, in this order: the evaluation-level facts the rewrites rest on; binder *names*
never influence any semantic function (so consistent renaming cannot change a result); the three typing rewrites for the
independent checker; naming a subexpression and reordering two definitions (conversion, evaluation, printed value);
redundant parentheses at tree and at token level; consistent renaming at source level; layout independence of name
resolution.
-/

/-- `if true then e else e'` evaluates to `e` in one step, `e'` is discarded unevaluated. -/
def C19_if_true_stmt : Prop := ∀ (e e' : Tm), Step (.ite .tt e e') e
theorem C19_if_true : C19_if_true_stmt := fun _ _ => Step.iteT

/-- An immediately applied annotated identity function returns its (value) argument unchanged. -/
def C19_identity_wrap_stmt : Prop :=
  ∀ (x : Name) (im : Bool) (A v : Tm), isValue v = true → Step (.app (.lam x im A (.var x 0)) v) v
theorem C19_identity_wrap : C19_identity_wrap_stmt := by
  intro x im A v hv
  have h := @Step.beta x im A (.var x 0) v hv
  simpa [openT, ushift_zero] using h

/-- An unused value definition is dropped: a group of one value definition whose variable does not
occur in the body evaluates to the body (lowered out of the group). -/
def C19_unused_definition_stmt : Prop :=
  ∀ (x : Name) (ann d b : Tm), isValue d = true →
    Steps (.letg (.cons x ann d .nil) (ushift 0 1 b)) b
theorem C19_unused_definition : C19_unused_definition_stmt := by
  intro x ann d b hv
  have := RewriteMore.name_eval_gen (x := x) (A := ann) (ushift 0 1 b) (.refl (t := d)) hv
  rwa [open_ushift_cancel] at this

/-- Naming a (value) subexpression: `x = v; x` evaluates to the unfolding of `v`, which for a `v`
that does not mention `x` is `v` itself. -/
def C19_name_subexpression_stmt : Prop :=
  ∀ (x : Name) (ann v : Tm), isValue v = true →
    Steps (.letg (.cons x ann (ushift 0 1 v) .nil) (.var x 0)) v
theorem C19_name_subexpression : C19_name_subexpression_stmt := by
  intro x ann v hv
  have := RewriteMore.name_eval_gen (x := x) (A := ann) (.var x 0) (.refl (t := ushift 0 1 v))
    (by rw [RewriteMore.isValue_ushift]; exact hv)
  simpa [openT, RewriteMore.unfoldDef_nonrec, ushift_zero] using this

/-! `eraseNames` (forget every binder / variable name) is the relabelling `Relab.names fun _ => 0`, and every semantic
function — the independent checker included, for `C19_typing_names` — commutes with `Relab.names ρ` for every `ρ`
(`Lemmas/NamesIrrelevant.lean`). -/

/-- Names never influence shifting, opening, values or evaluation: every semantic function commutes
with forgetting names.  (Two programs that differ by a consistent renaming of bound variables have
the same de Bruijn term up to names, hence the same behaviour.) -/
def C19_names_irrelevant_shift_stmt : Prop :=
  ∀ (t : Tm) (c : Nat) (amt : Int), sshift c amt (eraseNames t) = (sshift c amt t).map eraseNames
theorem C19_names_irrelevant_shift : C19_names_irrelevant_shift_stmt := eraseNames_sshift
def C19_names_irrelevant_open_stmt : Prop :=
  ∀ (t u : Tm) (i s : Nat), openT (eraseNames t) i (eraseNames u) s = eraseNames (openT t i u s)
theorem C19_names_irrelevant_open : C19_names_irrelevant_open_stmt := eraseNames_openT
def C19_names_irrelevant_step_stmt : Prop :=
  ∀ (t : Tm), step (eraseNames t) = (step t).map eraseNames
theorem C19_names_irrelevant_step : C19_names_irrelevant_step_stmt := eraseNames_step
def C19_names_irrelevant_eval_stmt : Prop :=
  ∀ (n : Nat) (t : Tm), evalFuel n (eraseNames t) = eraseNames (evalFuel n t)
theorem C19_names_irrelevant_eval : C19_names_irrelevant_eval_stmt := eraseNames_evalFuel


open FuelLemmas OracleLemmas RewriteTyping

/-- **Typing is invariant under the rewrites** (for the independent checker, which by `C03_infer_sound`
is the declarative system's algorithm).  For a hole-free term `e` that the checker accepts at type `T`
in hole-free contexts:
* `if true then e else e` is accepted at `T`;
* the annotated identity applied to it, `((x : A) => x) e` with `A` convertible to `T` and itself a type,
  is accepted at a type convertible with `T`;
* with an unused definition in front, `(u : int = n; e↑)`, it is accepted at a type convertible with `T`
  (the group unfolds away);
and names never matter: the checker's answer on a term only depends on the term up to names. -/
def C19_typing_if_true_stmt : Prop :=
  ∀ (f : Nat) (Γ : TCtxX) (Δ : DCtxX) (e T : Tm), inferX f Γ Δ e = .ok T →
    ∃ g, inferX g Γ Δ (.ite .tt e e) = .ok T
theorem C19_typing_if_true : C19_typing_if_true_stmt := by
  intro f Γ Δ e T h
  obtain ⟨f, rfl⟩ := inferX_ok_succ h
  exact ⟨f+2, if_true_infer h⟩

def C19_typing_identity_stmt : Prop :=
  ∀ (f : Nat) (Γ : TCtxX) (Δ : DCtxX) (x : Name) (e T : Tm), e.holeFree = true → T.holeFree = true →
    (∀ p ∈ Γ, p.1.holeFree = true) → (∀ p ∈ Δ, ∀ d o, p = some (d, o) → d.holeFree = true) →
    inferX f Γ Δ e = .ok T → inferX f Γ Δ T = .ok .type →
    ∃ g T', inferX g Γ Δ (.app (.lam x false T (.var x 0)) e) = .ok T' ∧ Conv Δ T' T
theorem C19_typing_identity : C19_typing_identity_stmt := by
  intro f Γ Δ x e T _ _ _ _ he hT
  obtain ⟨f, rfl⟩ := inferX_ok_succ he
  exact ⟨f+3, T, identity_infer x he hT, .refl _ _⟩

def C19_typing_unused_def_unrestricted : Prop :=
  ∀ (f : Nat) (Γ : TCtxX) (Δ : DCtxX) (u : Name) (n : Int) (e T : Tm), e.holeFree = true →
    (∀ p ∈ Γ, p.1.holeFree = true) → (∀ p ∈ Δ, ∀ d o, p = some (d, o) → d.holeFree = true) →
    inferX f Γ Δ e = .ok T →
    ∃ g T', inferX g Γ Δ (.letg (.cons u .int (.lit n) .nil) (ushift 0 1 e)) = .ok T' ∧ Conv Δ T' T

/-- `C19_typing_unused_def_unrestricted` is FALSE of the model as stated: it quantifies over arbitrary
contexts, including ones no run of the checker can build, whose entries carry an offset that is *out of
range* (`off > i + 1`: "stored deeper than the context is long").  Such an entry is invisible at its
own depth (`scope` error / stuck normalizer) but becomes visible further in: with `off = i + 2`, one
binder further in it is read with lift `0`, so variable `0` of its term refers to *that binder*; after
an insertion in front of the context the same entry sits one position deeper and is read with lift `1`,
so its variable `0` now refers to the inserted definition — the inserted definition is captured.
Witness (an out-of-range entry in `Δ`):
`Γ = [(int, 0)]`, `Δ = [some (x₀, 2)]`, `e = (y : if x₁ == 5 then int else bool = 5; 0)`.  Inside the
group `x₁` unfolds to `y`, i.e. to `5`, the annotation is `int` and `e` is accepted; after inserting
`u = 7` in front, the same entry unfolds to `u`, the annotation is `bool`, and the term is rejected
with `defMismatch` at every fuel. -/
theorem C19_typing_unused_def_refuted : ¬ C19_typing_unused_def_unrestricted := by
  intro H
  let ds : Defs := .cons 1 (.ite (.bin .eq (.var 0 1) (.lit 5)) .int .bool) (.lit 5) .nil
  have h0 : inferX 9 [(.int, 0)] [some (.var 0 0, 2)] (.letg ds (.lit 0)) = .ok (.letg ds .int) := by rfl
  obtain ⟨g, T', h1, _⟩ := H 9 [(.int, 0)] [some (.var 0 0, 2)] 0 7 (.letg ds (.lit 0)) _ rfl
    (by intro p hp; simp only [List.mem_singleton] at hp; subst hp; rfl)
    (by intro p hp d o he; simp only [List.mem_singleton] at hp; subst hp; cases he; rfl) h0
  have h2 : inferX 9 [(.int, 0)] [some (.var 0 0, 2)]
      (.letg (.cons 0 .int (.lit 7) .nil) (ushift 0 1 (.letg ds (.lit 0)))) = .error .defMismatch := by
    rfl
  cases inferX_det h1 h2 (ne_fuel_of_ok rfl) (by intro c; cases c)

/-- An out-of-range offset in the *typing* context breaks the statement as well, this time without
changing acceptance: with `Γ = [(x₀, 2)]`, `Δ = [none]`, `e = (y : int = 1; x₁)` the checker computes
`T = (y : int = 1; y)`, and for `(u : int = 2; e↑)` it computes `T' = (u : int = 2; y : int = 1; u)` —
the entry's type `x₀` was captured by `y` before and by `u` after the insertion.  `T` normalises to `1`
and `T'` to `2`; the checker's own conversion test answers `false`, and so does the declarative system:
`Conv [none] T' T` would give `Conv [none] 2 1` (the last conjunct), which consistency of `Conv`
(`ConvCoherence.whnf_conv_ground`) refutes. -/
def C19_typing_unused_def_ctx_witness_stmt : Prop :=
  let ds : Defs := .cons 1 .int (.lit 1) .nil
  let T : Tm := .letg ds (.var 0 0)
  let T' : Tm := .letg (.cons 7 .int (.lit 2) .nil) (.letg ds (.var 0 1))
  inferX 3 [(.var 0 0, 2)] [none] (.letg ds (.var 0 1)) = .ok T ∧
  inferX 4 [(.var 0 0, 2)] [none]
    (.letg (.cons 7 .int (.lit 2) .nil) (ushift 0 1 (.letg ds (.var 0 1)))) = .ok T' ∧
  whnfX 4 [none] T = some (.lit 1) ∧ whnfX 5 [none] T' = some (.lit 2) ∧
  convX 6 [none] T' T = some false ∧
  (Conv [none] T' T → Conv [none] (.lit 2) (.lit 1))
theorem C19_typing_unused_def_ctx_witness : C19_typing_unused_def_ctx_witness_stmt := by
  refine ⟨by rfl, by rfl, by rfl, by rfl, by rfl, fun h => ?_⟩
  have h1 : whnfX 4 [none] (.letg (.cons 1 .int (.lit 1) .nil) (.var 0 0)) = some (.lit 1) := by rfl
  have h2 : whnfX 5 [none] (.letg (.cons 7 .int (.lit 2) .nil)
      (.letg (.cons 1 .int (.lit 1) .nil) (.var 0 1))) = some (.lit 2) := by rfl
  exact .trans (.symm (TypingSound.whnfX_conv h2)) (.trans h (TypingSound.whnfX_conv h1))

/-- The corrected statement: the offsets of both contexts are in range (`off ≤ i + 1` for the entry at
position `i` — true of every context the checker builds from the empty one: `λ`/`Π` push offset `0`,
a group of `n` definitions pushes offsets `n, …, 1` at positions `n-1, …, 0`). -/
def C19_typing_unused_def_fixed_stmt : Prop :=
  ∀ (f : Nat) (Γ : TCtxX) (Δ : DCtxX) (u : Name) (n : Int) (e T : Tm), e.holeFree = true →
    (∀ p ∈ Γ, p.1.holeFree = true) → (∀ p ∈ Δ, ∀ d o, p = some (d, o) → d.holeFree = true) →
    (∀ i ty off, Γ[i]? = some (ty, off) → off ≤ i + 1) →
    (∀ i d off, Δ[i]? = some (some (d, off)) → off ≤ i + 1) →
    inferX f Γ Δ e = .ok T →
    ∃ g T', inferX g Γ Δ (.letg (.cons u .int (.lit n) .nil) (ushift 0 1 e)) = .ok T' ∧ Conv Δ T' T
theorem C19_typing_unused_def_fixed : C19_typing_unused_def_fixed_stmt := by
  intro f Γ Δ u n e T he hΓ hD wΓ wΔ h
  refine ⟨f + 2, _, RewriteTyping.unused_def_infer u n he hΓ hD wΓ wΔ h, ?_⟩
  have c := RewriteMore.name_conv_gen Δ u .int (.lit n) (ushift 0 1 T)
  rwa [open_ushift_cancel] at c

def C19_typing_names_stmt : Prop :=
  ∀ (f : Nat) (Γ : TCtxX) (Δ : DCtxX) (e e' : Tm), eraseNames e = eraseNames e' →
    (inferX f Γ Δ e).toOption.map eraseNames = (inferX f Γ Δ e').toOption.map eraseNames
theorem C19_typing_names : C19_typing_names_stmt := by
  intro f Γ Δ e e' h
  have h1 := eraseNames_inferX f Γ Δ e
  have h2 := eraseNames_inferX f Γ Δ e'
  rw [h] at h1
  rw [h1] at h2
  revert h2
  cases inferX f Γ Δ e <;> cases inferX f Γ Δ e' <;> simp [Except.map, Except.toOption]

/-! Naming a subexpression (`Lemmas/RewriteTerms.lean`).  A program `P[s₀]` in which a subexpression `s₀` is named is
`x : A = s₀; b` where `b` is `P` with the variable `x` (index `0`) in place of `s₀`, i.e.
`P[s₀] = openT b 0 s₀ 0`, and the definition is `s₀` lifted over its own name (`ushift 0 1 s₀`). -/

/-- **Naming a subexpression: the two programs are convertible**, in every definitions context and
whether or not `s₀` is a value (unfolding a group is a head reduction of `Conv`). -/
def C19_name_conv_stmt : Prop :=
  ∀ (Δ : DCtxX) (x : Name) (A s₀ b : Tm),
    Conv Δ (.letg (.cons x A (ushift 0 1 s₀) .nil) b) (openT b 0 s₀ 0)
theorem C19_name_conv : C19_name_conv_stmt := RewriteMore.name_conv

/-- the same for a definition that may mention its own name (a recursive function): the group is
convertible with the body in which the variable is replaced by the recursive unfolding `x = s; x` -/
def C19_name_conv_rec_stmt : Prop :=
  ∀ (Δ : DCtxX) (x : Name) (A s b : Tm),
    Conv Δ (.letg (.cons x A s .nil) b) (openT b 0 (unfoldDef x A s 0) 0)
theorem C19_name_conv_rec : C19_name_conv_rec_stmt := RewriteMore.name_conv_gen

/-- **Naming a subexpression: what the evaluator does.**  If the (hole-free) subexpression `s₀`
evaluates to the value `v`, the program `x : A = s₀; b` evaluates to `b[v/x]` (this extends
`C19_name_subexpression`, which is the case `b = x`, `s₀` already a value). -/
def C19_name_eval_stmt : Prop :=
  ∀ (x : Name) (A s₀ v b : Tm), s₀.holeFree = true → Steps s₀ v → isValue v = true →
    Steps (.letg (.cons x A (ushift 0 1 s₀) .nil) b) (openT b 0 v 0)
theorem C19_name_eval : C19_name_eval_stmt := fun _ _ _ _ b hf hs hv => RewriteMore.name_eval b hf hs hv

example : Steps (.letg (.cons 1 .int (ushift 0 1 (.bin .sum (.lit 2) (.lit 3))) .nil)
    (.bin .prod (.var 1 0) (.var 1 0))) (.bin .prod (.lit 5) (.lit 5)) :=
  C19_name_eval 1 .int (.bin .sum (.lit 2) (.lit 3)) (.lit 5) (.bin .prod (.var 1 0) (.var 1 0)) rfl
    (.head (.delta rfl) .refl) rfl

/-- **Naming a subexpression does not change the value printed**: for hole-free `A`, `s₀`, `b`, if one of
the two programs evaluates to a value and the other one to a ground value (an integer literal, `true`,
`false` — what `gram run` prints for a program of type `int` / `bool`), the two results are the same
term. -/
def C19_name_result_stmt : Prop :=
  ∀ (x : Name) (A s₀ b v g : Tm), A.holeFree = true → s₀.holeFree = true → b.holeFree = true →
    ConvCoherence.Ground g → isValue v = true →
    (Steps (.letg (.cons x A (ushift 0 1 s₀) .nil) b) v → Steps (openT b 0 s₀ 0) g → v = g) ∧
    (Steps (openT b 0 s₀ 0) v → Steps (.letg (.cons x A (ushift 0 1 s₀) .nil) b) g → v = g)
theorem C19_name_result : C19_name_result_stmt := by
  intro x A s₀ b v g hA hs hb hg hv
  have hn : (Tm.letg (.cons x A (ushift 0 1 s₀) .nil) b).holeFree = true := by
    simp only [Tm.holeFree, Defs.holeFree, Bool.and_eq_true, holeFree_ushift]
    exact ⟨⟨⟨hA, hs⟩, trivial⟩, hb⟩
  have hi : (openT b 0 s₀ 0).holeFree = true := openT_holeFree _ _ _ _ hb hs
  exact ⟨fun h1 h2 => RewriteMore.conv_results_agree (RewriteMore.name_conv [] x A s₀ b) hn h1 hv h2 hg,
    fun h1 h2 => RewriteMore.conv_results_agree (.symm (RewriteMore.name_conv [] x A s₀ b)) hi h1 hv h2 hg⟩

/-- the same for the fuelled evaluator: whenever both runs end in ground values, these are equal -/
def C19_name_result_eval_stmt : Prop :=
  ∀ (x : Name) (A s₀ b : Tm) (n m : Nat), A.holeFree = true → s₀.holeFree = true → b.holeFree = true →
    ConvCoherence.Ground (evalFuel n (.letg (.cons x A (ushift 0 1 s₀) .nil) b)) →
    ConvCoherence.Ground (evalFuel m (openT b 0 s₀ 0)) →
    evalFuel n (.letg (.cons x A (ushift 0 1 s₀) .nil) b) = evalFuel m (openT b 0 s₀ 0)
theorem C19_name_result_eval : C19_name_result_eval_stmt := by
  intro x A s₀ b n m hA hs hb g1 g2
  have hv : isValue (evalFuel n (.letg (.cons x A (ushift 0 1 s₀) .nil) b)) = true := by
    rcases g1 with ⟨k, e⟩ | e | e <;> rw [e] <;> rfl
  exact (C19_name_result x A s₀ b _ _ hA hs hb g2 hv).1 (evalFuel_steps _ _) (evalFuel_steps _ _)

-- `x : int = 2 + 3; x * x` and `(2 + 3) * (2 + 3)` both print `25`
example : evalFuel 9 (.letg (.cons 1 .int (ushift 0 1 (.bin .sum (.lit 2) (.lit 3))) .nil)
      (.bin .prod (.var 1 0) (.var 1 0))) = .lit 25 ∧
    evalFuel 9 (openT (.bin .prod (.var 1 0) (.var 1 0)) 0 (.bin .sum (.lit 2) (.lit 3)) 0) = .lit 25 := by
  decide

/-- **Naming is strict** (a boundary of the rewrite, reproduced on the real binary): a definition is
evaluated before the body, wherever the named subexpression stood.  `if false then 1 / 0 else 5` prints
`5`; after naming the subexpression `1 / 0`, `x : int = 1 / 0; if false then x else 5` is accepted by
`gram check` at the same type and `gram run` reports that evaluation is stuck (division by zero).  So
the rewrite preserves the printed value only when the named subexpression itself has a value
(`C19_name_eval`) — or, as `C19_name_result` says, whenever both programs do print a value. -/
def C19_name_strict_witness_stmt : Prop :=
  let s₀ : Tm := .bin .quot (.lit 1) (.lit 0)
  let b : Tm := .ite .ff (.var 1 0) (.lit 5)
  let named : Tm := .letg (.cons 1 .int (ushift 0 1 s₀) .nil) b
  evalFuel 3 (openT b 0 s₀ 0) = .lit 5 ∧
  step named = none ∧ isValue named = false ∧ stuckReason named = some .divZero ∧
  (∃ T, inferX 9 [] [] named = .ok T ∧ convX 9 [] T .int = some true) ∧
  inferX 9 [] [] (openT b 0 s₀ 0) = .ok .int
theorem C19_name_strict_witness : C19_name_strict_witness_stmt := by
  refine ⟨by decide, by decide, by decide, by decide, ⟨_, by rfl, by rfl⟩, by rfl⟩

/-- **Naming in a dependent position** (typing side, an instance; no general theorem is proved here).
With `P : int -> type = n => if n == 0 then int else bool`, the program `((y : P 0) => y) 5` and the
program with the subexpression `0` named, `x : int = 0; ((y : P x) => y) 5`, are both accepted by the
independent checker: the conversion test unfolds the definition of `x` (δ is part of `Conv`).  Abstracting
the same occurrence by a *function* instead, `((x : int) => ((y : P x) => y) 5) 0`, is rejected
(`argMismatch`: `x` is opaque).  The real binary agrees on all three.  The general statement
"`HasType Γ Δ (b[s₀/x]) T` and `HasType Γ Δ s₀ A` imply that `x : A = s₀; b` is well typed" (anti-substitution
under a transparent definition) needs uniqueness of types up to `Conv` and an induction over derivations
of substituted terms; it is not proved in this development. -/
def C19_typing_name_dependent_witness_stmt : Prop :=
  let Pdef : Tm := .lam 9 false .int (.ite (.bin .eq (.var 9 0) (.lit 0)) .int .bool)
  let ds : Defs := .cons 1 (.pi 0 false .int .type) Pdef .nil
  let b : Tm := .app (.lam 5 false (.app (.var 1 1) (.var 2 0)) (.var 5 0)) (.lit 5)
  (inferX 30 [] [] (.letg ds (openT b 0 (.lit 0) 0))).toOption.isSome = true ∧
  (inferX 30 [] [] (.letg ds (.letg (.cons 2 .int (ushift 0 1 (.lit 0)) .nil) b))).toOption.isSome = true ∧
  inferX 30 [] [] (.letg ds (.app (.lam 2 false .int b) (.lit 0))) = .error .argMismatch
theorem C19_typing_name_dependent_witness : C19_typing_name_dependent_witness_stmt := by
  refine ⟨by rfl, by rfl, by rfl⟩

/-! Reordering: a group of two definitions `x : A₁ = e₁; y : A₂ = e₂; b` whose annotations and definitions mention no
variable of the group (they are lifted over both: `ushift 0 2`), against the group in the other order
with the two variables exchanged in the body (`RewriteMore.swap01 0 b`).  Restriction: the definitions
are closed with respect to the group — in particular not recursive. -/

/-- both orders evaluate (when the definitions are values, e.g. functions) to the same term -/
def C19_reorder_eval_stmt : Prop :=
  ∀ (x y : Name) (A1 e1 A2 e2 b : Tm), b.holeFree = true → isValue e1 = true → isValue e2 = true →
    ∃ r,
      Steps (.letg (.cons x (ushift 0 2 A1) (ushift 0 2 e1) (.cons y (ushift 0 2 A2) (ushift 0 2 e2) .nil)) b) r ∧
      Steps (.letg (.cons y (ushift 0 2 A2) (ushift 0 2 e2) (.cons x (ushift 0 2 A1) (ushift 0 2 e1) .nil))
        (RewriteMore.swap01 0 b)) r
theorem C19_reorder_eval : C19_reorder_eval_stmt := by
  intro x y A1 e1 A2 e2 b hb h1 h2
  refine ⟨_, RewriteMore.twoDefs_eval x y A1 e1 A2 e2 b h1 h2, ?_⟩
  have h := RewriteMore.twoDefs_eval y x A2 e2 A1 e1 (RewriteMore.swap01 0 b) h2 h1
  rwa [RewriteMore.swap_subst b e1 e2 hb] at h

/-- both orders are convertible (values or not), in every definitions context -/
def C19_reorder_conv_stmt : Prop :=
  ∀ (Δ : DCtxX) (x y : Name) (A1 e1 A2 e2 b : Tm), b.holeFree = true →
    Conv Δ
      (.letg (.cons x (ushift 0 2 A1) (ushift 0 2 e1) (.cons y (ushift 0 2 A2) (ushift 0 2 e2) .nil)) b)
      (.letg (.cons y (ushift 0 2 A2) (ushift 0 2 e2) (.cons x (ushift 0 2 A1) (ushift 0 2 e1) .nil))
        (RewriteMore.swap01 0 b))
theorem C19_reorder_conv : C19_reorder_conv_stmt := by
  intro Δ x y A1 e1 A2 e2 b hb
  have h1 := RewriteMore.twoDefs_conv Δ x y A1 e1 A2 e2 b
  have h2 := RewriteMore.twoDefs_conv Δ y x A2 e2 A1 e1 (RewriteMore.swap01 0 b)
  rw [RewriteMore.swap_subst b e1 e2 hb] at h2
  exact .trans h1 (.symm h2)

/-- hence both orders print the same value: if one evaluates to a value and the other to a ground
value, the two coincide (hole-free programs; values or not, recursive or not does not matter here) -/
def C19_reorder_result_stmt : Prop :=
  ∀ (x y : Name) (A1 e1 A2 e2 b v g : Tm), A1.holeFree = true → e1.holeFree = true →
    A2.holeFree = true → e2.holeFree = true → b.holeFree = true →
    ConvCoherence.Ground g → isValue v = true →
    Steps (.letg (.cons x (ushift 0 2 A1) (ushift 0 2 e1) (.cons y (ushift 0 2 A2) (ushift 0 2 e2) .nil)) b) v →
    Steps (.letg (.cons y (ushift 0 2 A2) (ushift 0 2 e2) (.cons x (ushift 0 2 A1) (ushift 0 2 e1) .nil))
      (RewriteMore.swap01 0 b)) g →
    v = g
theorem C19_reorder_result : C19_reorder_result_stmt := by
  intro x y A1 e1 A2 e2 b v g h1 h2 h3 h4 hb hg hv s1 s2
  refine RewriteMore.conv_results_agree (C19_reorder_conv [] x y A1 e1 A2 e2 b hb) ?_ s1 hv s2 hg
  simp only [Tm.holeFree, Defs.holeFree, Bool.and_eq_true, holeFree_ushift]
  exact ⟨⟨⟨h1, h2⟩, ⟨h3, h4⟩, trivial⟩, hb⟩

-- `f = n => n + 1; g = n => n * 2; f (g 3)` in both orders prints `7`
example :
    let f : Tm := .lam 3 false .int (.bin .sum (.var 3 0) (.lit 1))
    let g : Tm := .lam 3 false .int (.bin .prod (.var 3 0) (.lit 2))
    let A : Tm := .pi 0 false .int .int
    let b : Tm := .app (.var 1 1) (.app (.var 2 0) (.lit 3))
    evalFuel 12 (.letg (.cons 1 (ushift 0 2 A) (ushift 0 2 f) (.cons 2 (ushift 0 2 A) (ushift 0 2 g) .nil)) b)
      = .lit 7 ∧
    evalFuel 12 (.letg (.cons 2 (ushift 0 2 A) (ushift 0 2 g) (.cons 1 (ushift 0 2 A) (ushift 0 2 f) .nil))
      (RewriteMore.swap01 0 b)) = .lit 7 ∧
    RewriteMore.swap01 0 b = .app (.var 1 0) (.app (.var 2 1) (.lit 3)) := by
  decide

/-! Redundant parentheses, parser level.  In the parser model `parse_group` returns the inner tree's `variant` with
the range of the parentheses, `group = true` and the inner errors (plus a "never closed" error); nothing after the
parse phase looks at a range except to copy it, and the `group` flag is read only by the three
re-association passes. -/

/-- **Parentheses around the whole program**: two surface trees with the same top-level `variant`
(the program and the program in parentheses) are taken by the three re-association passes followed by
name resolution to the same semantic term (`RTm.erase`: ranges forgotten), the same context, the same
hole counter and the same number of errors — or both runs fail. -/
def C19_paren_whole_stmt : Prop :=
  ∀ (t t' : PModel.Src) (depth : Nat) (st : PModel.RState), t'.variant = t.variant →
    (RewriteMore.reassocResolve t' depth st).map RewriteMore.resView =
      (RewriteMore.reassocResolve t depth st).map RewriteMore.resView
theorem C19_paren_whole : C19_paren_whole_stmt := fun _ _ depth st h => RewriteMore.paren_whole h depth st

/-- each single pass, started at the top, only looks at the top node's `variant` -/
def C19_paren_whole_pass_stmt : Prop :=
  ∀ (fam : PModel.Family) (t t' : PModel.Src), t'.variant = t.variant →
    (PModel.reassoc fam none t').map PModel.Src.variant = (PModel.reassoc fam none t).map PModel.Src.variant
theorem C19_paren_whole_pass : C19_paren_whole_pass_stmt := fun fam _ _ h => RewriteMore.reassoc_top fam h

/-- **Parentheses around an operand that is an atom**: in a node `a ⊕ b` of the family being
re-associated (met with any accumulator, any `group` flag), replacing the right operand `b` — a term
the pass keeps as it is, e.g. an atom, whatever its `group` flag — by `b'` that differs from it only in
ranges / `group` flags / error lists (`strip b' = strip b`: the same atom in parentheses) does not
change the result up to ranges, `group` flags and error lists, provided the left operand `a` is opaque
to the pass: `reassoc fam acc a = (reassoc fam none a).map (reassocTail acc)` — true of atoms
(`RewriteMore.kept_atom`), and of parenthesised chains (`RewriteMore.opaque_grouped`, i.e.
`C07_group_opaque`). -/
def C19_paren_operand_stmt : Prop :=
  ∀ (fam : PModel.Family) (acc : Option (PModel.Src × PModel.Link)) (r : PModel.SourceRange) (g : Bool)
    (o : BinOp) (a b b' : PModel.Src) (es : List PModel.PErr),
    ((fam = .productsAndQuotients ∧ (o = .prod ∨ o = .quot))
      ∨ (fam = .sumsAndDifferences ∧ (o = .sum ∨ o = .diff))) →
    RewriteMore.Kept fam b → RewriteMore.Kept fam b' → RewriteMore.strip b' = RewriteMore.strip b →
    RewriteMore.Opaque fam a →
    (PModel.reassoc fam acc (.mk r g (.bin o a b') es)).map RewriteMore.strip =
      (PModel.reassoc fam acc (.mk r g (.bin o a b) es)).map RewriteMore.strip
theorem C19_paren_operand : C19_paren_operand_stmt :=
  fun fam acc r g o a b b' es ho hb hb' hs ha => RewriteMore.paren_operand fam acc r g o a b b' es ho hb hb' hs ha

/-- the operands the previous theorem is about exist: every atom is kept (hence opaque), every
parenthesised chain of the family is opaque -/
def C19_paren_operand_applies_stmt : Prop :=
  ∀ (fam : PModel.Family) (r : PModel.SourceRange) (g : Bool) (es : List PModel.PErr),
    (∀ n, RewriteMore.Kept fam (.mk r g (.lit n) es)) ∧ (∀ x, RewriteMore.Kept fam (.mk r g (.var x) es)) ∧
    RewriteMore.Kept fam (.mk r g .tt es) ∧ RewriteMore.Kept fam (.mk r g .ff es) ∧
    (∀ t, RewriteMore.Kept fam t → RewriteMore.Opaque fam t) ∧
    (∀ o a b, ((fam = .productsAndQuotients ∧ (o = .prod ∨ o = .quot))
        ∨ (fam = .sumsAndDifferences ∧ (o = .sum ∨ o = .diff))) →
      RewriteMore.Opaque fam (.mk r true (.bin o a b) es))
theorem C19_paren_operand_applies : C19_paren_operand_applies_stmt := by
  intro fam r g es
  refine ⟨fun n => RewriteMore.kept_atom fam r g _ es (by simp),
    fun x => RewriteMore.kept_atom fam r g _ es (by simp),
    RewriteMore.kept_atom fam r g _ es (by simp), RewriteMore.kept_atom fam r g _ es (by simp),
    fun _ h => RewriteMore.opaque_of_kept h, fun o a b ho => RewriteMore.opaque_grouped fam r o a b es ho⟩

section ParenExamples
open PModel

private def lit19 (n : Int) (s e : Nat) (g : Bool) : Src := .mk ⟨s, e⟩ g (.lit n) []
/-- `10 - 5 - 3` as the packrat functions return it (right-nested, ungrouped) -/
private def prog19 : Src :=
  .mk ⟨0, 10⟩ false (.bin .diff (lit19 10 0 2 false)
    (.mk ⟨5, 10⟩ false (.bin .diff (lit19 5 5 6 false) (lit19 3 9 10 false)) [])) []
/-- `(10 - 5 - 3)` : the same variant, the range of the parentheses, `group = true` -/
private def prog19' : Src := .mk ⟨0, 12⟩ true prog19.variant []

-- both become `(10 - 5) - 3`
example : (RewriteMore.reassocResolve prog19 0 ⟨[], [], 0⟩).map RewriteMore.resView =
    some (.bin .diff (.bin .diff (.lit 10) (.lit 5)) (.lit 3), [], 0, 0) := by decide +kernel
example : (RewriteMore.reassocResolve prog19' 0 ⟨[], [], 0⟩).map RewriteMore.resView =
    some (.bin .diff (.bin .diff (.lit 10) (.lit 5)) (.lit 3), [], 0, 0) := by decide +kernel

-- `10 - 5 - 3` against `10 - 5 - (3)`: equal up to ranges and flags, and not `none`
example : (reassoc .sumsAndDifferences none (.mk ⟨0, 12⟩ false (.bin .diff (lit19 10 0 2 false)
      (.mk ⟨5, 12⟩ false (.bin .diff (lit19 5 5 6 false) (lit19 3 9 12 true)) [])) [])).map RewriteMore.strip
    = (reassoc .sumsAndDifferences none prog19).map RewriteMore.strip ∧
    (reassoc .sumsAndDifferences none prog19).isSome = true := ⟨by rfl, by rfl⟩

end ParenExamples

/-! Redundant parentheses at token level (`Lemmas/ParenTokens.lean`, on top of `C07_parse_complete`).
`ParenTokens.wrapParens toks lp rp` is the token array `#[lp] ++ toks ++ #[rp]`. -/

section ParenTokensSection
open PModel

/-- **A parse tree only depends on the tokens of its own segment**: a segment `[a, b)` of `toks` with
parse tree `t` is, `pre.size` tokens further, a segment of `pre ++ toks ++ post` with THE SAME tree (all
source ranges of a parse tree are read off the tokens of the segment). -/
def C19_segment_shift_stmt : Prop :=
  ∀ (toks pre post : Array PTok) (A : NT) (a b : Nat) (t : Src), SegT toks A a b t →
    SegT (pre ++ toks ++ post) A (a + pre.size) (b + pre.size) t
theorem C19_segment_shift : C19_segment_shift_stmt :=
  fun _ pre post _ _ _ _ h => ParenTokens.segT_shift pre post h

/-- **A sentence in parentheses is a sentence**; its parse tree is the sentence's tree with the range
from `(` to `)`, `group = true`, and the same `variant` (the same children, with the same ranges). -/
def C19_paren_sentence_stmt : Prop :=
  ∀ (toks : Array PTok) (t : Src) (lp rp : PTok), lp.kind = .leftParen → rp.kind = .rightParen →
    SegT toks .term 0 toks.size t →
    (ParenTokens.wrapParens toks lp rp).size = toks.size + 2 ∧
    SegT (ParenTokens.wrapParens toks lp rp) .term 0 (toks.size + 2)
      (.mk (rng (ParenTokens.wrapParens toks lp rp) 0 (toks.size + 2)) true t.variant [])
theorem C19_paren_sentence : C19_paren_sentence_stmt := by
  intro toks t lp rp hl hr h
  have hs := ParenTokens.wrapParens_size toks lp rp
  have := ParenTokens.segT_wrap lp rp hl hr h
  rw [hs] at this
  exact ⟨hs, this⟩

/-- `check_definitions` only appends diagnostics to the vector it is given … -/
def C19_check_definitions_appends_stmt : Prop :=
  ∀ (t : RTm) (depth : Nat) (es : List PErr),
    checkDefinitions t depth es = (checkDefinitions t depth []).map (es ++ ·)
theorem C19_check_definitions_appends : C19_check_definitions_appends_stmt :=
  ParenTokens.checkDefinitions_app

/-- … and never reads the source range of the root node. -/
def C19_check_definitions_root_stmt : Prop :=
  ∀ (t t' : RTm) (depth : Nat) (es : List PErr), t'.variant = t.variant →
    checkDefinitions t' depth es = checkDefinitions t depth es
theorem C19_check_definitions_root : C19_check_definitions_root_stmt :=
  fun _ _ depth es h => ParenTokens.checkDefinitions_top h depth es

/-- **Wrapping the whole program in parentheses changes nothing but source ranges** (the whole of
`parse`: parse phase, error collection, the three re-association passes, name resolution against any
parameter context, the definition-order check).  If `toks` is a sentence of the grammar, `parse` gives
on `( toks )` the same outcome as on `toks` up to (`ParenTokens.outView`): the source range of the ROOT
node of the accepted term (`RTm.variant` is compared: the whole resolved term — names, de Bruijn
indices, hole ids, every inner source range — minus the root's range), and the ranges inside the
diagnostics (their NUMBER is compared).  The definition-order verdict is the same. -/
def C19_paren_program_tokens_stmt : Prop :=
  ∀ (toks : Array PTok) (t : Src) (lp rp : PTok) (context : List Name),
    lp.kind = .leftParen → rp.kind = .rightParen → SegT toks .term 0 toks.size t →
    ParenTokens.outView (parseModel (ParenTokens.wrapParens toks lp rp) context) =
      ParenTokens.outView (parseModel toks context)
theorem C19_paren_program_tokens : C19_paren_program_tokens_stmt :=
  fun _ _ lp rp context hl hr h => ParenTokens.paren_program_tokens lp rp hl hr h context

/-- The same with the hypothesis "the parse phase accepts `toks`" (every token consumed, no syntax
error recorded: by `C07_accepted_iff_sentence` that is "`toks` is a sentence"); then the parse phase
accepts `( toks )` too. -/
def C19_paren_program_tokens_accepted_stmt : Prop :=
  ∀ (toks : Array PTok) (lp rp : PTok) (context : List Name),
    lp.kind = .leftParen → rp.kind = .rightParen →
    (∃ r st, runParser toks = some (r, st) ∧ r.next = toks.size ∧ collectErrors r.term = []) →
    (∃ r st, runParser (ParenTokens.wrapParens toks lp rp) = some (r, st) ∧
      r.next = (ParenTokens.wrapParens toks lp rp).size ∧ collectErrors r.term = []) ∧
    ParenTokens.outView (parseModel (ParenTokens.wrapParens toks lp rp) context) =
      ParenTokens.outView (parseModel toks context)
theorem C19_paren_program_tokens_accepted : C19_paren_program_tokens_accepted_stmt :=
  fun _ lp rp context hl hr h => ParenTokens.paren_program_tokens_accepted lp rp hl hr h context

/-- In plain terms: the two programs are accepted together, with resolved terms that differ at most
in the range of the root (in particular the same de Bruijn term, `.erase`); rejected together, with
the same number of diagnostics; panic / run out of the model's fuel together. -/
def C19_paren_program_tokens_plain_stmt : Prop :=
  ∀ (toks : Array PTok) (t : Src) (lp rp : PTok) (context : List Name),
    lp.kind = .leftParen → rp.kind = .rightParen → SegT toks .term 0 toks.size t →
    (∀ r, parseModel toks context = .ok r →
      ∃ r', parseModel (ParenTokens.wrapParens toks lp rp) context = .ok r' ∧
        r'.variant = r.variant ∧ r'.erase = r.erase) ∧
    (∀ r', parseModel (ParenTokens.wrapParens toks lp rp) context = .ok r' →
      ∃ r, parseModel toks context = .ok r ∧ r'.variant = r.variant ∧ r'.erase = r.erase) ∧
    (∀ es, parseModel toks context = .errors es →
      ∃ es', parseModel (ParenTokens.wrapParens toks lp rp) context = .errors es' ∧
        es'.length = es.length) ∧
    (∀ es', parseModel (ParenTokens.wrapParens toks lp rp) context = .errors es' →
      ∃ es, parseModel toks context = .errors es ∧ es'.length = es.length) ∧
    (parseModel (ParenTokens.wrapParens toks lp rp) context = .panic ↔
      parseModel toks context = .panic) ∧
    (parseModel (ParenTokens.wrapParens toks lp rp) context = .outOfFuel ↔
      parseModel toks context = .outOfFuel)
theorem C19_paren_program_tokens_plain : C19_paren_program_tokens_plain_stmt :=
  fun _ _ lp rp context hl hr h => ParenTokens.paren_program_tokens_plain lp rp hl hr h context


/-- the tokens of ` f x + 1` (names `f` = 1, `x` = 2; bytes 1‥8) -/
def C19_fxToks : Array PTok := #[
  ⟨.identifier 1, ⟨1, 2⟩⟩, ⟨.identifier 2, ⟨3, 4⟩⟩, ⟨.plus, ⟨5, 6⟩⟩, ⟨.integerLiteral 1, ⟨7, 8⟩⟩]
def C19_lp : PTok := ⟨.leftParen, ⟨0, 1⟩⟩
def C19_rp : PTok := ⟨.rightParen, ⟨8, 9⟩⟩

/-- ` f x + 1` is accepted, resolves to `f x + 1` with `f`, `x` the two parameters, and is a sentence -/
def C19_fx_plain_stmt : Prop :=
    (∃ r, parseModel C19_fxToks [1, 2] = .ok r ∧
      r.erase = .bin .sum (.app (.var 1 1) (.var 2 0)) (.lit 1)) ∧
    ∃ t, SegT C19_fxToks .term 0 C19_fxToks.size t
theorem C19_fx_plain : C19_fx_plain_stmt :=
  ParenTokens.parseModel_eval C19_fxToks 60 [1, 2] _ (by decide +kernel)

/-- `(f x + 1)`, evaluated on its own: accepted, the same resolved term -/
def C19_fx_wrapped_stmt : Prop :=
    ∃ r, parseModel (ParenTokens.wrapParens C19_fxToks C19_lp C19_rp) [1, 2] = .ok r ∧
      r.erase = .bin .sum (.app (.var 1 1) (.var 2 0)) (.lit 1)
theorem C19_fx_wrapped : C19_fx_wrapped_stmt :=
  (ParenTokens.parseModel_eval (ParenTokens.wrapParens C19_fxToks C19_lp C19_rp) 60 [1, 2] _
    (by decide +kernel)).1

-- the hypotheses of `C19_paren_program_tokens` hold of it, and the theorem gives the second fact from
-- the first
example : ∃ r', parseModel (ParenTokens.wrapParens C19_fxToks C19_lp C19_rp) [1, 2] = .ok r' ∧
    r'.erase = .bin .sum (.app (.var 1 1) (.var 2 0)) (.lit 1) := by
  obtain ⟨⟨r, h1, h2⟩, t, ht⟩ := C19_fx_plain
  obtain ⟨r', h3, _, h4⟩ :=
    (C19_paren_program_tokens_plain C19_fxToks t C19_lp C19_rp [1, 2] rfl rfl ht).1 r h1
  exact ⟨r', h3, h4.trans h2⟩

-- a rejected sentence: without the parameters both programs get two scope diagnostics
example : ∃ es es', parseModel C19_fxToks [] = .errors es ∧
    parseModel (ParenTokens.wrapParens C19_fxToks C19_lp C19_rp) [] = .errors es' ∧
    es'.length = es.length := by
  obtain ⟨_, t, ht⟩ := C19_fx_plain
  have e := C19_paren_program_tokens C19_fxToks t C19_lp C19_rp [] rfl rfl ht
  obtain ⟨es, h, _⟩ := ParenTokens.parseModel_errors_eval C19_fxToks 60 [] 2 (by decide +kernel)
  rw [h] at e
  obtain ⟨es', h1, h2⟩ := ParenTokens.outView_errors e
  exact ⟨es, es', h, h1, h2⟩

/-! `f x + (1)` and `f (x) + 1` resolve to the same term as `f x + 1`: kernel-checked instances only (the general
token-level statement for an operand — a derivation with a distinguished `atom` sub-derivation, followed through
the three passes — is not proved in this development; `C19_paren_operand` is its re-association step). -/

def C19_fx_operand_instances_stmt : Prop :=
    (∃ r, parseModel #[⟨.identifier 1, ⟨0, 1⟩⟩, ⟨.identifier 2, ⟨2, 3⟩⟩, ⟨.plus, ⟨4, 5⟩⟩,
        ⟨.leftParen, ⟨6, 7⟩⟩, ⟨.integerLiteral 1, ⟨7, 8⟩⟩, ⟨.rightParen, ⟨8, 9⟩⟩] [1, 2] = .ok r ∧
      r.erase = .bin .sum (.app (.var 1 1) (.var 2 0)) (.lit 1)) ∧
    (∃ r, parseModel #[⟨.identifier 1, ⟨0, 1⟩⟩, ⟨.leftParen, ⟨2, 3⟩⟩, ⟨.identifier 2, ⟨3, 4⟩⟩,
        ⟨.rightParen, ⟨4, 5⟩⟩, ⟨.plus, ⟨6, 7⟩⟩, ⟨.integerLiteral 1, ⟨8, 9⟩⟩] [1, 2] = .ok r ∧
      r.erase = .bin .sum (.app (.var 1 1) (.var 2 0)) (.lit 1))
theorem C19_fx_operand_instances : C19_fx_operand_instances_stmt :=
  ⟨(ParenTokens.parseModel_eval _ 60 [1, 2] _ (by decide +kernel)).1,
   (ParenTokens.parseModel_eval _ 60 [1, 2] _ (by decide +kernel)).1⟩

/-! Parentheses around ONE operand, at token level.  Proved: the definition-order check counts its diagnostics from
the de Bruijn term alone (`C19_check_definitions_count`), hence the front-end outcome of a sentence is a function of
`resView` of the three passes + `resolve` on its parse tree (`C19_front_end_of_resView`): every token-level
rewrite statement about two sentences reduces to the tree-level statement about
`RewriteMore.reassocResolve`.  NOT proved (bare statement below): that the parse trees of `… x …` and
`… ( x ) …` are taken to the same `resView` — this needs a congruence of the three passes for trees
that differ in ranges and in the `group` flag of one atom (`C19_paren_operand` is one node of it). -/

/-- **The number of definition-order diagnostics only depends on the de Bruijn term**: two resolved
terms with the same `.erase` (they may differ in every source range), started with error vectors of
the same length, give the same failure or error vectors of the same length. -/
def C19_check_definitions_count_stmt : Prop :=
  ∀ (t u : RTm) (depth : Nat) (e1 e2 : List PErr), t.erase = u.erase → e1.length = e2.length →
    (checkDefinitions t depth e1).map List.length = (checkDefinitions u depth e2).map List.length
theorem C19_check_definitions_count : C19_check_definitions_count_stmt :=
  ParenTokens.checkDefinitions_cnt

/-- **Reduction of token-level rewrites to the passes.**  For ANY two sentences `toks`, `toks'` with
parse trees `t`, `t'`: if the three re-association passes followed by name resolution (from the
initial state of the parameter context) take `t'` and `t` to the same `resView` (de Bruijn term,
context, hole counter, number of scope errors), then `parse` gives the same outcome on both token
arrays up to ranges (`ParenTokens.outE`: the accepted de Bruijn term, or the number of diagnostics, or
panic / out of fuel). -/
def C19_front_end_of_resView_stmt : Prop :=
  ∀ (toks toks' : Array PTok) (t t' : Src) (context : List Name),
    SegT toks .term 0 toks.size t → SegT toks' .term 0 toks'.size t' →
    (RewriteMore.reassocResolve t' (initialContext context).length (ParenTokens.st0 context)).map
        RewriteMore.resView =
      (RewriteMore.reassocResolve t (initialContext context).length (ParenTokens.st0 context)).map
        RewriteMore.resView →
    ParenTokens.outE (parseModel toks' context) = ParenTokens.outE (parseModel toks context)
theorem C19_front_end_of_resView : C19_front_end_of_resView_stmt :=
  fun _ _ _ _ context h h' hr => ParenTokens.parseModel_of_resView context h h' hr

-- non-vacuity: ` f x + 1` against `(f x + 1)` satisfy the hypotheses (by `C19_paren_whole`)
example : ParenTokens.outE (parseModel (ParenTokens.wrapParens C19_fxToks C19_lp C19_rp) [1, 2]) =
    ParenTokens.outE (parseModel C19_fxToks [1, 2]) := by
  obtain ⟨_, t, ht⟩ := C19_fx_plain
  exact C19_front_end_of_resView _ _ t _ [1, 2] ht (ParenTokens.segT_wrap C19_lp C19_rp rfl rfl ht)
    (C19_paren_whole t _ _ _ (ParenTokens.wrapTree_variant _ _ _ t))

/-- **NOT PROVED (bare statement).**  Parentheses around one operand: if `toks` is a sentence, the
segment `[a, b)` is an `atom` segment, and the array with that segment in parentheses
(`ParenTokens.spliceParens`, two more tokens) is a sentence too (this excludes an identifier token
used as a binder: `x => y` ↦ `(x) => y`), then `parse` gives the same outcome on both up to ranges.
By `C19_front_end_of_resView` what is missing is the equality of `resView` after the three passes
and `resolve` for the two parse trees. -/
def C19_paren_operand_tokens_stmt : Prop :=
  ∀ (toks : Array PTok) (t t' s : Src) (a b : Nat) (lp rp : PTok) (context : List Name),
    lp.kind = .leftParen → rp.kind = .rightParen →
    SegT toks .term 0 toks.size t → SegT toks .atom a b s →
    SegT (ParenTokens.spliceParens toks a b lp rp) .term 0
      (ParenTokens.spliceParens toks a b lp rp).size t' →
    ParenTokens.outE (parseModel (ParenTokens.spliceParens toks a b lp rp) context) =
      ParenTokens.outE (parseModel toks context)

-- an instance of the unproved statement's conclusion: `f x + 1` ↦ `f ( x ) + 1`
example : ParenTokens.spliceParens C19_fxToks 1 2 ⟨.leftParen, ⟨2, 3⟩⟩ ⟨.rightParen, ⟨4, 5⟩⟩ =
    #[⟨.identifier 1, ⟨1, 2⟩⟩, ⟨.leftParen, ⟨2, 3⟩⟩, ⟨.identifier 2, ⟨3, 4⟩⟩, ⟨.rightParen, ⟨4, 5⟩⟩,
      ⟨.plus, ⟨5, 6⟩⟩, ⟨.integerLiteral 1, ⟨7, 8⟩⟩] := by decide +kernel
example : ∃ r, parseModel (ParenTokens.spliceParens C19_fxToks 1 2 ⟨.leftParen, ⟨2, 3⟩⟩
      ⟨.rightParen, ⟨4, 5⟩⟩) [1, 2] = .ok r ∧
    r.erase = .bin .sum (.app (.var 1 1) (.var 2 0)) (.lit 1) :=
  (ParenTokens.parseModel_eval _ 60 [1, 2] _ (by decide +kernel)).1

/-! Node-level pieces of the missing three-pass congruence (`Lemmas/ParenTokens.lean`). -/

/-- **Parentheses around an argument that is an atom** (`f x` against `f (x)`, the applications pass;
`C19_paren_operand` covers only the two binary-operator passes): in an application node met with any
accumulator and any `group` flag, an argument the pass keeps as it is may be replaced by one that
differs only in ranges / `group` flag / error list, provided the applicand is opaque to the pass (an
atom, or a parenthesised application: what the grammar allows in that position). -/
def C19_paren_argument_stmt : Prop :=
  ∀ (acc : Option (Src × Link)) (r : SourceRange) (g : Bool) (f a a' : Src) (es : List PErr),
    RewriteMore.Kept .applications a → RewriteMore.Kept .applications a' →
    RewriteMore.strip a' = RewriteMore.strip a → RewriteMore.Opaque .applications f →
    (reassoc .applications acc (.mk r g (.app f a') es)).map RewriteMore.strip =
      (reassoc .applications acc (.mk r g (.app f a) es)).map RewriteMore.strip
theorem C19_paren_argument : C19_paren_argument_stmt :=
  fun acc r g f a a' es ha ha' hs hf => ParenTokens.paren_argument acc r g f a a' es ha ha' hs hf

/-- every node that is not a link of the family's chains is opaque to the pass (whatever its `group`
flag), and so is a parenthesised application for the applications pass -/
def C19_opaque_nonfam_stmt : Prop :=
  (∀ (fam : Family) (r : SourceRange) (g : Bool) (v : SrcV) (es : List PErr),
    ParenTokens.famNode fam v = false → RewriteMore.Opaque fam (.mk r g v es)) ∧
  (∀ (r : SourceRange) (f a : Src) (es : List PErr),
    RewriteMore.Opaque .applications (.mk r true (.app f a) es))
theorem C19_opaque_nonfam : C19_opaque_nonfam_stmt :=
  ⟨ParenTokens.opaque_nonfam, ParenTokens.opaque_grouped_app⟩

/-- **Parentheses around any operand that is opaque to the pass** (not only an atom: a node of another
family such as an application under `+`, or a parenthesised chain): the right operand `b` of a chain
node of the family may be replaced by any opaque `b'` that the pass takes to the same result up to
ranges / flags / error lists — e.g. `b` itself in parentheses (`C19_paren_whole_pass`). -/
def C19_paren_operand_opaque_stmt : Prop :=
  ∀ (fam : Family) (acc : Option (Src × Link)) (r : SourceRange) (g : Bool) (o : BinOp)
    (a b b' : Src) (es : List PErr),
    ((fam = .productsAndQuotients ∧ (o = .prod ∨ o = .quot))
      ∨ (fam = .sumsAndDifferences ∧ (o = .sum ∨ o = .diff))) →
    RewriteMore.Opaque fam b → RewriteMore.Opaque fam b' →
    (reassoc fam none b').map RewriteMore.strip = (reassoc fam none b).map RewriteMore.strip →
    RewriteMore.Opaque fam a →
    (reassoc fam acc (.mk r g (.bin o a b') es)).map RewriteMore.strip =
      (reassoc fam acc (.mk r g (.bin o a b) es)).map RewriteMore.strip
theorem C19_paren_operand_opaque : C19_paren_operand_opaque_stmt :=
  fun fam acc r g o a b b' es ho hb hb' hs ha =>
    ParenTokens.paren_operand_opaque fam acc r g o a b b' es ho hb hb' hs ha

section OperandExamples
private def v19 (x : Name) (s e : Nat) (g : Bool) : Src := .mk ⟨s, e⟩ g (.var x) []

-- `f x` against `f (x)` (applications pass, with an accumulator `h`): hypotheses hold, results agree and exist
example : (reassoc .applications (some (v19 3 0 1 false, .app))
      (.mk ⟨2, 7⟩ false (.app (v19 1 2 3 false) (v19 2 4 7 true)) [])).map RewriteMore.strip =
    (reassoc .applications (some (v19 3 0 1 false, .app))
      (.mk ⟨2, 5⟩ false (.app (v19 1 2 3 false) (v19 2 4 5 false)) [])).map RewriteMore.strip :=
  C19_paren_argument _ _ _ _ _ _ _ (RewriteMore.kept_atom _ _ _ _ _ (by simp))
    (RewriteMore.kept_atom _ _ _ _ _ (by simp)) rfl
    (RewriteMore.opaque_of_kept (RewriteMore.kept_atom _ _ _ _ _ (by simp)))
example : (reassoc .applications (some (v19 3 0 1 false, .app))
      (.mk ⟨2, 5⟩ false (.app (v19 1 2 3 false) (v19 2 4 5 false)) [])).isSome = true := by rfl

-- `a + f x` against `a + (f x)` (sums pass): the operand is an application, opaque by `C19_opaque_nonfam`
private def fx19 : Src := .mk ⟨4, 7⟩ false (.app (v19 2 4 5 false) (v19 3 6 7 false)) []
private def fx19' : Src := .mk ⟨4, 9⟩ true (.app (v19 2 5 6 false) (v19 3 7 8 false)) []
example : (reassoc .sumsAndDifferences none
      (.mk ⟨0, 7⟩ false (.bin .sum (v19 1 0 1 false) fx19') [])).map RewriteMore.strip =
    (reassoc .sumsAndDifferences none
      (.mk ⟨0, 7⟩ false (.bin .sum (v19 1 0 1 false) fx19) [])).map RewriteMore.strip :=
  C19_paren_operand_opaque .sumsAndDifferences none ⟨0, 7⟩ false .sum (v19 1 0 1 false) fx19 fx19' []
    (.inr ⟨rfl, .inl rfl⟩)
    (C19_opaque_nonfam.1 .sumsAndDifferences ⟨4, 7⟩ false _ [] (by decide))
    (C19_opaque_nonfam.1 .sumsAndDifferences ⟨4, 9⟩ true _ [] (by decide)) (by rfl)
    (RewriteMore.opaque_of_kept (RewriteMore.kept_atom _ _ _ _ _ (Or.inr (Or.inl ⟨1, rfl⟩))))
end OperandExamples

end ParenTokensSection


section SourceRename
open PModel

theorem eraseNames_renameTm (ρ : Name → Name) (t : Tm) : eraseNames (renameTm ρ t) = eraseNames t := by
  rw [eraseNames_eq_relab, eraseNames_eq_relab, renameTm_eq_relab, Tm.relab_relab]; rfl

theorem eraseNamesDefs_renameTm (ρ : Name → Name) : ∀ (ds : Defs),
    eraseNamesDefs (renameTmDefs ρ ds) = eraseNamesDefs ds := fun ds => by
  rw [eraseNamesDefs_eq_relab, eraseNamesDefs_eq_relab, renameTmDefs_eq_relab, Defs.relab_relab]; rfl

/-- **Resolution commutes with a consistent renaming.**  `ρ` is admissible for the program `s` in the
context `c` (`PModel.Admissible`): injective on the names of `s` and the keys of `c`, fixes the
placeholder `_`, renames no name to it.  Then the renamed program in the renamed context
(`renSt ρ`: the keys of the context renamed, the same depths, the same error list and allocator)
resolves exactly when the original does (`none` = the Rust `panic!` on a `ParseError` node), to the
same resolved term with the name annotations renamed (`renameR ρ`: structure, de Bruijn indices,
hole ids and shifts, source ranges identical) and leaves the same state up to the keys of the
context: the IDENTICAL error list (same diagnostics at the same positions), the same allocator. -/
def C19_resolve_rename_stmt : Prop :=
  ∀ (ρ : Name → Name) (s : Src) (depth : Nat) (st : RState), Admissible ρ s st.ctx →
    resolve (renameSrc ρ s) depth (renSt ρ st) =
      (resolve s depth st).map (fun p => (renameR ρ p.1, renSt ρ p.2))
theorem C19_resolve_rename : C19_resolve_rename_stmt := resolve_rename

/-- The same with the names erased: the two programs resolve to the SAME de Bruijn term, report the
same errors and allocate the same holes; the final contexts correspond. -/
def C19_resolve_rename_erased_stmt : Prop :=
  ∀ (ρ : Name → Name) (s : Src) (depth : Nat) (st : RState), Admissible ρ s st.ctx →
    (resolve (renameSrc ρ s) depth (renSt ρ st)).map
        (fun p => (eraseNames p.1.erase, p.2.errors, p.2.nextHole, p.2.ctx)) =
      (resolve s depth st).map
        (fun p => (eraseNames p.1.erase, p.2.errors, p.2.nextHole, renCtx ρ p.2.ctx))
theorem C19_resolve_rename_erased : C19_resolve_rename_erased_stmt := by
  intro ρ s depth st h
  rw [resolve_rename ρ s depth st h]
  cases resolve s depth st with
  | none => rfl
  | some p =>
    simp only [Option.map_some, renSt_errors, renSt_nextHole, renSt_ctx, renameR_erase,
      eraseNames_renameTm]

/-- The resolved terms also have the same source ranges everywhere: with names *renamed* rather
than erased they are equal on the nose, hence `check_definitions` (which reports through those
ranges) gives the same answer on both. -/
def C19_rename_check_definitions_stmt : Prop :=
  ∀ (ρ : Name → Name) (t : RTm) (depth : Nat) (errors : List PErr),
    checkDefinitions (renameR ρ t) depth errors = checkDefinitions t depth errors
theorem C19_rename_check_definitions : C19_rename_check_definitions_stmt := checkDefinitions_rename

/-- **Everything `parse` does after the parse phase commutes with an injective renaming that fixes
the placeholder**: collecting the syntax errors, the three re-association passes (they never look at
a name: `reassoc_rename`), resolution against the renamed initial context, `check_definitions`.  The
outcome is the same: the same list of diagnostics (same positions), the same panic, or the accepted
term with renamed annotations. -/
def C19_rename_finish_parse_stmt : Prop :=
  ∀ (ρ : Name → Name), (∀ x y, ρ x = ρ y → x = y) → ρ placeholder = placeholder →
    ∀ (toks : Array PTok) (context : List Name) (term : Src) (next : Nat),
      finishParse toks (context.map ρ) (renameSrc ρ term) next =
        renOutcome ρ (finishParse toks context term next)
theorem C19_rename_finish_parse : C19_rename_finish_parse_stmt := finishParse_rename

/-- **The pipeline after resolution cannot see the renaming.**  If the original resolves to `r`, the
renamed program resolves to an `r'` such that, names erased: the terms are equal, the independent
checker reports the same type (or rejects both), and every fuel-bounded evaluation gives the same
result; `check_definitions` answers the same on both. -/
def C19_rename_pipeline_stmt : Prop :=
  ∀ (ρ : Name → Name) (s : Src) (depth : Nat) (st : RState) (r : RTm) (st' : RState),
    Admissible ρ s st.ctx → resolve s depth st = some (r, st') →
    ∃ r', resolve (renameSrc ρ s) depth (renSt ρ st) = some (r', renSt ρ st') ∧
      (renSt ρ st').errors = st'.errors ∧
      eraseNames r'.erase = eraseNames r.erase ∧
      (∀ (d : Nat) (es : List PErr), checkDefinitions r' d es = checkDefinitions r d es) ∧
      (∀ (f : Nat) (Γ : TCtxX) (Δ : DCtxX),
        (inferX f Γ Δ r'.erase).toOption.map eraseNames =
          (inferX f Γ Δ r.erase).toOption.map eraseNames) ∧
      (∀ (n : Nat), eraseNames (evalFuel n r'.erase) = eraseNames (evalFuel n r.erase))
theorem C19_rename_pipeline : C19_rename_pipeline_stmt := by
  intro ρ s depth st r st' h hr
  have e := resolve_rename ρ s depth st h
  rw [hr] at e
  have he : eraseNames (renameR ρ r).erase = eraseNames r.erase := by
    rw [renameR_erase, eraseNames_renameTm]
  refine ⟨renameR ρ r, e, rfl, he, fun d es => checkDefinitions_rename ρ r d es, ?_, ?_⟩
  · intro f Γ Δ
    exact C19_typing_names f Γ Δ _ _ he
  · intro n
    rw [← C19_names_irrelevant_eval, ← C19_names_irrelevant_eval, he]


/-- `x => y => x` (names: `x` = 1, `y` = 2), as the parser returns it. -/
def rn19ProgXY : Src :=
  .mk ⟨0, 11⟩ false (.lam ⟨⟨0, 1⟩, 1⟩ false .none
    (.mk ⟨5, 11⟩ false (.lam ⟨⟨5, 6⟩, 2⟩ false .none (.mk ⟨10, 11⟩ false (.var 1) [])) [])) []

/-- `y ↦ x`: not injective on the names of the program. -/
def rn19RhoCapture : Name → Name := fun n => if n = 2 then 1 else n

/-- `(x : int) => x` (name `x` = 1). -/
def rn19ProgId : Src :=
  .mk ⟨0, 14⟩ false (.lam ⟨⟨1, 2⟩, 1⟩ false (.some (.mk ⟨5, 8⟩ false .int []))
    (.mk ⟨13, 14⟩ false (.var 1) [])) []

/-- `x ↦ _`: a name is renamed to the placeholder. -/
def rn19RhoPlaceholder : Name → Name := fun n => if n = 1 then 0 else n

/-- Capture: renaming `y` to `x` in `x => y => x` gives `x => x => x`; the original resolves without
a diagnostic, the renamed program reports "Variable `x` already exists" at the inner binder (the real
`gram check` agrees on both). -/
def C19_rename_capture_witness_stmt : Prop :=
  ¬ Admissible rn19RhoCapture rn19ProgXY [] ∧
  (resolve rn19ProgXY 0 ⟨[], [], 0⟩).map (fun p => p.2.errors) = some [] ∧
  (resolve (renameSrc rn19RhoCapture rn19ProgXY) 0 ⟨[], [], 0⟩).map (fun p => p.2.errors) =
    some [[⟨5, 6⟩]]
theorem C19_rename_capture_witness : C19_rename_capture_witness_stmt := by
  refine ⟨fun h => ?_, by decide +kernel, by decide +kernel⟩
  have := h.inj 1 (by decide +kernel) 2 (by decide +kernel) (by decide)
  exact absurd this (by decide)

/-- Renaming a name to the placeholder: `(x : int) => x` becomes `(_ : int) => _`; no diagnostic
either way, but the body is no longer the bound variable (index 0): it is a fresh unifier (the real
`gram check` reports the type `int -> type` instead of `int -> int`). -/
def C19_rename_placeholder_witness_stmt : Prop :=
  ¬ Admissible rn19RhoPlaceholder rn19ProgId [] ∧
  (resolve rn19ProgId 0 ⟨[], [], 0⟩).map (fun p => (eraseNames p.1.erase, p.2.errors)) =
    some (.lam 0 false .int (.var 0 0), []) ∧
  (resolve (renameSrc rn19RhoPlaceholder rn19ProgId) 0 ⟨[], [], 0⟩).map
      (fun p => (eraseNames p.1.erase, p.2.errors)) =
    some (.lam 0 false .int (.hole 0 0), [])
theorem C19_rename_placeholder_witness : C19_rename_placeholder_witness_stmt := by
  refine ⟨fun h => ?_, by decide +kernel, by decide +kernel⟩
  exact h.nz 1 (by decide +kernel) (by decide) (by decide)

/-- Hence the admissibility hypothesis of `C19_resolve_rename` cannot be dropped. -/
def C19_resolve_rename_unrestricted : Prop :=
  ∀ (ρ : Name → Name) (s : Src) (depth : Nat) (st : RState),
    resolve (renameSrc ρ s) depth (renSt ρ st) =
      (resolve s depth st).map (fun p => (renameR ρ p.1, renSt ρ p.2))
theorem C19_resolve_rename_unrestricted_refuted : ¬ C19_resolve_rename_unrestricted := by
  intro h
  have e := congrArg (Option.map (fun p => p.2.errors))
    (h rn19RhoCapture rn19ProgXY 0 ⟨[], [], 0⟩)
  have w := C19_rename_capture_witness
  rw [show renSt rn19RhoCapture ⟨[], [], 0⟩ = ⟨[], [], 0⟩ from rfl, w.2.2, Option.map_map] at e
  have w1 := w.2.1
  revert e w1
  cases resolve rn19ProgXY 0 ⟨[], [], 0⟩ with
  | none => intro e; simp at e
  | some p => intro e w1; simp at e w1; rw [w1] at e; simp at e


/-- `(x : int) => (y : int) => x + y` (names `x` = 1, `y` = 2). -/
def rn19ProgAdd : Src :=
  .mk ⟨0, 31⟩ false (.lam ⟨⟨1, 2⟩, 1⟩ false (.some (.mk ⟨5, 8⟩ false .int []))
    (.mk ⟨13, 31⟩ false (.lam ⟨⟨14, 15⟩, 2⟩ false (.some (.mk ⟨18, 21⟩ false .int []))
      (.mk ⟨26, 31⟩ false (.bin .sum (.mk ⟨26, 27⟩ false (.var 1) [])
        (.mk ⟨30, 31⟩ false (.var 2) [])) [])) [])) []

/-- `x ↦ a` (3), `y ↦ b` (4), everything else fixed: not injective globally (`a ↦ a`), but
admissible for this program. -/
def rn19RhoAB : Name → Name := fun n => if n = 1 then 3 else if n = 2 then 4 else n

theorem rn19RhoAB_admissible : Admissible rn19RhoAB rn19ProgAdd [] :=
  ⟨by decide +kernel, by decide, by decide +kernel⟩

example : (resolve rn19ProgAdd 0 ⟨[], [], 0⟩).map (fun p => (eraseNames p.1.erase, p.2.errors)) =
    some (.lam 0 false .int (.lam 0 false .int (.bin .sum (.var 0 1) (.var 0 0))), []) := by
  decide +kernel
example : (resolve (renameSrc rn19RhoAB rn19ProgAdd) 0 ⟨[], [], 0⟩).map
      (fun p => (eraseNames p.1.erase, p.2.errors)) =
    some (.lam 0 false .int (.lam 0 false .int (.bin .sum (.var 0 1) (.var 0 0))), []) := by
  decide +kernel
-- the renamed program really has the new names
example : (resolve (renameSrc rn19RhoAB rn19ProgAdd) 0 ⟨[], [], 0⟩).map (fun p => p.1.erase) =
    some (.lam 3 false .int (.lam 4 false .int (.bin .sum (.var 3 1) (.var 4 0)))) := by
  decide +kernel
/-- `x ↔ a`: a permutation, so globally injective. -/
def rn19RhoSwap : Nat → Nat := fun n => if n = 1 then 3 else if n = 3 then 1 else n
theorem rn19RhoSwap_inj : ∀ x y : Nat, rn19RhoSwap x = rn19RhoSwap y → x = y := by
  intro x y h
  unfold rn19RhoSwap at h
  split at h <;> split at h <;> (try split at h) <;> (try split at h) <;> omega
-- the hypotheses of `C19_rename_finish_parse` are satisfiable
example : (∀ x y : Name, rn19RhoSwap x = rn19RhoSwap y → x = y) ∧
    rn19RhoSwap placeholder = placeholder := ⟨rn19RhoSwap_inj, by decide⟩

end SourceRename

/-! The resolution step of "adding redundant parentheses" (`Lemmas/ResolveLayout.lean`): parentheses
change only source ranges, `group` flags and recorded-error lists of the surface tree. -/

section ResolveLayout
open PModel

/-- **Layout independence of name resolution.**  Two surface trees that are equal after erasing
source ranges, `group` flags and recorded-error lists (`RewriteMore.strip`) resolve alike from every
state: both panic or neither, and the results show the same semantic term (`RTm.erase`, the resolved
term without ranges: same structure, names, de Bruijn indices, hole ids and shifts), the same final
context, the same hole counter and the same NUMBER of diagnostics (`RewriteMore.resView`; the ranges
of the diagnostics are layout).  In particular `collect_definitions` follows the body chain of nested
lets whatever their `group` flag, and no arm of `resolve_variables` branches on a range, a flag or an
error list. -/
def C19_resolve_layout_independent_stmt : Prop :=
  ∀ (s s' : Src) (depth : Nat) (st : RState), RewriteMore.strip s = RewriteMore.strip s' →
    (resolve s depth st).map RewriteMore.resView = (resolve s' depth st).map RewriteMore.resView
theorem C19_resolve_layout_independent : C19_resolve_layout_independent_stmt :=
  resolve_layout_independent

/-- `x => (y => (x))` with the ranges of that text and `group = true` on the parenthesised nodes -/
private def rn19ProgXYParen : Src :=
  .mk ⟨0, 15⟩ false (.lam ⟨⟨0, 1⟩, 1⟩ false .none
    (.mk ⟨5, 15⟩ true (.lam ⟨⟨6, 7⟩, 2⟩ false .none (.mk ⟨11, 14⟩ true (.var 1) [])) [])) []

-- non-vacuity: the parenthesised program is a different tree with the same `strip`
example : RewriteMore.strip rn19ProgXYParen = RewriteMore.strip rn19ProgXY ∧
    rn19ProgXYParen.range ≠ rn19ProgXY.range := ⟨by rfl, by decide⟩
example : (resolve rn19ProgXYParen 0 ⟨[], [], 0⟩).map RewriteMore.resView =
    some (.lam 1 false (.hole 0 0) (.lam 2 false (.hole 1 0) (.var 1 1)), [], 2, 0) := by
  decide +kernel

end ResolveLayout
