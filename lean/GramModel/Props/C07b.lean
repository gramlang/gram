import GramModel.Props.C07
import GramModel.Lemmas.Unambiguous

/-!
# C07 (continued) — completeness of the parser, "accepted if and only if a sentence", unambiguity of the grammar

The statements about `Lemmas/ParseComplete.lean` and `Lemmas/Unambiguous.lean`.  `SegT toks nt a b t` ("tokens a..b form a segment derived from `nt`, with parse tree `t`",
`Lemmas/ParserSpan.lean`) refines `Seg`, which maps into `Derives` over the productions regenerated from `grammar.y`
(`PModel.Seg.derives`, `Props/C07.lean`); `C07_unambiguous` says the tree is unique.
-/

/-- **Completeness.**  Every sentence of the grammar is accepted: if the whole token array is a `term` segment with parse tree `t`, the
parser model returns exactly `t`, consumes every token, records no error and is confident — for every token array, every construct
(operators, applications, binders, arrows, conditionals, definitions, parentheses), ordered choice and the error-recovering functions
included: on a sentence every alternative tried before the right one fails, and `parse_let` / `parse_if` / `parse_group` never commit
wrongly. -/
def C07_parse_complete_stmt : Prop :=
  ∀ (toks : Array PModel.PTok) (t : PModel.Src), PModel.SegT toks .term 0 toks.size t →
    ∃ r st, PModel.runParser toks = some (r, st) ∧ r.term = t ∧ r.next = toks.size ∧
      PModel.collectErrors r.term = [] ∧ r.confident = true
theorem C07_parse_complete : C07_parse_complete_stmt := fun _ _ h => PModel.parse_complete h

/-- **Accepted if and only if a sentence, and the tree is the sentence's derivation.**  The parser model accepts a token array (consumes
every token, records no error) exactly when the array is a sentence of the grammar, and whatever it returns on a sentence is that
sentence's (unique, `C07_unambiguous`) parse tree. -/
def C07_accepted_iff_sentence_stmt : Prop :=
  ∀ (toks : Array PModel.PTok),
    ((∃ r st, PModel.runParser toks = some (r, st) ∧ r.next = toks.size ∧ PModel.collectErrors r.term = []) ↔
      ∃ t, PModel.SegT toks .term 0 toks.size t) ∧
    (∀ r st t, PModel.runParser toks = some (r, st) → PModel.SegT toks .term 0 toks.size t → r.term = t)
theorem C07_accepted_iff_sentence : C07_accepted_iff_sentence_stmt := PModel.accepted_iff_sentence

open PModel

/-! ## Unambiguity of `grammar.y` (the last clause of the property)

In the form available here: `PModel.SegT toks nt a b t` is the tree-carrying version of the
parse-shaped derivation relation `Seg` (one constructor per production of `grammar.y`, mapped into
`Derives Generated.grammarProductions` in `Props/C07.lean`); `t` records the derivation (the production used at
every node, its segment, its children).  Proof in `Lemmas/Unambiguous.lean`. -/

/-- The grammar assigns at most one parse tree to any segment of any token sequence, from any
nonterminal. -/
def C07_unambiguous_stmt : Prop :=
  ∀ (toks : Array PTok) (nt : NT) (a b : Nat) (t₁ t₂ : Src),
    SegT toks nt a b t₁ → SegT toks nt a b t₂ → t₁ = t₂
theorem C07_unambiguous : C07_unambiguous_stmt :=
  fun _ _ _ _ _ _ h1 h2 => PModel.unambiguous h1 h2

/-- The extension law: of two segments with the same start derived from the same tower nonterminal
the shorter one is followed by a token of the nonterminal's extension set `Unamb.ext` (never `)`,
`}`, `then`, `else`, a terminator; for `atom` the set is empty, for `small_term` it is the first
tokens of atoms, each level adds its own operators).  This is what makes every split point of every
sequence production unique. -/
def C07_extension_law_stmt : Prop :=
  ∀ (toks : Array PTok) (nt : NT) (a b b' : Nat) (t t' : Src), nt ∈ Unamb.tower →
    SegT toks nt a b t → SegT toks nt a b' t' → b < b' →
    ∃ k, KAt toks b k ∧ Unamb.ext nt k = true
theorem C07_extension_law : C07_extension_law_stmt :=
  fun _ _ _ _ _ _ _ hA h1 h2 hlt => PModel.ext_law hA h1 h2 hlt

/-- Atoms are prefix-free. -/
def C07_atom_end_unique_stmt : Prop :=
  ∀ (toks : Array PTok) (a b b' : Nat), Seg toks .atom a b → Seg toks .atom a b' → b = b'
theorem C07_atom_end_unique : C07_atom_end_unique_stmt :=
  fun _ _ _ _ h1 h2 => PModel.atom_end_unique h1 h2

/-- The tree the parser builds for an accepted input (before re-association) is THE parse tree of
the whole token sequence. -/
def C07_accepted_unique_tree_stmt : Prop :=
  ∀ (toks : Array PTok) (ctx : List Name) (t : RTm), parseModel toks ctx = .ok t →
    ∃ r st, runParser toks = some (r, st) ∧ SegT toks .term 0 toks.size r.term ∧
      ∀ t', SegT toks .term 0 toks.size t' → t' = r.term
theorem C07_accepted_unique_tree : C07_accepted_unique_tree_stmt := by
  intro toks ctx t h
  obtain ⟨r, st, hr, hn, hce⟩ := C07_all_consumed toks ctx t h
  have hs := runParser_spans hr hce
  rw [hn] at hs
  exact ⟨r, st, hr, hs, fun t' ht' => PModel.unambiguous ht' hs⟩
