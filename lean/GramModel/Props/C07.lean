import GramModel.Lemmas.ParserStepsTie
import GramModel.Lemmas.Derives
import GramModel.Lemmas.ParserSound
import GramModel.Lemmas.RewriteParens

/-!
# C07 — the parser accepts exactly `grammar.y` and builds the tree it specifies

Soundness w.r.t. `grammar.y` (`C07_parse_sound`) is proved here, completeness (`C07_parse_complete`) and
unambiguity of the grammar (`C07_unambiguous`: at most one parse tree per segment and nonterminal) in
`Props/C07b.lean`.  Independently, suite `parser` compares the implementation with an Earley recogniser over
the grammar read from `/repo/grammar.y` (same accepted token sequences, exactly one derivation) and suite
`programs` compares the tree built for every generated sentence with the generator's derivation.
Also proved here: facts about the model parser `PModel` (which reproduces the
implementation on all ~10⁵ quick / 1.7·10⁶ thorough `parse` ops): every token is consumed, and the
re-association passes turn right-nested chains into left-nested ones while treating a
parenthesised operand as opaque.
-/

open PModel

/-- A successful parse consumed every token and its tree contains no error. -/
def C07_all_consumed_stmt : Prop :=
  ∀ (toks : Array PTok) (ctx : List Name) (t : RTm), parseModel toks ctx = .ok t →
    ∃ r st, runParser toks = some (r, st) ∧ r.next = toks.size ∧ collectErrors r.term = []
theorem C07_all_consumed : C07_all_consumed_stmt := by
  intro toks ctx t h
  unfold parseModel at h
  cases hr : runParser toks with
  | none => simp [hr] at h
  | some p =>
    obtain ⟨r, st⟩ := p
    simp only [hr] at h
    exact ⟨r, st, rfl, finishParse_ok h⟩

/-- an operand that is not a chain of the family being re-associated and that the pass leaves
alone (an atom: keyword, variable or literal) -/
def isAtom (t : Src) : Bool :=
  match t.variant with
  | .type | .var _ | .int | .lit _ | .bool | .tt | .ff => true
  | _ => false

/-- the right-nested chain `a₀ ⊕₁ (a₁ ⊕₂ (… aₙ))` the packrat functions produce (ungrouped) -/
def rightNested (r : SourceRange) (a0 : Src) : List (BinOp × Src) → Src
  | [] => a0
  | (op, a1) :: rest => .mk r false (.bin op a0 (rightNested r a1 rest)) []

/-- the left-nested chain `((a₀ ⊕₁ a₁) ⊕₂ …) ⊕ₙ aₙ` with the spans and `group` flags the passes give -/
def leftNested (a0 : Src) : List (BinOp × Src) → Src
  | [] => a0
  | (op, a1) :: rest => leftNested (.mk (span a0.range a1.range) true (.bin op a0 a1) []) rest

theorem reassoc_atom (fam : Family) (acc : Option (Src × Link)) (t : Src) (h : isAtom t = true) :
    reassoc fam acc t = some (reassocTail acc t) := by
  obtain ⟨r, g, v, e⟩ := t
  refine RewriteMore.kept_atom fam r g v e ?_ acc
  cases v <;> simp_all [isAtom, Src.variant]

/-- at a node of the family the pass takes the chain step of `Lemmas/ReassocChain.lean` -/
theorem reassoc_owned (fam : Family) (acc : Option (Src × Link)) (r : SourceRange) (g : Bool) (o : BinOp)
    (a b : Src) (es : List PErr) (ho : fam.owns o) :
    reassoc fam acc (.mk r g (.bin o a b) es) = chainStep fam (.op o) r g a b acc :=
  (reassoc_bin ..).trans (if_pos ho)

/-- With an accumulator pending, a right-nested chain of atoms is folded to the left, whatever the
`group` flags of the atoms. -/
theorem reassoc_chain_acc (fam : Family) (r : SourceRange) :
    ∀ (rest : List (BinOp × Src)) (acc : Src) (op : BinOp) (a1 : Src),
    isAtom a1 = true → (∀ p ∈ rest, isAtom p.2 = true ∧ fam.owns p.1) →
    reassoc fam (some (acc, Link.op op)) (rightNested r a1 rest)
      = some (leftNested (.mk (span acc.range a1.range) true (.bin op acc a1) []) rest)
  | [], acc, op, a1, h1, _ => by
      simp [rightNested, leftNested, reassoc_atom fam _ a1 h1, reassocTail, Link.build]
  | (op2, a2) :: rest', acc, op, a1, h1, hrest => by
      have h2 : isAtom a2 = true ∧ fam.owns op2 := hrest (op2, a2) (by simp)
      have ih := reassoc_chain_acc fam r rest'
        (.mk (span acc.range a1.range) true (.bin op acc a1) []) op2 a2 h2.1
        (fun p hp => hrest p (by simp [hp]))
      simp only [rightNested, leftNested]
      rw [reassoc_owned _ _ _ _ _ _ _ _ h2.2]
      simp only [chainStep, chainArm, Option.isSome, Bool.and_false, Bool.false_eq_true, if_false,
        reassoc_atom fam _ a1 h1, reassocTail, Link.build]
      split
      · rename_i hg
        cases rest' with
        | nil =>
          simp only [rightNested, leftNested, reassoc_atom fam _ a2 h2.1, reassocTail]
          simp [span, Src.range]
        | cons x rest'' => simp [rightNested, Src.group] at hg
      · exact ih

/-- From the top (no accumulator): left-nested, provided that a chain of just two operands does
not have a grouped right operand. -/
theorem reassoc_chain_top (fam : Family) (r : SourceRange) (a0 : Src) (op : BinOp) (a1 : Src)
    (rest : List (BinOp × Src)) (h0 : isAtom a0 = true)
    (hrest : ∀ p ∈ (op, a1) :: rest, isAtom p.2 = true ∧ fam.owns p.1)
    (hg : rest = [] → a1.group = false) :
    reassoc fam none (rightNested r a0 ((op, a1) :: rest)) = some (leftNested a0 ((op, a1) :: rest)) := by
  have h1 : isAtom a1 = true ∧ fam.owns op := hrest (op, a1) (by simp)
  have hng : (rightNested r a1 rest).group = false := by
    cases rest with
    | nil => simpa [rightNested] using hg rfl
    | cons x rest' => simp [rightNested, Src.group]
  simp only [rightNested, leftNested]
  rw [reassoc_owned _ _ _ _ _ _ _ _ h1.2]
  simp only [chainStep, chainArm, Option.isSome, Bool.false_and, hng, Bool.false_eq_true, if_false,
    reassoc_atom fam _ a0 h0, reassocTail]
  exact reassoc_chain_acc fam r rest a0 op a1 h1.1 fun p hp => hrest p (by simp [hp])

/-- The exception: a chain of two operands whose right operand is grouped (`a + (b)`) keeps its
node exactly as parsed — range `r` and `group = false` instead of `span a0.range a1.range` and
`group = true`. -/
theorem reassoc_pair_grouped (fam : Family) (r : SourceRange) (a0 : Src) (op : BinOp) (a1 : Src)
    (h0 : isAtom a0 = true) (h1 : isAtom a1 = true) (ho : fam.owns op) (hg : a1.group = true) :
    reassoc fam none (rightNested r a0 [(op, a1)]) = some (.mk r false (.bin op a0 a1) []) := by
  simp only [rightNested]
  rw [reassoc_owned _ _ _ _ _ _ _ _ ho]
  simp only [chainStep, chainArm, Option.isSome, Bool.false_and, Bool.false_eq_true, if_false, hg, if_true,
    reassoc_atom fam _ a0 h0, reassoc_atom fam _ a1 h1, reassocTail, Link.build]


/-- (First formulation, **refuted** below: false when a two-operand chain has a grouped right operand;
kept, without the `_stmt` suffix, next to its refutation.)  **Left association of `+` / `-` chains**: a right-nested chain of atoms of any length, with any
mixture of `+` and `-`, is rebuilt left-nested by `reassociate_sums_and_differences`, operators
and operands in the same order.  (`a - b - c` means `(a - b) - c`.) -/
def C07_sums_left_assoc_unrestricted : Prop :=
  ∀ (r : SourceRange) (a0 : Src) (rest : List (BinOp × Src)),
    isAtom a0 = true → (∀ p ∈ rest, isAtom p.2 = true ∧ (p.1 = .sum ∨ p.1 = .diff)) →
    rest ≠ [] →
    reassociateSumsAndDifferences (rightNested r a0 rest) = some (leftNested a0 rest)

/-- `C07_sums_left_assoc_unrestricted` is FALSE of the model as stated: `isAtom` does not constrain
the `group` flag, and for a chain of exactly two operands whose right operand is grouped
(`1 + (2)`) the pass takes the `term2.group` arm with no accumulator and rebuilds the node with
its parsed range `r` and `group = false`, whereas `leftNested` prescribes
`span a0.range a1.range` and `group = true`. -/
theorem C07_sums_left_assoc_refuted : ¬ C07_sums_left_assoc_unrestricted := by
  intro h
  have h1 := h ⟨0, 7⟩ (.mk ⟨0, 1⟩ false (.lit 1) []) [(.sum, .mk ⟨4, 7⟩ true (.lit 2) [])]
    rfl (by simp [isAtom, Src.variant]) (by simp)
  unfold reassociateSumsAndDifferences at h1
  rw [reassoc_pair_grouped _ _ _ _ _ rfl rfl (Or.inr ⟨rfl, Or.inl rfl⟩) rfl] at h1
  simp [leftNested] at h1

/-- Corrected statement: the same, except that a chain of exactly two operands must not have a
grouped right operand (longer chains may contain grouped atoms anywhere). -/
def C07_sums_left_assoc_fixed_stmt : Prop :=
  ∀ (r : SourceRange) (a0 : Src) (rest : List (BinOp × Src)),
    isAtom a0 = true → (∀ p ∈ rest, isAtom p.2 = true ∧ (p.1 = .sum ∨ p.1 = .diff)) →
    rest ≠ [] → (∀ op a1, rest = [(op, a1)] → a1.group = false) →
    reassociateSumsAndDifferences (rightNested r a0 rest) = some (leftNested a0 rest)
theorem C07_sums_left_assoc_fixed : C07_sums_left_assoc_fixed_stmt := by
  intro r a0 rest h0 hrest hne hg
  cases rest with
  | nil => exact absurd rfl hne
  | cons p rest' =>
    obtain ⟨op, a1⟩ := p
    exact reassoc_chain_top .sumsAndDifferences r a0 op a1 rest' h0
      (fun p hp => ⟨(hrest p hp).1, Or.inr ⟨rfl, (hrest p hp).2⟩⟩)
      (fun e => hg op a1 (by rw [e]))

/-- The excluded case, exactly: `a0 ⊕ (a1)` keeps the node as parsed. -/
def C07_pair_grouped_stmt : Prop :=
  ∀ (r : SourceRange) (a0 a1 : Src) (op : BinOp), isAtom a0 = true → isAtom a1 = true →
    a1.group = true →
    ((op = .sum ∨ op = .diff) →
      reassociateSumsAndDifferences (rightNested r a0 [(op, a1)]) = some (.mk r false (.bin op a0 a1) [])) ∧
    ((op = .prod ∨ op = .quot) →
      reassociateProductsAndQuotients (rightNested r a0 [(op, a1)]) = some (.mk r false (.bin op a0 a1) []))
theorem C07_pair_grouped : C07_pair_grouped_stmt := by
  intro r a0 a1 op h0 h1 hg
  exact ⟨fun ho => reassoc_pair_grouped _ r a0 op a1 h0 h1 (Or.inr ⟨rfl, ho⟩) hg,
         fun ho => reassoc_pair_grouped _ r a0 op a1 h0 h1 (Or.inl ⟨rfl, ho⟩) hg⟩

/-- the same for `*` / `/` -/
def C07_products_left_assoc_unrestricted : Prop :=
  ∀ (r : SourceRange) (a0 : Src) (rest : List (BinOp × Src)),
    isAtom a0 = true → (∀ p ∈ rest, isAtom p.2 = true ∧ (p.1 = .prod ∨ p.1 = .quot)) →
    rest ≠ [] →
    reassociateProductsAndQuotients (rightNested r a0 rest) = some (leftNested a0 rest)

/-- `C07_products_left_assoc_unrestricted` is FALSE for the same reason (`2 * (3)`). -/
theorem C07_products_left_assoc_refuted : ¬ C07_products_left_assoc_unrestricted := by
  intro h
  have h1 := h ⟨0, 7⟩ (.mk ⟨0, 1⟩ false (.lit 2) []) [(.prod, .mk ⟨4, 7⟩ true (.lit 3) [])]
    rfl (by simp [isAtom, Src.variant]) (by simp)
  unfold reassociateProductsAndQuotients at h1
  rw [reassoc_pair_grouped _ _ _ _ _ rfl rfl (Or.inl ⟨rfl, Or.inl rfl⟩) rfl] at h1
  simp [leftNested] at h1

def C07_products_left_assoc_fixed_stmt : Prop :=
  ∀ (r : SourceRange) (a0 : Src) (rest : List (BinOp × Src)),
    isAtom a0 = true → (∀ p ∈ rest, isAtom p.2 = true ∧ (p.1 = .prod ∨ p.1 = .quot)) →
    rest ≠ [] → (∀ op a1, rest = [(op, a1)] → a1.group = false) →
    reassociateProductsAndQuotients (rightNested r a0 rest) = some (leftNested a0 rest)
theorem C07_products_left_assoc_fixed : C07_products_left_assoc_fixed_stmt := by
  intro r a0 rest h0 hrest hne hg
  cases rest with
  | nil => exact absurd rfl hne
  | cons p rest' =>
    obtain ⟨op, a1⟩ := p
    exact reassoc_chain_top .productsAndQuotients r a0 op a1 rest' h0
      (fun p hp => ⟨(hrest p hp).1, Or.inl ⟨rfl, (hrest p hp).2⟩⟩)
      (fun e => hg op a1 (by rw [e]))

/-- **Explicit parentheses are honoured**: a parenthesised (grouped) chain met while an
accumulator is pending is an opaque operand — it is re-associated on its own and then attached,
never merged with its surroundings (the repaired defect D8). -/
def C07_group_opaque_stmt : Prop :=
  ∀ (fam : Family) (acc : Src × Link) (r : SourceRange) (op : BinOp) (a b : Src) (es : List PErr),
    (match fam with
     | .sumsAndDifferences => op = .sum ∨ op = .diff
     | .productsAndQuotients => op = .prod ∨ op = .quot
     | .applications => False) →
    reassoc fam (some acc) (.mk r true (.bin op a b) es) =
      (reassoc fam none (.mk r true (.bin op a b) es)).map (reassocTail (some acc))
theorem C07_group_opaque : C07_group_opaque_stmt := by
  intro fam acc r op a b es hfam
  refine RewriteMore.opaque_grouped fam r op a b es ?_ (some acc)
  cases fam <;> simp_all

/-- The passes act on disjoint families: re-associating sums leaves a product node's own shape
alone (it only descends into it), and conversely. -/
def C07_families_disjoint_stmt : Prop :=
  ∀ (r : SourceRange) (g : Bool) (a b a' b' : Src) (es : List PErr),
    reassoc .sumsAndDifferences none a = some a' → reassoc .sumsAndDifferences none b = some b' →
    reassoc .sumsAndDifferences none (.mk r g (.bin .prod a b) es) = some (.mk r g (.bin .prod a' b') [])
theorem C07_families_disjoint : C07_families_disjoint_stmt := by
  intro r g a b a' b' es ha hb
  rw [reassoc]
  simp [ha, hb, reassocTail]

private def atom (n : Int) (s e : Nat) : Src := .mk ⟨s, e⟩ false (.lit n) []
-- `10 - 5 - 3` as parsed (right-nested) becomes `(10 - 5) - 3`
example :
    reassociateSumsAndDifferences (rightNested ⟨0, 10⟩ (atom 10 0 2) [(.diff, atom 5 5 6), (.diff, atom 3 9 10)])
      = some (leftNested (atom 10 0 2) [(.diff, atom 5 5 6), (.diff, atom 3 9 10)]) := by rfl

/-! Soundness w.r.t. the published grammar: `Generated.grammarProductions` is regenerated from
`/repo/grammar.y` on every run. -/

/-- the grammar terminal a token kind stands for (`token.rs` ↔ `grammar.y`) -/
def terminalOf : PKind → String
  | .asterisk => "ASTERISK" | .boolean => "BOOLEAN" | .colon => "COLON" | .doubleEquals => "DOUBLE_EQUALS"
  | .else_ => "ELSE" | .equals => "EQUALS" | .false_ => "FALSE" | .greaterThan => "GREATER_THAN"
  | .greaterThanOrEqualTo => "GREATER_THAN_OR_EQUAL" | .identifier _ => "IDENTIFIER" | .if_ => "IF"
  | .integer => "INTEGER" | .integerLiteral _ => "INTEGER_LITERAL" | .leftCurly => "LEFT_CURLY"
  | .leftParen => "LEFT_PAREN" | .lessThan => "LESS_THAN" | .lessThanOrEqualTo => "LESS_THAN_OR_EQUAL"
  | .minus => "MINUS" | .plus => "PLUS" | .rightCurly => "RIGHT_CURLY" | .rightParen => "RIGHT_PAREN"
  | .slash => "SLASH" | .terminator _ => "TERMINATOR" | .then_ => "THEN" | .thickArrow => "THICK_ARROW"
  | .thinArrow => "THIN_ARROW" | .true_ => "TRUE" | .type_ => "TYPE"

/-- the grammar nonterminal a packrat function parses -/
def nonterminalOf : NT → String
  | .term => "term" | .type => "type" | .variable => "variable" | .lambda => "lambda"
  | .lambdaImplicit => "lambda_implicit" | .annotatedLambda => "annotated_lambda"
  | .annotatedLambdaImplicit => "annotated_lambda_implicit" | .pi => "pi" | .piImplicit => "pi_implicit"
  | .nonDependentPi => "non_dependent_pi" | .application => "application" | .let_ => "let"
  | .integer => "integer" | .integerLiteral => "integer_literal" | .negation => "negation" | .sum => "sum"
  | .difference => "difference" | .product => "product" | .quotient => "quotient" | .lessThan => "less_than"
  | .lessThanOrEqualTo => "less_than_or_equal_to" | .equalTo => "equal_to" | .greaterThan => "greater_than"
  | .greaterThanOrEqualTo => "greater_than_or_equal_to" | .boolean => "boolean" | .true_ => "true"
  | .false_ => "false" | .if_ => "if" | .group => "group" | .atom => "atom" | .smallTerm => "small_term"
  | .mediumTerm => "medium_term" | .largeTerm => "large_term" | .hugeTerm => "huge_term"
  | .giantTerm => "giant_term" | .jumboTerm => "jumbo_term"

/-- the terminal string of the tokens from `a` (inclusive) to `b` (exclusive) -/
def terminalsBetween (toks : Array PTok) (a b : Nat) : List String :=
  ((toks.toList.drop a).take (b - a)).map (fun t => terminalOf t.kind)

theorem terminalsBetween_append (toks : Array PTok) {a b c : Nat} (h1 : a ≤ b) (h2 : b ≤ c) :
    terminalsBetween toks a c = terminalsBetween toks a b ++ terminalsBetween toks b c := by
  unfold terminalsBetween
  rw [← List.map_append]
  congr 1
  have e : c - a = (b - a) + (c - b) := by omega
  rw [e, List.take_add, List.drop_drop]
  congr 3
  omega

theorem terminalsBetween_self (toks : Array PTok) (a : Nat) : terminalsBetween toks a a = [] := by
  simp [terminalsBetween]

theorem terminalsBetween_one {toks : Array PTok} {a : Nat} {k : PKind} (h : KAt toks a k) :
    terminalsBetween toks a (a + 1) = [terminalOf k] := by
  obtain ⟨hlt, hk⟩ := h
  unfold terminalsBetween
  have e : a + 1 - a = 1 := by omega
  have hl : a < toks.toList.length := by simpa using hlt
  rw [e, List.drop_eq_getElem_cons hl]
  simp [hk]

theorem terminalsBetween_all (toks : Array PTok) :
    terminalsBetween toks 0 toks.size = toks.toList.map (fun t => terminalOf t.kind) := by
  unfold terminalsBetween
  rw [List.drop_zero, Nat.sub_zero, List.take_of_length_le (by simp)]

theorem terminalOf_mem (k : PKind) : terminalOf k ∈ Generated.grammarTerminals := by
  cases k <;> dsimp only [terminalOf] <;> decide +kernel

/-- a token, then the rest of the right-hand side -/
theorem DerivesSeq.tokAt {G : List (String × List String)} {toks : Array PTok} {a c : Nat} {k : PKind}
    {rest : List String} (hk : KAt toks a k) (hac : a + 1 ≤ c)
    (h : DerivesSeq G rest (terminalsBetween toks (a + 1) c)) :
    DerivesSeq G (terminalOf k :: rest) (terminalsBetween toks a c) := by
  rw [terminalsBetween_append toks (Nat.le_succ a) hac, terminalsBetween_one hk]
  exact DerivesSeq.term (terminalOf_mem k) h

/-- a nonterminal, then the rest of the right-hand side -/
theorem DerivesSeq.ntAt {G : List (String × List String)} {toks : Array PTok} {a b c : Nat} {A : String}
    {rest : List String} (hab : a ≤ b) (hbc : b ≤ c) (h1 : Derives G A (terminalsBetween toks a b))
    (h2 : DerivesSeq G rest (terminalsBetween toks b c)) :
    DerivesSeq G (A :: rest) (terminalsBetween toks a c) := by
  rw [terminalsBetween_append toks hab hbc]
  exact DerivesSeq.nonterm h1 h2

theorem DerivesSeq.nilAt {G : List (String × List String)} {toks : Array PTok} {a : Nat} :
    DerivesSeq G [] (terminalsBetween toks a a) := by
  rw [terminalsBetween_self]; exact DerivesSeq.nil

theorem unitProds_mem : ∀ p ∈ unitProds,
    (nonterminalOf p.1, [nonterminalOf p.2]) ∈ Generated.grammarProductions := by
  decide +kernel

theorem leafProds_mem : ∀ p ∈ leafProds,
    (nonterminalOf p.1, [terminalOf p.2]) ∈ Generated.grammarProductions := by
  decide +kernel

theorem binProds_mem : ∀ p ∈ binProds,
    (nonterminalOf p.1, [nonterminalOf p.2.1, terminalOf p.2.2.1, nonterminalOf p.2.2.2])
      ∈ Generated.grammarProductions := by
  decide +kernel

theorem binderProds_mem : ∀ p ∈ binderProds, ∀ x : Name,
    (nonterminalOf p.1, [terminalOf p.2.1, terminalOf (.identifier x), terminalOf .colon,
      nonterminalOf .jumboTerm, terminalOf p.2.2.1, terminalOf p.2.2.2, nonterminalOf .term])
      ∈ Generated.grammarProductions := by
  intro p hp x
  revert p
  dsimp only [terminalOf]
  decide +kernel

/-- **Every parse-shaped derivation is a derivation of `grammar.y`.** -/
theorem PModel.Seg.derives {toks : Array PTok} {nt : NT} {a b : Nat} (h : Seg toks nt a b) :
    a ≤ b ∧ Derives Generated.grammarProductions (nonterminalOf nt) (terminalsBetween toks a b) := by
  induction h with
  | unit hm _ ih =>
    exact ⟨ih.1, Derives.prod (unitProds_mem _ hm) (.ntAt ih.1 (Nat.le_refl _) ih.2 .nilAt)⟩
  | leaf hm hk =>
    exact ⟨Nat.le_succ _, Derives.prod (leafProds_mem _ hm) (.tokAt hk (Nat.le_refl _) .nilAt)⟩
  -- the four tabulated shapes find their production by `decide` over the table (`unitProds_mem` …); the eleven others name it
  -- by `(i := k)`, its row in `Generated.grammarProductions` counted from 0
  | @var x a hk =>
    have hm : (nonterminalOf .variable, [terminalOf (.identifier x)]) ∈ Generated.grammarProductions :=
      List.mem_of_getElem? (i := 3) rfl
    exact ⟨Nat.le_succ _, Derives.prod hm (.tokAt hk (Nat.le_refl _) .nilAt)⟩
  | @lit n a hk =>
    have hm : (nonterminalOf .integerLiteral, [terminalOf (.integerLiteral n)])
        ∈ Generated.grammarProductions :=
      List.mem_of_getElem? (i := 16) rfl
    exact ⟨Nat.le_succ _, Derives.prod hm (.tokAt hk (Nat.le_refl _) .nilAt)⟩
  | @lambda x a b h1 h2 _ ih =>
    have hm : (nonterminalOf .lambda, [terminalOf (.identifier x), terminalOf .thickArrow,
        nonterminalOf .term]) ∈ Generated.grammarProductions :=
      List.mem_of_getElem? (i := 4) rfl
    have := ih.1
    exact ⟨by omega, Derives.prod hm (.tokAt h1 (by omega) (.tokAt h2 (by omega)
      (.ntAt ih.1 (Nat.le_refl _) ih.2 .nilAt)))⟩
  | @lambdaImplicit x a b h1 h2 h3 h4 _ ih =>
    have hm : (nonterminalOf .lambdaImplicit, [terminalOf .leftCurly, terminalOf (.identifier x),
        terminalOf .rightCurly, terminalOf .thickArrow, nonterminalOf .term])
        ∈ Generated.grammarProductions :=
      List.mem_of_getElem? (i := 5) rfl
    have := ih.1
    exact ⟨by omega, Derives.prod hm (.tokAt h1 (by omega) (.tokAt h2 (by omega) (.tokAt h3 (by omega)
      (.tokAt h4 (by omega) (.ntAt ih.1 (Nat.le_refl _) ih.2 .nilAt)))))⟩
  | @binder A o c ar x a b d hm h1 h2 h3 _ h4 h5 _ ih1 ih2 =>
    have := ih1.1
    have := ih2.1
    exact ⟨by omega, Derives.prod (binderProds_mem _ hm x) (.tokAt h1 (by omega) (.tokAt h2 (by omega)
      (.tokAt h3 (by omega) (.ntAt ih1.1 (by omega) ih1.2 (.tokAt h4 (by omega) (.tokAt h5 (by omega)
      (.ntAt ih2.1 (Nat.le_refl _) ih2.2 .nilAt)))))))⟩
  | nonDependentPi _ h1 _ ih1 ih2 =>
    have hm : (nonterminalOf .nonDependentPi, [nonterminalOf .smallTerm, terminalOf .thinArrow,
        nonterminalOf .term]) ∈ Generated.grammarProductions :=
      List.mem_of_getElem? (i := 10) rfl
    have := ih1.1
    have := ih2.1
    exact ⟨by omega, Derives.prod hm (.ntAt ih1.1 (by omega) ih1.2 (.tokAt h1 (by omega)
      (.ntAt ih2.1 (Nat.le_refl _) ih2.2 .nilAt)))⟩
  | application _ _ ih1 ih2 =>
    have hm : (nonterminalOf .application, [nonterminalOf .atom, nonterminalOf .smallTerm])
        ∈ Generated.grammarProductions :=
      List.mem_of_getElem? (i := 11) rfl
    have := ih1.1
    have := ih2.1
    exact ⟨by omega, Derives.prod hm (.ntAt ih1.1 ih2.1 ih1.2
      (.ntAt ih2.1 (Nat.le_refl _) ih2.2 .nilAt))⟩
  | @letPlain x t a b c h1 h2 _ h3 _ ih1 ih2 =>
    have hm : (nonterminalOf .let_, [terminalOf (.identifier x), "let_annotation", terminalOf .equals,
        nonterminalOf .term, terminalOf (.terminator t), nonterminalOf .term])
        ∈ Generated.grammarProductions :=
      List.mem_of_getElem? (i := 12) rfl
    have hann : Derives Generated.grammarProductions "let_annotation"
        (terminalsBetween toks (a + 1) (a + 1)) :=
      Derives.prod (rhs := []) (List.mem_of_getElem? (i := 13) rfl) .nilAt
    have := ih1.1
    have := ih2.1
    exact ⟨by omega, Derives.prod hm (.tokAt h1 (by omega) (.ntAt (Nat.le_refl _) (by omega) hann
      (.tokAt h2 (by omega) (.ntAt ih1.1 (by omega) ih1.2 (.tokAt h3 (by omega)
      (.ntAt ih2.1 (Nat.le_refl _) ih2.2 .nilAt))))))⟩
  | @letAnn x t a b c d h1 h2 _ h3 _ h4 _ ih1 ih2 ih3 =>
    have hm : (nonterminalOf .let_, [terminalOf (.identifier x), "let_annotation", terminalOf .equals,
        nonterminalOf .term, terminalOf (.terminator t), nonterminalOf .term])
        ∈ Generated.grammarProductions :=
      List.mem_of_getElem? (i := 12) rfl
    have := ih1.1
    have := ih2.1
    have := ih3.1
    have hann : Derives Generated.grammarProductions "let_annotation"
        (terminalsBetween toks (a + 1) b) :=
      Derives.prod (rhs := [terminalOf .colon, nonterminalOf .smallTerm])
        (List.mem_of_getElem? (i := 14) rfl)
        (.tokAt h2 (by omega) (.ntAt ih1.1 (Nat.le_refl _) ih1.2 .nilAt))
    exact ⟨by omega, Derives.prod hm (.tokAt h1 (by omega) (.ntAt (by omega) (by omega) hann
      (.tokAt h3 (by omega) (.ntAt ih2.1 (by omega) ih2.2 (.tokAt h4 (by omega)
      (.ntAt ih3.1 (Nat.le_refl _) ih3.2 .nilAt))))))⟩
  | negation h1 _ ih =>
    have hm : (nonterminalOf .negation, [terminalOf .minus, nonterminalOf .largeTerm])
        ∈ Generated.grammarProductions :=
      List.mem_of_getElem? (i := 17) rfl
    have := ih.1
    exact ⟨by omega, Derives.prod hm (.tokAt h1 (by omega) (.ntAt ih.1 (Nat.le_refl _) ih.2 .nilAt))⟩
  | bin hm _ h1 _ ih1 ih2 =>
    have := ih1.1
    have := ih2.1
    exact ⟨by omega, Derives.prod (binProds_mem _ hm) (.ntAt ih1.1 (by omega) ih1.2
      (.tokAt h1 (by omega) (.ntAt ih2.1 (Nat.le_refl _) ih2.2 .nilAt)))⟩
  | ite h1 _ h2 _ h3 _ ih1 ih2 ih3 =>
    have hm : (nonterminalOf .if_, [terminalOf .if_, nonterminalOf .term, terminalOf .then_,
        nonterminalOf .term, terminalOf .else_, nonterminalOf .term])
        ∈ Generated.grammarProductions :=
      List.mem_of_getElem? (i := 30) rfl
    have := ih1.1
    have := ih2.1
    have := ih3.1
    exact ⟨by omega, Derives.prod hm (.tokAt h1 (by omega) (.ntAt ih1.1 (by omega) ih1.2
      (.tokAt h2 (by omega) (.ntAt ih2.1 (by omega) ih2.2 (.tokAt h3 (by omega)
      (.ntAt ih3.1 (Nat.le_refl _) ih3.2 .nilAt))))))⟩
  | group h1 _ h2 ih =>
    have hm : (nonterminalOf .group, [terminalOf .leftParen, nonterminalOf .term,
        terminalOf .rightParen]) ∈ Generated.grammarProductions :=
      List.mem_of_getElem? (i := 31) rfl
    have := ih.1
    exact ⟨by omega, Derives.prod hm (.tokAt h1 (by omega) (.ntAt ih.1 (by omega) ih.2
      (.tokAt h2 (Nat.le_refl _) .nilAt)))⟩

/-- **Soundness of the parser w.r.t. `grammar.y`**: whenever a packrat function returns a tree
without any recorded error, the tokens it consumed are a sentence of its nonterminal in the
published grammar. -/
def C07_parse_sound_stmt : Prop :=
  ∀ (toks : Array PTok) (nt : NT) (r : PResult) (st : PState),
    parseNT toks (parseFuel toks) nt 0 PState.init = some (r, st) →
    collectErrors r.term = [] →
    Derives Generated.grammarProductions (nonterminalOf nt) (terminalsBetween toks 0 r.next)
theorem C07_parse_sound : C07_parse_sound_stmt := by
  intro toks nt r st h hce
  exact ((parseNT_sound h).2 hce).derives.2

/-- **Accepted ⇒ sentence**: every token sequence the parser accepts is a sentence of `grammar.y`. -/
def C07_accepted_is_sentence_stmt : Prop :=
  ∀ (toks : Array PTok) (ctx : List Name) (t : RTm), parseModel toks ctx = .ok t →
    Derives Generated.grammarProductions "term" (toks.toList.map (fun t => terminalOf t.kind))
theorem C07_accepted_is_sentence : C07_accepted_is_sentence_stmt := by
  intro toks ctx t h
  obtain ⟨r, st, hr, hn, hce⟩ := C07_all_consumed toks ctx t h
  have hd := C07_parse_sound toks .term r st hr hce
  rwa [hn, terminalsBetween_all] at hd

/-- For the 8 choice functions (`parse_term`, `parse_atom`, `parse_small_term` … `parse_jumbo_term`), the 9 binary-operator
functions and the 5 keyword leaves — 22 of the 36 packrat functions — the body the model runs for that nonterminal IS the
interpretation of the row read off `parser.rs` by `extract/arms.py`: the alternatives in their order (`try_return!`), resp.
`try_eval!(left operand)`, `consume_token_0!(operator)`, right operand, node; resp. token and leaf.  A reordered or added
alternative, an operand parsed at another precedence level, another operator token or another node built changes the row and
this theorem stops checking. -/
def C07_parser_steps_regular_stmt : Prop :=
  ∀ (toks : Array PModel.PTok) (rec : PModel.NT → Nat → PModel.ParseM PModel.PResult) (start : Nat),
    ∀ fn ∈ PModel.regularFns, ∃ nt, PModel.ntOfFn fn = some nt ∧
      PModel.interpRow toks rec (PModel.stepsOf fn) start = some (PModel.parseBody toks rec nt start)
theorem C07_parser_steps_regular : C07_parser_steps_regular_stmt := PModel.regular_bodies

/-- For 11 more functions — `parse_variable`, `parse_integer_literal`, `parse_lambda`, `parse_lambda_implicit`, the four annotated binders,
`parse_non_dependent_pi`, `parse_application`, `parse_negation` — the model body is the interpretation of the extracted row by a generic
combinator of that shape (`binderG`, `lambdaG`, `lambdaImplicitG`, `arrowG`, `applicationG`, `negationG`): every token kind consumed, every
nonterminal called (through `try_eval!` or plainly), the node built and its `implicit` flag come from the row.  Together with
`C07_parser_steps_regular`: 33 of the 36 packrat functions. -/
def C07_parser_steps_regular2_stmt : Prop :=
  ∀ (toks : Array PModel.PTok) (rec : PModel.NT → Nat → PModel.ParseM PModel.PResult) (start : Nat),
    ∀ fn ∈ PModel.regularFns2, ∃ nt, PModel.ntOfFn fn = some nt ∧
      PModel.interpRow2 toks rec (PModel.stepsOf fn) start = some (PModel.parseBody toks rec nt start)
theorem C07_parser_steps_regular2 : C07_parser_steps_regular2_stmt := PModel.regular_bodies2

/-- The rows of the remaining 3 functions — `parse_let`, `parse_if`, `parse_group`, the ones with error-recovery scans — are the rows the
model was written from, the 36 rows are the 36 functions, each once, in the order of the `Nonterminal` enum, and the three lists
partition them. -/
def C07_parser_steps_irregular_stmt : Prop :=
  (∀ r ∈ PModel.irregularRows, PModel.stepsOf r.1 = r.2) ∧
  Generated.parserSteps.length = 36 ∧
  (∀ r ∈ Generated.parserSteps, (PModel.ntOfFn r.1).isSome) ∧
  (Generated.parserSteps.map (fun r => (PModel.ntOfFn r.1).map PModel.NT.idx)) = (List.range 36).map some ∧
  (PModel.regularFns ++ PModel.regularFns2 ++ PModel.irregularRows.map (·.1)).length = 36 ∧
  (∀ r ∈ Generated.parserSteps, r.1 ∈ PModel.regularFns ++ PModel.regularFns2 ++ PModel.irregularRows.map (·.1))
theorem C07_parser_steps_irregular : C07_parser_steps_irregular_stmt := by
  unfold C07_parser_steps_irregular_stmt; decide +kernel
