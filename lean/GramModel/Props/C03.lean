import GramModel.Lemmas.ArmsTie
import GramModel.Lemmas.CheckSound

/-!
# C03 — the type checker never accepts an ill-typed program

The full statement is **false of the code** (known finding KF-holecopy): a negation witness is proved
below by kernel evaluation, and the same program is replayed on the implementation on every run.
The per-program decision — every program the real checker accepts is re-checked by the independent
checker `inferX` on its zonked elaboration — is made by the `pipeline` and `programs` suites.
-/

/-- The independent checker only accepts well-scoped terms (for hole-free terms — `inferX` types a hole
as `type` whatever its shift, which is how gram itself types a hole): every variable it meets has an
entry in the typing context. -/
def C03_oracle_scoped_holefree_stmt : Prop :=
  ∀ (fuel : Nat) (Γ : TCtxX) (Δ : DCtxX) (t T : Tm), Γ.length = Δ.length → t.holeFree = true →
    inferX fuel Γ Δ t = .ok T → wellScoped Γ.length t = true
theorem C03_oracle_scoped_holefree : C03_oracle_scoped_holefree_stmt :=
  fun fuel Γ Δ t T _ hf h => (OracleLemmas.inferX_scoped_aux fuel).1 Γ Δ t T hf h

/-- The independent checker is syntax-directed on the constants: it gives literals, booleans and
the base types exactly their type (so a constant of the wrong kind can only be accepted through a
conversion check that fails). -/
def C03_oracle_constants_stmt : Prop :=
  ∀ (f : Nat) (Γ : TCtxX) (Δ : DCtxX) (n : Int),
    inferX (f+1) Γ Δ (.lit n) = .ok .int ∧ inferX (f+1) Γ Δ .tt = .ok .bool ∧
    inferX (f+1) Γ Δ .ff = .ok .bool ∧ inferX (f+1) Γ Δ .int = .ok .type ∧
    inferX (f+1) Γ Δ .bool = .ok .type ∧ inferX (f+1) Γ Δ .type = .ok .type
theorem C03_oracle_constants : C03_oracle_constants_stmt := by
  intro f Γ Δ n; simp [inferX]

/-- Arithmetic on a boolean is rejected by the independent checker whatever the context. -/
def C03_oracle_rejects_bool_arith_stmt : Prop :=
  ∀ (f : Nat) (Γ : TCtxX) (Δ : DCtxX) (op : BinOp) (b : Tm),
    inferX (f+3) Γ Δ (.bin op .tt b) = .error .notInt
theorem C03_oracle_rejects_bool_arith : C03_oracle_rejects_bool_arith_stmt := by
  intro f Γ Δ op b
  simp [inferX, expectX, convX, sameX, whnfX]

/-! ## Negation witness (KF-holecopy): accepted by the model of gram's checker, rejected by the
independent checker -/

-- `((f : int -> _) => f 1 + 1) ((x : int) => true)`
def C03_w_holecopy : Tm :=
  .app (.lam 1 false (.pi 0 false .int (.hole 0 0)) (.bin .sum (.app (.var 1 0) (.lit 1)) (.lit 1)))
       (.lam 2 false .int .tt)

def acceptedButIllTyped (fuel : Nat) (w : Tm) (cells : Nat) : Bool :=
  match inferS fuel w { store := List.replicate cells none } with
  | .ok (e, ty) s =>
      s.nerrs == 0 &&
      (match zonk fuel s.store e, zonk fuel s.store ty with
       | some ze, some zty => (match oracleAccepts fuel ze zty with | .error .notInt => true | _ => false)
       | _, _ => false)
  | _ => false

def C03_false_holecopy_stmt : Prop := acceptedButIllTyped 40 C03_w_holecopy 1 = true
theorem C03_false_holecopy : C03_false_holecopy_stmt := by unfold C03_false_holecopy_stmt; decide +kernel

/-- More fuel never changes an answer of the normalizer … -/
def C03_whnfX_fuel_mono_stmt : Prop :=
  ∀ (f : Nat) (Δ : DCtxX) (t r : Tm), whnfX f Δ t = some r → whnfX (f+1) Δ t = some r
/-- … of the conversion check … -/
def C03_convX_fuel_mono_stmt : Prop :=
  ∀ (f : Nat) (Δ : DCtxX) (a b : Tm) (r : Bool), convX f Δ a b = some r → convX (f+1) Δ a b = some r
/-- … or a typing verdict: once `inferX` has answered (accepting with a type, or rejecting for a
reason other than running out of fuel), every larger fuel gives the same answer. -/
def C03_inferX_fuel_mono_stmt : Prop :=
  ∀ (f : Nat) (Γ : TCtxX) (Δ : DCtxX) (t : Tm) (r : Except XErr Tm),
    inferX f Γ Δ t = r → r ≠ .error .fuel → inferX (f+1) Γ Δ t = r
theorem C03_whnfX_fuel_mono : C03_whnfX_fuel_mono_stmt := FuelLemmas.whnfX_mono
theorem C03_convX_fuel_mono : C03_convX_fuel_mono_stmt := FuelLemmas.convX_mono
theorem C03_inferX_fuel_mono : C03_inferX_fuel_mono_stmt := FuelLemmas.inferX_mono

/-- The same three facts for an arbitrary larger fuel (not just one more unit), and for the whole
judgement `oracleAccepts`: a verdict other than "out of fuel" is the verdict at every larger fuel. -/
def C03_fuel_le_stmt : Prop :=
  (∀ (f g : Nat) (Δ : DCtxX) (t r : Tm), f ≤ g → whnfX f Δ t = some r → whnfX g Δ t = some r) ∧
  (∀ (f g : Nat) (Δ : DCtxX) (a b : Tm) (r : Bool), f ≤ g →
    convX f Δ a b = some r → convX g Δ a b = some r) ∧
  (∀ (f g : Nat) (Γ : TCtxX) (Δ : DCtxX) (t : Tm) (r : Except XErr Tm), f ≤ g →
    inferX f Γ Δ t = r → r ≠ .error .fuel → inferX g Γ Δ t = r) ∧
  (∀ (f g : Nat) (e ty : Tm) (r : Except XErr Bool), f ≤ g →
    oracleAccepts f e ty = r → r ≠ .error .fuel → oracleAccepts g e ty = r)
theorem C03_fuel_le : C03_fuel_le_stmt :=
  ⟨fun _ _ _ _ _ hfg h => FuelLemmas.whnfX_mono_le hfg h, fun _ _ _ _ _ _ hfg h => FuelLemmas.convX_mono_le hfg h,
    fun _ _ _ _ _ _ hfg h hr => FuelLemmas.inferX_mono_le hfg h hr,
    fun _ _ _ _ _ hfg h hr => FuelLemmas.oracleAccepts_mono_le hfg h hr⟩

def TCtxX.holeFree (Γ : TCtxX) : Prop := ∀ e ∈ Γ, e.1.holeFree = true
def DCtxX.holeFree (Δ : DCtxX) : Prop := ∀ e ∈ Δ, ∀ d o, e = some (d, o) → d.holeFree = true

/-- The normalizer only rewrites a term into a convertible one. -/
def C03_whnf_sound_stmt : Prop :=
  ∀ (f : Nat) (Δ : DCtxX) (t r : Tm), whnfX f Δ t = some r → Conv Δ t r
theorem C03_whnf_sound : C03_whnf_sound_stmt :=
  fun _ _ _ _ h => TypingSound.whnfX_conv h

/-- A positive answer of the conversion check on hole-free terms is a derivation of convertibility
(no fuel, no strategy).  (With holes the check is deliberately lenient, so this cannot hold there.) -/
def C03_conv_sound_stmt : Prop :=
  ∀ (f : Nat) (Δ : DCtxX) (a b : Tm), a.holeFree = true → b.holeFree = true → DCtxX.holeFree Δ →
    convX f Δ a b = some true → Conv Δ a b
theorem C03_conv_sound : C03_conv_sound_stmt :=
  fun f Δ a b ha hb hD h => TypingSound.convX_sound f Δ a b ha hb hD h

/-- **Soundness of the independent checker**: on hole-free terms in hole-free contexts, the type it
computes is a type of the term under the declarative rules. -/
def C03_infer_sound_stmt : Prop :=
  ∀ (f : Nat) (Γ : TCtxX) (Δ : DCtxX) (t T : Tm), t.holeFree = true → TCtxX.holeFree Γ → DCtxX.holeFree Δ →
    inferX f Γ Δ t = .ok T → HasType Γ Δ t T
theorem C03_infer_sound : C03_infer_sound_stmt :=
  fun _ _ _ _ _ ht hΓ hD h => TypingSound.inferX_sound ht hΓ hD h

/-- The same for definition groups: an accepted hole-free group is well typed under the declarative
rules. -/
def C03_inferDefs_sound_stmt : Prop :=
  ∀ (f : Nat) (Γ : TCtxX) (Δ : DCtxX) (ds : Defs), ds.holeFree = true → TCtxX.holeFree Γ →
    DCtxX.holeFree Δ → inferDefsX f Γ Δ ds = .ok () → DefsOK Γ Δ ds
theorem C03_inferDefs_sound : C03_inferDefs_sound_stmt :=
  fun _ _ _ _ hds hΓ hD h => TypingSound.inferDefsX_sound hds hΓ hD h

/-- The whole judgement made about an accepted program: if the independent checker accepts a
hole-free elaboration at a hole-free reported type, the elaboration has the reported type under the
declarative rules. -/
def C03_oracle_sound_stmt : Prop :=
  ∀ (fuel : Nat) (e ty : Tm), e.holeFree = true → ty.holeFree = true →
    oracleAccepts fuel e ty = .ok true → HasType [] [] e ty
theorem C03_oracle_sound : C03_oracle_sound_stmt :=
  fun _ _ _ he hty h => TypingSound.oracleAccepts_sound he hty h

/-- Boolean forms of "the checker answered exactly this", so that the examples are closed by kernel
evaluation (`decide`). -/
def C03_acceptsB (x : Except XErr Bool) : Bool := match x with | .ok true => true | _ => false
theorem C03_of_acceptsB {x : Except XErr Bool} (h : C03_acceptsB x = true) : x = .ok true := by
  unfold C03_acceptsB at h; split at h <;> first | rfl | cases h
def C03_infersB (x : Except XErr Tm) (T : Tm) : Bool := match x with | .ok T' => decide (T' = T) | _ => false
theorem C03_of_infersB {x : Except XErr Tm} {T : Tm} (h : C03_infersB x T = true) : x = .ok T := by
  unfold C03_infersB at h; split at h
  · rw [of_decide_eq_true h]
  · cases h

-- `(x => x + 1) 2` normalizes to `3`, hence is convertible with it
example : Conv [] (.app (.lam 1 false .int (.bin .sum (.var 1 0) (.lit 1))) (.lit 2)) (.lit 3) :=
  C03_whnf_sound 5 [] _ _ (by decide)

-- under a definition `n : int = 2` (entry `some (lit 2, 1)`), `if n < 3 then int else bool` is
-- convertible with `(A : type) => A` applied to `int`, although neither is a normal form of the other
example : Conv [some (.lit 2, 1)]
    (.ite (.bin .lt (.var 7 0) (.lit 3)) .int .bool) (.app (.lam 1 false .type (.var 1 0)) .int) :=
  C03_conv_sound 6 _ _ _ rfl rfl (by intro e he d o heq; simp at he; subst he; cases heq; rfl)
    (by decide)

/-- `id : (A : type) -> A -> A = A => x => x;  k : int = id int 2;  id int (k + 1)` — a definition
group with a dependent function, a definition that uses it, and a body that uses both. -/
def C03_ex_group : Tm :=
  .letg
    (.cons 1 (.pi 2 false .type (.pi 3 false (.var 2 0) (.var 2 1)))
             (.lam 2 false .type (.lam 3 false (.var 2 0) (.var 3 0)))
     (.cons 4 .int (.app (.app (.var 1 1) .int) (.lit 2)) .nil))
    (.app (.app (.var 1 1) .int) (.bin .sum (.var 4 0) (.lit 1)))

-- it is accepted at type `int` by the independent checker, hence has type `int` declaratively
example : HasType [] [] C03_ex_group .int :=
  C03_oracle_sound 12 _ _ rfl rfl (C03_of_acceptsB (by decide))

-- the dependent identity alone has its dependent type
example : HasType [] [] (.lam 2 false .type (.lam 3 false (.var 2 0) (.var 3 0)))
    (.pi 2 false .type (.pi 3 false (.var 2 0) (.var 2 1))) :=
  C03_infer_sound 4 [] [] _ _ rfl (fun _ h => by cases h) (fun _ h => by cases h) (C03_of_infersB (by decide))

/-- **C03 for hole-free source programs.**  If the model of gram's checker accepts a closed, hole-free
(fully annotated) program without reporting an error, then the zonked elaboration has the zonked reported
type under the declarative rules of `Typing.lean`.  (For programs with holes this is false — KF-holecopy,
KF-holedepth; the witnesses are above and in `Props/C14.lean`.)  The cells the checker allocates itself (two
per application) are the only holes in play. -/
def C03_checker_sound_holefree_stmt : Prop :=
  ∀ (fuel : Nat) (t e ty ze zty : Tm) (s : St), t.holeFree = true → wellScoped 0 t = true →
    inferS fuel t {} = .ok (e, ty) s → s.nerrs = 0 →
    zonk fuel s.store e = some ze → zonk fuel s.store ty = some zty →
    ze.holeFree = true → zty.holeFree = true → HasType [] [] ze zty

/-- The only fact about `Conv` that the checker's soundness needs beyond `Typing.lean`'s rules for the
other constructors: the admissibility of the unfolding group rule. -/
def C03_checker_sound_modulo_group_stmt : Prop :=
  CheckSound.GroupRuleAdmissible → C03_checker_sound_holefree_stmt
theorem C03_checker_sound_modulo_group : C03_checker_sound_modulo_group_stmt :=
  fun hadm _ _ _ _ _ _ _ ht _ h hn hze hzty _ _ =>
    (CheckSound.checker_sound_zonked (CheckSound.rules_HasType hadm) ht h hn hze hzty).2

theorem C03_checker_sound_holefree : C03_checker_sound_holefree_stmt :=
  C03_checker_sound_modulo_group CheckSound.groupRuleAdmissible

/-- The elaboration of a hole-free program is the program itself (nothing to fill in). -/
def C03_checker_elab_holefree_stmt : Prop :=
  ∀ (fuel : Nat) (t e ty : Tm) (s : St), t.holeFree = true →
    inferS fuel t {} = .ok (e, ty) s → e = t
theorem C03_checker_elab_holefree : C03_checker_elab_holefree_stmt :=
  fun _ _ _ _ _ _ h => inferS_elab_id h

/-! ### The group rule

The checker's run is a derivation in any judgement closed under `CheckSound.Rules` — the rules of `Typing.lean` with
the group rule replaced by the *unfolding* rule that gram implements (`groupTypeX ds bty`: every group variable `x` of
the body's type replaced by the closed term `ds; x`).  The unfolding rule is admissible in `HasType` because `ds; bty`
and `groupTypeX ds bty` are convertible (`C03_group_type_conv`).  That argument goes under every constructor of `bty`,
including nested groups, and therefore needs `Conv` to be a congruence for groups — the rule `Conv.letg` of
`Typing.lean` (group variables opaque in the premises).  Without that rule the statement is out of reach: for
`t = int; (z : int) => (f : (int -> type) = (n : int) => if n == 0 then t else f (n - 1); (w : f z) => w)` the two
types unfold in parallel for ever (the independent checker, which has no such rule, answers `.error .fuel` at every
fuel). -/

/-- The declarative type of a group, `ds; bty`, is convertible with the type gram computes for it. -/
def C03_group_type_conv_stmt : Prop :=
  ∀ (Δ : DCtxX) (ds : Defs) (bty : Tm), ds.holeFree = true → bty.holeFree = true →
    Conv Δ (.letg ds bty) (CheckSound.groupTypeX ds bty)
theorem C03_group_type_conv : C03_group_type_conv_stmt := CheckSound.group_type_conv

/-- On a hole-free program an error-free run reports a hole-free type (so zonking changes nothing). -/
def C03_checker_type_holefree_stmt : Prop :=
  ∀ (fuel : Nat) (t e ty : Tm) (s : St), t.holeFree = true →
    inferS fuel t {} = .ok (e, ty) s → s.nerrs = 0 → ty.holeFree = true
theorem C03_checker_type_holefree : C03_checker_type_holefree_stmt :=
  fun _ _ _ _ _ ht h hn => (CheckSound.checker_sound_generic CheckSound.rules_HasTypeU ht h hn).2.1

/-- **C03 for hole-free programs, with gram's own group rule.**  An accepted hole-free program has the
reported type in `CheckSound.HasTypeU`: the declarative system of `Typing.lean` plus the rule that a
group `ds; body` with `body : bty` may be given the unfolded type `groupTypeX ds bty`. -/
def C03_checker_sound_unfold_stmt : Prop :=
  ∀ (fuel : Nat) (t e ty ze zty : Tm) (s : St), t.holeFree = true →
    inferS fuel t {} = .ok (e, ty) s → s.nerrs = 0 →
    zonk fuel s.store e = some ze → zonk fuel s.store ty = some zty →
    CheckSound.HasTypeU [] [] ze zty
theorem C03_checker_sound_unfold : C03_checker_sound_unfold_stmt :=
  fun _ _ _ _ _ _ _ ht h hn hze hzty =>
    (CheckSound.checker_sound_zonked CheckSound.rules_HasTypeU ht h hn hze hzty).2

/-- **C03 for hole-free programs without definition groups** (dependent functions, applications,
arithmetic, conditionals): this fragment does not use the group congruence `Conv.letg`. -/
def C03_checker_sound_nolet_stmt : Prop :=
  ∀ (fuel : Nat) (t e ty ze zty : Tm) (s : St), t.holeFree = true → CheckSound.noLet t = true →
    inferS fuel t {} = .ok (e, ty) s → s.nerrs = 0 →
    zonk fuel s.store e = some ze → zonk fuel s.store ty = some zty → HasType [] [] ze zty
theorem C03_checker_sound_nolet : C03_checker_sound_nolet_stmt :=
  fun _ _ _ _ _ _ _ ht hnl h hn hze hzty => by
    obtain ⟨rfl, j⟩ := CheckSound.checker_sound_zonked CheckSound.rules_HasTypeNL ht h hn hze hzty
    exact j hnl

/-! ## The operator rules of the checker are the ones `type_checker.rs` contains (regenerated on every run) -/

/-- Every binary arm of `type_checker.rs::type_check_rec` (read off the source by `extract/arms.py`) infers the left
operand and unifies ITS type with `int` (error at the left operand), infers the right operand and unifies ITS type
with `int` (error at the right operand), rebuilds the same operator with the elaborated operands in place, and
returns `int` for the four arithmetic operators and `bool` for the five comparisons — the one rule the model
`inferS` implements for all nine operators. -/
def C03_check_shape_tie_stmt : Prop := checkShapeOK = true
theorem C03_check_shape_tie : C03_check_shape_tie_stmt := by unfold C03_check_shape_tie_stmt; decide
