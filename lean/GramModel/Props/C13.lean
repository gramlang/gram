import GramModel.Generated.Sites
import GramModel.Lemmas.SortDedup

/-!
# C13 — output is a deterministic function of the input

A Lean function is deterministic by construction, so the content is put in deliberately, twice.  The site by itself
(`HashSet → Vec → sort_unstable` in `check_definition`): `visitOrder` iterates in an order chosen by an **arbitrary
permutation** `π` of the container's elements, and `C13_visit_order_invariant` is invariance under `π`.  The parser model:
it has no `π`; its `checkDefinition` runs over `sortDedup` of the free variables, and `C13_model_site_set_function` says that
this is a function of their set.  The list of iteration sites is regenerated from the sources on every run.
-/

def natLe (a b : Nat) : Bool := decide (a ≤ b)

/-- the order in which `check_definition` visits the free variables of a definition: whatever order
the hash set yields (`π`), the elements are collected and sorted first -/
def visitOrder (π : List Nat → List Nat) (elems : List Nat) : List Nat := (π elems).mergeSort natLe

/-- Sorting makes the visiting order independent of the hash order: any two iteration orders of
the same set give the same sequence of visits (hence the same diagnostics in the same order). -/
def C13_visit_order_invariant_stmt : Prop :=
  ∀ (π₁ π₂ : List Nat → List Nat) (elems : List Nat),
    (π₁ elems).Perm elems → (π₂ elems).Perm elems → visitOrder π₁ elems = visitOrder π₂ elems
theorem C13_visit_order_invariant : C13_visit_order_invariant_stmt := by
  intro π₁ π₂ elems h1 h2
  have le_iff {a b : Nat} : natLe a b = true ↔ a ≤ b := decide_eq_true_iff
  have tr (a b c : Nat) (hab : natLe a b = true) (hbc : natLe b c = true) : natLe a c = true :=
    le_iff.2 (Nat.le_trans (le_iff.1 hab) (le_iff.1 hbc))
  have tot (a b : Nat) : (natLe a b || natLe b a) = true :=
    Bool.or_eq_true .. ▸ (Nat.le_total a b).imp le_iff.2 le_iff.2
  -- both visiting orders are sorted permutations of `elems`, and a sorted permutation is unique
  exact List.Perm.eq_of_pairwise (le := fun a b => natLe a b = true)
    (fun _ _ _ _ hab hba => Nat.le_antisymm (le_iff.1 hab) (le_iff.1 hba))
    (List.pairwise_mergeSort tr tot _) (List.pairwise_mergeSort tr tot _)
    (((List.mergeSort_perm _ _).trans (h1.trans h2.symm)).trans (List.mergeSort_perm _ _).symm)

/-- Every iteration over a hash container in the (non-test) sources is one whose result is sorted
before use — i.e. a `π`-site covered by the theorem above.  A new `for … in hash_set`, errors
collected into a `HashMap`, or a removed sort makes this fail. -/
def C13_hash_iteration_sites_covered_stmt : Prop :=
  ∀ site ∈ Generated.hashIterSites, site.2.2.2 = true
theorem C13_hash_iteration_sites_covered : C13_hash_iteration_sites_covered_stmt := by
  unfold C13_hash_iteration_sites_covered_stmt; decide

/-- The sources have exactly one such site: `check_definition`'s free-variable set. -/
def C13_known_sites_stmt : Prop :=
  Generated.hashIterSites.map (fun s => (s.1, s.2.1, s.2.2.1)) = [("parser.rs", "check_definition", "variables")]
theorem C13_known_sites : C13_known_sites_stmt := rfl

/-! ## Non-vacuity: two different hash orders of {3,1,2}, one visiting order -/
example : visitOrder (fun _ => [3, 1, 2]) [1, 2, 3] = visitOrder (fun _ => [2, 3, 1]) [1, 2, 3] :=
  C13_visit_order_invariant _ _ _ (by decide) (by decide)
-- without the sort the order depends on the hash order
example : (fun (_ : List Nat) => [3, 1, 2]) [1, 2, 3] ≠ (fun (_ : List Nat) => [2, 3, 1]) [1, 2, 3] := by decide

/-- In the parser model (the one compared with `parse()` on every `parse` op) the loop of `check_definition` runs
over `sortDedup` of the free variables: whatever order — and multiplicity — the hash set yields its elements in,
the loop visits the same variables in the same order, so the same diagnostics come out in the same order. -/
def C13_model_site_set_function_stmt : Prop :=
  ∀ (defs : Array (Name × PModel.RTm × PModel.RTm)) (start : Nat)
    (rec : Nat → PModel.CheckSt → Option PModel.CheckSt) (xs ys : List Nat) (st : PModel.CheckSt),
    (∀ x, x ∈ xs ↔ x ∈ ys) →
    PModel.checkVariables defs start rec (PModel.sortDedup xs) st =
      PModel.checkVariables defs start rec (PModel.sortDedup ys) st
theorem C13_model_site_set_function : C13_model_site_set_function_stmt := by
  intro defs start rec xs ys st h
  rw [PModel.sortDedup_set xs ys h]

/-- Every use, in non-test code, of an API whose result can differ between two runs on the same file — clocks,
random numbers, threads, environment, process id, pointer formatting / casts / hashing, directory listing, hasher
state, parallel iterators, shared mutable state — regenerated from the sources on every run.  There are exactly two,
and neither reaches the output: `main` runs everything in ONE thread that it joins at once (a big stack, no
concurrency), and `HashableRc` hashes the address of a cell for the occurs-check set of `collect_unifiers`, which
is only ever asked `contains`/`insert` (an iteration over it would appear in `Generated.hashIterSites` and break
`C13_hash_iteration_sites_covered`).  A diagnostic that prints an address, a timing line, a `for` over an
address-keyed set, a second thread … changes this table. -/
def C13_nondeterminism_sources_stmt : Prop :=
  Generated.nondetSources = [("main.rs", "main", "thread"), ("unifier.rs", "hash", "pointer-hash")]
theorem C13_nondeterminism_sources : C13_nondeterminism_sources_stmt := rfl

-- non-vacuity: two hash orders (one with a repeated element) of the set {0, 2, 5}
example : PModel.sortDedup [5, 0, 2, 5] = PModel.sortDedup [2, 5, 0] := by decide
