import GramModel.Lemmas.ArmsTie
import GramModel.Props.C05
import GramModel.Lemmas.ConvCoherence
import GramModel.Lemmas.UnifyAcyclic

/-!
# C12 — unification succeeds only with a consistent, well-scoped solution

True of `unify` as it is: filled cells never change and its `panic!` arm is dead (`C12_store_monotone`,
`C12_unify_no_let_panic`); a recorded solution is well scoped (`C12_solution_scoped`, with holes
`C12_solution_scoped_store`); every assignment is guarded by an exact occurs check, the store stays acyclic and `zonk`
terminates (`C12_unify_acyclic` … `C12_zonk_after_unify`); a hole-free, well-scoped term unifies with each of its
reducts (`C12_unify_reduct`; without the scoping `C12_unify_reduct_refuted`).  "The solutions make the two sides
convertible" is FALSE without restriction (`C12_unify_sound_unrestricted`): three witnesses, two of them defects of
the Rust unifier (KF-holecopy, KF-holedepth); the corrected statement is `C12_unify_sound_fixed`.
-/

/-- Filled cells never change and no cell disappears during unification. -/
def C12_store_monotone_stmt : Prop :=
  ∀ (fuel : Nat) (a b : Tm) (res : Bool) (s s' : St), unifyS fuel a b s = .ok res s' →
    storeExtends s.store s'.store
theorem C12_store_monotone : C12_store_monotone_stmt := by
  intro fuel a b res s s' h
  exact storeExtends_iff.2 (StoreMono.unifyS_le h).1

/-- Weak-head normalisation never returns a group (the `panic!` arm of `unify` is unreachable). -/
def C12_whnf_never_let_stmt : Prop :=
  ∀ (fuel : Nat) (t r : Tm) (s s' : St), whnfS fuel t s = .ok r s' → ∀ ds b, r ≠ .letg ds b
theorem C12_whnf_never_let : C12_whnf_never_let_stmt := by
  intro fuel t r s s' h
  exact WhnfLemmas.whnfS_notLet' h

/-- Unification never reaches its `panic!("Encountered a let after conversion to weak head normal
form")` arm. -/
def C12_unify_no_let_panic_stmt : Prop :=
  ∀ (fuel : Nat) (a b : Tm) (s : St), unifyS fuel a b s ≠ .panic "unify.let_after_whnf"
theorem C12_unify_no_let_panic : C12_unify_no_let_panic_stmt := by
  intro fuel a b s
  exact WhnfLemmas.unifyS_np fuel a b s

/-- A cell is only ever solved by a term in which it does not occur (the occurs check guards every
assignment): `solveS` assigns only when `occursS` answered `false`. -/
def C12_assign_guarded_stmt : Prop :=
  ∀ (f id shift : Nat) (other : Tm) (s s' : St), solveS f id shift other s = .ok (some true) s' →
    ∃ s1, occursS f id other s1 = .ok false s1

/-- The same, naming the state in which the occurs check ran: it is the state `s1` reached after the
guard `signed_shift(other, 0, -shift)` succeeded, and the occurs check leaves that state as it was. -/
def C12_assign_guarded_precise_stmt : Prop :=
  ∀ (f id shift : Nat) (other : Tm) (s s' : St), solveS f id shift other s = .ok (some true) s' →
    ∃ sol s1, sshiftS f 0 (-(shift : Int)) other s = .ok (some sol) s1 ∧
      occursS f id other s1 = .ok false s1
theorem C12_assign_guarded_precise : C12_assign_guarded_precise_stmt := by
  intro f id shift other s s' h
  rcases UnifyAcyclic.solveS_cases h with ⟨e, _⟩ | ⟨e, _⟩ | ⟨_, sol, h1, h2, _⟩
  · cases e
  · cases e
  · exact ⟨sol, s, h1, h2⟩
theorem C12_assign_guarded : C12_assign_guarded_stmt :=
  fun f id shift other s s' h => let ⟨_, s1, _, h2⟩ := C12_assign_guarded_precise f id shift other s s' h; ⟨s1, h2⟩

-- the occurs check: `?0` against `?0 -> int` is refused, the cell stays empty
example :
    (match unifyS 20 (.hole 0 0) (.pi 0 false (.hole 0 0) .int) { store := [none] } with
     | .ok r s' => r == false && s'.store == [none]
     | _ => false) = true := by decide
-- scope escape: a hole written outside a binder cannot be solved by that binder's variable
example :
    (match unifyS 20 (.lam 1 false .int (.hole 0 1)) (.lam 1 false .int (.var 1 0)) { store := [none] } with
     | .ok r s' => r == false && s'.store == [none]
     | _ => false) = true := by decide
-- and is solved, shifted into its own scope, by an outer variable
example :
    (match unifyS 20 (.lam 1 false .int (.hole 0 1)) (.lam 1 false .int (.var 2 1))
        { store := [none], dctx := [none] } with
     | .ok r s' => r == true && s'.store == [some (.var 2 0)] && s'.dctx == [none]
     | _ => false) = true := by decide

/-- A recorded solution mentions only variables in scope where its hole was written: a cell with
shift `k` is solved by `other` lowered by `k` binders, which exists only if no variable of `other`
among the `k` innermost ones is used — so every free variable of the solution, raised back by `k`, is
a free variable of `other` (hole-free `other`). -/
def C12_solution_scoped_stmt : Prop :=
  ∀ (other sol : Tm) (k : Nat), other.holeFree = true →
    sshift 0 (-(k : Int)) other = some sol →
    (∀ j, freeAt sol j = true → freeAt other (j + k) = true) ∧ (∀ j, j < k → freeAt other j = false) ∧
    ushift 0 k sol = other
theorem C12_solution_scoped : C12_solution_scoped_stmt :=
  fun other sol k hf h => sshift_down_spec other sol k hf h

/-- The inverse property alone holds for every term, holes included (a hole's shift is lowered like
an index and raised back). -/
def C12_shift_inverse_stmt : Prop :=
  ∀ (t r : Tm) (c k : Nat), sshift c (-(k : Int)) t = some r → ushift c k r = t
theorem C12_shift_inverse : C12_shift_inverse_stmt := ushift_of_sshift_neg

/-- (**Refuted** below.)
**Filling the holes with the recorded solutions makes the two sides convertible.**  If the model of
`unify` answers `true`, then the two terms, zonked with the store afterwards, are judged convertible by the
independent conversion check (for some fuel), under the definitions context zonked the same way — whenever
the zonked terms are hole-free (every hole got solved) and zonking terminates (the store is acyclic). -/
def C12_unify_sound_unrestricted : Prop :=
  ∀ (f : Nat) (a b za zb : Tm) (s s' : St), unifyS f a b s = .ok true s' →
    (∀ e ∈ s.dctx, ∀ d o, e = some (d, o) → d.holeFree = true) →
    zonk f s'.store a = some za → zonk f s'.store b = some zb →
    za.holeFree = true → zb.holeFree = true →
    ∃ g, convX g s.dctx za zb = some true

theorem C12_convX_never_true {g0 : Nat} {Δ : DCtxX} {a b : Tm} (h : convX g0 Δ a b = some false) :
    ∀ g, convX g Δ a b ≠ some true :=
  fun _ hg => Bool.noConfusion (FuelLemmas.convX_det h hg)

/-- `C12_unify_sound_unrestricted` is FALSE of the model, and the counterexample is a **defect of the
Rust unifier** (another face of finding KF-holecopy: the copy is made *inside* `unify`, by the β-step of
`normalize_weak_head`, not by the type checker's own `open`).

Witness: with one empty cell `?0` and one parameter `x` in scope, unify
`if x then ((_ : int) => ?0) 5 else ?0` with `if x then 1 else 2`.  The condition is neutral, so the
branches are unified pairwise.  First branch: weak-head normalising the β-redex calls
`open(?0, 0, 5)`, and `open` replaces the *unresolved* `?0` by a **fresh** cell `?1`, which is then
solved `?1 := 1`.  Second branch: the original `?0` is still empty and is solved `?0 := 2`.  `unify`
answers `true`; but with the store `[?0 := 2, ?1 := 1]` the left term reads
`if x then ((_ : int) => 2) 5 else 2`, whose first branch normalises to `2`, not `1`: the independent
check answers `false` (at every fuel ≥ 4, hence never `true`).

The same event in a gram source program (accepted by `gram check` with a hole-free, ill-typed
elaboration `f : F bool = (x : int) => x + 1 > 0`; `gram run` gets stuck on `(true + 1) > 0`):
```
const = (a : type) => ((b : type) => a) int
F = (t : type) => const t -> t
f : F _ = (x : int) => x + 1 > 0
f true
```
(unifying `int -> bool` with `F ?0 ⟶ const ?0 -> ?0`: the domain `const ?0 ⟶ ((b : type) => ?0) int`
copies `?0` and solves the copy by `int`; the codomain solves the original by `bool`). -/
theorem C12_unify_sound_refuted : ¬ C12_unify_sound_unrestricted := by
  intro h
  obtain ⟨g, hg⟩ := h 5
    (.ite (.var 0 0) (.app (.lam 1 false .int (.hole 0 1)) (.lit 5)) (.hole 0 0))
    (.ite (.var 0 0) (.lit 1) (.lit 2))
    (.ite (.var 0 0) (.app (.lam 1 false .int (.lit 2)) (.lit 5)) (.lit 2))
    (.ite (.var 0 0) (.lit 1) (.lit 2))
    { store := [none], dctx := [none] }
    { store := [some (.lit 2), some (.lit 1)], dctx := [none] }
    (by rfl) (by intro e he d o heq; simp at he; subst he; cases heq) (by rfl) (by rfl) (by rfl) (by rfl)
  exact C12_convX_never_true (g0 := 4) (by rfl) g hg

/-- A second, independent way in which the unrestricted statement fails (finding KF-holedepth), with **no
fresh cell** involved: a cell is solved by a term that contains a hole *below the cutoff* of
`signed_shift`.  Under two parameters, unify `(_ : int) => c ?0↑1 ((_ : int) => x₁)` with
`(_ : int) => c ((_ : int) => ?1) ((_ : int) => ?1)` (`?0` lives outside the outer binder, `?1` inside
the inner one; every cell occurs at one depth only).  `?0↑1` is unified with `(_ : int) => ?1`: the
solution must be lowered by one binder, `signed_shift(·, 0, -1)` reaches `?1` at cutoff 1 with shift
`0 < 1` and leaves it untouched, so `?0 := (_ : int) => ?1` is recorded although `?1` lives one binder
deeper than `?0`.  Then `?1 := x₁`.  Reading `?0↑1` back raises the solution by one: `(_ : int) => x₂`,
whereas the other side reads `(_ : int) => x₁`: the independent check answers `false`. -/
theorem C12_unify_holedepth_witness :
    ∃ (f : Nat) (a b za zb : Tm) (s s' : St), unifyS f a b s = .ok true s' ∧
      s'.store.length = s.store.length ∧ storeDeep s.store ∧
      zonk f s'.store a = some za ∧ zonk f s'.store b = some zb ∧
      za.holeFree = true ∧ zb.holeFree = true ∧ ∀ g, convX g s.dctx za zb ≠ some true :=
  ⟨10,
   .lam 1 false .int (.app (.app (.var 9 2) (.hole 0 1)) (.lam 2 false .int (.var 9 1))),
   .lam 1 false .int (.app (.app (.var 9 2) (.lam 2 false .int (.hole 1 0))) (.lam 2 false .int (.hole 1 0))),
   .lam 1 false .int (.app (.app (.var 9 2) (.lam 2 false .int (.var 9 2))) (.lam 2 false .int (.var 9 1))),
   .lam 1 false .int (.app (.app (.var 9 2) (.lam 2 false .int (.var 9 1))) (.lam 2 false .int (.var 9 1))),
   { store := [none, none], dctx := [none, none] },
   { store := [some (.lam 2 false .int (.hole 1 0)), some (.var 9 1)], dctx := [none, none] },
   by rfl, by rfl, (fun id sub h => by rcases id with _ | _ | id <;> simp at h), by rfl, by rfl, by rfl,
   by rfl, C12_convX_never_true (g0 := 8) (by rfl)⟩

/-- `D = (x : int) => x x` -/
def C12_dup : Tm := .lam 1 false .int (.app (.var 1 0) (.var 1 0))

theorem C12_whnfX_omega (Δ : DCtxX) : ∀ n, whnfX n Δ (.app C12_dup C12_dup) = none := by
  intro n
  induction n with
  | zero => rfl
  | succ n ih =>
    cases n with
    | zero => rfl
    | succ n =>
      have : whnfX (n+1+1) Δ (.app C12_dup C12_dup) = whnfX (n+1) Δ (.app C12_dup C12_dup) := by rfl
      rw [this]
      exact ih

/-- A third reason, which is **not** a defect of the unifier but of the conclusion of `C12_unify_sound_unrestricted`: `unify`
compares `?0 D` with `?1 ((y => y) D)` structurally (`?0 := ?1`, arguments convertible) and only later
learns `?1 := D = (x => x x)`.  The zonked terms `D D` and `D ((y => y) D)` are convertible by the rules
(`Conv`), but the *algorithm* `convX` normalises `D D` first and diverges: it answers `none` at every
fuel.  No cell is allocated and no hole lies below a cutoff here, so the corrected statement must conclude
the declarative `Conv`, not `∃ g, convX g … = some true`. -/
theorem C12_unify_divergence_witness :
    ∃ (f : Nat) (a b za zb : Tm) (s s' : St), unifyS f a b s = .ok true s' ∧
      s'.store.length = s.store.length ∧ storeDeep s.store ∧ hdeep 0 a = true ∧ hdeep 0 b = true ∧
      zonk f s'.store a = some za ∧ zonk f s'.store b = some zb ∧
      za.holeFree = true ∧ zb.holeFree = true ∧ ∀ g, convX g s.dctx za zb = none := by
  refine ⟨9,
   .ite (.var 0 0) (.app (.hole 0 0) C12_dup) (.hole 0 0),
   .ite (.var 0 0) (.app (.hole 1 0) (.app (.lam 2 false .int (.var 2 0)) C12_dup)) C12_dup,
   .ite (.var 0 0) (.app C12_dup C12_dup) C12_dup,
   .ite (.var 0 0) (.app C12_dup (.app (.lam 2 false .int (.var 2 0)) C12_dup)) C12_dup,
   { store := [none, none], dctx := [none] },
   { store := [some (.hole 1 0), some C12_dup], dctx := [none] },
   by rfl, by rfl, (fun id sub h => by rcases id with _ | _ | id <;> simp at h), by rfl, by rfl, by rfl,
   by rfl, by rfl, by rfl, ?_⟩
  intro g
  rcases g with _ | _ | _ | g
  · rfl
  · rfl
  · rfl
  · have hw := C12_whnfX_omega [none] (g + 1)
    have e4 : convX (g+2) [none] (.app C12_dup C12_dup)
        (.app C12_dup (.app (.lam 2 false .int (.var 2 0)) C12_dup)) = none := by
      unfold convX
      rw [if_neg (by decide), hw]
    have e3 : convX (g+2) [none] (.var 0 0) (.var 0 0) = some true := by rfl
    have e1 : whnfX (g+2) [none] (.ite (.var 0 0) (.app C12_dup C12_dup) C12_dup) =
        some (.ite (.var 0 0) (.app C12_dup C12_dup) C12_dup) := by rfl
    have e2 : whnfX (g+2) [none]
          (.ite (.var 0 0) (.app C12_dup (.app (.lam 2 false .int (.var 2 0)) C12_dup)) C12_dup) =
        some (.ite (.var 0 0) (.app C12_dup (.app (.lam 2 false .int (.var 2 0)) C12_dup)) C12_dup) := by
      rfl
    unfold convX
    rw [if_neg (by decide), e1, e2]
    dsimp only
    rw [e3]
    dsimp only
    rw [e4]

/-- **Corrected statement.**  If the model of `unify` answers `true`, and

* **no cell was allocated during the call** (`s'.store.length = s.store.length`): in the model the only
  allocation below `unify` is `open` meeting an unresolved hole, so this says that no hole-copy event
  (KF-holecopy, hook H2 of the harness) happened — neither in a β-step nor in the unfolding of a group;
* **no hole lies below a cutoff** (`hdeep 0`, for the two terms and for every filled cell of the initial
  store): a hole under `j` binders of the term has shift `≥ j`, i.e. its cell lives outside those binders, so
  `signed_shift` never meets an unresolved hole whose shift is below the cutoff (KF-holedepth, hook H4) and
  its scope check is effective;
* the definitions context is hole-free,

then the two terms, zonked with the final store (at any fuel `fz` at which zonking answers), are
**convertible by the declarative rules** `Conv` of `Typing.lean`, whenever they are hole-free.

`C12_unify_sound_unrestricted` fails in the three ways witnessed above: `C12_unify_sound_refuted` and
`C12_unify_holedepth_witness` are real defects, excluded by the first two hypotheses;
`C12_unify_divergence_witness` shows that the conclusion cannot ask the *algorithm* `convX` to succeed —
convertibility has to be the relation `Conv`.  On hole-free terms a positive answer of `convX` implies
`Conv`, so the conclusion is the unrestricted one weakened exactly as far as the third witness requires.  The two
hypotheses are the weakest of their kind: each is necessary by the witnesses above (each witness satisfies
all the other hypotheses), and each is stated on what the run did / on the input, not on the proof. -/
def C12_unify_sound_fixed_stmt : Prop :=
  ∀ (f fz : Nat) (a b za zb : Tm) (s s' : St), unifyS f a b s = .ok true s' →
    (∀ e ∈ s.dctx, ∀ d o, e = some (d, o) → d.holeFree = true) →
    s'.store.length = s.store.length →
    hdeep 0 a = true → hdeep 0 b = true → storeDeep s.store →
    zonk fz s'.store a = some za → zonk fz s'.store b = some zb →
    za.holeFree = true → zb.holeFree = true →
    Conv s.dctx za zb
theorem C12_unify_sound_fixed : C12_unify_sound_fixed_stmt :=
  fun _ _ _ _ _ _ _ _ h hD hlen ha hb hS hza hzb hfa hfb =>
    UnifySound.unifyS_sound_final h hS hD ha hb hlen hza hzb hfa hfb

/-- The same for any store that extends the final one without being longer (e.g. the store at the end of
type checking, if nothing was allocated in between), and the invariant is kept: the final store is again
deep. -/
def C12_unify_sound_fixed_ext_stmt : Prop :=
  ∀ (f : Nat) (a b : Tm) (s s' : St), unifyS f a b s = .ok true s' →
    (∀ e ∈ s.dctx, ∀ d o, e = some (d, o) → d.holeFree = true) →
    s'.store.length = s.store.length →
    hdeep 0 a = true → hdeep 0 b = true → storeDeep s.store →
    storeDeep s'.store ∧
    ∀ (σ : List (Option Tm)) (fz : Nat) (za zb : Tm), storeExtends s'.store σ → σ.length ≤ s.store.length →
      zonk fz σ a = some za → zonk fz σ b = some zb → za.holeFree = true → zb.holeFree = true →
      Conv s.dctx za zb
theorem C12_unify_sound_fixed_ext : C12_unify_sound_fixed_ext_stmt := by
  intro f a b s s' h hD hlen ha hb hS
  have := UnifySound.unifyS_sound f a b s s' h hS hD ha hb (Nat.le_of_eq hlen)
  exact ⟨this.deep, fun σ fz za zb hL hl hza hzb hfa hfb =>
    this.conv σ (storeExtends_iff.1 hL) hl za zb ⟨fz, hza⟩ ⟨fz, hzb⟩ hfa hfb⟩

-- a hole written outside a binder, solved under it by an outer variable:
-- all hypotheses hold, the conclusion is `λ. x₁ ≡ λ. x₁`
example : Conv [none] (.lam 1 false .int (.var 2 1)) (.lam 1 false .int (.var 2 1)) :=
  C12_unify_sound_fixed 20 5 (.lam 1 false .int (.hole 0 1)) (.lam 1 false .int (.var 2 1)) _ _
    { store := [none], dctx := [none] } { store := [some (.var 2 0)], dctx := [none] }
    (by rfl) (by intro e he d o heq; simp at he; subst he; cases heq) (by rfl) (by rfl) (by rfl)
    (fun id sub h => by rcases id with _ | id <;> simp at h) (by rfl) (by rfl) (by rfl) (by rfl)

-- the divergence witness satisfies every hypothesis of the corrected statement: its zonked sides are
-- convertible by the rules although `convX` never answers
example : Conv [none] (.ite (.var 0 0) (.app C12_dup C12_dup) C12_dup)
    (.ite (.var 0 0) (.app C12_dup (.app (.lam 2 false .int (.var 2 0)) C12_dup)) C12_dup) :=
  C12_unify_sound_fixed 9 9
    (.ite (.var 0 0) (.app (.hole 0 0) C12_dup) (.hole 0 0))
    (.ite (.var 0 0) (.app (.hole 1 0) (.app (.lam 2 false .int (.var 2 0)) C12_dup)) C12_dup) _ _
    { store := [none, none], dctx := [none] } { store := [some (.hole 1 0), some C12_dup], dctx := [none] }
    (by rfl) (by intro e he d o heq; simp at he; subst he; cases heq) (by rfl) (by rfl) (by rfl)
    (fun id sub h => by rcases id with _ | _ | id <;> simp at h) (by rfl) (by rfl) (by rfl) (by rfl)

/-- (**Refuted** below.)  No scoping assumption: for a hole-free term and any of
its reducts, `unify` — at any fuel, from any state with an empty definitions context — does not panic,
and a run that answers, answers `true` and leaves the state as it was. -/
def C12_unify_reduct_unrestricted : Prop :=
  ∀ (f : Nat) (t t' : Tm) (s : St), t.holeFree = true → s.dctx = [] → Steps t t' →
    (∀ site, unifyS f t t' s ≠ .panic site) ∧
    ∀ (r : Bool) (s' : St), unifyS f t t' s = .ok r s' → s' = s ∧ r = true

/-- False in its panic-freedom conjunct only, for the reason `C06_unify_layers_agree_refuted` records:
`normalize_weak_head` indexes the definitions context with a variable's de Bruijn index.  Witness: the
ill-scoped `if true then x₅ else 0` and its reduct `x₅` under the empty context.  (Not a defect of
gram: the resolver only produces well-scoped terms.) -/
theorem C12_unify_reduct_refuted : ¬ C12_unify_reduct_unrestricted := by
  intro h
  have hp : unifyS 5 (.ite .tt (.var 0 5) (.lit 0)) (.var 0 5) {} =
      .panic "normalize_weak_head.definitions_context[index]" := by rfl
  exact (h 5 _ _ {} rfl rfl (.head .iteT .refl)).1 _ hp

/-- Corrected statement.  For a hole-free term `t`, well scoped in the definitions context of the
state, and any reduct `t'` of `t` under evaluation (`t' = t` included): the model of gram's `unify`, with
any fuel, from any state whose definitions context is hole-free and well scoped (offsets in range, every
recorded definition well scoped where it was pushed — in particular the empty context), never panics,
and a run that answers, answers `true` and leaves the whole state — store, contexts, diagnostics — as
it was.  The answer part needs no scoping assumption. -/
def C12_unify_reduct_stmt : Prop :=
  ∀ (f : Nat) (t t' : Tm) (s : St), t.holeFree = true →
    (∀ e ∈ s.dctx, ∀ d o, e = some (d, o) → d.holeFree = true) →
    (∀ i d off, s.dctx[i]? = some (some (d, off)) →
      off ≤ i + 1 ∧ wellScoped (s.dctx.length - (i + 1 - off)) d = true) →
    Steps t t' →
    (wellScoped s.dctx.length t = true → ∀ site, unifyS f t t' s ≠ .panic site) ∧
    ∀ (r : Bool) (s' : St), unifyS f t t' s = .ok r s' → s' = s ∧ r = true
theorem C12_unify_reduct : C12_unify_reduct_stmt := by
  intro f t t' s ht hD hS hs
  exact ⟨fun hsc => ConvCoherence.unifyS_steps_no_panic f s ht hD hS hsc hs,
    fun r s' h => ConvCoherence.unifyS_steps ht hD (ConvCoherence.DSc.dwf hS) hs h⟩

/-- The closed form: a whole program, any state with an empty definitions context (whatever its store,
typing context and diagnostics). -/
def C12_unify_reduct_closed_stmt : Prop :=
  ∀ (f : Nat) (t t' : Tm) (s : St), t.holeFree = true → wellScoped 0 t = true → s.dctx = [] →
    Steps t t' →
    (∀ site, unifyS f t t' s ≠ .panic site) ∧
    ∀ (r : Bool) (s' : St), unifyS f t t' s = .ok r s' → s' = s ∧ r = true
theorem C12_unify_reduct_closed : C12_unify_reduct_closed_stmt := by
  intro f t t' s ht hsc hd hs
  have h := C12_unify_reduct f t t' s ht (by rw [hd]; intro e he; cases he)
    (by rw [hd]; intro i d off e; simp at e) hs
  exact ⟨h.1 (by rw [hd]; exact hsc), h.2⟩

/-- With itself, and with the term the fuelled evaluator reaches. -/
def C12_unify_self_eval_stmt : Prop :=
  ∀ (f n : Nat) (t : Tm) (s : St), t.holeFree = true → wellScoped 0 t = true → s.dctx = [] →
    (∀ site, unifyS f t t s ≠ .panic site ∧ unifyS f t (evalFuel n t) s ≠ .panic site) ∧
    (∀ (r : Bool) (s' : St), unifyS f t t s = .ok r s' → s' = s ∧ r = true) ∧
    (∀ (r : Bool) (s' : St), unifyS f t (evalFuel n t) s = .ok r s' → s' = s ∧ r = true)
theorem C12_unify_self_eval : C12_unify_self_eval_stmt := by
  intro f n t s ht hsc hd
  have h1 := C12_unify_reduct_closed f t t s ht hsc hd .refl
  have h2 := C12_unify_reduct_closed f t _ s ht hsc hd (evalFuel_steps n t)
  exact ⟨fun site => ⟨h1.1 site, h2.1 site⟩, h1.2, h2.2⟩

-- non-vacuity: a recursive program, its reduct after 7 steps (still containing the recursive group)
-- and its value; `unify` answers `true` on each pair, from a state with a non-trivial store, typing
-- context and error count, and leaves that state alone
def C12_fact3 : Tm :=
  .letg (.cons 0 (.pi 1 false .int .int)
          (.lam 2 false .int
            (.ite (.bin .eq (.var 2 0) (.lit 0)) (.lit 1)
              (.bin .prod (.var 2 0) (.app (.var 0 1) (.bin .diff (.var 2 0) (.lit 1))))))
          .nil)
        (.app (.var 0 0) (.lit 3))
theorem C12_fact3_eval : evalFuel 200 C12_fact3 = .lit 6 := by decide +kernel
example : C12_fact3.holeFree = true ∧ wellScoped 0 C12_fact3 = true ∧ evalFuel 200 C12_fact3 = .lit 6 :=
  ⟨by decide, by decide, C12_fact3_eval⟩
example : (match unifyS 60 C12_fact3 (evalFuel 7 C12_fact3) { store := [none], nerrs := 2 } with
    | .ok r s => r && s.store == [none] && s.nerrs == 2 && s.dctx.isEmpty | _ => false) = true := by decide +kernel
example : (match unifyS 60 C12_fact3 (evalFuel 200 C12_fact3) { store := [none], nerrs := 2 } with
    | .ok r s => r && s.store == [none] && s.nerrs == 2 | _ => false) = true := by
  rw [C12_fact3_eval]; decide +kernel
example : (match unifyS 60 C12_fact3 C12_fact3 {} with | .ok r _ => r | _ => false) = true := by decide +kernel

/-! ## The structural arms of `unify` relate like with like (table regenerated from `unifier.rs` on every run) -/

/-- Every structural arm of `unifier.rs::unify` (after weak head normalisation) matches the same variant on both
sides and unifies the i-th child with the i-th child, every child (λ: bodies only) — in particular each of the
nine alternatives of the shared arm for binary operators, which the model has as ONE constructor. -/
def C12_unify_pairs_tie_stmt : Prop := pairsOK Generated.unifyPairs = true
theorem C12_unify_pairs_tie : C12_unify_pairs_tie_stmt := by unfold C12_unify_pairs_tie_stmt; decide

/-! ## The occurs check keeps the hole store acyclic (`Lemmas/UnifyAcyclic.lean`)

`UnifyAcyclic.Edge σ i j`: cell `i` is solved and its solution mentions cell `j`; `Reaches σ`: transitive closure;
`ReachT σ t j`: `j` is mentioned by `t`, directly or through solved cells; `Acyclic σ`: no cell reaches itself;
`Guarded σ σ'`: `σ'` comes from `σ` by allocations of empty cells and *guarded assignments* `id := sol` (`id`
empty, every cell mentioned by `sol` empty and different from `id`).  No well-formedness of cell ids is needed:
an id beyond the end of the store reads as an empty cell, and writing to it does nothing. -/

/-- **`unify` keeps the store acyclic**, at every fuel, for all terms and states, whatever the answer: its run
is a sequence of allocations of empty cells (the hole copies of `open`, inside weak head normalisation) and
guarded assignments, and these preserve acyclicity. -/
def C12_unify_acyclic_stmt : Prop :=
  ∀ (f : Nat) (a b : Tm) (r : Bool) (s s' : St), unifyS f a b s = .ok r s' →
    UnifyAcyclic.Guarded s.store s'.store ∧
    (UnifyAcyclic.Acyclic s.store → UnifyAcyclic.Acyclic s'.store)
theorem C12_unify_acyclic : C12_unify_acyclic_stmt := by
  intro f a b r s s' h
  exact ⟨UnifyAcyclic.unifyS_guarded h, (UnifyAcyclic.unifyS_guarded h).acyclic⟩

/-- Weak head normalisation only appends empty cells, hence keeps the store acyclic; syntactic equality leaves
the whole state as it was. -/
def C12_whnf_syneq_acyclic_stmt : Prop :=
  (∀ (f : Nat) (t r : Tm) (s s' : St), whnfS f t s = .ok r s' →
    (∃ k, s'.store = s.store ++ List.replicate k none) ∧
    (UnifyAcyclic.Acyclic s.store → UnifyAcyclic.Acyclic s'.store)) ∧
  (∀ (f : Nat) (a b : Tm) (r : Bool) (s s' : St), synEqS f a b s = .ok r s' → s' = s)
theorem C12_whnf_syneq_acyclic : C12_whnf_syneq_acyclic_stmt :=
  ⟨fun f t _ s _ h => ⟨let ⟨k, e⟩ := ((StoreMono.whnfS_spec false f t s nofun).ok h).1; ⟨k, by rw [e]⟩,
    (UnifyAcyclic.whnfS_guarded h).acyclic⟩,
   fun _ _ _ _ _ _ h => UnifyAcyclic.synEqS_state h⟩

/-- The whole type checker (which calls `unify`, allocates the holes of applications and opens codomains)
keeps the store acyclic. -/
def C12_infer_acyclic_stmt : Prop :=
  ∀ (f : Nat) (t : Tm) (r : Tm × Tm) (s s' : St), inferS f t s = .ok r s' →
    UnifyAcyclic.Guarded s.store s'.store ∧
    (UnifyAcyclic.Acyclic s.store → UnifyAcyclic.Acyclic s'.store)
theorem C12_infer_acyclic : C12_infer_acyclic_stmt := by
  intro f t r s s' h
  exact ⟨UnifyAcyclic.inferS_guarded h, (UnifyAcyclic.inferS_guarded h).acyclic⟩

/-- **The occurs check is exact.**  `collect_unifiers`, as used by `unify` (`occursS`), answers `true` iff the cell
is an empty cell mentioned by the term directly or through solved cells; and it does not change the state. -/
def C12_occurs_exact_stmt : Prop :=
  ∀ (f id : Nat) (t : Tm) (b : Bool) (s s' : St), occursS f id t s = .ok b s' →
    s' = s ∧ (b = true ↔ (UnifyAcyclic.ReachT s.store t id ∧ StoreMono.Empty s.store id))
theorem C12_occurs_exact : C12_occurs_exact_stmt := by
  intro f id t b s s' h
  exact ⟨WhnfLemmas.occursS_state h, (UnifyAcyclic.occursS_spec f).1 id t s b s' h⟩

/-- **Lowering cannot smuggle a cell past the occurs check.**  `signed_shift` expands solved cells; every cell
mentioned by its result is an *empty* cell reachable from its argument — exactly the cells the occurs check
(run on the un-lowered term) inspects. -/
def C12_lowering_holes_stmt : Prop :=
  ∀ (f c : Nat) (amt : Int) (t r : Tm) (s s' : St), sshiftS f c amt t s = .ok (some r) s' →
    s' = s ∧ ∀ j ∈ UnifyAcyclic.holesOf r, StoreMono.Empty s.store j ∧ UnifyAcyclic.ReachT s.store t j
theorem C12_lowering_holes : C12_lowering_holes_stmt := by
  intro f c amt t r s s' h
  exact ⟨UnifyAcyclic.sshiftS_state h, (UnifyAcyclic.sshiftS_holes f).1 c amt t s r s' h⟩

/-- **No hole is solved by a term containing itself.**  At the moment `solveS` assigns `id := sol` (`sol` = the
other side lowered by the hole's shift, in the store `s.store` before the assignment): every cell mentioned by
`sol` is empty, different from `id` and reachable from the other side; `id` is not reachable from `sol`; and if
`id` is empty (it always is where `unifyS` calls `solveS`) it is not reachable from the other side either. -/
def C12_assigned_not_self_stmt : Prop :=
  ∀ (f id shift : Nat) (other : Tm) (s s' : St), solveS f id shift other s = .ok (some true) s' →
    ∃ sol, sshiftS f 0 (-(shift : Int)) other s = .ok (some sol) s ∧
      s' = { s with store := s.store.set id (some sol) } ∧
      (∀ j ∈ UnifyAcyclic.holesOf sol,
        StoreMono.Empty s.store j ∧ j ≠ id ∧ UnifyAcyclic.ReachT s.store other j) ∧
      ¬ UnifyAcyclic.ReachT s.store sol id ∧
      (StoreMono.Empty s.store id → ¬ UnifyAcyclic.ReachT s.store other id)
theorem C12_assigned_not_self : C12_assigned_not_self_stmt := by
  intro f id shift other s s' h
  rcases UnifyAcyclic.solveS_cases h with ⟨e, _⟩ | ⟨e, _⟩ | ⟨_, sol, h1, h2, e⟩
  · cases e
  · cases e
  · have := UnifyAcyclic.solveS_assign h1 h2
    exact ⟨sol, h1, e, this.1, this.2.1, this.2.2⟩

/-- **The scoping clause at store level** (holes allowed in the other side and in the store): when `solveS`
assigns `id := sol` for a hole written with shift `k`, and no hole lies below a cutoff (`hdeep`, `storeDeep` —
necessary, `C12_unify_holedepth_witness`), then under any store `σ` extending the current one, whatever the
other side reads as (`zo`), `sol` reads as `zo` lowered by `k` binders: raising it back gives `zo`, and once
`zo` is hole-free every free variable of the reading of `sol`, raised by `k`, is a free variable of `zo`, none
of the `k` innermost variables being used. -/
def C12_solution_scoped_store_stmt : Prop :=
  ∀ (f id k : Nat) (other : Tm) (s s' : St), solveS f id k other s = .ok (some true) s' →
    storeDeep s.store → hdeep 0 other = true →
    ∃ sol, s'.store = s.store.set id (some sol) ∧
      ∀ σ, storeExtends s.store σ → ∀ zo, (∃ n, zonk n σ other = some zo) →
        ∃ zs, (∃ n, zonk n σ sol = some zs) ∧ sshift 0 (-(k : Int)) zo = some zs ∧ ushift 0 k zs = zo ∧
          (zo.holeFree = true →
            (∀ j, freeAt zs j = true → freeAt zo (j + k) = true) ∧ ∀ j, j < k → freeAt zo j = false)
theorem C12_solution_scoped_store : C12_solution_scoped_store_stmt :=
  fun _ _ _ _ _ _ h hS hd =>
    let ⟨sol, e, q⟩ := UnifyAcyclic.solveS_scoped h hS hd
    ⟨sol, e, fun σ hL => q σ (storeExtends_iff.1 hL)⟩

/-- **`zonk` terminates on an acyclic store**: every term can be zonked with some fuel. -/
def C12_zonk_terminates_stmt : Prop :=
  ∀ (σ : List (Option Tm)) (t : Tm), UnifyAcyclic.Acyclic σ → ∃ fuel z, zonk fuel σ t = some z
theorem C12_zonk_terminates : C12_zonk_terminates_stmt :=
  fun _ t h => UnifyAcyclic.zonk_terminates_of_acyclic h t

/-- Hence after any run of `unify` or of the type checker from an acyclic store (e.g. the empty store, or any
store of empty cells), every term can be zonked. -/
def C12_zonk_after_unify_stmt : Prop :=
  (∀ (f : Nat) (a b : Tm) (r : Bool) (s s' : St), UnifyAcyclic.Acyclic s.store →
    unifyS f a b s = .ok r s' → ∀ t, ∃ fuel z, zonk fuel s'.store t = some z) ∧
  (∀ (f : Nat) (t : Tm) (r : Tm × Tm) (s s' : St), UnifyAcyclic.Acyclic s.store →
    inferS f t s = .ok r s' → ∀ u, ∃ fuel z, zonk fuel s'.store u = some z) ∧
  (∀ n, UnifyAcyclic.Acyclic (List.replicate n (none : Option Tm)))
theorem C12_zonk_after_unify : C12_zonk_after_unify_stmt :=
  ⟨fun _ _ _ _ _ _ ha h t => UnifyAcyclic.zonk_terminates_of_acyclic ((UnifyAcyclic.unifyS_guarded h).acyclic ha) t,
   fun _ _ _ _ _ ha h t => UnifyAcyclic.zonk_terminates_of_acyclic ((UnifyAcyclic.inferS_guarded h).acyclic ha) t,
   fun n => (UnifyAcyclic.Terminating.replicate n).acyclic⟩

/-- `Acyclic` (no cell reaches itself) coincides with well-foundedness of the "mentions" relation (no infinite
chain of solved cells), and the executable checker `acyclicB` is sound for both. -/
def C12_acyclic_checker_stmt : Prop :=
  ∀ (σ : List (Option Tm)), (UnifyAcyclic.Acyclic σ ↔ UnifyAcyclic.Terminating σ) ∧
    (UnifyAcyclic.acyclicB σ = true → UnifyAcyclic.Acyclic σ)
theorem C12_acyclic_checker : C12_acyclic_checker_stmt :=
  fun _ => ⟨UnifyAcyclic.acyclic_iff_terminating, UnifyAcyclic.acyclicB_acyclic⟩

-- a store with a solved chain `?0 := ?1`, `?1 := ?2 -> int` and two empty cells is acyclic; `?3` is solved
-- by `?0 -> bool`, recorded with the chain expanded; the store after is acyclic (by the theorem and by the checker)
example : UnifyAcyclic.Acyclic
    [some (.hole 1 0), some (.pi 0 false (.hole 2 0) .int), none,
     some (.pi 0 false (.pi 0 false (.hole 2 0) .int) .bool)] :=
  (C12_unify_acyclic 20 (.hole 3 0) (.pi 0 false (.hole 0 0) .bool) true { store := UnifyAcyclic.exStore }
    { store := [some (.hole 1 0), some (.pi 0 false (.hole 2 0) .int), none,
        some (.pi 0 false (.pi 0 false (.hole 2 0) .int) .bool)] } (by rfl)).2
    (UnifyAcyclic.acyclicB_acyclic (by decide))
example : UnifyAcyclic.acyclicB
    [some (.hole 1 0), some (.pi 0 false (.hole 2 0) .int), none,
     some (.pi 0 false (.pi 0 false (.hole 2 0) .int) .bool)] = true := by decide
-- the classic occurs-check configuration through the chain, `?2 = ?0 -> bool` i.e. `X = f X`:
-- the answer is `false` and the store is unchanged
example :
    (match unifyS 20 (.hole 2 0) (.pi 0 false (.hole 0 0) .bool) { store := UnifyAcyclic.exStore } with
     | .ok r s' => r == false && s'.store == UnifyAcyclic.exStore
     | _ => false) = true := by decide
-- an assignment, as `C12_assigned_not_self` describes it
example : solveS 10 3 0 (.pi 0 false (.hole 0 0) .bool) { store := UnifyAcyclic.exStore } =
    .ok (some true) { store := [some (.hole 1 0), some (.pi 0 false (.hole 2 0) .int), none,
      some (.pi 0 false (.pi 0 false (.hole 2 0) .int) .bool)] } := by rfl
-- weak head normalisation allocating a cell (the hole copy of `open` in a β-step)
example : (match whnfS 10 (.app (.lam 1 false .int (.hole 0 1)) (.lit 5)) { store := [none] } with
    | .ok r s' => r == .hole 1 0 && s'.store == [none, none] | _ => false) = true := by decide
-- the occurs check answers `true` through a chain, `false` for an unrelated empty cell
example : (match occursS 10 2 (.hole 0 0) { store := UnifyAcyclic.exStore } with
    | .ok b _ => b | _ => false) = true := by decide
example : (match occursS 10 3 (.hole 0 0) { store := UnifyAcyclic.exStore } with
    | .ok b _ => !b | _ => false) = true := by decide
-- lowering expands the chain
example : sshiftS 10 0 0 (.hole 0 0) { store := UnifyAcyclic.exStore } =
    .ok (some (.pi 0 false (.hole 2 0) .int)) { store := UnifyAcyclic.exStore } := by rfl
-- zonking on the acyclic store
example : zonk 5 UnifyAcyclic.exStore (.hole 0 0) = some (.pi 0 false (.hole 2 0) .int) := by rfl
-- a cyclic store is rejected by `acyclicB`, is not `Acyclic`, and `zonk` runs out of any fuel we try
example : UnifyAcyclic.acyclicB [some (.hole 1 0), some (.pi 0 false (.hole 0 0) .int)] = false := by decide
example : zonk 50 [some (.hole 1 0), some (.pi 0 false (.hole 0 0) .int)] (.hole 0 0) = none := by decide
