import GramModel.Lemmas.ArmsTie
import GramModel.Lemmas.Print
import GramModel.Lemmas.PrintStore
import GramModel.Lemmas.PrintDerives
import GramModel.Lemmas.PrintLex
import GramModel.Lemmas.PrintedReadBack
-- nothing of the next module is used here; the import is what gets it built
import GramModel.Lemmas.PrintedPackrat

/-!
# C16 — printed terms read back as the same term

The model of the printer is `GramModel/Print.lean` (pure layer `printTm`/`groupP`/`annotP`/`headP`,
store layer `printS`/`groupS`/`annotS`/`headS`), tied to `impl Display for Variant`, `annotation` and
`group` of `term.rs` by the `print` correspondence suite, whose oracle also checks the round trip
(print, tokenize, parse, compare) on the implementation.

Here, on the models: *where* the printer puts parentheses, stated as equations on every term former,
the partition used by `group` checked against the table regenerated from `term.rs`, what the
printer reads off the de Bruijn indices; then the round trip itself: the printed text is a sentence
of `grammar.y`, it is tokenized back to its lexemes, the parse phase reads it back
(`C16_parse_printed`), and re-association and name resolution return the term (`C16_read_back`).
-/

/-- The hand-written bare / parenthesised partition of the model is the one of `term.rs::group`
(`Generated.printBare`, `Generated.printParen`, regenerated on every run): the list of formers is
complete, every variant other than `Unifier` (which `group` follows) is in exactly the list the model
says, the lists mention nothing else, and variant names are not confused. -/
def C16_atomic_table_stmt : Prop :=
  (∀ f : Former, f ∈ Former.all) ∧
  (∀ f ∈ Former.all, f ≠ .unifier →
    ((f.bare = true ↔ f.name ∈ Generated.printBare) ∧ (f.bare = false ↔ f.name ∈ Generated.printParen))) ∧
  (∀ s ∈ Generated.printBare ++ Generated.printParen, ∃ f ∈ Former.all, f ≠ .unifier ∧ f.name = s) ∧
  (Former.unifier.name ∉ Generated.printBare ++ Generated.printParen) ∧
  (∀ f ∈ Former.all, ∀ g ∈ Former.all, f.name = g.name → f = g) ∧
  (∀ t : Tm, atomic t = t.former.bare)
theorem C16_atomic_table : C16_atomic_table_stmt := by
  refine ⟨?_, by decide +kernel, by decide +kernel, by decide +kernel, by decide +kernel, fun _ => rfl⟩
  intro f; cases f <;> decide

/-- `group` parenthesises exactly the non-atomic terms — in the pure layer, and in the store layer
(the one compared with the implementation) for every hole-free term, whatever the store, given fuel
proportional to the size of the term. -/
def C16_group_parenthesises_stmt : Prop :=
  (∀ (nm : Name → List Char) (t : Tm),
    groupP nm t = if atomic t then printTm nm t else '(' :: printTm nm t ++ [')']) ∧
  (∀ (nm : Name → List Char) (σ : List (Option Tm)) (t : Tm) (f : Nat),
    t.holeFree = true → 2 * t.size + 1 ≤ f →
    groupS nm σ f t = some (if atomic t then printTm nm t else '(' :: printTm nm t ++ [')']))
theorem C16_group_parenthesises : C16_group_parenthesises_stmt := by
  constructor
  · intro nm t; simp [groupP, wrapGroup, parenC]
  · intro nm σ t f h hs
    rw [groupS_holeFree nm σ t f h hs]; simp [groupP, wrapGroup, parenC]

/-- The store layer and the pure layer print hole-free terms alike (whatever the store). -/
def C16_layers_agree_stmt : Prop :=
  ∀ (nm : Name → List Char) (σ : List (Option Tm)) (t : Tm) (f : Nat),
    t.holeFree = true → 2 * t.size ≤ f → printS nm σ f t = some (printTm nm t)
theorem C16_layers_agree : C16_layers_agree_stmt := fun nm σ t f h hs => printS_holeFree nm t f σ h hs

/-- A resolved cell is transparent to `Display`, `group` and `annotation`: they print its contents
(the shift of the occurrence plays no role in the text); an empty cell prints `_`, unparenthesised. -/
def C16_cells_followed_stmt : Prop :=
  ∀ (nm : Name → List Char) (σ : List (Option Tm)) (f id s : Nat),
    (∀ sub, σ[id]? = some (some sub) →
      printS nm σ (f+1) (.hole id s) = printS nm σ f sub ∧
      groupS nm σ (f+1) (.hole id s) = groupS nm σ f sub ∧
      annotS nm σ (f+1) (.hole id s) = annotS nm σ f sub) ∧
    ((∀ sub, σ[id]? ≠ some (some sub)) →
      printS nm σ (f+1) (.hole id s) = some ['_'] ∧
      groupS nm σ (f+2) (.hole id s) = some ['_'] ∧
      annotS nm σ (f+2) (.hole id s) = some ['_'])
theorem C16_cells_followed : C16_cells_followed_stmt := by
  intro nm σ f id s
  constructor
  · intro sub h
    simp [printS_hole, groupS_hole, annotS_hole, h]
  · intro h
    have hc : σ[id]? = none ∨ σ[id]? = some none := by
      cases hc : σ[id]? with
      | none => exact Or.inl rfl
      | some c =>
        cases c with
        | none => exact Or.inr rfl
        | some sub => exact absurd hc (h sub)
    rcases hc with hc | hc <;> simp [printS_hole, groupS_hole, annotS_hole, hc, holeText]

/-- The positions printed through `group`: both operands of every binary operator, the operand of
unary minus, the argument of an application, the function part of an application unless it is itself
an application, the annotation and the definition of every `let` definition. -/
def C16_operands_grouped_stmt : Prop :=
  ∀ (nm : Name → List Char),
    (∀ op a b, printTm nm (.bin op a b) = groupP nm a ++ ' ' :: opChars op ++ ' ' :: groupP nm b) ∧
    (∀ a, printTm nm (.neg a) = '-' :: groupP nm a) ∧
    (∀ f a, (∀ g x, f ≠ .app g x) → printTm nm (.app f a) = groupP nm f ++ ' ' :: groupP nm a) ∧
    (∀ g x a, printTm nm (.app (.app g x) a) = printTm nm (.app g x) ++ ' ' :: groupP nm a) ∧
    (∀ x a d r, printDefs nm (.cons x a d r) =
      nm x ++ " : ".toList ++ groupP nm a ++ " = ".toList ++ groupP nm d ++ "; ".toList ++ printDefs nm r) ∧
    (printDefs nm .nil = [])
theorem C16_operands_grouped : C16_operands_grouped_stmt := by
  intro nm
  refine ⟨?_, ?_, ?_, ?_, ?_, ?_⟩
  · intro op a b; simp [printTm, binText, groupP]
  · intro a; simp [printTm, negText, groupP]
  · intro f a hf
    cases f <;> first
      | exact absurd rfl (hf _ _)
      | simp [printTm, appText, groupP, wrapHead]
  · intro g x a; simp [printTm, appText, groupP, wrapHead]
  · intro x a d r; simp [printDefs, defText, groupP]
  · simp [printDefs]

/-- The positions printed *without* `group` are exactly the remaining ones: the body of a lambda and
the codomain of a function type; a binder annotation (through `annotation`, which parenthesises a
`let` and nothing else); the domain of an implicit non-dependent function type (inside the braces);
an application as the domain of `->` (anything else there goes through `group`); the three parts of
`if`; the body of a `let`; an application as the head of an application (previous statement).  Which
form a function type takes is decided by `freeAt cod 0` alone. -/
def C16_bare_positions_stmt : Prop :=
  ∀ (nm : Name → List Char),
    (∀ x d b, printTm nm (.lam x false d b) =
      '(' :: nm x ++ " : ".toList ++ annotP nm d ++ ") => ".toList ++ printTm nm b) ∧
    (∀ x d b, printTm nm (.lam x true d b) =
      '{' :: nm x ++ " : ".toList ++ annotP nm d ++ "} => ".toList ++ printTm nm b) ∧
    (∀ x d c, freeAt c 0 = true → printTm nm (.pi x false d c) =
      '(' :: nm x ++ " : ".toList ++ annotP nm d ++ ") -> ".toList ++ printTm nm c) ∧
    (∀ x d c, freeAt c 0 = true → printTm nm (.pi x true d c) =
      '{' :: nm x ++ " : ".toList ++ annotP nm d ++ "} -> ".toList ++ printTm nm c) ∧
    (∀ x d c, freeAt c 0 = false → printTm nm (.pi x true d c) =
      '{' :: printTm nm d ++ "} -> ".toList ++ printTm nm c) ∧
    (∀ x g a c, freeAt c 0 = false → printTm nm (.pi x false (.app g a) c) =
      printTm nm (.app g a) ++ " -> ".toList ++ printTm nm c) ∧
    (∀ x d c, freeAt c 0 = false → (∀ g a, d ≠ .app g a) → printTm nm (.pi x false d c) =
      groupP nm d ++ " -> ".toList ++ printTm nm c) ∧
    (∀ c a b, printTm nm (.ite c a b) =
      "if ".toList ++ printTm nm c ++ " then ".toList ++ printTm nm a ++ " else ".toList ++ printTm nm b) ∧
    (∀ ds b, printTm nm (.letg ds b) = printDefs nm ds ++ printTm nm b) ∧
    (∀ ds b, annotP nm (.letg ds b) = '(' :: printTm nm (.letg ds b) ++ [')']) ∧
    (∀ t, (∀ ds b, t ≠ .letg ds b) → annotP nm t = printTm nm t)
theorem C16_bare_positions : C16_bare_positions_stmt := by
  intro nm
  refine ⟨?_, ?_, ?_, ?_, ?_, ?_, ?_, ?_, ?_, ?_, ?_⟩
  · intro x d b; simp [printTm, lamText, annotP]
  · intro x d b; simp [printTm, lamText, annotP]
  · intro x d c h; simp [printTm, h, piDepText, annotP]
  · intro x d c h; simp [printTm, h, piDepText, annotP]
  · intro x d c h; simp [printTm, h, piImpText]
  · intro x g a c h; simp [printTm, h, arrowText, wrapHead]
  · intro x d c h hd
    cases d <;> first
      | exact absurd rfl (hd _ _)
      | simp [printTm, h, arrowText, wrapHead, groupP]
  · intro c a b; simp [printTm, iteText]
  · intro ds b; simp [printTm]
  · intro ds b; simp [annotP, wrapAnnot, parenC]
  · intro t ht
    cases t <;> first
      | exact absurd rfl (ht _ _)
      | simp [annotP, wrapAnnot]

/-- The printer reads the de Bruijn indices only through the dependent / non-dependent verdict of
the function types: two terms that differ only in their indices (and in the identity and shift of
their holes) and agree on that verdict at every function type print identically; in particular,
without function types, the indices play no role at all. -/
def C16_names_only_printed_stmt : Prop :=
  (∀ (nm : Name → List Char) (t u : Tm),
    eraseIdx t = eraseIdx u → sameDeps t u = true → printTm nm t = printTm nm u) ∧
  (∀ (nm : Name → List Char) (t u : Tm),
    noPi t = true → noPi u = true → eraseIdx t = eraseIdx u → printTm nm t = printTm nm u)
theorem C16_names_only_printed : C16_names_only_printed_stmt := by
  constructor
  · exact fun nm t u h hd => printTm_congr nm t u h hd
  · intro nm t u ht hu h
    rw [← printTm_eraseIdx nm t ht, ← printTm_eraseIdx nm u hu, h]


/-- `0 ↦ _`, `1 ↦ f`, `2 ↦ g`, `3 ↦ x`, `4 ↦ y` -/
private def exNm : Name → List Char
  | 0 => ['_'] | 1 => ['f'] | 2 => ['g'] | 3 => ['x'] | 4 => ['y'] | _ => ['?']

private def lit (n : Int) : Tm := .lit n

-- `1 - (2 - 3)` keeps its parentheses; `(1 - 2) - 3` gets (redundant) ones
example : printTm exNm (.bin .diff (lit 1) (.bin .diff (lit 2) (lit 3))) = "1 - (2 - 3)".toList := by decide +kernel
example : printTm exNm (.bin .diff (.bin .diff (lit 1) (lit 2)) (lit 3)) = "(1 - 2) - 3".toList := by decide +kernel
-- `f (g x) y`: application chains are left-nested without parentheses, arguments are grouped
example : printTm exNm (.app (.app (.var 1 2) (.app (.var 2 1) (.var 3 0))) (.var 4 3)) = "f (g x) y".toList := by
  decide +kernel
example : printTm exNm (.app (.var 1 2) (.app (.var 2 1) (.var 3 0))) = "f (g x)".toList := by decide +kernel
-- negative literals and negation
example : printTm exNm (.neg (lit (-5))) = "--5".toList := by decide +kernel
example : printTm exNm (.neg (.neg (.var 3 0))) = "-(-x)".toList := by decide +kernel
-- dependent / non-dependent function types
example : printTm exNm (.pi 3 false .type (.var 3 0)) = "(x : type) -> x".toList := by decide +kernel
example : printTm exNm (.pi 3 false .type (.var 4 1)) = "type -> y".toList := by decide +kernel
example : printTm exNm (.pi 3 false (.app (.var 1 1) (.var 4 0)) .int) = "f y -> int".toList := by decide +kernel
example : printTm exNm (.pi 3 false (.pi 4 false .int .int) .int) = "(int -> int) -> int".toList := by decide +kernel
-- the known unreadable output: an implicit non-dependent function type
example : printTm exNm (.pi 3 true .int .int) = "{int} -> int".toList := by decide +kernel
-- a group as a binder annotation is parenthesised, as an operand too, as a body not
example : printTm exNm (.lam 3 false (.letg (.cons 4 (.hole 0 0) .int .nil) (.var 4 0)) (.var 3 0))
    = "(x : (y : _ = int; y)) => x".toList := by decide +kernel
example : printTm exNm (.lam 3 true .int (.letg (.cons 4 .int (lit 1) .nil) (.var 4 0)))
    = "{x : int} => y : int = 1; y".toList := by decide +kernel
example : printTm exNm (.ite .tt (.ite .ff (lit 1) (lit 2)) (.bin .sum (lit 3) (.ite .tt (lit 4) (lit 5))))
    = "if true then if false then 1 else 2 else 3 + (if true then 4 else 5)".toList := by decide +kernel
-- the store layer: a resolved cell prints its contents, an application behind a cell is *not*
-- recognised as an application by the head test (it is parenthesised)
example : printS exNm [some (.app (.var 1 0) (.var 3 1)), none] 50 (.app (.hole 0 0) (.hole 1 0))
    = some "(f x) _".toList := by decide +kernel
example : printS exNm [] 50 (.app (.app (.var 1 0) (.var 3 1)) (.hole 1 0)) = some "f x _".toList := by decide +kernel
-- the dependent test looks through a resolved cell and applies its shift: `x` (index 0 in the cell,
-- occurrence shifted by 0) is the bound variable, shifted by 1 it is not
example : printS exNm [some (.var 3 0)] 50 (.pi 3 false .int (.hole 0 0)) = some "(x : int) -> x".toList := by
  decide +kernel
example : printS exNm [some (.var 3 0)] 50 (.pi 3 false .int (.hole 0 1)) = some "int -> x".toList := by decide +kernel
-- indices are not printed
example : printTm exNm (.app (.var 1 7) (.var 3 9)) = printTm exNm (.app (.var 1 0) (.var 3 0)) := by decide +kernel
-- ... but they decide the form of a function type (so `noPi` cannot be dropped)
example : printTm exNm (.pi 3 false .int (.var 3 0)) ≠ printTm exNm (.pi 3 false .int (.var 3 1)) := by decide +kernel


/-! ## What is printed is a sentence of `grammar.y` (`Lemmas/PrintItems.lean`, `Lemmas/PrintDerives.lean`)

`PrintDerives.printItems nm t` is the printed text as a list of lexemes, each with its token kind
(`TokKind`) and a flag "followed by one space", defined by the same case analysis as `printTm`;
`printKinds` are the kinds, `printToks` the kinds as terminals of `grammar.y`
(`Generated.grammarProductions`, regenerated from `/repo/grammar.y` on every run; derivability
`Derives` of `Lemmas/Derives.lean`). -/

section sentence
open PrintDerives

/-- **Token-level reading of the printed text**: the text is the concatenation of the lexemes of
`printItems`, with a single space exactly after the lexemes flagged so (for terms and for the
definitions of a group), and the terminals are the kinds of these lexemes. -/
def C16_print_items_stmt : Prop :=
  (∀ (nm : Name → List Char) (t : Tm), printTm nm t = flatten (printItems nm t)) ∧
  (∀ (nm : Name → List Char) (ds : Defs), printDefs nm ds = flatten (printDefsItems nm ds)) ∧
  (∀ (nm : Name → List Char) (t : Tm), printToks nm t = (printKinds nm t).map kindTerminal) ∧
  (∀ k : TokKind, kindTerminal k ∈ Generated.grammarTerminals)
theorem C16_print_items : C16_print_items_stmt :=
  ⟨printTm_eq_flatten, printDefs_eq_flatten, printToks_eq_map, kindTerminal_mem⟩

/-- (**Refuted** below.)  Whatever the term, the printed token sequence is a
sentence of the start symbol of the grammar. -/
def C16_print_derives_unrestricted : Prop :=
  ∀ (nm : Name → List Char) (t : Tm), Derives Generated.grammarProductions "term" (printToks nm t)

/-- `C16_print_derives_unrestricted` is FALSE: the implicit non-dependent function type
`{int} -> int` (finding KF-print-implicit) is printed in a form `grammar.y` does not have. -/
theorem C16_print_derives_refuted : ¬ C16_print_derives_unrestricted :=
  fun h => implicit_arrow_not_derivable (fun _ => []) 0 "term" (h (fun _ => []) (.pi 0 true .int .int))

/-- **What the printer prints is a sentence of the published grammar**: for every term without an
implicit non-dependent function type (`{A} -> B`) and without a negative integer literal, the token
kinds of the printed text form a sentence of the start symbol `term` of `grammar.y`; moreover the
operand positions are filled the way the grammar wants them: what `group` prints is an `atom`, what
`annotation` prints a `jumbo_term`, the head of an application / the domain of `->` a `small_term`.
No hypothesis on names (an identifier token is an `IDENTIFIER` whatever its text), none on holes
(`_` is an identifier), none on the number of definitions of a group (an empty group prints as its
body). -/
def C16_print_derives_stmt : Prop :=
  ∀ (nm : Name → List Char) (t : Tm), noImplicitArrow t = true → noNegLit t = true →
    Derives Generated.grammarProductions "term" (printToks nm t) ∧
    Derives Generated.grammarProductions "atom" (groupToks nm t) ∧
    Derives Generated.grammarProductions "jumbo_term" (annotToks nm t) ∧
    Derives Generated.grammarProductions "small_term" (headToks nm t)
theorem C16_print_derives : C16_print_derives_stmt := fun nm t h1 h2 =>
  ⟨print_derives nm t h1 h2, group_derives nm t h1 h2, annot_derives nm t h1 h2,
   head_derives nm t h1 h2⟩

/-- **The first exclusion is necessary** (KF-print-implicit): in every sentence of every nonterminal
of `grammar.y` a `{` is followed by an identifier; the printed form of `{int} -> int` violates this,
as does every implicit non-dependent function type whose domain does not start with an identifier,
so no nonterminal derives it. -/
def C16_implicit_arrow_not_sentence_stmt : Prop :=
  (∀ (A : String) (w : List String), Derives Generated.grammarProductions A w → lcOk w = true) ∧
  (∀ (nm : Name → List Char) (x : Name) (A : String),
    ¬ Derives Generated.grammarProductions A (printToks nm (.pi x true .int .int))) ∧
  (∀ (nm : Name → List Char) (x : Name) (d c : Tm), freeAt c 0 = false →
    (∀ r, printToks nm d ≠ "IDENTIFIER" :: r) → ∀ A : String,
    ¬ Derives Generated.grammarProductions A (printToks nm (.pi x true d c)))
theorem C16_implicit_arrow_not_sentence : C16_implicit_arrow_not_sentence_stmt :=
  ⟨fun _ _ h => derives_lcOk h, implicit_arrow_not_derivable, fun nm x d c hf hd A h => by
    have h1 := derives_lcOk h
    rw [implicit_arrow_lcOk_false nm x d c hf hd] at h1
    exact absurd h1 (by decide)⟩

/-- **The second exclusion is a defect of the printer** (finding KF-print-negative-literal):
`group` treats every integer literal as atomic, but a negative one is printed with a leading `-`
(two tokens).  The application of an atomic `f` to the literal `-(n+1)` and the difference
`f - (n+1)` are printed as the *same* token sequence (same kinds, same payloads; the texts `f -1` and
`f - 1` differ by one space), although they are different terms.  Negative literals do not occur in
parsed programs (`-1` is the negation of `1`) but the evaluator and the normalizer create them:
`gram run` on `((x : int) => (y : int -> int) => y x) (0 - 1)` prints `(y : int -> int) => y -1`. -/
def C16_negative_literal_ambiguous_stmt : Prop :=
  ∀ (nm : Name → List Char) (f : Tm) (n : Nat), atomic f = true →
    printKinds nm (.app f (.lit (.negSucc n))) = printKinds nm (.bin .diff f (.lit (.ofNat (n + 1))))
    ∧ Tm.app f (.lit (.negSucc n)) ≠ .bin .diff f (.lit (.ofNat (n + 1)))
theorem C16_negative_literal_ambiguous : C16_negative_literal_ambiguous_stmt :=
  fun nm f n hf => ⟨negative_literal_ambiguous nm f n hf, fun e => by cases e⟩

/-- … and the second exclusion is **necessary for derivability** as well: no sentence of `term`
starts with `MINUS INTEGER_LITERAL THIN_ARROW`, so a non-dependent function type whose domain is a
negative literal (`-1 -> B`) is not a sentence.  (`gram run` on the well-typed
`((x : int) => (q : int -> type) => (z : q x -> q x) => z) (0 - 1)` prints
`(q : int -> type) => (z : q -1 -> q -1) => z`, which `gram check` rejects with a syntax error.) -/
def C16_negative_literal_not_sentence_stmt : Prop :=
  (∀ r : List String, ¬ Derives Generated.grammarProductions "term"
    ("MINUS" :: "INTEGER_LITERAL" :: "THIN_ARROW" :: r)) ∧
  (∀ (nm : Name → List Char) (x : Name) (n : Nat) (c : Tm), freeAt c 0 = false →
    ¬ Derives Generated.grammarProductions "term" (printToks nm (.pi x false (.lit (.negSucc n)) c)))
theorem C16_negative_literal_not_sentence : C16_negative_literal_not_sentence_stmt :=
  ⟨minus_literal_arrow_not_derivable, negative_literal_domain_not_derivable⟩

-- a lambda whose annotation is a group (parenthesised), the definition's annotation a hole
example : printItems exNm (.lam 3 false (.letg (.cons 4 (.hole 0 0) .int .nil) (.var 4 0)) (.var 3 0)) =
    [tk ['('] .leftParen, tkS ['x'] (.identifier ['x']), tkS [':'] .colon,
     tk ['('] .leftParen, tkS ['y'] (.identifier ['y']), tkS [':'] .colon, tkS ['_'] (.identifier ['_']),
     tkS ['='] .equals, tk ['i', 'n', 't'] .integer, tkS [';'] .terminatorSemicolon,
     tk ['y'] (.identifier ['y']), tk [')'] .rightParen,
     tkS [')'] .rightParen, tkS ['=', '>'] .thickArrow, tk ['x'] (.identifier ['x'])] := by decide +kernel
example : flatten (printItems exNm (.lam 3 false (.letg (.cons 4 (.hole 0 0) .int .nil) (.var 4 0)) (.var 3 0)))
    = "(x : (y : _ = int; y)) => x".toList := by decide +kernel
-- an application chain with a parenthesised argument: `f (g x) y`
example : printToks exNm (.app (.app (.var 1 2) (.app (.var 2 1) (.var 3 0))) (.var 4 3)) =
    ["IDENTIFIER", "LEFT_PAREN", "IDENTIFIER", "IDENTIFIER", "RIGHT_PAREN", "IDENTIFIER"] := by decide +kernel
example : (printItems exNm (.app (.app (.var 1 2) (.app (.var 2 1) (.var 3 0))) (.var 4 3))).map (·.2.2) =
    [true, false, true, false, true, false] := by decide +kernel
-- a dependent function type and an `if`: `(x : type) -> if true then x else int`
example : printToks exNm (.pi 3 false .type (.ite .tt (.var 3 0) .int)) =
    ["LEFT_PAREN", "IDENTIFIER", "COLON", "TYPE", "RIGHT_PAREN", "THIN_ARROW",
     "IF", "TRUE", "THEN", "IDENTIFIER", "ELSE", "INTEGER"] := by decide +kernel
example : flatten (printItems exNm (.pi 3 false .type (.ite .tt (.var 3 0) .int)))
    = "(x : type) -> if true then x else int".toList := by decide +kernel
-- the hypotheses of `C16_print_derives` hold of these terms
example : Derives Generated.grammarProductions "term"
    (printToks exNm (.lam 3 false (.letg (.cons 4 (.hole 0 0) .int .nil) (.var 4 0)) (.var 3 0))) :=
  (C16_print_derives exNm _ (by decide) (by decide)).1
example : Derives Generated.grammarProductions "term"
    ["IDENTIFIER", "LEFT_PAREN", "IDENTIFIER", "IDENTIFIER", "RIGHT_PAREN", "IDENTIFIER"] :=
  (C16_print_derives exNm (.app (.app (.var 1 2) (.app (.var 2 1) (.var 3 0))) (.var 4 3))
    (by decide) (by decide)).1
-- the excluded terms
example : noImplicitArrow (.pi 3 true .int .int) = false := by decide +kernel
example : noNegLit (.app (.var 1 0) (lit (-1))) = false := by decide +kernel
example : printToks exNm (.pi 3 true .int .int) =
    ["LEFT_CURLY", "INTEGER", "RIGHT_CURLY", "THIN_ARROW", "INTEGER"] := by decide +kernel
-- `f -1` and `f - 1`: one token sequence, two texts, two terms
example : printKinds exNm (.app (.var 1 0) (lit (-1))) = [.identifier ['f'], .minus, .integerLiteral 1] := by decide +kernel
example : printKinds exNm (.bin .diff (.var 1 0) (lit 1)) = [.identifier ['f'], .minus, .integerLiteral 1] := by decide +kernel
example : printTm exNm (.app (.var 1 0) (lit (-1))) = "f -1".toList := by decide +kernel
example : printTm exNm (.bin .diff (.var 1 0) (lit 1)) = "f - 1".toList := by decide +kernel
example : printToks exNm (.pi 3 false (lit (-1)) .int) = ["MINUS", "INTEGER_LITERAL", "THIN_ARROW", "INTEGER"] := by
  decide +kernel
example : printTm exNm (.pi 3 false (lit (-1)) .int) = "-1 -> int".toList := by decide +kernel
-- an empty group prints as its body
example : printTm exNm (.letg .nil (.var 3 0)) = "x".toList := by decide +kernel

end sentence

/-! ## The printed text is tokenized back to the lexemes it was printed from (`Lemmas/PrintLex.lean`)

The tokenizer half of the round trip.  The printer omits the space only after `(` / `{`, before `)` / `}` / `;`, and
between a `-` (negation, sign of a negative literal) and its operand, which starts with `(`, `_`, a keyword, a digit, a
`-` or a name — never with `>`: no two adjacent printed lexemes fuse, and the render/tokenize law of C10 gives the kinds.
`CharClass.PrintSane` is `Sane2` plus what the printer needs of the Unicode classifier, each clause true of Rust's
`char::is_alphabetic` / `is_alphanumeric`. -/

section lexing
open PrintDerives PrintLex

/-- Decimal digit strings (what `BigInt`'s `Display` / `intChars` prints for a non-negative literal)
are read back by the tokenizer's digit loop as the same number: all characters are ASCII digits, the
string is not empty, and `digitsValue` inverts `Nat.toDigits 10`. -/
def C16_decimal_digits_stmt : Prop :=
  ∀ n : Nat, (∀ c ∈ Nat.toDigits 10 n, isDigit c = true) ∧ Nat.toDigits 10 n ≠ [] ∧
    digitsValue (Nat.toDigits 10 n) = n
theorem C16_decimal_digits : C16_decimal_digits_stmt :=
  fun n => ⟨toDigits_isDigit n, Nat.toDigits_ne_nil, digitsValue_toDigits n⟩

/-- The lexeme list of the printer is a rendering in the sense of the render/tokenize law: its text
is the printed text, every item is a lexeme of its kind, the gaps are single spaces, and no two
adjacent lexemes without a space between them fuse. -/
def C16_print_rendering_stmt : Prop :=
  ∀ (cc : CharClass), cc.PrintSane → ∀ (nm : Name → List Char) (t : Tm),
    (∀ x ∈ printedNames t, IsLexeme cc (nm x) (.identifier (nm x))) →
    Rendering cc [] ((printItems nm t).map toLex) none ∧
    renderText [] ((printItems nm t).map toLex) none = printTm nm t ∧
    weave (lexFlags ((printItems nm t).map toLex)) = printKinds nm t
theorem C16_print_rendering : C16_print_rendering_stmt := fun cc hs nm t hn =>
  ⟨print_rendering hs nm t hn, by rw [renderText_toLex, ← printTm_eq_flatten], weave_toLex _⟩

/-- **The printed text tokenizes to exactly the lexemes it was printed from.**  For every classifier
satisfying `PrintSane`, every name table that maps each *printed* name of `t` (`printedNames`: the
variables and the binders of lambdas, dependent function types and definitions) to the text of one
identifier token — it starts with an identifier-start character that is not a symbol character,
continues with identifier characters and is not a keyword, which is what the tokenizer guarantees
for every name that came out of parsing — and every term `t`: `tokenize` of the printed text succeeds
(no error, no panic) and the kinds of the tokens, payloads included (identifier texts, literal
values), are `printKinds nm t`.  The hypothesis `noNegLit t` is **not** needed for this half (a
negative literal `-5` is tokenized as `MINUS INTEGER_LITERAL`, which is what `printKinds` says; it is
the grammar / the parser that then reads `f -5` as a difference, `C16_negative_literal_ambiguous`). -/
def C16_print_tokenizes_stmt : Prop :=
  ∀ (cc : CharClass), cc.PrintSane → ∀ (nm : Name → List Char) (t : Tm),
    (∀ x ∈ printedNames t, IsLexeme cc (nm x) (.identifier (nm x))) →
    ∃ ts, tokenize cc (printTm nm t) = .ok ts ∧ ts.map (·.kind) = printKinds nm t
theorem C16_print_tokenizes : C16_print_tokenizes_stmt :=
  fun _ hs nm t hn => print_tokenizes hs nm t hn

/-- **The printed text is a sentence of the published grammar**: under the above and the two
exclusions of `C16_print_derives` (no implicit non-dependent function type, no negative literal),
the printed text tokenizes to a token sequence whose terminals derive from the start symbol `term`
of `grammar.y`. -/
def C16_printed_text_is_sentence_stmt : Prop :=
  ∀ (cc : CharClass), cc.PrintSane → ∀ (nm : Name → List Char) (t : Tm),
    (∀ x ∈ printedNames t, IsLexeme cc (nm x) (.identifier (nm x))) →
    noImplicitArrow t = true → noNegLit t = true →
    ∃ ts, tokenize cc (printTm nm t) = .ok ts ∧
      Derives Generated.grammarProductions "term" (ts.map (fun tk => kindTerminal tk.kind))
theorem C16_printed_text_is_sentence : C16_printed_text_is_sentence_stmt :=
  fun _ hs nm t hn h1 h2 => by
    obtain ⟨ts, e1, e2⟩ := print_tokenizes hs nm t hn
    exact ⟨ts, e1, by simpa only [printToks_eq_map, ← e2, List.map_map, Function.comp_def] using print_derives nm t h1 h2⟩

/-- ASCII classifier: letters `a`–`z`, digits, blank / line feed / tab -/
def C16_cc : CharClass :=
  { isAlpha := fun c => ('a' ≤ c ∧ c ≤ 'z')
    isAlnum := fun c => ('a' ≤ c ∧ c ≤ 'z') || ('0' ≤ c ∧ c ≤ '9')
    isWs := fun c => c == ' ' || c == '\n' || c == '\t'
    graphemeEnd := fun p => p + 1 }

theorem C16_cc_printSane : C16_cc.PrintSane :=
  { hash_plain := by decide, nl_plain := by decide, space_ws := by decide, tab_ws := by decide,
    hash_cont := by decide, nl_cont := by decide,
    kw_start := by decide, kw_cont := by decide, space_cont := by decide,
    digit_start := by
      intro c h
      simp only [isDigit, decide_eq_true_eq] at h
      simp only [C16_cc, decide_eq_false_iff_not, not_and]
      intro h1
      exact absurd (Char.le_trans h1 h.2) (by decide),
    closer_cont := by decide }

/-- `(x : (y : _ = int; y)) => x` -/
private def exLam : Tm := .lam 3 false (.letg (.cons 4 (.hole 0 0) .int .nil) (.var 4 0)) (.var 3 0)
/-- `f (g x) y` -/
private def exApp : Tm := .app (.app (.var 1 2) (.app (.var 2 1) (.var 3 0))) (.var 4 3)
/-- `(x : type) -> if true then x else int` -/
private def exPi : Tm := .pi 3 false .type (.ite .tt (.var 3 0) .int)
/-- `y : int = 12; ((-y) + 305) <= y` -/
private def exLet : Tm :=
  .letg (.cons 4 .int (lit 12) .nil) (.bin .le (.bin .sum (.neg (.var 4 0)) (lit 305)) (.var 4 0))
/-- `{x : type} -> (f x -> {g -7} -> --7) -> --7`: curly binder, an arrow with a parenthesised domain, an
implicit non-dependent arrow, negative literals directly after `{`, `-` and a space -/
private def exNeg : Tm :=
  .pi 3 true .type (.pi 0 false (.pi 0 false (.app (.var 1 1) (.var 3 0)) (.pi 0 true (.app (.var 2 2) (lit (-7))) (.neg (lit (-7)))))
    (.neg (lit (-7))))

example : printTm exNm exLam = "(x : (y : _ = int; y)) => x".toList := by decide +kernel
example : printTm exNm exApp = "f (g x) y".toList := by decide +kernel
example : printTm exNm exPi = "(x : type) -> if true then x else int".toList := by decide +kernel
example : printTm exNm exLet = "y : int = 12; ((-y) + 305) <= y".toList := by decide +kernel
example : printTm exNm exNeg = "{x : type} -> (f x -> {g -7} -> --7) -> --7".toList := by decide +kernel

-- the hypothesis on names, discharged by evaluation (via the Boolean lexeme check of C10)
private theorem exNames (t : Tm)
    (h : ∀ x ∈ printedNames t, isLexemeB C16_cc (exNm x) (.identifier (exNm x)) = true) :
    ∀ x ∈ printedNames t, IsLexeme C16_cc (exNm x) (.identifier (exNm x)) :=
  fun x hx => isLexemeB_sound (h x hx)
example : printedNames exLam = [3, 4, 4, 3] := by decide +kernel
example : printedNames exNeg = [3, 1, 3, 2] := by decide +kernel  -- the binders of the three arrows are not printed

-- both sides of `C16_print_tokenizes`, evaluated
private def kindsOfResult : LexResult → Option (List TokKind)
  | .ok ts => some (ts.map (·.kind))
  | _ => none
example : kindsOfResult (tokenize C16_cc (printTm exNm exLam)) = some (printKinds exNm exLam) := by decide +kernel
example : kindsOfResult (tokenize C16_cc (printTm exNm exApp)) = some (printKinds exNm exApp) := by decide +kernel
example : kindsOfResult (tokenize C16_cc (printTm exNm exPi)) = some (printKinds exNm exPi) := by decide +kernel
example : kindsOfResult (tokenize C16_cc (printTm exNm exLet)) = some (printKinds exNm exLet) := by decide +kernel
example : kindsOfResult (tokenize C16_cc (printTm exNm exNeg)) = some (printKinds exNm exNeg) := by
  decide +kernel
example : printKinds exNm exLet =
    [.identifier ['y'], .colon, .integer, .equals, .integerLiteral 12, .terminatorSemicolon,
     .leftParen, .leftParen, .minus, .identifier ['y'], .rightParen, .plus, .integerLiteral 305,
     .rightParen, .lessThanOrEqualTo, .identifier ['y']] := by decide +kernel

-- the theorems instantiated: all hypotheses hold together
example : ∃ ts, tokenize C16_cc (printTm exNm exLam) = .ok ts ∧ ts.map (·.kind) = printKinds exNm exLam :=
  C16_print_tokenizes C16_cc C16_cc_printSane exNm exLam (exNames _ (by decide))
example : ∃ ts, tokenize C16_cc (printTm exNm exNeg) = .ok ts ∧ ts.map (·.kind) = printKinds exNm exNeg :=
  C16_print_tokenizes C16_cc C16_cc_printSane exNm exNeg (exNames _ (by decide))
example : ∃ ts, tokenize C16_cc (printTm exNm exApp) = .ok ts ∧
    Derives Generated.grammarProductions "term" (ts.map (fun tk => kindTerminal tk.kind)) :=
  C16_printed_text_is_sentence C16_cc C16_cc_printSane exNm exApp (exNames _ (by decide))
    (by decide) (by decide)
example : ∃ ts, tokenize C16_cc (printTm exNm exPi) = .ok ts ∧
    Derives Generated.grammarProductions "term" (ts.map (fun tk => kindTerminal tk.kind)) :=
  C16_printed_text_is_sentence C16_cc C16_cc_printSane exNm exPi (exNames _ (by decide))
    (by decide) (by decide)
example : ∃ ts, tokenize C16_cc (printTm exNm exLet) = .ok ts ∧
    Derives Generated.grammarProductions "term" (ts.map (fun tk => kindTerminal tk.kind)) :=
  C16_printed_text_is_sentence C16_cc C16_cc_printSane exNm exLet (exNames _ (by decide))
    (by decide) (by decide)
example : Rendering C16_cc [] ((printItems exNm exLam).map toLex) none :=
  (C16_print_rendering C16_cc C16_cc_printSane exNm exLam (exNames _ (by decide))).1
example : (∀ c ∈ Nat.toDigits 10 305, isDigit c = true) ∧ digitsValue (Nat.toDigits 10 305) = 305 := by
  decide +kernel

-- the hypotheses are needed: a name that is a keyword, or not a word, is not read back as printed …
example : kindsOfResult (tokenize C16_cc (printTm (fun _ => ['i', 'f']) (.var 0 0))) ≠
    some (printKinds (fun _ => ['i', 'f']) (.var 0 0)) := by decide +kernel
example : kindsOfResult (tokenize C16_cc (printTm (fun _ => ['x', '>']) (.var 0 0))) ≠
    some (printKinds (fun _ => ['x', '>']) (.var 0 0)) := by decide +kernel
-- … and `closer_cont`: were `)` a word character, `(g x)` would end with the identifier `x)`
private def badCc : CharClass := { C16_cc with isAlnum := fun c => C16_cc.isAlnum c || c == ')' }
example : kindsOfResult (tokenize badCc (printTm exNm exApp)) ≠ some (printKinds exNm exApp) := by decide +kernel

end lexing

/-! ## The operator arms of `Display`, read off `term.rs` on every run -/

/-- Each of the nine binary arms of `impl Display for Variant` prints `group(left) OP group(right)` — single spaces, the
operator text the model prints for that operator (`opChars`), the operands in their own places, both through `group` — and
negation prints `-` directly followed by `group(operand)`: what `printTm` does for the one `bin` constructor
(C16_operands_grouped), row by row.  The remaining arms (binders, application, definitions, conditional, leaves) and the
helpers `annotation` and `group` are the texts the model was written from (CRC-32 of their comment-free text; `group`'s
partition is C16_atomic_table).  The numbers are those `extract/arms.py` computes from `/repo/src/term.rs` on every run
(`Generated/Arms.lean`); when one differs, that arm of `term.rs` has changed and the model's arm has to be read against it
again before the number here is replaced. -/
def C16_display_arms_tie_stmt : Prop :=
  printOpsOK = true ∧
  Generated.printOtherArms = [(.Unifier, 4229655252), (.Type, 2387717100), (.Variable, 1933842675), (.Lambda, 2740698178),
    (.Pi, 2852654696), (.Application, 3204400415), (.Let, 186757351), (.Integer, 819329630), (.IntegerLiteral, 3639700320),
    (.Boolean, 1061493985), (.True, 1974612929), (.False, 610317945), (.If, 3276004331)] ∧
  Generated.printAnnotationFn = 1193392906 ∧ Generated.printGroupFn = 2283885570
theorem C16_display_arms_tie : C16_display_arms_tie_stmt := by
  unfold C16_display_arms_tie_stmt; decide +kernel


/-! ## Reading back: the parser model on the printed token sequence (completeness of the packrat functions)

`PModel.frag` (Lemmas/PrintedParse.lean) is the fragment of the printable class without binders, arrows and
definitions: leaves, holes, applications, negation, the nine binary operators, conditionals — with the parentheses the
printer puts.  `PModel.srcOf I nm t` is the tree of the printed term as a *shape* (`PModel.shape` forgets source ranges
only): printed names (interned by `I`), parenthesised operands flagged `group`, application chains right-nested as the
packrat functions build them before re-association, every error list empty.  `PModel.kindP I` turns a tokenizer kind into a
parser kind. -/

/-- **The parse phase reads a printed term back** (fragment): on every token array whose kinds are the kinds the printer
model prints for `t` (any source ranges), the parse phase of the parser model succeeds, consumes every token, is confident,
records no error, and returns the tree of `t` — as a shape `srcOf I nm t`, and as a tree the parse tree of the whole token
array (`SegT`: every node carries the exact range of its token segment).  Since PEG alternatives are ordered this includes
that every alternative tried before the right one fails on the printed input. -/
def C16_parse_printed_fragment_stmt : Prop :=
  ∀ (toks : Array PModel.PTok) (I : List Char → Name) (nm : Name → List Char) (t : Tm),
    PModel.frag t = true →
    toks.toList.map (·.kind) = (PrintDerives.printKinds nm t).map (PModel.kindP I) →
    ∃ r st, PModel.runParser toks = some (r, st) ∧ r.next = toks.size ∧ r.confident = true ∧
      PModel.collectErrors r.term = [] ∧ PModel.shape r.term = PModel.srcOf I nm t ∧
      PModel.SegT toks .term 0 toks.size r.term
theorem C16_parse_printed_fragment : C16_parse_printed_fragment_stmt :=
  fun toks I nm t h1 h2 =>
    PModel.parse_printed toks I nm t (PModel.frag_printable t h1).1 (PModel.frag_printable t h1).2 h2

/-- non-vacuity: `if f (g x) y then -(a + b) else c * 2` is in the fragment, and some token array has its printed kinds -/
example : ∃ (toks : Array PModel.PTok) (t : Tm), PModel.frag t = true ∧
    toks.toList.map (·.kind) = (PrintDerives.printKinds (fun n => [Char.ofNat (97 + n)]) t).map
      (PModel.kindP (fun _ => 1)) :=
  ⟨_, .ite (.app (.app (.var 5 0) (.app (.var 6 0) (.var 7 0))) (.var 8 0))
     (.neg (.bin .sum (.var 0 0) (.var 1 0))) (.bin .prod (.var 2 0) (.lit 2)),
   by decide, PModel.toksOfKinds_kinds _⟩

/-- **The parse phase reads every printed term back**: the same for the whole printable class (no implicit
non-dependent function type, no negative literal — the class of `C16_print_derives`): binders `(x : A) => b`,
`{x : A} => b`, `(x : A) -> B`, `{x : A} -> B` (the annotation is the printed annotation, parenthesised and flagged `group`
when it is a definition group), arrows `A -> B` (anonymous binder = the placeholder; an application as domain stays bare),
definition groups (`x : A = d; …` — one nested `let` per definition, annotation and definition as printed operands). -/
def C16_parse_printed_stmt : Prop :=
  ∀ (toks : Array PModel.PTok) (I : List Char → Name) (nm : Name → List Char) (t : Tm),
    PrintDerives.noImplicitArrow t = true → PrintDerives.noNegLit t = true →
    toks.toList.map (·.kind) = (PrintDerives.printKinds nm t).map (PModel.kindP I) →
    ∃ r st, PModel.runParser toks = some (r, st) ∧ r.next = toks.size ∧ r.confident = true ∧
      PModel.collectErrors r.term = [] ∧ PModel.shape r.term = PModel.srcOf I nm t ∧
      PModel.SegT toks .term 0 toks.size r.term
theorem C16_parse_printed : C16_parse_printed_stmt :=
  fun toks I nm t h1 h2 h3 => PModel.parse_printed toks I nm t h1 h2 h3

/-- non-vacuity: `if b : int = 5; b then (c : b) -> c d else {b : (b : int = 5; b)} => e -> b` is printable, and some
token array has its printed kinds -/
example : ∃ (toks : Array PModel.PTok) (t : Tm), PrintDerives.noImplicitArrow t = true ∧
    PrintDerives.noNegLit t = true ∧
    toks.toList.map (·.kind) = (PrintDerives.printKinds (fun n => [Char.ofNat (97 + n)]) t).map
      (PModel.kindP (fun _ => 1)) :=
  ⟨_, .ite (.letg (.cons 1 .int (.lit 5) .nil) (.var 1 0))
        (.pi 2 false (.var 1 0) (.app (.var 2 0) (.var 3 0)))
        (.lam 1 true (.letg (.cons 1 .int (.lit 5) .nil) (.var 1 0))
          (.pi 0 false (.var 4 0) (.var 1 1))),
   by decide, by decide, PModel.toksOfKinds_kinds _⟩


/-! ## Reading back, after the parse phase: re-association

`PModel.IsChain s l`: `s` is the right-nested application chain (inner nodes not flagged `group`, any ranges, any error
lists) of the operands `l` — the form in which `parse_application` / `parse_small_term` return `x₀ x₁ … xₙ`.
`PModel.Ops l l'`: every operand is opaque to the applications pass (`RewriteMore.Opaque`) and the pass turns it into the
corresponding element of `l'`.  `PModel.chainRes none [y₀, …, yₙ]` is the left-nested `((y₀ y₁) …) yₙ`;
`RewriteMore.strip` forgets ranges, `group` flags and error lists. -/

/-- **Application chains get their shape back.**  (i) Every node other than an unparenthesised chain node of the family is
opaque to a re-association pass (with an accumulator the pass re-associates the subtree on its own, then applies the common
tail).  (ii) `reassociate_applications` turns the right-nested chain of opaque operands into the left-nested application of
the re-associated operands — started without accumulator, or inside a chain with accumulator `ac`: `((ac y₀) y₁) … yₙ`. -/
def C16_chain_left_nested_stmt : Prop :=
  (∀ (fam : PModel.Family) (r : PModel.SourceRange) (g : Bool) (v : PModel.SrcV) (es : List PModel.PErr),
    g = true ∨ PModel.inFam fam v = false → RewriteMore.Opaque fam (.mk r g v es)) ∧
  (∀ (s : PModel.Src) (l l' : List PModel.Src), PModel.IsChain s l → PModel.Ops l l' →
    (PModel.reassoc .applications none s).map RewriteMore.strip =
      some (PModel.chainRes none (l'.map RewriteMore.strip)) ∧
    ∀ ac, (PModel.reassoc .applications (some (ac, .app)) s).map RewriteMore.strip =
      some (PModel.chainRes (some (RewriteMore.strip ac)) (l'.map RewriteMore.strip)))
theorem C16_chain_left_nested : C16_chain_left_nested_stmt :=
  ⟨PModel.opaque_of, fun _ _ l' hc ho =>
    ⟨PModel.reassoc_chain hc l' ho none (Or.inl rfl),
     fun ac => PModel.reassoc_chain hc l' ho (some (ac, .app)) (Or.inr ⟨ac, rfl⟩)⟩⟩

/-- non-vacuity: the chain `f a` of two identifiers -/
example : ∃ (s : PModel.Src) (l l' : List PModel.Src), PModel.IsChain s l ∧ PModel.Ops l l' ∧ l.length = 2 :=
  ⟨.mk ⟨0, 3⟩ false (.app (.mk ⟨0, 1⟩ false (.var 1) []) (.mk ⟨2, 3⟩ false (.var 2) [])) [],
   [.mk ⟨0, 1⟩ false (.var 1) [], .mk ⟨2, 3⟩ false (.var 2) []],
   [.mk ⟨0, 1⟩ false (.var 1) [], .mk ⟨2, 3⟩ false (.var 2) []],
   .cons _ _ _ _ _ _ (.one _),
   .cons ⟨PModel.opaque_of _ _ _ _ _ (Or.inr rfl), by rw [PModel.reassoc]; rfl⟩
     (.cons ⟨PModel.opaque_of _ _ _ _ _ (Or.inr rfl), by rw [PModel.reassoc]; rfl⟩ .nil), rfl⟩

/-- **`f a b` gets its shape back**: for a printable application `t` (printed `h a₁ … aₙ`, head bare when it is itself an
application, every other operand through `group`), on any token array with the printed kinds the parse phase returns the
right-nested chain of at least two operand trees whose shapes are `atomsOf I nm t`; every operand is opaque to
`reassociate_applications`, which succeeds on it, and the pass returns the left-nested application of the re-associated
operands (up to ranges, `group` flags, error lists). -/
def C16_printed_application_left_nested_stmt : Prop :=
  ∀ (toks : Array PModel.PTok) (I : List Char → Name) (nm : Name → List Char) (t : Tm),
    PrintDerives.noImplicitArrow t = true → PrintDerives.noNegLit t = true → PrintDerives.isApp t = true →
    toks.toList.map (·.kind) = (PrintDerives.printKinds nm t).map (PModel.kindP I) →
    ∃ r st l l', PModel.runParser toks = some (r, st) ∧ PModel.IsChain r.term l ∧
      l.map PModel.shape = PModel.atomsOf I nm t ∧ PModel.Ops l l' ∧ 2 ≤ l.length ∧
      (PModel.reassociateApplications r.term).map RewriteMore.strip =
        some (PModel.chainRes none (l'.map RewriteMore.strip))
theorem C16_printed_application_left_nested : C16_printed_application_left_nested_stmt :=
  fun toks I nm t h1 h2 h3 h4 => PModel.reassoc_printed_app toks I nm t h1 h2 h3 h4

/-- non-vacuity: `f (g h) i` -/
example : ∃ (toks : Array PModel.PTok) (t : Tm), PrintDerives.noImplicitArrow t = true ∧
    PrintDerives.noNegLit t = true ∧ PrintDerives.isApp t = true ∧
    toks.toList.map (·.kind) = (PrintDerives.printKinds (fun n => [Char.ofNat (97 + n)]) t).map
      (PModel.kindP (fun _ => 1)) :=
  ⟨_, .app (.app (.var 5 0) (.app (.var 6 0) (.var 7 0))) (.var 8 0),
   by decide, by decide, by decide, PModel.toksOfKinds_kinds _⟩

/-- **The whole round trip.**  `PModel.readBack` = parse phase, the
three re-association passes, `resolve_variables` in the scope `names` (outermost first), ranges forgotten; `PModel.scopedOK` =
hole-free, every variable carries the de Bruijn index of its name in the scope, binder names are not the placeholder and not
already in scope (gram's no-shadowing rule; the names of a definition group pairwise distinct), no empty definition group and
no definition group directly as body of a definition group (both are printed like their flattening); `PModel.canon` replaces
the name of every unused Π binder (it is not printed) by the placeholder.  The name table is invertible on the names used:
`I (nm x) = x`. -/
def C16_read_back_stmt : Prop :=
  ∀ (toks : Array PModel.PTok) (I : List Char → Name) (nm : Name → List Char) (names : List Name) (t : Tm),
    (∀ x, I (nm x) = x) → names.Nodup → (∀ x ∈ names, x ≠ PModel.placeholder) →
    PModel.scopedOK names.reverse t = true →
    PrintDerives.noImplicitArrow t = true → PrintDerives.noNegLit t = true →
    toks.toList.map (·.kind) = (PrintDerives.printKinds nm t).map (PModel.kindP I) →
    PModel.readBack toks names = some (PModel.canon t, [])
theorem C16_read_back : C16_read_back_stmt :=
  fun toks I nm names t h1 h2 h3 h4 h5 h6 h7 => PModel.read_back toks I nm names t h1 h2 h3 h4 h5 h6 h7


/-! ## Reading back: the re-association passes on the whole parsed tree (the steps of `C16_read_back` after the parse phase)

`PModel.lsrc I nm t` is the surface tree of `t` itself (applications left-nested; no ranges, no `group` flags, no errors;
names `I (nm x)`, the placeholder for an unused Π binder, one nested `let` per definition). -/

/-- **Re-association, the applications pass**: on every surface tree whose shape is the expected tree of the printed `t` (`srcOf I nm t`: any
ranges) — in particular on what the parse phase returns for the printed tokens of a printable `t` —
`reassociate_applications` succeeds and returns the tree of `t` itself up to ranges, `group` flags and error lists: every
right-nested application chain, in every subterm, has become the left-nested application, nothing else has changed. -/
def C16_reassoc_applications_printed_stmt : Prop :=
  (∀ (I : List Char → Name) (nm : Name → List Char) (t : Tm) (s : PModel.Src),
    PModel.shape s = PModel.srcOf I nm t →
    ∃ s1, PModel.reassociateApplications s = some s1 ∧ RewriteMore.strip s1 = PModel.lsrc I nm t) ∧
  (∀ (toks : Array PModel.PTok) (I : List Char → Name) (nm : Name → List Char) (t : Tm),
    PrintDerives.noImplicitArrow t = true → PrintDerives.noNegLit t = true →
    toks.toList.map (·.kind) = (PrintDerives.printKinds nm t).map (PModel.kindP I) →
    ∃ r st s1, PModel.runParser toks = some (r, st) ∧ r.next = toks.size ∧ PModel.collectErrors r.term = [] ∧
      PModel.reassociateApplications r.term = some s1 ∧ RewriteMore.strip s1 = PModel.lsrc I nm t)
theorem C16_reassoc_applications_printed : C16_reassoc_applications_printed_stmt :=
  ⟨PModel.reassoc_apps_shape, fun toks I nm t h1 h2 hk => by
    obtain ⟨r, st, hr, hn, _, hce, hs, _⟩ := PModel.parse_printed toks I nm t h1 h2 hk
    obtain ⟨s1, h3, h4⟩ := PModel.reassoc_apps_shape I nm t r.term hs
    exact ⟨r, st, s1, hr, hn, hce, h3, h4⟩⟩

/-- **Re-association, the two operator passes**: on a fully parenthesised tree (`PModel.OK23`: no `ParseError` node; both
operands of every binary-operator node carry `group = true` or are not binary-operator nodes — what the printer's `group`
guarantees) a chain pass other than the applications pass succeeds, is the identity up to ranges, `group` flags and error
lists, returns a fully parenthesised tree again and does not clear the root's `group` flag. -/
def C16_chain_passes_identity_stmt : Prop :=
  ∀ (fam : PModel.Family), fam ≠ .applications → ∀ s : PModel.Src, PModel.OK23 s →
    ∃ s', PModel.reassoc fam none s = some s' ∧ RewriteMore.strip s' = RewriteMore.strip s ∧ PModel.OK23 s' ∧
      (s.group = true → s'.group = true)
theorem C16_chain_passes_identity : C16_chain_passes_identity_stmt := PModel.pass23

/-- non-vacuity: `a * (b * c)` with the right operand flagged is fully parenthesised -/
example : PModel.OK23 (.mk ⟨0, 9⟩ false (.bin .prod (.mk ⟨0, 1⟩ false (.var 1) [])
    (.mk ⟨4, 9⟩ true (.bin .prod (.mk ⟨5, 6⟩ false (.var 2) []) (.mk ⟨8, 9⟩ false (.var 3) [])) [])) []) := by
  simp [PModel.OK23, PModel.OK23V, PModel.At23, PModel.isBinV, PModel.Src.group, PModel.Src.variant]

/-- **Re-association, all three passes**: the three re-association passes on the parsed tree of a printed term succeed and return the
tree of the term itself (`PModel.lsrc I nm t`) up to ranges, `group` flags and error lists. -/
def C16_reassoc_printed_stmt : Prop :=
  ∀ (toks : Array PModel.PTok) (I : List Char → Name) (nm : Name → List Char) (t : Tm),
    PrintDerives.noImplicitArrow t = true → PrintDerives.noNegLit t = true →
    toks.toList.map (·.kind) = (PrintDerives.printKinds nm t).map (PModel.kindP I) →
    ∃ r st s3, PModel.runParser toks = some (r, st) ∧ RewriteMore.reassocAll r.term = some s3 ∧
      RewriteMore.strip s3 = PModel.lsrc I nm t

theorem C16_reassoc_printed : C16_reassoc_printed_stmt :=
  fun toks I nm t h1 h2 h3 => PModel.reassocAll_printed toks I nm t h1 h2 h3

/-- **Name resolution**: name resolution of any tree that is the tree of
`t` up to ranges, flags and errors, in the scope `names`, returns `canon t` without error, definition groups included. -/
def C16_resolve_printed_stmt : Prop :=
  ∀ (I : List Char → Name) (nm : Name → List Char) (names : List Name) (t : Tm) (s : PModel.Src),
    (∀ x, I (nm x) = x) → names.Nodup → (∀ x ∈ names, x ≠ PModel.placeholder) →
    PModel.scopedOK names.reverse t = true → RewriteMore.strip s = PModel.lsrc I nm t →
    ∃ rt st, PModel.resolve s (PModel.initialContext names).length
        { ctx := PModel.initialContext names, errors := [], nextHole := 0 } = some (rt, st) ∧
      rt.erase = PModel.canon t ∧ st.errors = []
theorem C16_resolve_printed : C16_resolve_printed_stmt :=
  fun I nm names t s h1 h2 h3 h4 h5 => PModel.resolve_printed I nm names t s h1 h2 h3 h4 h5

/-- **Name resolution for terms without definition group** (`PModel.noLet`): name resolution of any tree that is the tree of `t` up
to ranges, flags and errors, in the scope `names` (pairwise distinct, none the placeholder), returns `canon t` and reports no
error. -/
def C16_resolve_printed_nolet_stmt : Prop :=
  ∀ (I : List Char → Name) (nm : Name → List Char) (names : List Name) (t : Tm) (s : PModel.Src),
    (∀ x, I (nm x) = x) → names.Nodup → (∀ x ∈ names, x ≠ PModel.placeholder) → PModel.noLet t = true →
    PModel.scopedOK names.reverse t = true → RewriteMore.strip s = PModel.lsrc I nm t →
    ∃ rt st, PModel.resolve s (PModel.initialContext names).length
        { ctx := PModel.initialContext names, errors := [], nextHole := 0 } = some (rt, st) ∧
      rt.erase = PModel.canon t ∧ st.errors = []
theorem C16_resolve_printed_nolet : C16_resolve_printed_nolet_stmt :=
  fun I nm names t s h1 h2 h3 _ h5 h6 => PModel.resolve_printed I nm names t s h1 h2 h3 h5 h6

/-- **Reading a printed term back** (terms without definition group): print, take any token array with the printed kinds,
run the parse phase, the three re-association passes and name resolution in the scope `names`: the result is `canon t` (`t`
up to the names of unused Π binders), and no error is reported. -/
def C16_read_back_nolet_stmt : Prop :=
  ∀ (toks : Array PModel.PTok) (I : List Char → Name) (nm : Name → List Char) (names : List Name) (t : Tm),
    (∀ x, I (nm x) = x) → names.Nodup → (∀ x ∈ names, x ≠ PModel.placeholder) → PModel.noLet t = true →
    PModel.scopedOK names.reverse t = true →
    PrintDerives.noImplicitArrow t = true → PrintDerives.noNegLit t = true →
    toks.toList.map (·.kind) = (PrintDerives.printKinds nm t).map (PModel.kindP I) →
    PModel.readBack toks names = some (PModel.canon t, [])
theorem C16_read_back_nolet : C16_read_back_nolet_stmt :=
  fun toks I nm names t h1 h2 h3 _ h5 h6 h7 h8 =>
    PModel.read_back toks I nm names t h1 h2 h3 h5 h6 h7 h8

/-- non-vacuity: `(b : int -> int) => d (b (b 1)) (b 2 + 1)` in the scope `[d]` (names = lengths of runs of `a`) -/
example : ∃ (toks : Array PModel.PTok) (I : List Char → Name) (nm : Name → List Char) (names : List Name) (t : Tm),
    (∀ x, I (nm x) = x) ∧ names.Nodup ∧ (∀ x ∈ names, x ≠ PModel.placeholder) ∧ PModel.noLet t = true ∧
    PModel.scopedOK names.reverse t = true ∧ PrintDerives.noImplicitArrow t = true ∧
    PrintDerives.noNegLit t = true ∧
    toks.toList.map (·.kind) = (PrintDerives.printKinds nm t).map (PModel.kindP I) :=
  ⟨_, List.length, fun n => List.replicate n 'a', [3],
   .lam 1 false (.pi 2 false .int .int)
        (.app (.app (.var 3 1) (.app (.var 1 0) (.app (.var 1 0) (.lit 1))))
          (.bin .sum (.app (.var 1 0) (.lit 2)) (.lit 1))),
   fun x => by simp, by decide, by decide, by decide, by decide, by decide, by decide,
   PModel.toksOfKinds_kinds _⟩


/-- non-vacuity of `C16_read_back`: `b : int = 5; c : int = b; if c < b then (e : int) => d e c else d b` in the scope
`[d]` (names = lengths of runs of `a`) -/
example : ∃ (toks : Array PModel.PTok) (I : List Char → Name) (nm : Name → List Char) (names : List Name) (t : Tm),
    (∀ x, I (nm x) = x) ∧ names.Nodup ∧ (∀ x ∈ names, x ≠ PModel.placeholder) ∧
    PModel.scopedOK names.reverse t = true ∧ PrintDerives.noImplicitArrow t = true ∧
    PrintDerives.noNegLit t = true ∧
    toks.toList.map (·.kind) = (PrintDerives.printKinds nm t).map (PModel.kindP I) :=
  ⟨_, List.length, fun n => List.replicate n 'a', [3],
   .letg (.cons 1 .int (.lit 5) (.cons 2 .int (.var 1 1) .nil))
        (.ite (.bin .lt (.var 2 0) (.var 1 1))
          (.lam 4 false .int (.app (.app (.var 3 3) (.var 4 0)) (.var 2 1)))
          (.app (.var 3 2) (.var 1 1))),
   fun x => by simp, by decide, by decide, by decide, by decide, by decide,
   PModel.toksOfKinds_kinds _⟩


/-! ## General completeness of the parser model w.r.t. the grammar (C07: every sentence is parsed)

(The same statements under their C07 names are in Props/C07b.lean.)  `PModel.SegT toks A a b t` is the tree-carrying derivation relation
of `grammar.y` (one constructor per production); `PModel.simpleK` are the tokens of the operator sublanguage: leaf tokens,
parentheses, the nine binary operators (`-` also as negation). -/

/-- **Completeness on the operator sublanguage**: if every token is a leaf, a parenthesis or a binary operator, every
sentence of `term` of `grammar.y` is accepted by the parse phase, with exactly its parse tree (unique by `C07_unambiguous`),
every token consumed, no error recorded, confident. -/
def C16_parse_complete_operators_stmt : Prop :=
  ∀ (toks : Array PModel.PTok) (t : PModel.Src),
    (∀ i k, PModel.KAt toks i k → PModel.simpleK k = true) → PModel.SegT toks .term 0 toks.size t →
    ∃ r st, PModel.runParser toks = some (r, st) ∧ r.term = t ∧ r.next = toks.size ∧
      PModel.collectErrors r.term = [] ∧ r.confident = true
theorem C16_parse_complete_operators : C16_parse_complete_operators_stmt :=
  fun _ _ hS h => PModel.parse_complete_simple hS h

/-- non-vacuity: the one-token program `x` -/
example : ∃ (toks : Array PModel.PTok) (t : PModel.Src),
    (∀ i k, PModel.KAt toks i k → PModel.simpleK k = true) ∧ PModel.SegT toks .term 0 toks.size t :=
  ⟨#[⟨.identifier 1, ⟨0, 1⟩⟩], _,
   by
     intro i k ⟨hlt, hk⟩
     have : i = 0 := by simp at hlt; omega
     subst this
     simp at hk; subst hk; rfl,
   (PModel.Unamb.var_atom (x := 1) ⟨by decide, rfl⟩).up⟩

/-- **Accepted iff sentence** (operator sublanguage): the parse phase consumes every token without recording an error
exactly when the token sequence is a sentence of `term`. -/
def C16_accepted_iff_sentence_operators_stmt : Prop :=
  ∀ (toks : Array PModel.PTok), (∀ i k, PModel.KAt toks i k → PModel.simpleK k = true) →
    ((∃ r st, PModel.runParser toks = some (r, st) ∧ r.next = toks.size ∧ PModel.collectErrors r.term = []) ↔
      ∃ t, PModel.SegT toks .term 0 toks.size t)
theorem C16_accepted_iff_sentence_operators : C16_accepted_iff_sentence_operators_stmt :=
  fun toks _ => (PModel.accepted_iff_sentence toks).1

/-- **General completeness of the parser model w.r.t. `grammar.y`** (C07: every sentence is parsed): every sentence of
`term` — any token sequence with a derivation `SegT toks .term 0 toks.size t` — is accepted by the parse phase, which returns
exactly the parse tree `t` of the sentence (unique by `C07_unambiguous`), consumes every token, records no error and is
confident.  The recovering functions
(`parse_let`, `parse_if`, `parse_group`) are never committed wrongly on a sentence. -/
def C16_parse_complete_stmt : Prop :=
  ∀ (toks : Array PModel.PTok) (t : PModel.Src), PModel.SegT toks .term 0 toks.size t →
    ∃ r st, PModel.runParser toks = some (r, st) ∧ r.term = t ∧ r.next = toks.size ∧
      PModel.collectErrors r.term = [] ∧ r.confident = true
theorem C16_parse_complete : C16_parse_complete_stmt := fun _ _ h => PModel.parse_complete h

/-- non-vacuity: the one-token program `x` (and see `C16_parse_printed`: every printed term is a sentence) -/
example : ∃ (toks : Array PModel.PTok) (t : PModel.Src), PModel.SegT toks .term 0 toks.size t :=
  ⟨#[⟨.identifier 1, ⟨0, 1⟩⟩], _,
   (PModel.Unamb.var_atom (x := 1) ⟨by decide, rfl⟩).up⟩

/-- **Accepted iff sentence**: the parse phase consumes every token without recording an error exactly when the token
sequence is a sentence of `term` of `grammar.y`; the tree returned is then the parse tree of the sentence. -/
def C16_accepted_iff_sentence_stmt : Prop :=
  ∀ (toks : Array PModel.PTok),
    ((∃ r st, PModel.runParser toks = some (r, st) ∧ r.next = toks.size ∧ PModel.collectErrors r.term = []) ↔
      ∃ t, PModel.SegT toks .term 0 toks.size t) ∧
    (∀ r st t, PModel.runParser toks = some (r, st) → PModel.SegT toks .term 0 toks.size t → r.term = t)
theorem C16_accepted_iff_sentence : C16_accepted_iff_sentence_stmt := PModel.accepted_iff_sentence
