import GramModel.Lemmas.CliTie
import GramModel.Generated.Sites
import GramModel.Props.C09
import GramModel.Lemmas.ParserNoPanic
import GramModel.Lemmas.CheckNoPanic
import GramModel.Lemmas.FrontEnd

/-!
# C14 — gram handles every input without crashing and reports failure faithfully

Partial by nature: stack exhaustion on deeply nested (finite, non-divergent) input is outside any
Lean model and is a recorded finding (KF-stack).  What is proved: the tokenizer's panic arm is dead
and its failure lists are non-empty (C09), the unifier's `panic!` arm is dead (C12), every
`unwrap` / `expect` / `panic!` / `assert!` / `unreachable!` of the sources is a known, classified one (list regenerated
from the sources on every run; indexing and arithmetic are not in that list), and the CLI result mapping satisfies the
contract.  For the type checker: "no panic on a well-scoped term" is refuted
(finding D18, the Rust checker panics on the witnesses); on hole-free programs it holds; on every term only the four
context lookups can panic, on a well-scoped one only the indexing of the definitions context.  At the end the front
end (text → tokens → parse) is total and reports failure faithfully, and the results are composed behind it.
-/

/-- How `main.rs::run` turns the outcome of the stages into what the user sees. -/
inductive RunOutcome
  | tokenizeErr (n : Nat) | parseErr (n : Nat) | checkErr (n : Nat)
  | checked                      -- `gram check`: elaborated term and type printed
  | value                        -- `gram run`: the value printed
  | stuck                        -- `gram run`: "Evaluation of … is stuck!"

structure CliResult where
  exit : Nat
  stdoutEmpty : Bool
  stderrHasError : Bool
  stderrEmpty : Bool

/-- `collect_errors` joins the (non-empty) list of diagnostics, each starting with `[Error]`;
`entry` prints an `Err` on stderr and exits 1; `Ok` prints on stdout and exits 0. -/
def cliResult : RunOutcome → CliResult
  | .tokenizeErr n | .parseErr n | .checkErr n =>
      { exit := 1, stdoutEmpty := true, stderrHasError := decide (n > 0), stderrEmpty := decide (n = 0) }
  | .checked | .value => { exit := 0, stdoutEmpty := false, stderrHasError := false, stderrEmpty := true }
  | .stuck => { exit := 1, stdoutEmpty := true, stderrHasError := true, stderrEmpty := false }

/-- The contract: exit 0 with nothing on stderr, or exit 1 with nothing on stdout and at least one
`[Error]` diagnostic — provided every failing stage returns a non-empty error list (which is what
`C09_err_nonempty` proves for the tokenizer and the in-process suites check for the other stages).
(The evaluator's "is stuck" failure carries the tag too since the repair of D17.) -/
def C14_cli_contract_stmt : Prop :=
  ∀ (o : RunOutcome),
    (match o with | .tokenizeErr n | .parseErr n | .checkErr n => n > 0 | _ => True) →
    let r := cliResult o
    (r.exit = 0 ∧ r.stderrEmpty = true) ∨ (r.exit = 1 ∧ r.stdoutEmpty = true ∧ r.stderrHasError = true)
theorem C14_cli_contract : C14_cli_contract_stmt := by
  intro o h
  cases o <;> simp_all [cliResult]

/-- The panic sites of the non-test sources, classified.  `tokenizer-linebreak`: proved dead
(`C09_total`); `unify-let`: proved dead (`C12_whnf_never_let`); `conversion`: `usize`/`isize`
conversions that fail only beyond 2^63; `parse-error-node`: reassociation/resolution never see a
`ParseError` because errors are checked first (`[tag:error_check]`, exercised by the parser suite);
`tokenizer-utf8`: `last().unwrap()` guarded by `!is_empty()`, digit parsing of a digit string,
grapheme cursor on a whole string; `cli`: thread / argument plumbing of `main.rs`. -/
def knownPanicSites : List (String × String × String) := [
  ("de_bruijn.rs", "signed_shift", "unwrap"),      -- conversion (6×)
  ("de_bruijn.rs", "unsigned_shift", "unwrap"),    -- conversion, non-negative amount (2×)
  ("main.rs", "run", "unwrap"),                    -- split('\n').next_back() of a string is never None
  ("main.rs", "entry", "panic"),                   -- arg_required_else_help
  ("parser.rs", "reassociate_applications", "panic"),
  ("parser.rs", "reassociate_products_and_quotients", "panic"),
  ("parser.rs", "reassociate_sums_and_differences", "panic"),
  ("parser.rs", "resolve_variables", "panic"),
  ("parser.rs", "check_definitions", "assert"),    -- parser-created holes outside annotations have shift 0
  ("tokenizer.rs", "tokenize", "unwrap"),
  ("tokenizer.rs", "tokenize", "panic"),           -- proved dead: C09_total
  ("unifier.rs", "unify", "unwrap"),               -- conversion (4×)
  ("unifier.rs", "unify", "panic")                 -- proved dead: C12_whnf_never_let
]

/-- Every `unwrap` / `expect` / `panic!` / `assert!` / `unreachable!` of the current sources is one
of the classified sites: a new one fails this obligation. -/
def C14_panic_sites_covered_stmt : Prop :=
  ∀ site ∈ Generated.panicSites, site ∈ knownPanicSites
theorem C14_panic_sites_covered : C14_panic_sites_covered_stmt := by
  unfold C14_panic_sites_covered_stmt; decide +kernel

/-- … and their number is the known one (25), so a duplicated site is noticed too. -/
def C14_panic_site_count_stmt : Prop := Generated.panicSites.length = 25
theorem C14_panic_site_count : C14_panic_site_count_stmt := by unfold C14_panic_site_count_stmt; decide

/-- Tokenizing never reaches the "two consecutive line break terminators" panic. -/
def C14_tokenize_total_stmt : Prop := C09_total_stmt
theorem C14_tokenize_total : C14_tokenize_total_stmt := C09_total

/-- A tokenizer failure lists at least one symbol. -/
def C14_tokenize_err_nonempty_stmt : Prop := C09_err_nonempty_stmt
theorem C14_tokenize_err_nonempty : C14_tokenize_err_nonempty_stmt := C09_err_nonempty

/-- **Parsing terminates**: the fuel `36·(n+1)+1` always suffices — the memoised packrat functions
never run out of it, for any token sequence (no left recursion: every nonterminal either consumes a
token before calling a larger one, or calls a strictly smaller one at the same position). -/
def C14_parse_terminates_stmt : Prop :=
  ∀ (toks : Array PModel.PTok), PModel.runParser toks ≠ none
theorem C14_parse_terminates : C14_parse_terminates_stmt := by
  intro toks h
  obtain ⟨r, st', e, _⟩ := PModel.runParser_ok toks
  rw [h] at e; cases e

/-- **No panic after a clean parse**: the three re-association passes never meet a `ParseError`
node when the parse produced no error (the invariant behind `[tag:error_check]`): a tree without
recorded errors contains no `ParseError` node. -/
def C14_reassoc_no_panic_stmt : Prop :=
  ∀ (toks : Array PModel.PTok) (r : PModel.PResult) (st : PModel.PState),
    PModel.runParser toks = some (r, st) → PModel.collectErrors r.term = [] →
    ∃ t1 t2 t3, PModel.reassociateApplications r.term = some t1 ∧
      PModel.reassociateProductsAndQuotients t1 = some t2 ∧
      PModel.reassociateSumsAndDifferences t2 = some t3
theorem C14_reassoc_no_panic : C14_reassoc_no_panic_stmt := by
  intro toks r st h hce
  obtain ⟨t1, t2, t3, h1, h2, h3, _⟩ :=
    PModel.reassoc_passes_noPE r.term ((PModel.runParser_good h).2 hce)
  exact ⟨t1, t2, t3, h1, h2, h3⟩

/-- **The whole front end never panics** (model): `parse` returns a term or a list of errors. -/
def C14_parse_no_panic_stmt : Prop :=
  ∀ (toks : Array PModel.PTok) (ctx : List Name),
    (∃ t, PModel.parseModel toks ctx = .ok t) ∨ (∃ es, PModel.parseModel toks ctx = .errors es)
theorem C14_parse_no_panic : C14_parse_no_panic_stmt := by
  intro toks ctx
  unfold PModel.parseModel
  obtain ⟨r, st', e, _⟩ := PModel.runParser_ok toks
  rw [e]
  exact PModel.finishParse_no_panic toks ctx r.term r.next (PModel.runParser_good e).2

/-- A rejection by the parser lists at least one diagnostic. -/
def C14_parse_err_nonempty_stmt : Prop :=
  ∀ (toks : Array PModel.PTok) (ctx : List Name) (es : List PModel.PErr),
    PModel.parseModel toks ctx = .errors es → es ≠ []
theorem C14_parse_err_nonempty : C14_parse_err_nonempty_stmt := by
  intro toks ctx es h
  unfold PModel.parseModel at h
  split at h
  · exact PModel.ParseOutcome.noConfusion h
  · exact PModel.finishParse_errors_ne h

mutual
/-- every hole of the term names a cell below `n` -/
def holesLt (n : Nat) : Tm → Bool
  | .hole id _ => decide (id < n)
  | .lam _ _ d b | .pi _ _ d b => holesLt n d && holesLt n b
  | .app f a => holesLt n f && holesLt n a
  | .letg ds b => holesLtDefs n ds && holesLt n b
  | .neg a => holesLt n a
  | .bin _ a b => holesLt n a && holesLt n b
  | .ite a b d => holesLt n a && holesLt n b && holesLt n d
  | _ => true
def holesLtDefs (n : Nat) : Defs → Bool
  | .nil => true
  | .cons _ a d r => holesLt n a && holesLt n d && holesLtDefs n r
end

/-- (**Refuted** below.)  **No panic in `type_check`.**  The model of the type checker has six panic sites (the
`unwrap` of `unsigned_shift`, the two context indexings and the two `index + 1 - offset`
subtractions in `type_check` and `normalize_weak_head`, the `panic!` arm of `unify`).  None is
reachable from a closed, well-scoped term (what the parser hands over: `wellScoped 0`, every hole an
unresolved cell of the initial store), for any fuel.  (Running out of fuel is the model's rendering
of a divergent checker run, which the property allows.) -/
def C14_infer_no_panic_unrestricted : Prop :=
  ∀ (fuel n : Nat) (t : Tm) (site : String), wellScoped 0 t = true → holesLt n t = true →
    inferS fuel t { store := List.replicate n none } ≠ .panic site

/-- the model term of
`((f : int -> _) => (a : type) => ((h : int -> a) => 0) f) ((z : int) => 0)` -/
def C14_panic_witness : Tm :=
  .app (.lam 1 false (.pi 0 false .int (.hole 0 0))
        (.lam 2 false .type
          (.app (.lam 3 false (.pi 0 false .int (.var 2 1)) (.lit 0)) (.var 1 1))))
      (.lam 4 false .int (.lit 0))

/-- `C14_infer_no_panic_unrestricted` is FALSE of the model, and **the Rust checker really panics**
on the witness: `gram check` on
`((f : int -> _) => (a : type) => ((h : int -> a) => 0) f) ((z : int) => 0)`
dies with "attempt to subtract with overflow" at `normalizer.rs:48` (the
`definitions_context[len - 1 - index]` lookup) — finding D18.

What goes wrong: a hole stands for a term of the scope it was written in, and its shift says how many
binders have been crossed since.  `signed_shift` only adjusts the shift of a hole when it is at least
the cutoff, so a hole that sits *under a binder of the shifted term* (`int -> _`: shift 0 < cutoff
1) is copied unchanged when the term is fetched from the typing context at a deeper place.  The same
cell then occurs at two different depths with the same shift.  Here it is solved at the deeper
occurrence (with `a`, index 1 at that depth) and read back through the shallow one (where only
index 0 exists): `normalize_weak_head` indexes the definitions context out of range.  No user-written
`_` is needed: `C14_infer_panic_unannotated` below does it with the parser's own annotation holes. -/
theorem C14_infer_no_panic_refuted : ¬ C14_infer_no_panic_unrestricted := by
  intro h
  -- a concrete run: evaluated once, by the kernel
  have hp : inferS 12 C14_panic_witness { store := List.replicate 1 none } =
      .panic "normalize_weak_head.definitions_context[index]" :=
    CheckNoPanic.eq_panic_of_site (by decide +kernel)
  exact h 12 1 C14_panic_witness _ (by decide) (by decide) hp

/-- the model term (as the parser builds it: the annotation hole of the `i`-th of `n` unannotated
definitions has shift `n - i`) of
```
f = (x : int) => 1 2
g = (a : type) => (b : type) => (c : type) => (h : int -> a) => if true then h else f
k : (int -> int) = f
0
``` -/
def C14_panic_witness_unannotated : Tm :=
  .letg (.cons 1 (.hole 0 3) (.lam 8 false .int (.app (.lit 1) (.lit 2)))
        (.cons 2 (.hole 1 2)
          (.lam 3 false .type (.lam 4 false .type (.lam 5 false .type
            (.lam 6 false (.pi 0 false .int (.var 3 3)) (.ite .tt (.var 6 0) (.var 1 6))))))
        (.cons 7 (.pi 0 false .int .int) (.var 1 2) .nil)))
    (.lit 0)

/-- The same defect **without any user-written hole** (and again the Rust checker panics at
`normalizer.rs:48` on the program above, printing no diagnostic): the ill-typed `1 2` leaves an
unresolved codomain cell `?c` in the inferred type `int -> ?c` of `f`; that type is stored into
`f`'s annotation cell by a shift by `-3` which does not lower `?c` (it is under the Π binder); `?c` is
then solved inside `g`, four binders deeper, by `a` (index 4 there) and read back while checking `k`,
where the context has only 4 entries. -/
def C14_infer_panic_unannotated_stmt : Prop :=
  wellScoped 0 C14_panic_witness_unannotated = true ∧
  holesLt 2 C14_panic_witness_unannotated = true ∧
  inferS 12 C14_panic_witness_unannotated { store := List.replicate 2 none } =
    .panic "normalize_weak_head.definitions_context[index]"
theorem C14_infer_panic_unannotated : C14_infer_panic_unannotated_stmt := by
  unfold C14_infer_panic_unannotated_stmt
  exact ⟨by decide, by decide, CheckNoPanic.eq_panic_of_site (by decide +kernel)⟩

/-- Corrected statement: **no panic in `type_check` on a hole-free term** — a closed, well-scoped
program in which every binder and every definition carries its annotation and no `_` is written.
The only holes are then the checker's own (the domain/codomain cells of the application rule and the
fresh cells `open` makes of them); they all have shift 0, sit on the Π-spine of inferred types, and
each cell is only ever seen at the depth it was created for (`CheckNoPanic.Sp`), so every solution is
read in the scope it was written in; typing- and definitions-context entries are hole-free source
annotations, so fetching them never moves a hole.  This holds for every fuel, for well-typed and
ill-typed programs alike, whatever the size of the initial store.  The hypothesis cannot be weakened
to "holes only where the parser puts them" (`C14_infer_panic_unannotated`); what the two witnesses
need besides a hole is a *type error* earlier in the program (or a hole under a binder inside an
annotation), so a repair of D18 in the Rust code would have to make `signed_shift`/`unify` respect
the home scope of a hole under a binder. -/
def C14_infer_no_panic_fixed_stmt : Prop :=
  ∀ (fuel n : Nat) (t : Tm) (site : String), wellScoped 0 t = true → t.holeFree = true →
    inferS fuel t { store := List.replicate n none } ≠ .panic site
theorem C14_infer_no_panic_fixed : C14_infer_no_panic_fixed_stmt :=
  fun fuel n t site hw hf => CheckNoPanic.inferS_holeFree_no_panic fuel n t site hw hf

/-- `unsigned_shift(..).unwrap()` is dead whatever the term and the store are (holes, resolved cells,
cycles included): a shift by a non-negative amount never fails, never panics, and leaves the state
as it was. -/
def C14_unsigned_shift_total_stmt : Prop :=
  ∀ (f c a : Nat) (t : Tm) (s : St),
    ushiftS f c a t s = .fuel ∨ ∃ t', ushiftS f c a t s = .ok t' s
theorem C14_unsigned_shift_total : C14_unsigned_shift_total_stmt := by
  intro f c a t s
  have h := ushiftS_fr f c a t s
  generalize ushiftS f c a t s = x at h
  cases x with
  | fuel => exact Or.inl rfl
  | panic _ => exact h.elim
  | ok t' s' => cases (show s' = s from h); exact Or.inr ⟨_, rfl⟩

/-- What remains true of **every** term and every state (holes anywhere, resolved cells, ill-scoped
input): the only panics the checker model can reach are the four context lookups — never the
`unwrap` of `unsigned_shift` (all three uses shift by a non-negative amount) and never the `panic!`
arm of `unify` (C12).  Together with `C14_infer_no_panic_refuted` this says exactly which panic sites
of `type_check` are live on parser output: the index computations of `normalize_weak_head` (and, by
the same mechanism, of `type_check`), through a hole read outside its scope. -/
def C14_infer_panic_sites_stmt : Prop :=
  ∀ (fuel : Nat) (t : Tm) (s : St) (site : String), inferS fuel t s = .panic site →
    site = "normalize_weak_head.definitions_context[index]" ∨
    site = "normalize_weak_head.index+1-offset" ∨
    site = "type_check.typing_context[index]" ∨
    site = "type_check.index+1-offset"
theorem C14_infer_panic_sites : C14_infer_panic_sites_stmt :=
  fun fuel t s site h => (CheckNoPanic.inferS_lookup fuel t).out s site h

/-- … and on a closed **well-scoped** term (holes anywhere, any store contents) exactly one of them
is live: the indexing `definitions_context[len - 1 - index]` of `normalize_weak_head`, the site of
both witnesses above.  The offsets recorded in the two contexts are in range by construction and the
typing context is only ever indexed by variables of the source term, so the other three lookups
cannot fail; what can is a variable that a *solved hole* brings into a scope where it does not
exist. -/
def C14_infer_one_live_site_stmt : Prop :=
  ∀ (fuel : Nat) (t : Tm) (σ : List (Option Tm)) (site : String), wellScoped 0 t = true →
    inferS fuel t { store := σ } = .panic site →
    site = "normalize_weak_head.definitions_context[index]"
theorem C14_infer_one_live_site : C14_infer_one_live_site_stmt :=
  fun fuel t σ site hw h => CheckNoPanic.inferS_wellScoped_site fuel t σ site hw h

/-- `main.rs`, read off the source by `extract/arms.py` on every run: `run` writes to standard output only, never exits, and writes nothing
before `tokenize`, `parse` and `type_check` have each been called and their error propagated with `?` — a rejected program produces no
standard output; the value is written after `evaluate` and its `?`; `entry` writes nothing; `main` writes to standard error only, every such
write is followed at once by `exit(1)`, and there is no other exit code.  This is the source-level half of the CLI contract that
`C14_cli_contract` states for the model and the CLI suite observes on the binary. -/
def C14_cli_streams_tie_stmt : Prop := cliOK Generated.cliEvents = true
theorem C14_cli_streams_tie : C14_cli_streams_tie_stmt := by unfold C14_cli_streams_tie_stmt; decide +kernel

/-! ## End to end: text → tokens → parse → type check

`frontEnd cc I text ctx` (Lemmas/FrontEnd.lean) is the composition the CLI runs before the type checker: `tokenize cc text`; on
success every tokenizer token is turned into a parser token (`C10_toPTok I`: the kind by `PModel.kindP I`, where `I` interns
identifier spellings, the byte range kept) and `PModel.parseModel … ctx` runs the parse phase with the standard fuel, the three
re-association passes, name resolution and the definition-order check.  Its normal outcomes are `FrontOutcome` = tokenizer
errors / parser errors / a term; the model's abnormal outcomes (`FrontAbnormal`: a `panic!` of the tokenizer, a `panic!` or
failed `assert_eq!` of `parse`, the parser model out of fuel) are the `Except.error` side. -/

/-- **The front end is total and reports failure faithfully**, for EVERY classifier (no sanity condition is needed), every
interner, every text and every context: it never takes an abnormal outcome (no tokenizer panic, no parser panic, never out
of fuel), and the outcome is what the stages say: a NON-EMPTY list of unexpected symbols when the tokenizer rejects, a
NON-EMPTY list of diagnostics when the parser rejects the tokens, or the term the parser returns.  (The parser half holds
for every token array, not only tokenizer output.) -/
def C14_front_end_total_stmt : Prop :=
  ∀ (cc : CharClass) (I : List Char → Name) (text : List Char) (ctx : List Name),
    ∃ o, frontEnd cc I text ctx = .ok o ∧
      match o with
      | .lexErrors es => es ≠ [] ∧ tokenize cc text = .err es
      | .parseErrors es => es ≠ [] ∧
          ∃ ts, tokenize cc text = .ok ts ∧ PModel.parseModel (ts.map (C10_toPTok I)).toArray ctx = .errors es
      | .term r =>
          ∃ ts, tokenize cc text = .ok ts ∧ PModel.parseModel (ts.map (C10_toPTok I)).toArray ctx = .ok r
theorem C14_front_end_total : C14_front_end_total_stmt := by
  intro cc I text ctx
  unfold frontEnd
  rcases C09_total cc text _ rfl with ⟨ts, h⟩ | ⟨es, h⟩
  · rw [h]
    rcases C14_parse_no_panic (ts.map (C10_toPTok I)).toArray ctx with ⟨t, ht⟩ | ⟨es, hes⟩
    · simp only [ht]
      exact ⟨_, rfl, ts, rfl, ht⟩
    · simp only [hes]
      exact ⟨_, rfl, C14_parse_err_nonempty _ ctx es hes, ts, rfl, hes⟩
  · rw [h]
    exact ⟨_, rfl, C09_err_nonempty cc text es h, rfl⟩

/-- **What the front end hands to the type checker is well scoped** in the context it was parsed in (pairwise distinct names,
none of them `_`; empty for `gram check` / `gram run`): `check_definitions` only appends diagnostics, so a front end that
answers with a term has resolved every name silently; by `C08_resolve_sound_fixed` the term is then the one the binder-stack
specification `toDB` prescribes, and `toDB` only produces terms whose variables are below the number of enclosing binders and
whose holes (`_`, omitted annotations) have their home scope (`wsAt`, Props/C08.lean). -/
def C14_front_end_scoped_stmt : Prop :=
  ∀ (cc : CharClass) (I : List Char → Name) (text : List Char) (ctx : List Name) (r : PModel.RTm),
    ctx.Nodup → (∀ x ∈ ctx, x ≠ PModel.placeholder) →
    frontEnd cc I text ctx = .ok (.term r) → wellScoped ctx.length r.erase = true
theorem C14_front_end_scoped : C14_front_end_scoped_stmt :=
  fun _ _ _ _ _ hnd hph h => frontEnd_term_scoped hnd hph h

/-- **No panic from the text to the end of type checking, on fully annotated programs**: if the front end accepts the text and
the term it returns is hole-free (every parameter and every definition annotated, no `_` written), the checker model started
from the initial state (any number of unresolved cells) never panics, whatever the fuel.  (Without the annotations this is
false of the code: `C14_infer_panic_unannotated`, finding D18.) -/
def C14_pipeline_no_panic_annotated_stmt : Prop :=
  ∀ (cc : CharClass) (I : List Char → Name) (text : List Char) (r : PModel.RTm) (fuel n : Nat) (site : String),
    frontEnd cc I text [] = .ok (.term r) → r.erase.holeFree = true →
    inferS fuel r.erase { store := List.replicate n none } ≠ .panic site
theorem C14_pipeline_no_panic_annotated : C14_pipeline_no_panic_annotated_stmt :=
  fun cc I text r fuel n site h hf =>
    C14_infer_no_panic_fixed fuel n r.erase site
      (C14_front_end_scoped cc I text [] r List.nodup_nil (fun _ hx => nomatch hx) h) hf

/-- … and on EVERY accepted text (annotated or not) the only panic site of the checker model that can be live is the
`definitions_context[len - 1 - index]` lookup of `normalize_weak_head`. -/
def C14_pipeline_one_live_site_stmt : Prop :=
  ∀ (cc : CharClass) (I : List Char → Name) (text : List Char) (r : PModel.RTm) (fuel : Nat) (σ : List (Option Tm))
    (site : String), frontEnd cc I text [] = .ok (.term r) →
    inferS fuel r.erase { store := σ } = .panic site →
    site = "normalize_weak_head.definitions_context[index]"
theorem C14_pipeline_one_live_site : C14_pipeline_one_live_site_stmt :=
  fun cc I text r fuel σ site h hp =>
    C14_infer_one_live_site fuel r.erase σ site
      (C14_front_end_scoped cc I text [] r List.nodup_nil (fun _ hx => nomatch hx) h) hp

/-- Non-vacuity, end to end and by kernel evaluation: on the text `((x : int) => x + 1) 2` (classifier `C10_cc`, identifiers
interned by their length) the front end answers with a term — the hole-free `((x : int) => x + 1) 2` with `x` as de Bruijn
index 0 —, the checker model accepts it at type `int` without a diagnostic, and the evaluator returns `3`. -/
example : ∃ r, frontEnd C10_cc List.length FrontEndDemo.text [] = .ok (.term r) ∧
    r.erase = .app (.lam 1 false .int (.bin .sum (.var 1 0) (.lit 1))) (.lit 2) ∧ r.erase.holeFree = true ∧
    (match inferS 40 r.erase {} with
      | .ok (_, ty) s => s.nerrs == 0 && ty == .int
      | _ => false) = true ∧
    evalFuel 5 r.erase = .lit 3 := by
  obtain ⟨r, h1, h2⟩ := FrontEndDemo.frontEnd_text
  refine ⟨r, h1, h2, ?_, ?_, ?_⟩ <;> rw [h2] <;> decide
-- the tokenizer-error and parser-error outcomes of `frontEnd` are inhabited too
example : frontEnd C10_cc List.length ['a', ' ', '$'] [] = .ok (.lexErrors [(2, 3)]) := by
  have h : tokenize C10_cc ['a', ' ', '$'] = .err [(2, 3)] := by decide +kernel
  simp only [frontEnd, h]
example : ∃ es, frontEnd C10_cc List.length [')'] [] = .ok (.parseErrors es) ∧ es ≠ [] := by
  have ht : tokenize C10_cc [')'] = .ok [⟨.rightParen, 0, 1⟩] := by decide +kernel
  obtain ⟨es, h, hn⟩ := ParenTokens.parseModel_errors_eval
    ([⟨.rightParen, 0, 1⟩].map (C10_toPTok List.length)).toArray 40 [] 1 (by decide +kernel)
  refine ⟨es, ?_, fun e => by rw [e] at hn; cases hn⟩
  simp only [frontEnd, ht, h]
