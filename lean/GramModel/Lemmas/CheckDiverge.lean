import GramModel.Lemmas.CheckSound
import GramModel.Lemmas.CheckNoPanic

/-!
# Divergence: a well-typed, hole-free, explicit program on which the checker model never answers

`T : (int -> type) = (n : int) => T n` / `(f : T 0 -> int) => (y : T 0) => f y`

For `f y` the application rule unifies `Π (_ : ?dom). ?cod` with `T 0 -> int`, and `unify` weak-head normalises the
domain before it solves `?dom`: `T 0 ⟶ ((n : int) => T n) 0 ⟶ T 0 ⟶ …` has no weak head normal form (`whnf_loop`), so
no run answers at any fuel.  The independent checker compares `T 0` with `T 0` without normalising.
-/

namespace CheckDiverge

open UnifyAgree CheckNoPanic CheckSound
open StoreMono (bind_ok pure_ok)

def wLoop : Tm :=
  .letg (.cons 1 (.pi 0 false .int .type) (.lam 2 false .int (.app (.var 1 1) (.var 2 0))) .nil)
    (.lam 3 false (.pi 0 false (.app (.var 1 0) (.lit 0)) .int)
      (.lam 4 false (.app (.var 1 1) (.lit 0)) (.app (.var 3 1) (.var 4 0))))

theorem wLoop_holeFree : wLoop.holeFree = true := by decide
theorem wLoop_scoped : wellScoped 0 wLoop = true := by decide
theorem wLoop_oracle : ∃ T, inferX 11 [] [] wLoop = .ok T := ⟨_, by rfl⟩

/-- the definition of `T` as stored in the definitions context -/
def lamT : Tm := .lam 2 false .int (.app (.var 1 1) (.var 2 0))

/-- `T 0` seen from `k` binders below the group -/
def T0 (k : Nat) : Tm := .app (.var 1 k) (.lit 0)

theorem lamT_hf : lamT.holeFree = true := by decide
theorem T0_hf (k : Nat) : (T0 k).holeFree = true := rfl

theorem ushift_lamT (k : Nat) :
    ushift 0 k lamT = .lam 2 false .int (.app (.var 1 (1 + k)) (.var 2 0)) := by
  simp [lamT, ushift]

theorem open_body (k : Nat) :
    openT (.app (.var 1 (1 + k)) (.var 2 0)) 0 (.lit 0) 0 = T0 k := by
  simp [openT, T0, ushift]

theorem whnfS_lam_inv {f : Nat} {x : Name} {im : Bool} {d b : Tm} {s s' : St} {a : Tm}
    (h : whnfS f (.lam x im d b) s = .ok a s') : a = .lam x im d b ∧ s' = s := by
  cases f with
  | zero => rw [whnfS] at h; cases h
  | succ f =>
    unfold whnfS at h
    obtain ⟨rfl, rfl⟩ := pure_ok h
    exact ⟨rfl, rfl⟩

theorem whnf_loop (k : Nat) : ∀ (f : Nat) (s : St), s.dctx[k]? = some (some (lamT, 1)) →
    ∀ r s', whnfS f (T0 k) s ≠ .ok r s' := by
  intro f
  induction f using Nat.strongRecOn with
  | _ f ih =>
    intro s hd r s' h
    cases f with
    | zero => rw [whnfS] at h; cases h
    | succ f =>
      unfold T0 at h
      unfold whnfS at h
      dsimp only at h
      obtain ⟨g', s1, h1, h2⟩ := bind_ok h
      cases f with
      | zero => rw [whnfS] at h1; cases h1
      | succ f =>
        unfold whnfS at h1
        dsimp only at h1
        rw [getSt_bind, hd] at h1
        dsimp only at h1
        have hlt : ¬ (k + 1 < 1) := by omega
        rw [if_neg hlt] at h1
        have h1 := (ushiftS_P f 0 (k + 1 - 1) lamT lamT_hf _).bind_inv h1
        rw [Nat.add_sub_cancel, ushift_lamT] at h1
        obtain ⟨rfl, rfl⟩ := whnfS_lam_inv h1
        dsimp only at h2
        have h2 := (openS_P (f+1) _ 0 (.lit 0) 0 (by rfl) (by rfl) _).bind_inv h2
        rw [open_body] at h2
        exact ih (f+1) (by omega) s1 hd r s' h2

theorem unify_loop {k f i : Nat} {s s' : St} {r : Bool} (hc : cellVal s.store i = none)
    (hd : s.dctx[k]? = some (some (lamT, 1))) : unifyS f (.hole i 0) (T0 k) s ≠ .ok r s' := by
  intro h
  obtain ⟨f, x, s1, rfl, h1, h2⟩ := unifyS_ok_inv h
  obtain ⟨rfl, rfl⟩ := synEqS_unsolved hc (T0_hf k) h1
  obtain ⟨w1, s2, w2, s3, h3, h5, -⟩ := h2
  obtain ⟨rfl, rfl⟩ := whnfS_unsolved hc h3
  exact whnf_loop k f s2 hd _ _ h5

theorem unify_pi_loop {k f i j : Nat} {x0 : Name} {s s' : St} {r : Bool}
    (hi : cellVal s.store i = none) (hd : s.dctx[k]? = some (some (lamT, 1))) :
    unifyS f (.pi x0 false (.hole i 0) (.hole j 0)) (.pi 0 false (T0 k) .int) s ≠ .ok r s' := by
  intro h
  have hg : (Tm.pi 0 false (T0 k) .int).holeFree = true := rfl
  obtain ⟨f, x, s1, rfl, h1, h2⟩ := unifyS_ok_inv h
  obtain ⟨rfl, rfl⟩ := synEqS_pi_unsolved hi hg h1
  obtain ⟨w1, s2, w2, s3, h3, h5, h6⟩ := h2
  obtain ⟨rfl, rfl⟩ := whnfS_pi_inv h3
  obtain ⟨rfl, rfl⟩ := whnfS_pi_inv h5
  rw [unifyHead_pi_left f _ _ _ _ _ hg] at h6
  simp only [structM] at h6
  split at h6
  · obtain ⟨r1, s4, h7, h8⟩ := bind_ok h6
    exact unify_loop hi hd h7
  · next hne => exact hne rfl

theorem infer_app_loop {f : Nat} {x : Name} {a : Tm} {s s' : St} {p : Tm × Tm}
    (ht : s.tctx[1]? = some (.pi 0 false (T0 0) .int, 0))
    (hd : s.dctx[2]? = some (some (lamT, 1))) : inferS f (.app (.var x 1) a) s ≠ .ok p s' := by
  intro h
  cases f with
  | zero => rw [inferS] at h; cases h
  | succ f =>
    unfold inferS at h
    dsimp only at h
    obtain ⟨⟨g', gty⟩, s1, h1, h2⟩ := bind_ok h
    dsimp only at h2
    cases f with
    | zero => rw [inferS] at h1; cases h1
    | succ f =>
      unfold inferS at h1
      dsimp only at h1
      rw [getSt_bind, ht] at h1
      dsimp only at h1
      rw [if_neg (by omega)] at h1
      have h1 := (ushiftS_P f 0 (1 + 1 - 0) _ (by rfl) _).bind_inv h1
      obtain ⟨e, rfl⟩ := pure_ok h1
      cases e
      obtain ⟨i, s2, hi, h3⟩ := bind_ok h2
      cases hi
      obtain ⟨j, s3, hj, h4⟩ := bind_ok h3
      cases hj
      obtain ⟨r, s4, hu, h5⟩ := bind_ok h4
      have e : ushift 0 (1 + 1 - 0) (.pi 0 false (T0 0) .int) = .pi 0 false (T0 2) .int := by rfl
      rw [e] at hu
      exact unify_pi_loop (k := 2) (s := { s with store := (s.store ++ [none]) ++ [none] })
        (i := s.store.length) (cellVal_fresh1 _) hd hu

theorem infer_lam_inv {f : Nat} {x : Name} {im : Bool} {d b : Tm} {s s' : St} {p : Tm × Tm}
    (h : inferS f (.lam x im d b) s = .ok p s') :
    ∃ f' s2 p2 s3, inferS f' b s2 = .ok p2 s3 ∧ s2.tctx = (d, 0) :: s.tctx ∧
      s2.dctx = none :: s.dctx := by
  cases f with
  | zero => rw [inferS] at h; cases h
  | succ f =>
    unfold inferS at h
    dsimp only at h
    obtain ⟨⟨d', dty⟩, s1, h1, h2⟩ := bind_ok h
    dsimp only at h2
    obtain ⟨⟨t1, d1, -⟩, ed⟩ := ((StoreMono.inferS_le_ctx false f).1 d s nofun nofun).ok h1
    cases ed
    obtain ⟨r, s2, hu, h3⟩ := bind_ok h2
    obtain ⟨t2, d2, -⟩ := (StoreMono.unifyS_le_ctx false f _ _ s1 nofun).ok hu
    have key : ∀ s2' : St, s2'.tctx = s.tctx → s2'.dctx = s.dctx →
        (do pushCtx (d', 0) none
            let (b', cod) ← inferS f b
            popCtx
            pure (Tm.lam x im d' b', Tm.pi x im d' cod) : M (Tm × Tm)) s2' = .ok p s' →
        ∃ f' s2 p2 s3, inferS f' b s2 = .ok p2 s3 ∧ s2.tctx = (d', 0) :: s.tctx ∧
          s2.dctx = none :: s.dctx := by
      intro s2' e1 e2 hk
      obtain ⟨u, s3, h4, h5⟩ := bind_ok hk
      cases h4
      obtain ⟨p2, s4, h6, _⟩ := bind_ok h5
      exact ⟨f, _, p2, s4, h6, by simp [e1], by simp [e2]⟩
    cases r
    · simp only [Bool.not_false, if_true] at h3
      obtain ⟨u, s3, h4, h5⟩ := bind_ok h3
      cases h4
      exact key _ (by simp [t2, t1]) (by simp [d2, d1]) h5
    · simp only [Bool.not_true, Bool.false_eq_true, if_false] at h3
      exact key _ (by simp [t2, t1]) (by simp [d2, d1]) h3

theorem wLoop_never_ok : ∀ (f : Nat) (p : Tm × Tm) (s : St), inferS f wLoop {} ≠ .ok p s := by
  intro f p s h
  cases f with
  | zero => rw [inferS] at h; cases h
  | succ f =>
    unfold wLoop at h
    unfold inferS at h
    dsimp only at h
    obtain ⟨u, s1, h1, h2⟩ := bind_ok h
    have es1 := pushDefsS_state _ _ _ _ _ h1
    have t1 : s1.tctx = [(.pi 0 false .int .type, 1)] := by rw [es1]; rfl
    have d1 : s1.dctx = [some (lamT, 1)] := by rw [es1]; rfl
    clear es1 h1
    obtain ⟨ds', s2, h3, h4⟩ := bind_ok h2
    obtain ⟨⟨t2, d2, -⟩, -⟩ := ((StoreMono.inferS_le_ctx false f).2 _ s1 nofun nofun).ok h3
    obtain ⟨⟨body', bty⟩, s3, h5, _⟩ := bind_ok h4
    obtain ⟨f1, s4, p4, s4', h6, t4, d4⟩ := infer_lam_inv h5
    obtain ⟨f2, s5, p5, s5', h7, t5, d5⟩ := infer_lam_inv h6
    refine infer_app_loop ?_ ?_ h7
    · rw [t5, t4]; rfl
    · rw [d5, d4, d2, d1]; rfl

/-- stronger: the outcome is "out of fuel" at every fuel (no answer by `wLoop_never_ok`, no panic
because the program is hole-free and well-scoped) -/
theorem wLoop_fuel : ∀ f : Nat, inferS f wLoop {} = .fuel := by
  intro f
  have hp := fun site => CheckNoPanic.inferS_holeFree_no_panic f 0 wLoop site wLoop_scoped wLoop_holeFree
  have hk := wLoop_never_ok f
  have e : ({ store := List.replicate 0 none } : St) = {} := rfl
  rw [e] at hp
  generalize inferS f wLoop {} = x at hp hk
  cases x with
  | ok p s => exact absurd rfl (hk p s)
  | fuel => rfl
  | panic site => exact absurd rfl (hp site)

end CheckDiverge
