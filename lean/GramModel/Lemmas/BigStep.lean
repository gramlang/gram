import GramModel.Lemmas.Eval

/-!
# Natural (big-step) semantics of `gram run`, and its equivalence with the small-step evaluator model

`Big t v` (`t ⇓ v`) reads like the language definition: one rule per construct.  It is proved
equivalent to the small-step relation `Step`/`Steps` (hence to the model `step`/`evalFuel` that the
correspondence harness compares with `evaluator.rs::step`), and to a fuelled big-step interpreter
`bigEval`, the Lean counterpart of the independent reference interpreter of the harness.

A hole has no rule: it is not a value and does not evaluate (it is stuck, as in the pure layer of
`Eval.lean`).  Type formers (`type`, `int`, `bool`, `Π`) are values, as in `isValue`.
-/

/-- The group `let x : ann = v; rest; b` after its first definition has become the value `v`: the
recursive unfolding `unfoldDef x ann v _` (the helper `step` itself uses) is substituted into the
remaining annotations, definitions and the body, and the group shrinks by one.  This is literally
the right-hand side of the `letg`-arm of `step` (see `letShrink_is_step`). -/
def letShrink (x : Name) (ann v : Tm) (rest : Defs) (b : Tm) : Tm :=
  .letg (openDefs rest rest.len (unfoldDef x ann v rest.len) 0)
        (openT b rest.len (unfoldDef x ann v rest.len) 0)

theorem letShrink_is_step (x : Name) (ann v : Tm) (rest : Defs) (b : Tm) (hv : isValue v = true) :
    step (.letg (.cons x ann v rest) b) = some (letShrink x ann v rest b) := by
  simp [step, value_step_none _ hv, hv, letShrink]

inductive Big : Tm → Tm → Prop
  | val {v} : isValue v = true → Big v v
  | app {f a x im d b v r} :
      Big f (.lam x im d b) → Big a v → Big (openT b 0 v 0) r → Big (.app f a) r
  | neg {a n} : Big a (.lit n) → Big (.neg a) (.lit (-n))
  | bin {op a b x y r} :
      Big a (.lit x) → Big b (.lit y) → delta op x y = some r → Big (.bin op a b) r
  | iteT {c a b r} : Big c .tt → Big a r → Big (.ite c a b) r
  | iteF {c a b r} : Big c .ff → Big b r → Big (.ite c a b) r
  | letNil {b r} : Big b r → Big (.letg .nil b) r
  | letCons {x ann d rest b v r} :
      Big d v → Big (letShrink x ann v rest b) r → Big (.letg (.cons x ann d rest) b) r

theorem delta_isValue {op : BinOp} {x y : Int} {r : Tm} (h : delta op x y = some r) :
    isValue r = true := by
  rcases delta_cases h with ⟨z, rfl⟩ | rfl | rfl <;> rfl

theorem Big_sound {t v : Tm} (h : Big t v) : Steps t v ∧ isValue v = true := by
  induction h with
  | val hv => exact ⟨Steps.refl, hv⟩
  | @app f a x im d b v r _ _ _ ihf iha ihr =>
      exact ⟨Steps_trans (Steps_congr (C := (.app · a)) Step.appL ihf.1)
        (Steps_trans (Steps_congr (Step.appR ihf.2) iha.1) (Steps.head (Step.beta iha.2) ihr.1)),
        ihr.2⟩
  | neg _ ih => exact ⟨Steps_trans (Steps_congr Step.negC ih.1) (Steps_single Step.negL), rfl⟩
  | @bin op a b x y r _ _ hd iha ihb =>
      exact ⟨Steps_trans (Steps_congr (C := (.bin op · b)) Step.binL iha.1)
        (Steps_trans (Steps_congr (Step.binR rfl) ihb.1) (Steps_single (Step.delta hd))),
        delta_isValue hd⟩
  | @iteT c a b r _ _ ihc iha =>
      exact ⟨Steps_trans (Steps_congr (C := (.ite · a b)) Step.iteC ihc.1)
        (Steps.head Step.iteT iha.1), iha.2⟩
  | @iteF c a b r _ _ ihc ihb =>
      exact ⟨Steps_trans (Steps_congr (C := (.ite · a b)) Step.iteC ihc.1)
        (Steps.head Step.iteF ihb.1), ihb.2⟩
  | letNil _ ih => exact ⟨Steps.head Step.letNil ih.1, ih.2⟩
  | @letCons x ann d rest b v r _ _ ihd ihr =>
      exact ⟨Steps_trans (Steps_congr (C := fun d => .letg (.cons x ann d rest) b) Step.letD ihd.1)
        (Steps.head (Step.letU ihd.2) ihr.1), ihr.2⟩

theorem Big_val_iff {t v : Tm} (hv : isValue t = true) : Big t v ↔ v = t := by
  refine ⟨fun h => ?_, fun e => e.symm ▸ Big.val hv⟩
  cases h with
  | val => rfl
  | app | neg | bin | iteT | iteF | letNil | letCons => cases hv

theorem Big_app_iff {f a r : Tm} :
    Big (.app f a) r ↔ ∃ x im d b v, Big f (.lam x im d b) ∧ Big a v ∧ Big (openT b 0 v 0) r := by
  constructor
  · intro h
    cases h with
    | val hv => cases hv
    | app hf ha hr => exact ⟨_, _, _, _, _, hf, ha, hr⟩
  · rintro ⟨x, im, d, b, v, hf, ha, hr⟩
    exact Big.app hf ha hr

theorem Big_neg_iff {a r : Tm} : Big (.neg a) r ↔ ∃ n, Big a (.lit n) ∧ r = .lit (-n) := by
  constructor
  · intro h
    cases h with
    | val hv => cases hv
    | neg ha => exact ⟨_, ha, rfl⟩
  · rintro ⟨n, ha, rfl⟩
    exact Big.neg ha

theorem Big_bin_iff {op : BinOp} {a b r : Tm} :
    Big (.bin op a b) r ↔ ∃ x y, Big a (.lit x) ∧ Big b (.lit y) ∧ delta op x y = some r := by
  constructor
  · intro h
    cases h with
    | val hv => cases hv
    | bin ha hb hd => exact ⟨_, _, ha, hb, hd⟩
  · rintro ⟨x, y, ha, hb, hd⟩
    exact Big.bin ha hb hd

theorem Big_ite_iff {c a b r : Tm} :
    Big (.ite c a b) r ↔ (Big c .tt ∧ Big a r) ∨ (Big c .ff ∧ Big b r) := by
  constructor
  · intro h
    cases h with
    | val hv => cases hv
    | iteT hc ha => exact Or.inl ⟨hc, ha⟩
    | iteF hc hb => exact Or.inr ⟨hc, hb⟩
  · rintro (⟨hc, ha⟩ | ⟨hc, hb⟩)
    · exact Big.iteT hc ha
    · exact Big.iteF hc hb

theorem Big_letNil_iff {b r : Tm} : Big (.letg .nil b) r ↔ Big b r := by
  constructor
  · intro h
    cases h with
    | val hv => cases hv
    | letNil hb => exact hb
  · exact Big.letNil

theorem Big_letCons_iff {x : Name} {ann d : Tm} {rest : Defs} {b r : Tm} :
    Big (.letg (.cons x ann d rest) b) r ↔ ∃ v, Big d v ∧ Big (letShrink x ann v rest b) r := by
  constructor
  · intro h
    cases h with
    | val hv => cases hv
    | letCons hd hr => exact ⟨_, hd, hr⟩
  · rintro ⟨v, hd, hr⟩
    exact Big.letCons hd hr

theorem Big_var_none {x : Name} {i : Nat} {v : Tm} : ¬ Big (.var x i) v := by
  intro h; cases h with
  | val hv => cases hv

theorem Big_hole_none {id s : Nat} {v : Tm} : ¬ Big (.hole id s) v := by
  intro h; cases h with
  | val hv => cases hv

theorem Step_Big {t t' : Tm} (hs : Step t t') : ∀ {v : Tm}, Big t' v → Big t v := by
  intro v h
  induction hs generalizing v with
  | appL _ ih =>
      obtain ⟨_, _, _, _, _, hf, ha, hr⟩ := Big_app_iff.1 h
      exact .app (ih hf) ha hr
  | appR _ _ ih =>
      obtain ⟨_, _, _, _, _, hf, ha, hr⟩ := Big_app_iff.1 h
      exact .app hf (ih ha) hr
  | beta hv => exact .app (.val rfl) (.val hv) h
  | negC _ ih =>
      obtain ⟨_, ha, rfl⟩ := Big_neg_iff.1 h
      exact .neg (ih ha)
  | negL =>
      obtain rfl := (Big_val_iff rfl).1 h
      exact .neg (.val rfl)
  | binL _ ih =>
      obtain ⟨_, _, ha, hb, hd⟩ := Big_bin_iff.1 h
      exact .bin (ih ha) hb hd
  | binR _ _ ih =>
      obtain ⟨_, _, ha, hb, hd⟩ := Big_bin_iff.1 h
      exact .bin ha (ih hb) hd
  | delta hd =>
      obtain rfl := (Big_val_iff (delta_isValue hd)).1 h
      exact .bin (.val rfl) (.val rfl) hd
  | iteC _ ih =>
      obtain ⟨hc, ha⟩ | ⟨hc, hb⟩ := Big_ite_iff.1 h
      · exact .iteT (ih hc) ha
      · exact .iteF (ih hc) hb
  | iteT => exact .iteT (.val rfl) h
  | iteF => exact .iteF (.val rfl) h
  | letNil => exact .letNil h
  | letD _ ih =>
      obtain ⟨_, hd, hr⟩ := Big_letCons_iff.1 h
      exact .letCons (ih hd) hr
  | letU hv => exact .letCons (.val hv) h

theorem Big_complete {t v : Tm} (h : Steps t v) (hv : isValue v = true) : Big t v := by
  induction h with
  | refl => exact Big.val hv
  | head hs _ ih => exact Step_Big hs (ih hv)

theorem Big_iff_Steps {t v : Tm} : Big t v ↔ (Steps t v ∧ isValue v = true) :=
  ⟨Big_sound, fun h => Big_complete h.1 h.2⟩

theorem Big_iff_eval {t v : Tm} : Big t v ↔ ∃ n, evalFuel n t = v ∧ isValue v = true := by
  constructor
  · intro h
    obtain ⟨hs, hv⟩ := Big_sound h
    obtain ⟨n, hn⟩ := Steps_evalFuel hs (value_step_none _ hv)
    exact ⟨n, hn n (Nat.le_refl _), hv⟩
  · rintro ⟨n, rfl, hv⟩
    exact Big_complete (evalFuel_steps n t) hv

theorem Big_deterministic {t v w : Tm} (h1 : Big t v) (h2 : Big t w) : v = w := by
  obtain ⟨s1, v1⟩ := Big_sound h1
  obtain ⟨s2, v2⟩ := Big_sound h2
  obtain ⟨n1, e1⟩ := Steps_evalFuel s1 (value_step_none _ v1)
  obtain ⟨n2, e2⟩ := Steps_evalFuel s2 (value_step_none _ v2)
  rw [← e1 (max n1 n2) (Nat.le_max_left _ _), ← e2 (max n1 n2) (Nat.le_max_right _ _)]

theorem Big_exists_iff {t : Tm} : (∃ v, Big t v) ↔ (∃ n, isValue (evalFuel n t) = true) := by
  constructor
  · rintro ⟨v, h⟩
    obtain ⟨n, e, hv⟩ := Big_iff_eval.1 h
    exact ⟨n, e ▸ hv⟩
  · rintro ⟨n, hv⟩
    exact ⟨_, Big_iff_eval.2 ⟨n, rfl, hv⟩⟩

/-- `bigEval n t`: the rules of `Big` run as a recursive interpreter; `n` bounds the height of the
derivation.  `none` = no value within this height (stuck, or not enough fuel). -/
def bigEval : Nat → Tm → Option Tm
  | 0, _ => none
  | n+1, .app f a =>
    match bigEval n f with
    | none => none
    | some fv =>
      match fv with
      | .lam _ _ _ b =>
        match bigEval n a with
        | none => none
        | some v => bigEval n (openT b 0 v 0)
      | _ => none
  | n+1, .neg a =>
    match bigEval n a with
    | none => none
    | some av =>
      match av with
      | .lit k => some (.lit (-k))
      | _ => none
  | n+1, .bin op a b =>
    match bigEval n a with
    | none => none
    | some av =>
      match av with
      | .lit x =>
        match bigEval n b with
        | none => none
        | some bv =>
          match bv with
          | .lit y => delta op x y
          | _ => none
      | _ => none
  | n+1, .ite c a b =>
    match bigEval n c with
    | none => none
    | some cv =>
      match cv with
      | .tt => bigEval n a
      | .ff => bigEval n b
      | _ => none
  | n+1, .letg .nil b => bigEval n b
  | n+1, .letg (.cons x ann d rest) b =>
    match bigEval n d with
    | none => none
    | some v => bigEval n (letShrink x ann v rest b)
  | _+1, .hole .. => none
  | _+1, .var .. => none
  | _+1, .type => some .type
  | _+1, .int => some .int
  | _+1, .bool => some .bool
  | _+1, .tt => some .tt
  | _+1, .ff => some .ff
  | _+1, .lit k => some (.lit k)
  | _+1, .lam x im d b => some (.lam x im d b)
  | _+1, .pi x im d b => some (.pi x im d b)

theorem bigEval_value {v : Tm} (hv : isValue v = true) (m : Nat) : bigEval (m+1) v = some v := by
  cases v with
  | type | int | bool | tt | ff | lit | lam | pi => rfl
  | hole | var | app | neg | bin | ite | letg => cases hv

/-! One unit of fuel, construct by construct: `bigEval (n+1)` answers `some r` exactly when the
premises of the corresponding rule of `Big` are answered by `bigEval n`. -/

theorem bigEval_app_iff {n : Nat} {f a r : Tm} :
    bigEval (n+1) (.app f a) = some r ↔
      ∃ x im d b v, bigEval n f = some (.lam x im d b) ∧ bigEval n a = some v ∧
        bigEval n (openT b 0 v 0) = some r := by
  constructor
  · intro h
    unfold bigEval at h
    split at h
    · cases h
    · next hf =>
      split at h
      · split at h
        · cases h
        · next ha => exact ⟨_, _, _, _, _, hf, ha, h⟩
      · cases h
  · rintro ⟨x, im, d, b, v, hf, ha, hr⟩
    unfold bigEval
    simp only [hf, ha, hr]

theorem bigEval_neg_iff {n : Nat} {a r : Tm} :
    bigEval (n+1) (.neg a) = some r ↔ ∃ k, bigEval n a = some (.lit k) ∧ r = .lit (-k) := by
  constructor
  · intro h
    unfold bigEval at h
    split at h
    · cases h
    · next ha =>
      split at h
      · cases h; exact ⟨_, ha, rfl⟩
      · cases h
  · rintro ⟨k, ha, rfl⟩
    unfold bigEval
    simp only [ha]

theorem bigEval_bin_iff {n : Nat} {op : BinOp} {a b r : Tm} :
    bigEval (n+1) (.bin op a b) = some r ↔
      ∃ x y, bigEval n a = some (.lit x) ∧ bigEval n b = some (.lit y) ∧ delta op x y = some r := by
  constructor
  · intro h
    unfold bigEval at h
    split at h
    · cases h
    · next ha =>
      split at h
      · split at h
        · cases h
        · next hb =>
          split at h
          · exact ⟨_, _, ha, hb, h⟩
          · cases h
      · cases h
  · rintro ⟨x, y, ha, hb, hd⟩
    unfold bigEval
    simp only [ha, hb, hd]

theorem bigEval_ite_iff {n : Nat} {c a b r : Tm} :
    bigEval (n+1) (.ite c a b) = some r ↔
      (bigEval n c = some .tt ∧ bigEval n a = some r) ∨
      (bigEval n c = some .ff ∧ bigEval n b = some r) := by
  constructor
  · intro h
    unfold bigEval at h
    split at h
    · cases h
    · next hc =>
      split at h
      · exact Or.inl ⟨hc, h⟩
      · exact Or.inr ⟨hc, h⟩
      · cases h
  · rintro (⟨hc, h⟩ | ⟨hc, h⟩) <;> unfold bigEval <;> simp only [hc, h]

theorem bigEval_letCons_iff {n : Nat} {x : Name} {ann d : Tm} {rest : Defs} {b r : Tm} :
    bigEval (n+1) (.letg (.cons x ann d rest) b) = some r ↔
      ∃ v, bigEval n d = some v ∧ bigEval n (letShrink x ann v rest b) = some r := by
  constructor
  · intro h
    unfold bigEval at h
    split at h
    · cases h
    · next hd => exact ⟨_, hd, h⟩
  · rintro ⟨v, hd, hr⟩
    unfold bigEval
    simp only [hd, hr]

theorem bigEval_sound : ∀ (n : Nat) (t v : Tm), bigEval n t = some v → Big t v := by
  intro n
  induction n with
  | zero => intro t v h; cases h
  | succ n ih =>
    intro t v h
    cases t with
    | app f a =>
      obtain ⟨_, _, _, _, _, hf, ha, hr⟩ := bigEval_app_iff.1 h
      exact .app (ih _ _ hf) (ih _ _ ha) (ih _ _ hr)
    | neg a =>
      obtain ⟨_, ha, rfl⟩ := bigEval_neg_iff.1 h
      exact .neg (ih _ _ ha)
    | bin op a b =>
      obtain ⟨_, _, ha, hb, hd⟩ := bigEval_bin_iff.1 h
      exact .bin (ih _ _ ha) (ih _ _ hb) hd
    | ite c a b =>
      obtain ⟨hc, ha⟩ | ⟨hc, hb⟩ := bigEval_ite_iff.1 h
      · exact .iteT (ih _ _ hc) (ih _ _ ha)
      · exact .iteF (ih _ _ hc) (ih _ _ hb)
    | letg ds b =>
      cases ds with
      | nil => exact .letNil (ih _ _ h)
      | cons x ann d rest =>
        obtain ⟨_, hd, hr⟩ := bigEval_letCons_iff.1 h
        exact .letCons (ih _ _ hd) (ih _ _ hr)
    | hole | var => cases h
    | type | int | bool | tt | ff | lit | lam | pi => cases h; exact .val rfl

theorem bigEval_mono {n m : Nat} {t v : Tm} (h : bigEval n t = some v) (hm : n ≤ m) :
    bigEval m t = some v := by
  induction n generalizing m t v with
  | zero => cases h
  | succ n ih =>
    cases m with
    | zero => cases hm
    | succ m =>
      have hm := Nat.le_of_succ_le_succ hm
      cases t with
      | app f a =>
        obtain ⟨_, _, _, _, _, hf, ha, hr⟩ := bigEval_app_iff.1 h
        exact bigEval_app_iff.2 ⟨_, _, _, _, _, ih hf hm, ih ha hm, ih hr hm⟩
      | neg a =>
        obtain ⟨_, ha, e⟩ := bigEval_neg_iff.1 h
        exact bigEval_neg_iff.2 ⟨_, ih ha hm, e⟩
      | bin op a b =>
        obtain ⟨_, _, ha, hb, hd⟩ := bigEval_bin_iff.1 h
        exact bigEval_bin_iff.2 ⟨_, _, ih ha hm, ih hb hm, hd⟩
      | ite c a b =>
        obtain ⟨hc, ha⟩ | ⟨hc, hb⟩ := bigEval_ite_iff.1 h
        · exact bigEval_ite_iff.2 (.inl ⟨ih hc hm, ih ha hm⟩)
        · exact bigEval_ite_iff.2 (.inr ⟨ih hc hm, ih hb hm⟩)
      | letg ds b =>
        cases ds with
        | nil => exact ih (t := b) h hm
        | cons x ann d rest =>
          obtain ⟨_, hd, hr⟩ := bigEval_letCons_iff.1 h
          exact bigEval_letCons_iff.2 ⟨_, ih hd hm, ih hr hm⟩
      | hole | var | type | int | bool | tt | ff | lit | lam | pi => exact h

theorem bigEval_complete {t v : Tm} (h : Big t v) : ∃ n, bigEval n t = some v := by
  induction h with
  | val hv => exact ⟨1, bigEval_value hv 0⟩
  | app _ _ _ ihf iha ihr =>
      obtain ⟨n1, h1⟩ := ihf; obtain ⟨n2, h2⟩ := iha; obtain ⟨n3, h3⟩ := ihr
      exact ⟨n1 + n2 + n3 + 1, bigEval_app_iff.2 ⟨_, _, _, _, _,
        bigEval_mono h1 (Nat.le_add_right_of_le (Nat.le_add_right ..)),
        bigEval_mono h2 (Nat.le_add_right_of_le (Nat.le_add_left ..)),
        bigEval_mono h3 (Nat.le_add_left ..)⟩⟩
  | neg _ ih =>
      obtain ⟨n1, h1⟩ := ih
      exact ⟨n1 + 1, bigEval_neg_iff.2 ⟨_, h1, rfl⟩⟩
  | bin _ _ hd iha ihb =>
      obtain ⟨n1, h1⟩ := iha; obtain ⟨n2, h2⟩ := ihb
      exact ⟨n1 + n2 + 1, bigEval_bin_iff.2 ⟨_, _, bigEval_mono h1 (Nat.le_add_right ..),
        bigEval_mono h2 (Nat.le_add_left ..), hd⟩⟩
  | iteT _ _ ihc iha =>
      obtain ⟨n1, h1⟩ := ihc; obtain ⟨n2, h2⟩ := iha
      exact ⟨n1 + n2 + 1, bigEval_ite_iff.2 (.inl ⟨bigEval_mono h1 (Nat.le_add_right ..),
        bigEval_mono h2 (Nat.le_add_left ..)⟩)⟩
  | iteF _ _ ihc ihb =>
      obtain ⟨n1, h1⟩ := ihc; obtain ⟨n2, h2⟩ := ihb
      exact ⟨n1 + n2 + 1, bigEval_ite_iff.2 (.inr ⟨bigEval_mono h1 (Nat.le_add_right ..),
        bigEval_mono h2 (Nat.le_add_left ..)⟩)⟩
  | letNil _ ih =>
      obtain ⟨n1, h1⟩ := ih
      exact ⟨n1 + 1, h1⟩
  | letCons _ _ ihd ihr =>
      obtain ⟨n1, h1⟩ := ihd; obtain ⟨n2, h2⟩ := ihr
      exact ⟨n1 + n2 + 1, bigEval_letCons_iff.2 ⟨_, bigEval_mono h1 (Nat.le_add_right ..),
        bigEval_mono h2 (Nat.le_add_left ..)⟩⟩

theorem bigEval_complete_ge {t v : Tm} (h : Big t v) : ∃ n, ∀ m, n ≤ m → bigEval m t = some v :=
  let ⟨n, hn⟩ := bigEval_complete h
  ⟨n, fun _ => bigEval_mono hn⟩

theorem Big_iff_bigEval {t v : Tm} : Big t v ↔ ∃ n, bigEval n t = some v :=
  ⟨bigEval_complete, fun ⟨n, h⟩ => bigEval_sound n t v h⟩

theorem bigEval_fuel_irrelevant {n m : Nat} {t v w : Tm} (h1 : bigEval n t = some v)
    (h2 : bigEval m t = some w) : v = w :=
  Big_deterministic (bigEval_sound n t v h1) (bigEval_sound m t w h2)

theorem bigEval_iff_evalFuel {t v : Tm} :
    (∃ n, bigEval n t = some v) ↔ ∃ n, evalFuel n t = v ∧ isValue v = true :=
  Big_iff_bigEval.symm.trans Big_iff_eval

theorem Big_stuck {t : Tm} (hs : step t = none) (hv : isValue t = false) : ¬ ∃ v, Big t v := by
  rintro ⟨v, h⟩
  obtain ⟨s, hvv⟩ := Big_sound h
  cases s with
  | refl => cases hv.symm.trans hvv
  | head h1 _ => cases (step_complete h1).symm.trans hs

theorem bigEval_none_of_no_value {t : Tm} (h : ¬ ∃ v, Big t v) (n : Nat) : bigEval n t = none := by
  cases e : bigEval n t with
  | none => rfl
  | some v => exact absurd ⟨v, bigEval_sound n t v e⟩ h
