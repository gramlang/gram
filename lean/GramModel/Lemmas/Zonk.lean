import GramModel.Store
import GramModel.Lemmas.Trav

/-!
# `zonk`: reading a term through the store

`Zk σ t z`: `zonk n σ t = some z` for some fuel `n` — `t` reads as `z` through `σ`, unsolved holes staying as they
are (`Reads` of `Lemmas/StoreRead.lean` is the reading with none left).  An answer is kept by more fuel
(`zonk_le`), so a reading is unique (`Zk_det`); `Zk σ` is inverted and introduced at each constructor (`Zk_leaf` …
`ZkD_cons`); a hole-free term reads as itself (`zonk_hf_some`).  The file declares into `UnifySound`, the namespace of
`Lemmas/UnifySound.lean`, the first user of `Zk`.
-/

namespace UnifySound

theorem zonk_mono : ∀ (n : Nat) (σ : List (Option Tm)),
    (∀ t z, zonk n σ t = some z → zonk (n+1) σ t = some z) ∧
    (∀ ds z, zonkDefs n σ ds = some z → zonkDefs (n+1) σ ds = some z) := by
  intro n σ
  induction n with
  | zero => constructor <;> (intro t z h; simp [zonk, zonkDefs] at h)
  | succ n ih =>
    obtain ⟨ih1, ih2⟩ := ih
    constructor
    · intro t z h
      unfold zonk at h ⊢
      cases t <;> simp only at h ⊢ <;> try exact h
      -- `h` is a `match` on the sub-results at fuel `n`; where they all exist they exist at `n + 1` too
      case hole hid s =>
        split at h
        · split at h
          · next hz => rw [ih1 _ _ hz]; exact h
          · cases h
        · exact h
      case lam _ _ d b | pi _ _ d b | app d b | bin _ d b =>
        split at h
        · next h1 h2 => rw [ih1 _ _ h1, ih1 _ _ h2]; exact h
        · cases h
      case letg ds b =>
        split at h
        · next h1 h2 => rw [ih2 _ _ h1, ih1 _ _ h2]; exact h
        · cases h
      case neg a =>
        split at h
        · next h1 => rw [ih1 _ _ h1]; exact h
        · cases h
      case ite c a b =>
        split at h
        · next h1 h2 h3 => rw [ih1 _ _ h1, ih1 _ _ h2, ih1 _ _ h3]; exact h
        · cases h
    · intro ds z h
      unfold zonkDefs at h ⊢
      cases ds <;> simp only at h ⊢ <;> try exact h
      split at h
      · next h1 h2 h3 => rw [ih1 _ _ h1, ih1 _ _ h2, ih2 _ _ h3]; exact h
      · cases h

theorem zonk_le {n m : Nat} (h : n ≤ m) {σ : List (Option Tm)} {t z : Tm}
    (hz : zonk n σ t = some z) : zonk m σ t = some z := by
  induction h with
  | refl => exact hz
  | step _ ih => exact (zonk_mono _ σ).1 _ _ ih

theorem zonkDefs_le {n m : Nat} (h : n ≤ m) {σ : List (Option Tm)} {t z : Defs}
    (hz : zonkDefs n σ t = some z) : zonkDefs m σ t = some z := by
  induction h with
  | refl => exact hz
  | step _ ih => exact (zonk_mono _ σ).2 _ _ ih

def Zk (σ : List (Option Tm)) (t z : Tm) : Prop := ∃ n, zonk n σ t = some z
def ZkD (σ : List (Option Tm)) (ds zs : Defs) : Prop := ∃ n, zonkDefs n σ ds = some zs

variable {σ : List (Option Tm)}

theorem Zk_det {t z1 z2 : Tm} (h1 : Zk σ t z1) (h2 : Zk σ t z2) : z1 = z2 := by
  obtain ⟨n1, h1⟩ := h1
  obtain ⟨n2, h2⟩ := h2
  have a := zonk_le (Nat.le_max_left n1 n2) h1
  have b := zonk_le (Nat.le_max_right n1 n2) h2
  rw [a] at b
  exact Option.some.inj b

theorem ZkD_det {t z1 z2 : Defs} (h1 : ZkD σ t z1) (h2 : ZkD σ t z2) : z1 = z2 := by
  obtain ⟨n1, h1⟩ := h1
  obtain ⟨n2, h2⟩ := h2
  have a := zonkDefs_le (Nat.le_max_left n1 n2) h1
  have b := zonkDefs_le (Nat.le_max_right n1 n2) h2
  rw [a] at b
  exact Option.some.inj b

def Leaf : Tm → Prop
  | .type | .int | .bool | .tt | .ff | .lit _ | .var .. => True
  | _ => False

theorem Zk_leaf {t z : Tm} (hl : Leaf t) : Zk σ t z ↔ z = t := by
  constructor
  · rintro ⟨n, h⟩
    cases n with
    | zero => simp [zonk] at h
    | succ n => cases t <;> simp only [Leaf] at hl <;> simp only [zonk] at h <;> exact (Option.some.inj h).symm
  · rintro rfl
    refine ⟨1, ?_⟩
    cases z <;> simp only [Leaf] at hl <;> simp only [zonk]

theorem Zk_hole_none {id s : Nat} {z : Tm} (hs : ∀ sub, σ[id]? ≠ some (some sub)) :
    Zk σ (.hole id s) z ↔ z = .hole id s := by
  constructor
  · rintro ⟨n, h⟩
    cases n with
    | zero => simp [zonk] at h
    | succ n =>
      rcases hσ : σ[id]? with _ | _ | sub
      · simp only [zonk, hσ] at h; exact (Option.some.inj h).symm
      · simp only [zonk, hσ] at h; exact (Option.some.inj h).symm
      · exact absurd hσ (hs sub)
  · rintro rfl
    refine ⟨1, ?_⟩
    rcases hσ : σ[id]? with _ | _ | sub
    · simp only [zonk, hσ]
    · simp only [zonk, hσ]
    · exact absurd hσ (hs sub)

theorem Zk_hole_some {id s : Nat} {z sub : Tm} (hs : σ[id]? = some (some sub)) :
    Zk σ (.hole id s) z ↔ ∃ zs, Zk σ sub zs ∧ z = ushift 0 s zs := by
  constructor
  · rintro ⟨n, h⟩
    cases n with
    | zero => simp [zonk] at h
    | succ n =>
      simp only [zonk, hs] at h
      cases hz : zonk n σ sub with
      | none => rw [hz] at h; cases h
      | some zs => rw [hz] at h; exact ⟨zs, ⟨n, hz⟩, (Option.some.inj h).symm⟩
  · rintro ⟨zs, ⟨n, hz⟩, rfl⟩
    refine ⟨n + 1, ?_⟩
    simp only [zonk, hs, hz]

theorem Zk_neg {a z : Tm} : Zk σ (.neg a) z ↔ ∃ za, Zk σ a za ∧ z = .neg za := by
  constructor
  · rintro ⟨n, h⟩
    cases n with
    | zero => simp [zonk] at h
    | succ n =>
      simp only [zonk] at h
      cases hz : zonk n σ a with
      | none => rw [hz] at h; cases h
      | some zs => rw [hz] at h; exact ⟨zs, ⟨n, hz⟩, (Option.some.inj h).symm⟩
  · rintro ⟨zs, ⟨n, hz⟩, rfl⟩
    refine ⟨n + 1, ?_⟩
    simp only [zonk, hz]

-- `hygiene false`: the macro uses the name `σ` of its call site
set_option hygiene false in
local macro "zk2_fwd" f1:term:max f2:term:max : tactic => `(tactic| (
  rintro ⟨n, h⟩
  cases n with
  | zero => simp [zonk, zonkDefs] at h
  | succ n =>
    simp only [zonk, zonkDefs] at h
    cases h1 : $f1 n σ _ with
    | none => rw [h1] at h; simp at h
    | some z1 =>
      cases h2 : $f2 n σ _ with
      | none => rw [h1, h2] at h; simp at h
      | some z2 =>
        rw [h1, h2] at h
        exact ⟨z1, z2, ⟨n, h1⟩, ⟨n, h2⟩, (Option.some.inj h).symm⟩))

theorem Zk_app {g a z : Tm} :
    Zk σ (.app g a) z ↔ ∃ zg za, Zk σ g zg ∧ Zk σ a za ∧ z = .app zg za := by
  constructor
  · zk2_fwd zonk zonk
  · rintro ⟨zg, za, ⟨n1, h1⟩, ⟨n2, h2⟩, rfl⟩
    refine ⟨max n1 n2 + 1, ?_⟩
    simp only [zonk, zonk_le (Nat.le_max_left n1 n2) h1, zonk_le (Nat.le_max_right n1 n2) h2]

theorem Zk_lam {x : Name} {im : Bool} {d b z : Tm} :
    Zk σ (.lam x im d b) z ↔ ∃ zd zb, Zk σ d zd ∧ Zk σ b zb ∧ z = .lam x im zd zb := by
  constructor
  · zk2_fwd zonk zonk
  · rintro ⟨zg, za, ⟨n1, h1⟩, ⟨n2, h2⟩, rfl⟩
    refine ⟨max n1 n2 + 1, ?_⟩
    simp only [zonk, zonk_le (Nat.le_max_left n1 n2) h1, zonk_le (Nat.le_max_right n1 n2) h2]

theorem Zk_pi {x : Name} {im : Bool} {d b z : Tm} :
    Zk σ (.pi x im d b) z ↔ ∃ zd zb, Zk σ d zd ∧ Zk σ b zb ∧ z = .pi x im zd zb := by
  constructor
  · zk2_fwd zonk zonk
  · rintro ⟨zg, za, ⟨n1, h1⟩, ⟨n2, h2⟩, rfl⟩
    refine ⟨max n1 n2 + 1, ?_⟩
    simp only [zonk, zonk_le (Nat.le_max_left n1 n2) h1, zonk_le (Nat.le_max_right n1 n2) h2]

theorem Zk_bin {op : BinOp} {a b z : Tm} :
    Zk σ (.bin op a b) z ↔ ∃ za zb, Zk σ a za ∧ Zk σ b zb ∧ z = .bin op za zb := by
  constructor
  · zk2_fwd zonk zonk
  · rintro ⟨zg, za, ⟨n1, h1⟩, ⟨n2, h2⟩, rfl⟩
    refine ⟨max n1 n2 + 1, ?_⟩
    simp only [zonk, zonk_le (Nat.le_max_left n1 n2) h1, zonk_le (Nat.le_max_right n1 n2) h2]

theorem Zk_letg {ds : Defs} {b z : Tm} :
    Zk σ (.letg ds b) z ↔ ∃ zd zb, ZkD σ ds zd ∧ Zk σ b zb ∧ z = .letg zd zb := by
  constructor
  · zk2_fwd zonkDefs zonk
  · rintro ⟨zg, za, ⟨n1, h1⟩, ⟨n2, h2⟩, rfl⟩
    refine ⟨max n1 n2 + 1, ?_⟩
    simp only [zonk, zonkDefs_le (Nat.le_max_left n1 n2) h1, zonk_le (Nat.le_max_right n1 n2) h2]

theorem Zk_ite {c a b z : Tm} :
    Zk σ (.ite c a b) z ↔ ∃ zc za zb, Zk σ c zc ∧ Zk σ a za ∧ Zk σ b zb ∧ z = .ite zc za zb := by
  constructor
  · rintro ⟨n, h⟩
    cases n with
    | zero => simp [zonk] at h
    | succ n =>
      simp only [zonk] at h
      split at h
      · next z1 z2 z3 h1 h2 h3 => exact ⟨z1, z2, z3, ⟨n, h1⟩, ⟨n, h2⟩, ⟨n, h3⟩, (Option.some.inj h).symm⟩
      · cases h
  · rintro ⟨zc, zg, za, ⟨n0, h0⟩, ⟨n1, h1⟩, ⟨n2, h2⟩, rfl⟩
    refine ⟨max n0 (max n1 n2) + 1, ?_⟩
    simp only [zonk, zonk_le (by omega : n0 ≤ max n0 (max n1 n2)) h0,
      zonk_le (by omega : n1 ≤ max n0 (max n1 n2)) h1, zonk_le (by omega : n2 ≤ max n0 (max n1 n2)) h2]

theorem ZkD_nil {z : Defs} : ZkD σ .nil z ↔ z = .nil := by
  constructor
  · rintro ⟨n, h⟩
    cases n with
    | zero => simp [zonkDefs] at h
    | succ n => simp only [zonkDefs] at h; exact (Option.some.inj h).symm
  · rintro rfl; exact ⟨1, by simp only [zonkDefs]⟩

theorem ZkD_cons {x : Name} {a d : Tm} {r z : Defs} :
    ZkD σ (.cons x a d r) z ↔
      ∃ za zd zr, Zk σ a za ∧ Zk σ d zd ∧ ZkD σ r zr ∧ z = .cons x za zd zr := by
  constructor
  · rintro ⟨n, h⟩
    cases n with
    | zero => simp [zonkDefs] at h
    | succ n =>
      simp only [zonkDefs] at h
      split at h
      · next z1 z2 z3 h1 h2 h3 => exact ⟨z1, z2, z3, ⟨n, h1⟩, ⟨n, h2⟩, ⟨n, h3⟩, (Option.some.inj h).symm⟩
      · cases h
  · rintro ⟨zc, zg, za, ⟨n0, h0⟩, ⟨n1, h1⟩, ⟨n2, h2⟩, rfl⟩
    refine ⟨max n0 (max n1 n2) + 1, ?_⟩
    simp only [zonkDefs, zonk_le (by omega : n0 ≤ max n0 (max n1 n2)) h0,
      zonk_le (by omega : n1 ≤ max n0 (max n1 n2)) h1,
      zonkDefs_le (by omega : n2 ≤ max n0 (max n1 n2)) h2]

theorem ZkD_len : ∀ {ds zs : Defs}, ZkD σ ds zs → zs.len = ds.len
  | .nil, zs, h => by rw [ZkD_nil] at h; subst h; rfl
  | .cons x a d r, zs, h => by
    rw [ZkD_cons] at h
    obtain ⟨za, zd, zr, _, _, hr, rfl⟩ := h
    simp [ZkD_len hr]

theorem Zk_var (x : Name) (i : Nat) : Zk σ (.var x i) (.var x i) := (Zk_leaf (by simp [Leaf])).2 rfl

theorem zonk_hf_some_both (σ : List (Option Tm)) :
    (∀ (t : Tm) (n : Nat), t.holeFree = true → t.size < n → zonk n σ t = some t) ∧
    ∀ (ds : Defs) (n : Nat), ds.holeFree = true → ds.size < n → zonkDefs n σ ds = some ds := by
  apply Tm.rec_both
  case hole => intro _ _ _ h; cases h
  all_goals
    intros
    rename_i n h hs
    simp only [Tm.holeFree, Defs.holeFree, Bool.and_eq_true, Tm.size, Defs.size] at h hs
    cases n with
    | zero => omega
    | succ n => simp (disch := first | omega | simp only [*]) only [zonk, zonkDefs, *]

theorem zonk_hf_some (σ : List (Option Tm)) (t : Tm) (n : Nat) (h : t.holeFree = true)
    (hs : t.size < n) : zonk n σ t = some t := (zonk_hf_some_both σ).1 t n h hs
theorem zonkDefs_hf_some (σ : List (Option Tm)) : ∀ (ds : Defs) (n : Nat), ds.holeFree = true →
    ds.size < n → zonkDefs n σ ds = some ds := (zonk_hf_some_both σ).2

theorem Zk_holeFree : ∀ (t : Tm), t.holeFree = true → Zk σ t t :=
  fun t h => ⟨t.size + 1, zonk_hf_some σ t _ h (Nat.lt_succ_self _)⟩
theorem ZkD_holeFree : ∀ (ds : Defs), ds.holeFree = true → ZkD σ ds ds :=
  fun ds h => ⟨ds.size + 1, zonkDefs_hf_some σ ds _ h (Nat.lt_succ_self _)⟩

theorem Zk_holeFree_eq {t z : Tm} (hf : t.holeFree = true) (h : Zk σ t z) : z = t :=
  Zk_det h (Zk_holeFree t hf)

end UnifySound
