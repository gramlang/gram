import GramModel.Lemmas.ParserSpan

/-! The precedence tower (`atom`, `small_term`, … , `jumbo_term`, `term`), read off the tree-carrying
segment relation `SegT` (the grammar as written out in `Lemmas/ParserGood.lean`): its inversion (`SegT.inv`; an
operator level as `OpLevel`), the order of the tower (`lvl`, `SegT.up`, `towerOf`), first tokens, the
extension sets `ext`.  Declares into `PModel.Unamb`, the namespace of the grammar-side facts about the tower
(as against the packrat functions' `RetN`); the end of the file is plain `PModel`: a derivation records no
error (`ce_segT`; `ce` = `collectErrors`) and does not look beyond its end (`SegT.transport`). -/

namespace PModel
namespace Unamb

variable {toks : Array PTok}

theorem KAt.inj {a : Nat} {k k' : PKind} (h : KAt toks a k) (h' : KAt toks a k') : k = k' := KAt.unique h h'

theorem _root_.PModel.SegT.lt {A : NT} {a b : Nat} {t : Src} (h : SegT toks A a b t) : a < b :=
  h.spanned.bounds.1

theorem _root_.PModel.SegT.le_size {A : NT} {a b : Nat} {t : Src} (h : SegT toks A a b t) :
    b ≤ toks.size :=
  h.spanned.bounds.2

theorem SegT.lt {A : NT} {a b : Nat} {t : Src} (h : SegT toks A a b t) : a < b := h.lt

theorem SegT.le_size {A : NT} {a b : Nat} {t : Src} (h : SegT toks A a b t) : b ≤ toks.size :=
  h.le_size

/-- the tokens that are an atom by themselves -/
def isLeafK : PKind → Bool
  | .type_ | .identifier _ | .integer | .integerLiteral _ | .boolean | .true_ | .false_ => true
  | _ => false

/-- The first tokens of `atom` (and of `small_term`, `medium_term`). -/
def isF : PKind → Bool
  | .type_ | .identifier _ | .integer | .integerLiteral _ | .boolean | .true_ | .false_
  | .leftParen => true
  | _ => false

def isMul : PKind → Bool
  | .asterisk | .slash => true
  | _ => false

def isAdd : PKind → Bool
  | .plus | .minus => true
  | _ => false

def isCmp : PKind → Bool
  | .lessThan | .lessThanOrEqualTo | .doubleEquals | .greaterThan | .greaterThanOrEqualTo => true
  | _ => false

def isArrow : PKind → Bool
  | .thinArrow | .thickArrow => true
  | _ => false

def isDef : PKind → Bool
  | .equals | .colon => true
  | _ => false

def extLarge (k : PKind) : Bool := isF k || isMul k
def extHuge (k : PKind) : Bool := extLarge k || isAdd k
def extGiant (k : PKind) : Bool := extHuge k || isCmp k
/-- what follows a `giant_term` that a longer `jumbo_term` with the same start extends -/
def extGJ (k : PKind) : Bool := extGiant k || isArrow k
def extTerm (k : PKind) : Bool := extGJ k || isDef k

/-- The extension sets of the tower nonterminals: the tokens that can follow a segment derived from
the nonterminal when a longer segment with the same start is derived from it too.  (`=` and `:` extend
a `jumbo_term`: the body of `x => y` is a `term`, so `x => y` goes on as `x => y = 1; z`.) -/
def ext : NT → PKind → Bool
  | .smallTerm => isF
  | .mediumTerm | .largeTerm => extLarge
  | .hugeTerm => extHuge
  | .giantTerm => extGiant
  | .jumboTerm | .term => extTerm
  | _ => fun _ => false

-- the last arm is `false_`: the function is only used at kinds with `isLeafK`
def leafTree (toks : Array PTok) (a : Nat) : PKind → Src
  | .type_ => .mk (rng toks a (a + 1)) false .type []
  | .identifier x => .mk (rng toks a (a + 1)) false (.var x) []
  | .integer => .mk (rng toks a (a + 1)) false .int []
  | .integerLiteral n => .mk (rng toks a (a + 1)) false (.lit (Int.ofNat n)) []
  | .boolean => .mk (rng toks a (a + 1)) false .bool []
  | .true_ => .mk (rng toks a (a + 1)) false .tt []
  | _ => .mk (rng toks a (a + 1)) false .ff []

-- the operator of a `bin` node read off its token (`binOpOf` reads it off the nonterminal; `bin_head` ties them);
-- the last arm is `>=`: the function is only used at operator tokens
def binOpTok : PKind → BinOp
  | .plus => .sum | .minus => .diff | .asterisk => .prod | .slash => .quot
  | .lessThan => .lt | .lessThanOrEqualTo => .le | .doubleEquals => .eq | .greaterThan => .gt
  | _ => .ge

/-- the precedence tower, lowest first -/
def tower : List NT :=
  [.atom, .smallTerm, .mediumTerm, .largeTerm, .hugeTerm, .giantTerm, .jumboTerm, .term]

/-- What a derivation from an alternative of `jumbo_term` other than `giant_term` looks like (they all end in a `term`). -/
def Open (toks : Array PTok) (a d : Nat) (t : Src) : Prop :=
  (∃ x body, KAt toks a (.identifier x) ∧ KAt toks (a + 1) .thickArrow ∧
      SegT toks .term (a + 1 + 1) d body ∧
      t = .mk (rng toks a d) false (.lam ⟨tokenRange toks a, x⟩ false .none body) []) ∨
  (∃ x body, KAt toks a .leftCurly ∧ KAt toks (a + 1) (.identifier x) ∧
      KAt toks (a + 1 + 1) .rightCurly ∧ KAt toks (a + 1 + 1 + 1) .thickArrow ∧
      SegT toks .term (a + 1 + 1 + 1 + 1) d body ∧
      t = .mk (rng toks a d) false (.lam ⟨tokenRange toks (a + 1), x⟩ true .none body) []) ∨
  (∃ A o c ar x b dom body, (A, o, c, ar) ∈ binderProds ∧ KAt toks a o ∧
      KAt toks (a + 1) (.identifier x) ∧ KAt toks (a + 1 + 1) .colon ∧
      SegT toks .jumboTerm (a + 1 + 1 + 1) b dom ∧ KAt toks b c ∧ KAt toks (b + 1) ar ∧
      SegT toks .term (b + 1 + 1) d body ∧
      t = .mk (rng toks a d) false (binderV A ⟨tokenRange toks (a + 1), x⟩ dom body) []) ∨
  (∃ b dom cod, SegT toks .smallTerm a b dom ∧ KAt toks b .thinArrow ∧
      SegT toks .term (b + 1) d cod ∧
      t = .mk (rng toks a d) false (.pi ⟨emptyRange toks a, placeholder⟩ false dom cod) []) ∨
  (∃ b c x y z, KAt toks a .if_ ∧ SegT toks .term (a + 1) b x ∧ KAt toks b .then_ ∧
      SegT toks .term (b + 1) c y ∧ KAt toks c .else_ ∧ SegT toks .term (c + 1) d z ∧
      t = .mk (rng toks a d) false (.ite x y z) [])

/-- What a derivation from `A` looks like: the productions of `A`, read backwards (those of the alternatives of
`jumbo_term` in `Open`).  The production shapes are written out four times — the rules of `Closed`
(`Lemmas/ParserGood.lean`), the constructors of `Seg` (`ParserSound`) and of `SegT` (`ParserSpan`), and here — and once more in
the vocabulary of `RetN`, as the success lemmas of `Lemmas/ParserRet.lean`: a change of one production is an edit in each. -/
def Inversion (toks : Array PTok) (A : NT) (a d : Nat) (t : Src) : Prop :=
  match A with
  | .atom | .smallTerm | .mediumTerm | .largeTerm | .hugeTerm | .giantTerm | .jumboTerm | .term =>
    ∃ B, (A, B) ∈ unitProds ∧ SegT toks B a d t
  | .type | .variable | .integer | .integerLiteral | .boolean | .true_ | .false_ =>
    ∃ k, KAt toks a k ∧ isLeafK k = true ∧ d = a + 1 ∧ t = leafTree toks a k
  | .group =>
    ∃ m inner, KAt toks a .leftParen ∧ SegT toks .term (a + 1) m inner ∧ KAt toks m .rightParen ∧
      d = m + 1 ∧ t = .mk (rng toks a (m + 1)) true inner.variant []
  | .application =>
    ∃ m f x, SegT toks .atom a m f ∧ SegT toks .smallTerm m d x ∧
      t = .mk (rng toks a d) false (.app f x) []
  | .negation =>
    ∃ x, KAt toks a .minus ∧ SegT toks .largeTerm (a + 1) d x ∧
      t = .mk (rng toks a d) false (.neg x) []
  | .sum | .difference | .product | .quotient | .lessThan | .lessThanOrEqualTo | .equalTo
  | .greaterThan | .greaterThanOrEqualTo =>
    ∃ L op R b x y, (A, L, op, R) ∈ binProds ∧ SegT toks L a b x ∧ KAt toks b op ∧
      SegT toks R (b + 1) d y ∧ t = .mk (rng toks a d) false (.bin (binOpTok op) x y) []
  | .lambda | .lambdaImplicit | .annotatedLambda | .annotatedLambdaImplicit | .pi | .piImplicit
  | .nonDependentPi | .if_ => Open toks a d t
  | .let_ =>
    (∃ x tm b defn body, KAt toks a (.identifier x) ∧ KAt toks (a + 1) .equals ∧
      SegT toks .term (a + 1 + 1) b defn ∧ KAt toks b (.terminator tm) ∧
      SegT toks .term (b + 1) d body ∧
      t = .mk (rng toks a d) false (.let_ ⟨tokenRange toks a, x⟩ .none defn body) []) ∨
    (∃ x tm b c ann defn body, KAt toks a (.identifier x) ∧ KAt toks (a + 1) .colon ∧
      SegT toks .smallTerm (a + 1 + 1) b ann ∧ KAt toks b .equals ∧
      SegT toks .term (b + 1) c defn ∧ KAt toks c (.terminator tm) ∧
      SegT toks .term (c + 1) d body ∧
      t = .mk (rng toks a d) false (.let_ ⟨tokenRange toks a, x⟩ (.some ann) defn body) [])

theorem unit_head {A B : NT} (h : (A, B) ∈ unitProds) : A ∈ tower :=
  (by decide +kernel : ∀ p ∈ unitProds, p.1 ∈ tower) _ h

theorem binder_head {A : NT} {o c ar : PKind} (h : (A, o, c, ar) ∈ binderProds) :
    A ∈ [NT.annotatedLambda, .annotatedLambdaImplicit, .pi, .piImplicit] :=
  (by decide +kernel : ∀ p ∈ binderProds,
    p.1 ∈ [NT.annotatedLambda, .annotatedLambdaImplicit, .pi, .piImplicit]) _ h

theorem bin_head {A L R : NT} {op : PKind} (h : (A, L, op, R) ∈ binProds) :
    A ∈ [NT.sum, .difference, .product, .quotient, .lessThan, .lessThanOrEqualTo, .equalTo,
      .greaterThan, .greaterThanOrEqualTo] ∧ binOpOf A = binOpTok op :=
  (by decide +kernel : ∀ p ∈ binProds,
    p.1 ∈ [NT.sum, .difference, .product, .quotient, .lessThan, .lessThanOrEqualTo, .equalTo,
      .greaterThan, .greaterThanOrEqualTo] ∧ binOpOf p.1 = binOpTok p.2.2.1) _ h

theorem _root_.PModel.SegT.inv {A : NT} {a d : Nat} {t : Src} (h : SegT toks A a d t) :
    Inversion toks A a d t := by
  cases h with
  | unit hm h =>
    have hA := unit_head hm
    simp only [tower, List.mem_cons, List.not_mem_nil, or_false] at hA
    rcases hA with rfl | rfl | rfl | rfl | rfl | rfl | rfl | rfl <;> exact ⟨_, hm, h⟩
  | leaf hm hk =>
    simp only [leafProds, List.mem_cons, Prod.mk.injEq, List.not_mem_nil, or_false] at hm
    rcases hm with ⟨rfl, rfl⟩ | ⟨rfl, rfl⟩ | ⟨rfl, rfl⟩ | ⟨rfl, rfl⟩ | ⟨rfl, rfl⟩ <;>
      exact ⟨_, hk, rfl, rfl, rfl⟩
  | var hk => exact ⟨_, hk, rfl, rfl, rfl⟩
  | lit hk => exact ⟨_, hk, rfl, rfl, rfl⟩
  | lambda h1 h2 h3 => exact Or.inl ⟨_, _, h1, h2, h3, rfl⟩
  | lambdaImplicit h1 h2 h3 h4 h5 => exact Or.inr (Or.inl ⟨_, _, h1, h2, h3, h4, h5, rfl⟩)
  | binder hm h1 h2 h3 h4 h5 h6 h7 =>
    have hA := binder_head hm
    simp only [List.mem_cons, List.not_mem_nil, or_false] at hA
    rcases hA with rfl | rfl | rfl | rfl <;>
      exact Or.inr (Or.inr (Or.inl ⟨_, _, _, _, _, _, _, _, hm, h1, h2, h3, h4, h5, h6, h7, rfl⟩))
  | nonDependentPi h1 h2 h3 => exact Or.inr (Or.inr (Or.inr (Or.inl ⟨_, _, _, h1, h2, h3, rfl⟩)))
  | application h1 h2 => exact ⟨_, _, _, h1, h2, rfl⟩
  | letPlain h1 h2 h3 h4 h5 => exact Or.inl ⟨_, _, _, _, _, h1, h2, h3, h4, h5, rfl⟩
  | letAnn h1 h2 h3 h4 h5 h6 h7 =>
    exact Or.inr ⟨_, _, _, _, _, _, _, h1, h2, h3, h4, h5, h6, h7, rfl⟩
  | negation h1 h2 => exact ⟨_, h1, h2, rfl⟩
  | bin hm h1 hk h2 =>
    obtain ⟨hA, hop⟩ := bin_head hm
    simp only [List.mem_cons, List.not_mem_nil, or_false] at hA
    rcases hA with rfl | rfl | rfl | rfl | rfl | rfl | rfl | rfl | rfl <;>
      exact ⟨_, _, _, _, _, _, hm, h1, hk, h2, by rw [hop]⟩
  | ite h1 h2 h3 h4 h5 h6 =>
    exact Or.inr (Or.inr (Or.inr (Or.inr ⟨_, _, _, _, _, h1, h2, h3, h4, h5, h6, rfl⟩)))
  | group h1 h2 h3 => exact ⟨_, _, h1, h2, h3, rfl, rfl⟩

theorem inv_let {a d : Nat} {t : Src} (h : SegT toks .let_ a d t) :
    (∃ x tm b defn body, KAt toks a (.identifier x) ∧ KAt toks (a + 1) .equals ∧
      SegT toks .term (a + 1 + 1) b defn ∧ KAt toks b (.terminator tm) ∧
      SegT toks .term (b + 1) d body ∧
      t = .mk (rng toks a d) false (.let_ ⟨tokenRange toks a, x⟩ .none defn body) []) ∨
    (∃ x tm b c ann defn body, KAt toks a (.identifier x) ∧ KAt toks (a + 1) .colon ∧
      SegT toks .smallTerm (a + 1 + 1) b ann ∧ KAt toks b .equals ∧
      SegT toks .term (b + 1) c defn ∧ KAt toks c (.terminator tm) ∧
      SegT toks .term (c + 1) d body ∧
      t = .mk (rng toks a d) false (.let_ ⟨tokenRange toks a, x⟩ (.some ann) defn body) []) :=
  h.inv

/-- Simplifies a membership in a production table with a concrete head. -/
local macro "prods" " at " h:ident : tactic => `(tactic| simp only [unitProds, leafProds, binderProds,
  binProds, List.mem_cons, Prod.mk.injEq, reduceCtorEq, false_and, and_false, or_false, false_or,
  List.not_mem_nil, true_and, and_true] at $h:ident)

theorem inv_atom {a b : Nat} {t : Src} (h : SegT toks .atom a b t) :
    (∃ k, KAt toks a k ∧ isLeafK k = true ∧ b = a + 1 ∧ t = leafTree toks a k) ∨
    (∃ m inner, KAt toks a .leftParen ∧ SegT toks .term (a + 1) m inner ∧ KAt toks m .rightParen ∧
      b = m + 1 ∧ t = .mk (rng toks a (m + 1)) true inner.variant []) := by
  obtain ⟨B, hm, hB⟩ := h.inv
  prods at hm
  rcases hm with rfl | rfl | rfl | rfl | rfl | rfl | rfl | rfl
  all_goals first
    | exact Or.inr hB.inv
    | exact Or.inl hB.inv

theorem inv_small {a b : Nat} {t : Src} (h : SegT toks .smallTerm a b t) :
    SegT toks .atom a b t ∨ ∃ m f x, SegT toks .atom a m f ∧ SegT toks .smallTerm m b x ∧
      t = .mk (rng toks a b) false (.app f x) [] := by
  obtain ⟨B, hm, hB⟩ := h.inv
  prods at hm
  rcases hm with rfl | rfl
  · exact Or.inr hB.inv
  · exact Or.inl hB

/-- inversion at an operator level: an `X` is a `Y`, or `Y op R` with `op ∈ ops` -/
def BinInv (toks : Array PTok) (X Y R : NT) (ops : PKind → Bool) : Prop :=
  ∀ {a b : Nat} {t : Src}, SegT toks X a b t → SegT toks Y a b t ∨
    ∃ m op x y, ops op = true ∧ SegT toks Y a m x ∧ KAt toks m op ∧ SegT toks R (m + 1) b y ∧
      t = .mk (rng toks a b) false (.bin (binOpTok op) x y) []

/-- An *operator level* of the tower, `X : B₁ | … | Bₖ | Y` with `Bᵢ : Y opᵢ R` (`medium_term`,
`huge_term`, `giant_term`): `alts` lists the `(Bᵢ, opᵢ)` in the order of `grammar.y`, `ops` is the set
of the `opᵢ`. -/
structure OpLevel where
  X : NT
  Y : NT
  R : NT
  ops : PKind → Bool
  alts : List (NT × PKind)

/-- `L` describes a level of `grammar.y`. -/
structure OpLevel.Ok (L : OpLevel) : Prop where
  tower : L.X ∈ tower
  units : ∀ q ∈ unitProds, q.1 = L.X → q.2 = L.Y ∨ q.2 ∈ L.alts.map (·.1)
  prods : ∀ p ∈ L.alts, (p.1, L.Y, p.2, L.R) ∈ binProds
  sep : ∀ p ∈ L.alts, ext L.X p.2 = true ∧ ext L.Y p.2 = false
  ops_eq : ∀ k, L.ops k = L.alts.any (·.2 == k)
  eY : ∀ k, ext L.Y k = true → ext L.X k = true
  eR : ∀ k, ext L.R k = true → ext L.X k = true

theorem OpLevel.Ok.ops_iff {L : OpLevel} (hL : L.Ok) {k : PKind} :
    L.ops k = true ↔ ∃ p ∈ L.alts, p.2 = k := by
  simp [hL.ops_eq]

theorem binProds_head {A L L' R R' : NT} {op op' : PKind} (h : (A, L, op, R) ∈ binProds)
    (h' : (A, L', op', R') ∈ binProds) : L = L' ∧ op = op' ∧ R = R' := by
  have := (by decide +kernel : ∀ p ∈ binProds, ∀ q ∈ binProds, p.1 = q.1 → p.2 = q.2) _ h _ h' rfl
  cases this; exact ⟨rfl, rfl, rfl⟩

theorem _root_.PModel.SegT.inv_tower {A : NT} (hA : A ∈ tower) {a d : Nat} {t : Src}
    (h : SegT toks A a d t) : ∃ B, (A, B) ∈ unitProds ∧ SegT toks B a d t := by
  have := h.inv
  simp only [Unamb.tower, List.mem_cons, List.not_mem_nil, or_false] at hA
  rcases hA with rfl | rfl | rfl | rfl | rfl | rfl | rfl | rfl <;> exact this

theorem _root_.PModel.SegT.inv_bin {A L R : NT} {op : PKind} (hm : (A, L, op, R) ∈ binProds)
    {a d : Nat} {t : Src} (h : SegT toks A a d t) :
    ∃ b x y, SegT toks L a b x ∧ KAt toks b op ∧ SegT toks R (b + 1) d y ∧
      t = .mk (rng toks a d) false (.bin (binOpTok op) x y) [] := by
  have hi := h.inv
  have hA := (bin_head hm).1
  simp only [List.mem_cons, List.not_mem_nil, or_false] at hA
  rcases hA with rfl | rfl | rfl | rfl | rfl | rfl | rfl | rfl | rfl <;>
    (obtain ⟨L', op', R', b, x, y, hm', h1, hk, h2, rfl⟩ := hi
     obtain ⟨rfl, rfl, rfl⟩ := binProds_head hm hm'
     exact ⟨b, x, y, h1, hk, h2, rfl⟩)

theorem OpLevel.Ok.inv {L : OpLevel} (hL : L.Ok) : BinInv toks L.X L.Y L.R L.ops := by
  intro a b t h
  obtain ⟨B, hu, hB⟩ := h.inv_tower hL.tower
  rcases hL.units _ hu rfl with e | hmem
  · exact Or.inl (e ▸ hB)
  · obtain ⟨p, hp, e⟩ := List.mem_map.mp hmem
    obtain ⟨m, x, y, h1, hk, h2, rfl⟩ := hB.inv_bin (e ▸ hL.prods p hp)
    exact Or.inr ⟨m, p.2, x, y, hL.ops_iff.mpr ⟨p, hp, rfl⟩, h1, hk, h2, rfl⟩

def mediumLevel : OpLevel :=
  ⟨.mediumTerm, .smallTerm, .largeTerm, isMul, [(.product, .asterisk), (.quotient, .slash)]⟩
def hugeLevel : OpLevel :=
  ⟨.hugeTerm, .largeTerm, .hugeTerm, isAdd, [(.sum, .plus), (.difference, .minus)]⟩
def giantLevel : OpLevel :=
  ⟨.giantTerm, .hugeTerm, .hugeTerm, isCmp, [(.lessThan, .lessThan),
    (.lessThanOrEqualTo, .lessThanOrEqualTo), (.equalTo, .doubleEquals), (.greaterThan, .greaterThan),
    (.greaterThanOrEqualTo, .greaterThanOrEqualTo)]⟩

theorem mediumLevel_ok : mediumLevel.Ok where
  tower := by decide
  units := by decide +kernel
  prods := by decide
  sep := by decide
  ops_eq k := by cases k <;> rfl
  eY k h := by simp only [mediumLevel, ext, extLarge] at h ⊢; simp [h]
  eR _ h := h
theorem hugeLevel_ok : hugeLevel.Ok where
  tower := by decide
  units := by decide +kernel
  prods := by decide
  sep := by decide
  ops_eq k := by cases k <;> rfl
  eY k h := by simp only [hugeLevel, ext, extHuge] at h ⊢; simp [h]
  eR _ h := h
theorem giantLevel_ok : giantLevel.Ok where
  tower := by decide
  units := by decide +kernel
  prods := by decide
  sep := by decide
  ops_eq k := by cases k <;> rfl
  eY k h := by simp only [giantLevel, ext, extGiant] at h ⊢; simp [h]
  eR k h := by simp only [giantLevel, ext, extGiant] at h ⊢; simp [h]

theorem inv_medium : BinInv toks .mediumTerm .smallTerm .largeTerm isMul := mediumLevel_ok.inv
theorem inv_huge : BinInv toks .hugeTerm .largeTerm .hugeTerm isAdd := hugeLevel_ok.inv
theorem inv_giant : BinInv toks .giantTerm .hugeTerm .hugeTerm isCmp := giantLevel_ok.inv

theorem inv_large {a b : Nat} {t : Src} (h : SegT toks .largeTerm a b t) :
    SegT toks .mediumTerm a b t ∨ ∃ x, KAt toks a .minus ∧ SegT toks .largeTerm (a + 1) b x ∧
      t = .mk (rng toks a b) false (.neg x) [] := by
  obtain ⟨B, hm, hB⟩ := h.inv
  prods at hm
  rcases hm with rfl | rfl
  · exact Or.inr hB.inv
  · exact Or.inl hB

theorem inv_jumbo {a b : Nat} {t : Src} (h : SegT toks .jumboTerm a b t) :
    SegT toks .giantTerm a b t ∨ Open toks a b t := by
  obtain ⟨B, hm, hB⟩ := h.inv
  prods at hm
  rcases hm with rfl | rfl | rfl | rfl | rfl | rfl | rfl | rfl | rfl
  iterate 8 exact Or.inr hB.inv
  exact Or.inl hB

theorem inv_term {a b : Nat} {t : Src} (h : SegT toks .term a b t) :
    SegT toks .jumboTerm a b t ∨ SegT toks .let_ a b t := by
  obtain ⟨B, hm, hB⟩ := h.inv
  prods at hm
  rcases hm with rfl | rfl
  · exact Or.inr hB
  · exact Or.inl hB

/-- position in the tower `atom ⊂ small_term ⊂ … ⊂ term` -/
def lvl : NT → Nat
  | .smallTerm => 1 | .mediumTerm => 2 | .largeTerm => 3 | .hugeTerm => 4 | .giantTerm => 5
  | .jumboTerm => 6 | .term => 7 | _ => 0

theorem tower_pred :
    ∀ Y ∈ tower, lvl Y = 0 ∨ ∃ Y' ∈ tower, (Y, Y') ∈ unitProds ∧ lvl Y = lvl Y' + 1 := by
  decide +kernel

theorem lvl_inj : ∀ X ∈ tower, ∀ Y ∈ tower, lvl X = lvl Y → X = Y := by decide +kernel

theorem _root_.PModel.SegT.up {X Y : NT} {a b : Nat} {t : Src} (s : SegT toks X a b t)
    (hX : X ∈ tower := by decide) (hY : Y ∈ tower := by decide) (h : lvl X ≤ lvl Y := by decide) :
    SegT toks Y a b t := by
  obtain ⟨n, hn⟩ : ∃ n, lvl Y = lvl X + n := ⟨lvl Y - lvl X, by omega⟩
  induction n generalizing Y with
  | zero => exact lvl_inj X hX Y hY hn.symm ▸ s
  | succ n ih =>
    rcases tower_pred Y hY with h0 | ⟨Y', hY', hu, e⟩
    · omega
    · exact .unit hu (ih hY' (by omega) (by omega))

theorem up_small {a b : Nat} {t : Src} (h : SegT toks .atom a b t) : SegT toks .smallTerm a b t :=
  h.up
theorem up_term {a b : Nat} {t : Src} (h : SegT toks .jumboTerm a b t) :
    SegT toks .term a b t := h.up

theorem small_giant {a b : Nat} {t : Src} (h : SegT toks .smallTerm a b t) :
    SegT toks .giantTerm a b t := h.up

theorem var_atom {a : Nat} {x : Name} (h : KAt toks a (.identifier x)) :
    SegT toks .atom a (a + 1) (leafTree toks a (.identifier x)) :=
  .unit (B := .variable) (by simp [unitProds]) (.var h)

theorem isF_of_leaf {k : PKind} (h : isLeafK k = true) : isF k = true := by
  cases k <;> simp_all [isLeafK, isF]

/-- The first tokens of `large_term`, `huge_term`, `giant_term`: those of an atom, and `-`. -/
def isFM : PKind → Bool
  | .minus => true
  | k => isF k

theorem isFM_of_isF {k : PKind} (h : isF k = true) : isFM k = true := by
  cases k <;> simp_all [isFM, isF]

theorem first_atom {a b : Nat} {t : Src} (h : SegT toks .atom a b t) :
    ∃ k, KAt toks a k ∧ isF k = true := by
  rcases inv_atom h with ⟨k, k1, lk, _, _⟩ | ⟨m, inner, p1, _⟩
  · exact ⟨k, k1, isF_of_leaf lk⟩
  · exact ⟨_, p1, rfl⟩

theorem first_small {a b : Nat} {t : Src} (h : SegT toks .smallTerm a b t) :
    ∃ k, KAt toks a k ∧ isF k = true := by
  rcases inv_small h with h | ⟨m, f, x, h, _⟩ <;> exact first_atom h

theorem first_medium {a b : Nat} {t : Src} (h : SegT toks .mediumTerm a b t) :
    ∃ k, KAt toks a k ∧ isF k = true := by
  rcases inv_medium h with h | ⟨m, op, x, y, _, h, _⟩ <;> exact first_small h

theorem first_large {a b : Nat} {t : Src} (h : SegT toks .largeTerm a b t) :
    ∃ k, KAt toks a k ∧ isFM k = true := by
  rcases inv_large h with h | ⟨x, h, _⟩
  · obtain ⟨k, k1, hk⟩ := first_medium h
    exact ⟨k, k1, isFM_of_isF hk⟩
  · exact ⟨_, h, rfl⟩

theorem first_huge {a b : Nat} {t : Src} (h : SegT toks .hugeTerm a b t) :
    ∃ k, KAt toks a k ∧ isFM k = true := by
  rcases inv_huge h with h | ⟨m, op, x, y, _, h, _⟩ <;> exact first_large h

theorem first_giant {a b : Nat} {t : Src} (h : SegT toks .giantTerm a b t) :
    ∃ k, KAt toks a k ∧ isFM k = true := by
  rcases inv_giant h with h | ⟨m, op, x, y, _, h, _⟩ <;> exact first_huge h

theorem BinInv.lead {X Y R : NT} {ops : PKind → Bool} (hinv : BinInv toks X Y R ops) {a e : Nat}
    {t : Src} (h : SegT toks X a e t) : ∃ e1 t1, e1 ≤ e ∧ SegT toks Y a e1 t1 := by
  rcases hinv h with h | ⟨m, op, x, y, _, h, _, h3, _⟩
  · exact ⟨_, _, Nat.le_refl _, h⟩
  · exact ⟨_, _, by have := h3.lt; omega, h⟩

theorem lead_atom {a e : Nat} {t : Src} (h : SegT toks .giantTerm a e t) {k : PKind}
    (k1 : KAt toks a k) (hk : isF k = true) : ∃ m f, m ≤ e ∧ SegT toks .atom a m f := by
  obtain ⟨e1, t1, le1, h1⟩ := inv_giant.lead h
  obtain ⟨e2, t2, le2, h2⟩ := inv_huge.lead h1
  have h3 : SegT toks .mediumTerm a e2 t2 := by
    rcases inv_large h2 with h | ⟨x, h, _⟩
    · exact h
    · cases KAt.unique k1 h; simp [isF] at hk
  obtain ⟨e4, t4, le4, h4⟩ := inv_medium.lead h3
  rcases inv_small h4 with h | ⟨m, f, x, h, h5, _⟩
  · exact ⟨_, _, by omega, h⟩
  · exact ⟨_, _, by have := h5.lt; omega, h⟩

theorem let_head {a b : Nat} {t : Src} (h : SegT toks .let_ a b t) :
    ∃ x k, KAt toks a (.identifier x) ∧ KAt toks (a + 1) k ∧ isDef k = true ∧ a + 1 + 1 < b := by
  rcases h.inv with ⟨x, tm, m, defn, body, k1, k2, d1, k3, b1, rfl⟩ |
    ⟨x, tm, p, m, ann, defn, body, k1, k2, s1, k3, d1, k4, b1, rfl⟩
  · exact ⟨x, _, k1, k2, rfl, by have := d1.lt; have := b1.lt; omega⟩
  · exact ⟨x, _, k1, k2, rfl, by have := s1.lt; have := d1.lt; have := b1.lt; omega⟩

theorem binder_open {A : NT} {o c ar : PKind} (h : (A, o, c, ar) ∈ binderProds) :
    (o = .leftParen ∧ c = .rightParen) ∨ (o = .leftCurly ∧ c = .rightCurly) := by
  prods at h
  rcases h with ⟨_, rfl, rfl, _⟩ | ⟨_, rfl, rfl, _⟩ | ⟨_, rfl, rfl, _⟩ | ⟨_, rfl, rfl, _⟩ <;> simp

theorem isDef_cases {k : PKind} (h : isDef k = true) : k = .equals ∨ k = .colon := by
  cases k <;> first | exact Or.inl rfl | exact Or.inr rfl | cases h

/-! A segment that starts with an identifier and is followed by a token that does not extend it is
that identifier: descend the tower. -/

section Ident
variable {a : Nat} {x : Name} {k : PKind}

theorem small_ident_next (k1 : KAt toks a (.identifier x)) (k2 : KAt toks (a + 1) k)
    (hk : isF k = false) {m : Nat} {t : Src} (h : SegT toks .smallTerm a m t) : m = a + 1 := by
  have atom_one : ∀ {e f}, SegT toks .atom a e f → e = a + 1 := by
    intro e f g
    rcases inv_atom g with ⟨_, _, _, rfl, _⟩ | ⟨_, _, p1, _⟩
    · rfl
    · exact nomatch KAt.unique k1 p1
  rcases inv_small h with g | ⟨e, f, y, g, s, _⟩
  · exact atom_one g
  · cases atom_one g
    obtain ⟨k', k3, hk'⟩ := first_small s
    cases KAt.unique k2 k3; rw [hk] at hk'; cases hk'

theorem binlevel_ident_next {X Y R : NT} {ops : PKind → Bool} (hinv : BinInv toks X Y R ops)
    (k2 : KAt toks (a + 1) k) (hk : ops k = false)
    (hY : ∀ {m t}, SegT toks Y a m t → m = a + 1) {m : Nat} {t : Src} (h : SegT toks X a m t) :
    m = a + 1 := by
  rcases hinv h with g | ⟨e, op, _, _, o, g, k3, _⟩
  · exact hY g
  · cases hY g; cases KAt.unique k3 k2; rw [hk] at o; cases o

theorem giant_ident_next (k1 : KAt toks a (.identifier x)) (k2 : KAt toks (a + 1) k)
    (hk : extGiant k = false) {m : Nat} {t : Src} (h : SegT toks .giantTerm a m t) : m = a + 1 := by
  simp only [extGiant, extHuge, extLarge, Bool.or_eq_false_iff] at hk
  obtain ⟨⟨⟨hF, hM⟩, hA⟩, hC⟩ := hk
  refine binlevel_ident_next inv_giant k2 hC (binlevel_ident_next inv_huge k2 hA fun g => ?_) h
  rcases inv_large g with g | ⟨_, k3, _⟩
  · exact binlevel_ident_next inv_medium k2 hM (small_ident_next k1 k2 hF) g
  · exact nomatch KAt.unique k1 k3

theorem jumbo_ident_next (k1 : KAt toks a (.identifier x)) (k2 : KAt toks (a + 1) k)
    (hk : isDef k = true) {e : Nat} {t : Src} (h : SegT toks .jumboTerm a e t) : e = a + 1 := by
  have hk1 : extGiant k = false := by rcases isDef_cases hk with rfl | rfl <;> rfl
  have hk2 : isF k = false := by rcases isDef_cases hk with rfl | rfl <;> rfl
  rcases inv_jumbo h with g | o
  · exact giant_ident_next k1 k2 hk1 g
  · rcases o with ⟨x', body', j1, j2, _⟩ | ⟨x', body', j1, _⟩ |
      ⟨A', o', c', ar', x', m', dom', body', hm', j1, _⟩ |
      ⟨m', dom', cod', s2, j1, hc2, rfl⟩ | ⟨m', c', x', y', z', j1, _⟩
    · cases KAt.unique k2 j2; simp [isDef] at hk
    · exact nomatch KAt.unique k1 j1
    · rcases binder_open hm' with ⟨rfl, _⟩ | ⟨rfl, _⟩ <;> exact nomatch KAt.unique k1 j1
    · cases small_ident_next k1 k2 hk2 s2
      cases KAt.unique k2 j1; simp [isDef] at hk
    · exact nomatch KAt.unique k1 j1

end Ident

/-- The tower nonterminal whose alternative a production nonterminal is. -/
def towerOf : NT → NT
  | .let_ => .term
  | .lambda | .lambdaImplicit | .annotatedLambda | .annotatedLambdaImplicit | .pi | .piImplicit
  | .nonDependentPi | .if_ => .jumboTerm
  | .lessThan | .lessThanOrEqualTo | .equalTo | .greaterThan | .greaterThanOrEqualTo => .giantTerm
  | .sum | .difference => .hugeTerm
  | .negation => .largeTerm
  | .product | .quotient => .mediumTerm
  | .application => .smallTerm
  | .type | .variable | .integer | .integerLiteral | .boolean | .true_ | .false_ | .group => .atom
  | A => A

theorem towerOf_spec (A : NT) : A ∈ tower ∨ ((towerOf A, A) ∈ unitProds ∧ towerOf A ∈ tower) := by
  cases A <;> decide +kernel

end Unamb

open Unamb

theorem ce_variant (t : Src) (r : SourceRange) (g : Bool) (h : collectErrors t = []) :
    collectErrors (.mk r g t.variant []) = [] := by
  obtain ⟨_, _, v, es⟩ := t
  cases v <;> simp_all [collectErrors, Src.variant]

theorem ce_segT {toks : Array PTok} {A : NT} {a b : Nat} {t : Src} (h : SegT toks A a b t) :
    collectErrors t = [] := by
  induction h with
  | unit _ _ ih => exact ih
  | leaf hm _ =>
    simp only [leafProds, List.mem_cons, Prod.mk.injEq, List.mem_nil_iff, or_false] at hm
    rcases hm with ⟨rfl, _⟩ | ⟨rfl, _⟩ | ⟨rfl, _⟩ | ⟨rfl, _⟩ | ⟨rfl, _⟩ <;>
      simp [collectErrors, leafV]
  | binder hm _ _ _ _ _ _ _ ih1 ih2 =>
    simp only [binderProds, List.mem_cons, Prod.mk.injEq, List.mem_nil_iff, or_false] at hm
    rcases hm with ⟨rfl, _⟩ | ⟨rfl, _⟩ | ⟨rfl, _⟩ | ⟨rfl, _⟩ <;>
      simp [collectErrors, collectErrorsOpt, binderV, ih1, ih2]
  | group _ _ _ ih => exact ce_variant _ _ _ ih
  | var _ => simp [collectErrors]
  | lit _ => simp [collectErrors]
  | lambda _ _ _ ih => simp [collectErrors, collectErrorsOpt, ih]
  | lambdaImplicit _ _ _ _ _ ih => simp [collectErrors, collectErrorsOpt, ih]
  | nonDependentPi _ _ _ ih1 ih2 => simp [collectErrors, ih1, ih2]
  | application _ _ ih1 ih2 => simp [collectErrors, ih1, ih2]
  | letPlain _ _ _ _ _ ih1 ih2 => simp [collectErrors, collectErrorsOpt, ih1, ih2]
  | letAnn _ _ _ _ _ _ _ ih1 ih2 ih3 => simp [collectErrors, collectErrorsOpt, ih1, ih2, ih3]
  | negation _ _ ih => simp [collectErrors, ih]
  | bin _ _ _ _ ih1 ih2 => simp [collectErrors, ih1, ih2]
  | ite _ _ _ _ _ _ ih1 ih2 ih3 => simp [collectErrors, ih1, ih2, ih3]

section Transport
variable {toks toks' : Array PTok} {d : Nat}

theorem KAt.transport {i : Nat} {k : PKind} (h : KAt toks i k) (e : toks'[d + i]? = toks[i]?) :
    KAt toks' (d + i) k := by
  obtain ⟨hlt, hk⟩ := h
  rw [Array.getElem?_eq_getElem hlt] at e
  obtain ⟨h', e'⟩ := Array.getElem?_eq_some_iff.mp e
  exact ⟨h', by rw [e']; exact hk⟩

theorem tokenRange_transport {i : Nat} (hlt : i < toks.size) (e : toks'[d + i]? = toks[i]?) :
    tokenRange toks' (d + i) = tokenRange toks i := by
  rw [Array.getElem?_eq_getElem hlt] at e
  obtain ⟨h', e'⟩ := Array.getElem?_eq_some_iff.mp e
  rw [tokenRange_lt h', tokenRange_lt hlt, e']

theorem rng_transport {a b : Nat} (h1 : a < b) (h2 : b ≤ toks.size)
    (e : ∀ i, i < b → toks'[d + i]? = toks[i]?) :
    rng toks' (d + a) (d + b) = rng toks a b := by
  simp only [rng]
  rw [tokenRange_transport (by omega) (e a h1),
    show d + b - 1 = d + (b - 1) by omega,
    tokenRange_transport (by omega) (e (b - 1) (by omega))]

/-- A derivation does not look at the tokens from its end on. -/
theorem SegT.transport {A : NT} {a b : Nat} {t : Src} (h : SegT toks A a b t) :
    (∀ i, i < b → toks'[d + i]? = toks[i]?) → SegT toks' A (d + a) (d + b) t := by
  induction h with
  | unit hm _ ih => exact fun e => .unit hm (ih e)
  | leaf hm hk =>
    intro e
    have H := SegT.leaf (toks := toks) hm hk
    rw [← rng_transport (H.lt) (H.le_size) e]
    exact .leaf hm (hk.transport (e _ (by omega)))
  | var hk =>
    intro e
    have H := SegT.var (toks := toks) hk
    rw [← rng_transport (H.lt) (H.le_size) e]
    exact .var (hk.transport (e _ (by omega)))
  | lit hk =>
    intro e
    have H := SegT.lit (toks := toks) hk
    rw [← rng_transport (H.lt) (H.le_size) e]
    exact .lit (hk.transport (e _ (by omega)))
  | @lambda x a b body h1 h2 hb ih =>
    intro e
    have H := SegT.lambda h1 h2 hb
    have l := hb.lt; have u := H.le_size
    rw [← rng_transport (H.lt) u e, ← tokenRange_transport (show a < toks.size by omega)
      (e a (by omega))]
    exact .lambda (h1.transport (e _ (by omega))) (h2.transport (e _ (by omega)))
      (ih e)
  | @lambdaImplicit x a b body h1 h2 h3 h4 hb ih =>
    intro e
    have H := SegT.lambdaImplicit h1 h2 h3 h4 hb
    have l := hb.lt; have u := H.le_size
    rw [← rng_transport (H.lt) u e, ← tokenRange_transport (show a + 1 < toks.size by omega)
      (e (a + 1) (by omega))]
    exact .lambdaImplicit (h1.transport (e _ (by omega)))
      (h2.transport (e _ (by omega))) (h3.transport (e _ (by omega)))
      (h4.transport (e _ (by omega))) (ih e)
  | @binder A o c ar x a b d' dom body hm h1 h2 h3 hd h4 h5 hb ihd ihb =>
    intro e
    have H := SegT.binder hm h1 h2 h3 hd h4 h5 hb
    have ld := hd.lt; have lb := hb.lt; have u := H.le_size
    rw [← rng_transport (H.lt) u e, ← tokenRange_transport (show a + 1 < toks.size by omega)
      (e (a + 1) (by omega))]
    exact .binder hm (h1.transport (e _ (by omega)))
      (h2.transport (e _ (by omega))) (h3.transport (e _ (by omega)))
      (ihd fun i hi => e i (by omega)) (h4.transport (e _ (by omega)))
      (h5.transport (e _ (by omega))) (ihb e)
  | @nonDependentPi a b c dom cod hd hk hc ihd ihc =>
    intro e
    have H := SegT.nonDependentPi hd hk hc
    have ld := hd.lt; have lc := hc.lt; have u := H.le_size
    have er : emptyRange toks' (d + a) = emptyRange toks a := by
      simp only [emptyRange, tokenRange_transport (show a < toks.size by omega)
        (e a (by omega))]
    rw [← rng_transport (H.lt) u e, ← er]
    exact .nonDependentPi (ihd fun i hi => e i (by omega))
      (hk.transport (e _ (by omega))) (ihc e)
  | @application a b c f x hf hx ihf ihx =>
    intro e
    have H := SegT.application hf hx
    have l1 := hf.lt; have l2 := hx.lt
    rw [← rng_transport (H.lt) (H.le_size) e]
    exact .application (ihf fun i hi => e i (by omega)) (ihx e)
  | @letPlain x t a b c defn body h1 h2 hd h3 hb ihd ihb =>
    intro e
    have H := SegT.letPlain h1 h2 hd h3 hb
    have ld := hd.lt; have lb := hb.lt; have u := H.le_size
    rw [← rng_transport (H.lt) u e, ← tokenRange_transport (show a < toks.size by omega)
      (e a (by omega))]
    exact .letPlain (h1.transport (e _ (by omega))) (h2.transport (e _ (by omega)))
      (ihd fun i hi => e i (by omega)) (h3.transport (e _ (by omega)))
      (ihb e)
  | @letAnn x t a b c d' ann defn body h1 h2 ha h3 hd h4 hb iha ihd ihb =>
    intro e
    have H := SegT.letAnn h1 h2 ha h3 hd h4 hb
    have la := ha.lt; have ld := hd.lt; have lb := hb.lt; have u := H.le_size
    rw [← rng_transport (H.lt) u e, ← tokenRange_transport (show a < toks.size by omega)
      (e a (by omega))]
    exact .letAnn (h1.transport (e _ (by omega))) (h2.transport (e _ (by omega)))
      (iha fun i hi => e i (by omega)) (h3.transport (e _ (by omega)))
      (ihd fun i hi => e i (by omega)) (h4.transport (e _ (by omega)))
      (ihb e)
  | @negation a b x h1 hx ih =>
    intro e
    have H := SegT.negation h1 hx
    have l := hx.lt
    rw [← rng_transport (H.lt) (H.le_size) e]
    exact .negation (h1.transport (e _ (by omega))) (ih e)
  | @bin A L op R a b c x y hm hx hk hy ihx ihy =>
    intro e
    have H := SegT.bin hm hx hk hy
    have l1 := hx.lt; have l2 := hy.lt
    rw [← rng_transport (H.lt) (H.le_size) e]
    exact .bin hm (ihx fun i hi => e i (by omega)) (hk.transport (e _ (by omega)))
      (ihy e)
  | @ite a b c d' x y z h1 hx h2 hy h3 hz ihx ihy ihz =>
    intro e
    have H := SegT.ite h1 hx h2 hy h3 hz
    have l1 := hx.lt; have l2 := hy.lt; have l3 := hz.lt
    rw [← rng_transport (H.lt) (H.le_size) e]
    exact .ite (h1.transport (e _ (by omega))) (ihx fun i hi => e i (by omega))
      (h2.transport (e _ (by omega))) (ihy fun i hi => e i (by omega))
      (h3.transport (e _ (by omega))) (ihz e)
  | @group a b inner h1 hi h2 ih =>
    intro e
    have H := SegT.group h1 hi h2
    have l := hi.lt
    rw [← rng_transport (H.lt) (H.le_size) e]
    exact .group (h1.transport (e _ (by omega))) (ih fun i hi => e i (by omega))
      (h2.transport (e _ (by omega)))

end Transport

theorem segT_facts {toks : Array PTok} {A : NT} {a b : Nat} {t : Src} (h : SegT toks A a b t) :
    t.errors = [] ∧ t.isParseError = false := by
  have hc := ce_segT h
  have hk := h.spanned.kids
  obtain ⟨_, _, v, es⟩ := t
  unfold collectErrors at hc
  refine ⟨(List.append_eq_nil_iff.1 hc).2, ?_⟩
  cases v with
  | parseError => unfold Kids at hk; exact hk.elim
  | _ => rfl

end PModel
