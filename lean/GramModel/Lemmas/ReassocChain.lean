import GramModel.Parser

/-! The two chain arms of `reassoc` (`Application`; `Product`/`Quotient`, `Sum`/`Difference`) are one
step up to the `Link` that rebuilds the node.  `chainStep` is that step, so that a fact about the
re-association of chains is proved once for both.  The arms of `reassoc` have their lemmas here:
`reassoc_app`, `reassoc_bin` for the two chain arms; `reassoc_lam_some` … `reassoc_ite_some` and `rebuildStep_some`
(an application or operator node outside the family) say when the six arms that rebuild the node from its
re-associated children succeed and with what (a walk that compares two runs arm by
arm, as `reassoc_rename`, `opaque_of`, still rewrites with `reassoc` itself). -/

namespace PModel

def chainArm (fam : Family) (l : Link) (range : SourceRange) (group : Bool) (a b : Src)
    (acc : Option (Src × Link)) : Option Src :=
  if b.group then
    match acc with
    | some (ac, l') =>
      match reassoc fam (some (ac, l')) a, reassoc fam none b with
      | some a', some b' => some (.mk (span ac.range b.range) true (l.build a' b') [])
      | _, _ => none
    | none =>
      match reassoc fam none a, reassoc fam none b with
      | some a', some b' => some (.mk range group (l.build a' b') [])
      | _, _ => none
  else
    match reassoc fam none a with
    | some a' =>
      let acc' := match acc with
        | some (ac, l') => Src.mk (span ac.range a.range) true (l'.build ac a') []
        | none => a'
      reassoc fam (some (acc', l)) b
    | none => none

/-- The chain arm behind its guard arm (`acc.is_some() && term.group`: re-associate the node on its
own, then the common tail). -/
def chainStep (fam : Family) (l : Link) (range : SourceRange) (group : Bool) (a b : Src)
    (acc : Option (Src × Link)) : Option Src :=
  if acc.isSome && group then
    match chainArm fam l range group a b none with
    | some reduced => some (reassocTail acc reduced)
    | none => none
  else chainArm fam l range group a b acc

/-- A node that the pass does not re-associate: rebuilt from its re-associated children. -/
def rebuildStep (fam : Family) (l : Link) (range : SourceRange) (group : Bool) (a b : Src)
    (acc : Option (Src × Link)) : Option Src :=
  match reassoc fam none a, reassoc fam none b with
  | some a', some b' => some (reassocTail acc (.mk range group (l.build a' b') []))
  | _, _ => none

theorem reassoc_app (fam : Family) (acc : Option (Src × Link)) (range : SourceRange) (group : Bool)
    (f a : Src) (es : List PErr) :
    reassoc fam acc (.mk range group (.app f a) es) =
      if fam = .applications then chainStep fam .app range group f a acc
      else rebuildStep fam .app range group f a acc := by
  rw [reassoc]; rfl

theorem reassoc_bin (fam : Family) (acc : Option (Src × Link)) (range : SourceRange) (group : Bool)
    (o : BinOp) (a b : Src) (es : List PErr) :
    reassoc fam acc (.mk range group (.bin o a b) es) =
      if (fam = .productsAndQuotients ∧ (o = .prod ∨ o = .quot))
          ∨ (fam = .sumsAndDifferences ∧ (o = .sum ∨ o = .diff)) then
        chainStep fam (.op o) range group a b acc
      else rebuildStep fam (.op o) range group a b acc := by
  rw [reassoc]; rfl

/-! The five arms that rebuild the node from its re-associated children: when they succeed, and with what. -/

theorem reassoc_lam_some {fam : Family} {acc : Option (Src × Link)} {range : SourceRange} {group : Bool}
    {x : SrcVar} {imp : Bool} {dom : OptSrc} {body : Src} {es : List PErr} {t' : Src} :
    reassoc fam acc (.mk range group (.lam x imp dom body) es) = some t' ↔
      ∃ d' b', reassocOpt fam dom = some d' ∧ reassoc fam none body = some b' ∧
        t' = reassocTail acc (.mk range group (.lam x imp d' b') []) := by
  rw [reassoc]; cases reassocOpt fam dom <;> cases reassoc fam none body <;> simp [eq_comm]

theorem reassoc_pi_some {fam : Family} {acc : Option (Src × Link)} {range : SourceRange} {group : Bool}
    {x : SrcVar} {imp : Bool} {dom cod : Src} {es : List PErr} {t' : Src} :
    reassoc fam acc (.mk range group (.pi x imp dom cod) es) = some t' ↔
      ∃ d' c', reassoc fam none dom = some d' ∧ reassoc fam none cod = some c' ∧
        t' = reassocTail acc (.mk range group (.pi x imp d' c') []) := by
  rw [reassoc]; cases reassoc fam none dom <;> cases reassoc fam none cod <;> simp [eq_comm]

theorem reassoc_let_some {fam : Family} {acc : Option (Src × Link)} {range : SourceRange} {group : Bool}
    {x : SrcVar} {ann : OptSrc} {defn body : Src} {es : List PErr} {t' : Src} :
    reassoc fam acc (.mk range group (.let_ x ann defn body) es) = some t' ↔
      ∃ n' d' b', reassocOpt fam ann = some n' ∧ reassoc fam none defn = some d' ∧
        reassoc fam none body = some b' ∧ t' = reassocTail acc (.mk range group (.let_ x n' d' b') []) := by
  rw [reassoc]
  cases reassocOpt fam ann <;> cases reassoc fam none defn <;> cases reassoc fam none body <;> simp [eq_comm]

theorem reassoc_neg_some {fam : Family} {acc : Option (Src × Link)} {range : SourceRange} {group : Bool}
    {a : Src} {es : List PErr} {t' : Src} :
    reassoc fam acc (.mk range group (.neg a) es) = some t' ↔
      ∃ a', reassoc fam none a = some a' ∧ t' = reassocTail acc (.mk range group (.neg a') []) := by
  rw [reassoc]; cases reassoc fam none a <;> simp [eq_comm]

theorem reassoc_ite_some {fam : Family} {acc : Option (Src × Link)} {range : SourceRange} {group : Bool}
    {c a b : Src} {es : List PErr} {t' : Src} :
    reassoc fam acc (.mk range group (.ite c a b) es) = some t' ↔
      ∃ c' a' b', reassoc fam none c = some c' ∧ reassoc fam none a = some a' ∧
        reassoc fam none b = some b' ∧ t' = reassocTail acc (.mk range group (.ite c' a' b') []) := by
  rw [reassoc]
  cases reassoc fam none c <;> cases reassoc fam none a <;> cases reassoc fam none b <;> simp [eq_comm]

theorem chainStep_grouped (fam : Family) (l : Link) (r : SourceRange) (a b : Src)
    (acc : Option (Src × Link)) :
    chainStep fam l r true a b acc = (chainStep fam l r true a b none).map (reassocTail acc) := by
  cases acc with
  | none => cases chainStep fam l r true a b none <;> rfl
  | some p =>
    unfold chainStep
    simp only [Option.isSome, Bool.and_self, if_true, Bool.false_and, Bool.false_eq_true, if_false]
    cases chainArm fam l r true a b none <;> rfl

theorem rebuildStep_some {fam : Family} {l : Link} {range : SourceRange} {group : Bool} {a b : Src}
    {acc : Option (Src × Link)} {t' : Src} :
    rebuildStep fam l range group a b acc = some t' ↔
      ∃ a' b', reassoc fam none a = some a' ∧ reassoc fam none b = some b' ∧
        t' = reassocTail acc (.mk range group (l.build a' b') []) := by
  unfold rebuildStep; cases reassoc fam none a <;> cases reassoc fam none b <;> simp [eq_comm]

theorem rebuildStep_tail (fam : Family) (l : Link) (r : SourceRange) (g : Bool) (a b : Src)
    (acc : Option (Src × Link)) :
    rebuildStep fam l r g a b acc = (rebuildStep fam l r g a b none).map (reassocTail acc) := by
  unfold rebuildStep
  cases reassoc fam none a <;> cases reassoc fam none b <;> rfl

end PModel
