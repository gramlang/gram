import GramModel.Lemmas.FinishParse

/-! Basic lemmas about the parser model `PModel`: `Family.owns`, the guard of the chain arm of
`reassoc`; `parseLetRest` and `parseLet_eq`, the local function of `parseLet` as a definition of its own,
through which the walks `Calls`, `Ok`, `Tri`, `CostLe` treat `parseLet`; ordered choice (`choiceOf`, `altsOf`: the
eight choice functions are `choiceOf` of their alternatives), the shape of the 36 bodies (`Calls`: every body is
pure code around at most 9 calls of its recursive-call argument) and the memo table (`Grows`: no key is ever
removed; `parseNT_ind`; `NT.idx_inj`: the keys of distinct nonterminals differ).

The predicates on `ParseM` computations of the area, each with rules for `pure`, `>>=`, the `consume…`/`try…`
combinators and `cacheCheck`: `Calls` (the shape of a body; here), `Grows` (here), `Cnt` (`ParserCalls`), `Ok F`
(total correctness; `ParserTermination`), `Tri C` (partial correctness w.r.t. a state invariant; `ParserGood`) with
its instances written out `Pres`, `GPres I` (`ParserGood`), `SPres` (`ParserSound`), `TPres` (`ParserSpan`), `RPres`
(relational; `ParserPure`), `CostLe` (`CostBounds`), and `Ret`/`Fails` (`ParserRet`). -/

namespace PModel

/-- The binary operators a re-association pass treats as chain links (the guard of the chain arm
of `reassoc`). -/
def Family.owns (fam : Family) (o : BinOp) : Prop :=
  (fam = .productsAndQuotients ∧ (o = .prod ∨ o = .quot))
    ∨ (fam = .sumsAndDifferences ∧ (o = .sum ∨ o = .diff))

theorem ParseM_bind_eq {α β : Type} (m : ParseM α) (f : α → ParseM β) (st : PState) :
    (m >>= f) st = (match m st with | none => none | some (a, s1) => f a s1) := by
  show (StateT.bind m f) st = _
  unfold StateT.bind
  cases m st with
  | none => rfl
  | some p => rfl

/-- The local function `rest` of `parseLet`, as a top-level definition. -/
def parseLetRest (toks : Array PTok) (rec : NT → Nat → ParseM PResult) (variableRange : SourceRange)
    (x : Name) (annotation : OptSrc) (next : Nat) (errors : List PErr) (equalsFound : Bool) :
    ParseM PResult := do
  let ⟨definition, next, definitionConfident⟩ ←
    if equalsFound then rec .term next
    else pure ⟨skippedTerm toks next, next, false⟩
  let (errs2, terminatorFound, next) :=
    expectToken toks next PKind.isTerminator definitionConfident
  let errors := errors ++ errs2
  let ⟨body, next, bodyConfident⟩ ←
    if terminatorFound then rec .term next
    else pure ⟨skippedTerm toks next, next, false⟩
  pure ⟨.mk (span variableRange body.range) false
          (.let_ ⟨variableRange, x⟩ annotation definition body) errors, next, bodyConfident⟩

/-- `parseLet` calls `rest` on three paths; the walks over the bodies treat `parseLetRest` once and `parseLet`
through this equation. -/
theorem parseLet_eq (toks : Array PTok) (rec : NT → Nat → ParseM PResult) (start : Nat) :
    parseLet toks rec start =
      consumeIdent toks start fun x next =>
        if h : next < toks.size then
          if toks[next].kind = .colon then
            consume0 toks next .colon fun next =>
            tryEval (rec .smallTerm next) fun annotation next annotationConfident =>
            parseLetRest toks rec (tokenRange toks start) x (.some annotation)
              (expectToken toks next (· = .equals) annotationConfident).2.2
              (expectToken toks next (· = .equals) annotationConfident).1
              (expectToken toks next (· = .equals) annotationConfident).2.1
          else
            consume0 toks next .equals fun next =>
              parseLetRest toks rec (tokenRange toks start) x .none next [] true
        else
          consume0 toks next .equals fun next =>
            parseLetRest toks rec (tokenRange toks start) x .none next [] true := rfl

section
variable (toks : Array PTok) (rec : NT → Nat → ParseM PResult)

def choiceOf (alts : List NT) (start : Nat) : ParseM PResult :=
  alts.foldr (fun nt k => tryReturn (rec nt start) k) (noParse toks start)
end

/-- the alternatives of the choice functions, in the order they are tried -/
def altsOf : NT → List NT
  | .term => [.let_, .jumboTerm]
  | .atom => [.type, .variable, .integer, .integerLiteral, .boolean, .true_, .false_, .group]
  | .smallTerm => [.application, .atom]
  | .mediumTerm => [.product, .quotient, .smallTerm]
  | .largeTerm => [.negation, .mediumTerm]
  | .hugeTerm => [.sum, .difference, .largeTerm]
  | .giantTerm => [.lessThan, .lessThanOrEqualTo, .equalTo, .greaterThan, .greaterThanOrEqualTo,
      .hugeTerm]
  | .jumboTerm => [.lambda, .lambdaImplicit, .annotatedLambda, .annotatedLambdaImplicit, .pi,
      .piImplicit, .nonDependentPi, .if_, .giantTerm]
  | _ => []

theorem parseBody_choice (toks : Array PTok) (rec : NT → Nat → ParseM PResult) {A : NT} (s : Nat)
    (h : altsOf A ≠ []) : parseBody toks rec A s = choiceOf toks rec (altsOf A) s := by
  cases A <;> first | rfl | exact absurd rfl h

/-- `Calls rec rec' n m m'`: `m` is pure code around at most `n` successive calls `rec nt pos` — it
reaches the state through them only — and `m'` is the same code around the calls `rec' nt pos`. -/
inductive Calls (rec rec' : NT → Nat → ParseM PResult) :
    Nat → ParseM PResult → ParseM PResult → Prop
  | pure (n : Nat) (r : PResult) : Calls rec rec' n (pure r) (pure r)
  | call {n : Nat} (nt : NT) (pos : Nat) {k k' : PResult → ParseM PResult} :
      (∀ r, Calls rec rec' n (k r) (k' r)) →
      Calls rec rec' (n + 1) (rec nt pos >>= k) (rec' nt pos >>= k')

/-! The three token combinators, as functions of the continuation: at a token of the kind asked for they are the continuation
one position on, otherwise they return `failAt`.  The rule of every predicate on computations for them is an instance. -/

theorem consume0_elim {toks : Array PTok} {next : Nat} {kind : PKind}
    {P : ((Nat → ParseM PResult) → ParseM PResult) → Prop}
    (hit : ∀ h : next < toks.size, toks[next].kind = kind → P fun k => k (next + 1))
    (miss : P fun _ => pure (failAt toks next)) : P (consume0 toks next kind) := by
  unfold PModel.consume0
  split
  · split
    · exact hit ‹_› ‹_›
    · exact miss
  · exact miss

theorem consumeIdent_elim {toks : Array PTok} {next : Nat}
    {P : ((Name → Nat → ParseM PResult) → ParseM PResult) → Prop}
    (hit : ∀ (h : next < toks.size) x, toks[next].kind = .identifier x → P fun k => k x (next + 1))
    (miss : P fun _ => pure (failAt toks next)) : P (consumeIdent toks next) := by
  unfold PModel.consumeIdent
  split
  · split
    · exact hit ‹_› _ ‹_›
    · exact miss
  · exact miss

theorem consumeLiteral_elim {toks : Array PTok} {next : Nat}
    {P : ((Nat → Nat → ParseM PResult) → ParseM PResult) → Prop}
    (hit : ∀ (h : next < toks.size) x, toks[next].kind = .integerLiteral x → P fun k => k x (next + 1))
    (miss : P fun _ => pure (failAt toks next)) : P (consumeLiteral toks next) := by
  unfold PModel.consumeLiteral
  split
  · split
    · exact hit ‹_› _ ‹_›
    · exact miss
  · exact miss

section Calls
variable {toks : Array PTok} {rec rec' : NT → Nat → ParseM PResult} {n : Nat}

theorem Calls.mono {m m' : ParseM PResult} {n n' : Nat} (h : Calls rec rec' n m m')
    (hn : n ≤ n') : Calls rec rec' n' m m' := by
  induction h generalizing n' with
  | pure n r => exact .pure _ r
  | call nt pos _ ih =>
    obtain ⟨n', rfl⟩ : ∃ k, n' = k + 1 := ⟨n' - 1, by omega⟩
    exact .call nt pos fun r => ih r (by omega)

theorem Calls.consume0 {next : Nat} {kind : PKind} {k k' : Nat → ParseM PResult}
    (hk : ∀ i, Calls rec rec' n (k i) (k' i)) :
    Calls rec rec' n (consume0 toks next kind k) (consume0 toks next kind k') :=
  consume0_elim (P := fun c => Calls rec rec' n (c k) (c k')) (fun _ _ => hk _) (.pure _ _)

theorem Calls.consumeIdent {next : Nat} {k k' : Name → Nat → ParseM PResult}
    (hk : ∀ x i, Calls rec rec' n (k x i) (k' x i)) :
    Calls rec rec' n (consumeIdent toks next k) (consumeIdent toks next k') :=
  consumeIdent_elim (P := fun c => Calls rec rec' n (c k) (c k')) (fun _ _ _ => hk _ _) (.pure _ _)

theorem Calls.consumeLiteral {next : Nat} {k k' : Nat → Nat → ParseM PResult}
    (hk : ∀ x i, Calls rec rec' n (k x i) (k' x i)) :
    Calls rec rec' n (consumeLiteral toks next k) (consumeLiteral toks next k') :=
  consumeLiteral_elim (P := fun c => Calls rec rec' n (c k) (c k')) (fun _ _ _ => hk _ _) (.pure _ _)

theorem Calls.tryReturn {nt : NT} {pos : Nat} {k k' : ParseM PResult} (hk : Calls rec rec' n k k') :
    Calls rec rec' (n + 1) (tryReturn (rec nt pos) k) (tryReturn (rec' nt pos) k') :=
  .call nt pos fun r => by
    split
    · exact hk
    · exact .pure _ r

theorem Calls.tryEval {nt : NT} {pos : Nat} {k k' : Src → Nat → Bool → ParseM PResult}
    (hk : ∀ a b c, Calls rec rec' n (k a b c) (k' a b c)) :
    Calls rec rec' (n + 1) (tryEval (rec nt pos) k) (tryEval (rec' nt pos) k') :=
  .call nt pos fun r => by
    split
    · exact .pure _ r
    · exact hk _ _ _

theorem Calls.parseLeaf {kind : PKind} {v : SrcV} {start : Nat} :
    Calls rec rec' n (parseLeaf toks kind v start) (parseLeaf toks kind v start) :=
  .consume0 fun _ => .pure _ _

theorem Calls.parseBinder {o c a : PKind} {mk : SrcVar → Src → Src → SrcV} {start : Nat} :
    Calls rec rec' (n + 2) (parseBinder toks rec o c a mk start)
      (parseBinder toks rec' o c a mk start) :=
  .consume0 fun _ => .consumeIdent fun _ _ => .consume0 fun _ => .tryEval fun _ _ _ =>
    .consume0 fun _ => .consume0 fun _ => .call _ _ fun ⟨_, _, _⟩ => .pure _ _

theorem Calls.parseBinary {l r : NT} {t : PKind} {op : BinOp} {start : Nat} :
    Calls rec rec' (n + 2) (parseBinary toks rec l t r op start)
      (parseBinary toks rec' l t r op start) :=
  .tryEval fun _ _ _ => .consume0 fun _ => .call _ _ fun ⟨_, _, _⟩ => .pure _ _

/-- The join point `do`-notation makes of an optional sub-parse in `parseIf` and `parseLetRest`; `Ok.optTerm`,
`Tri.optTerm`, `CostLe.optTerm` are about the same shape. -/
theorem Calls.optTerm {next : Nat} {found : Bool} {r0 : PResult}
    {jp jp' : PResult → ParseM PResult} (hk : ∀ r, Calls rec rec' n (jp r) (jp' r)) :
    Calls rec rec' (n + 1)
      (if found = true then rec .term next >>= jp else (Pure.pure r0 : ParseM PResult) >>= jp)
      (if found = true then rec' .term next >>= jp' else (Pure.pure r0 : ParseM PResult) >>= jp') := by
  split
  · exact .call _ _ hk
  · rw [pure_bind, pure_bind]; exact (hk r0).mono (Nat.le_succ n)

theorem Calls.parseIf {start : Nat} :
    Calls rec rec' (n + 3) (parseIf toks rec start) (parseIf toks rec' start) := by
  unfold PModel.parseIf
  refine .consume0 fun _ => .call _ _ fun ⟨_, i, c⟩ => ?_
  dsimp only
  generalize expectToken toks i (· = .then_) c = e
  obtain ⟨_, _, _⟩ := e
  refine .optTerm fun ⟨_, i, c⟩ => ?_
  dsimp only
  generalize expectToken toks i (· = .else_) c = e
  obtain ⟨_, _, _⟩ := e
  exact .optTerm fun ⟨_, _, _⟩ => .pure _ _

theorem Calls.parseLetRest {vr : SourceRange} {x : Name} {ann : OptSrc} {next : Nat}
    {errors : List PErr} {ef : Bool} :
    Calls rec rec' (n + 2) (parseLetRest toks rec vr x ann next errors ef)
      (parseLetRest toks rec' vr x ann next errors ef) := by
  unfold PModel.parseLetRest
  refine .optTerm fun ⟨_, i, c⟩ => ?_
  dsimp only
  generalize expectToken toks i PKind.isTerminator c = e
  obtain ⟨_, _, _⟩ := e
  exact .optTerm fun ⟨_, _, _⟩ => .pure _ _

theorem Calls.parseLet {start : Nat} :
    Calls rec rec' (n + 3) (parseLet toks rec start) (parseLet toks rec' start) := by
  rw [parseLet_eq, parseLet_eq]
  refine .consumeIdent fun _ _ => ?_
  split
  · split
    · exact .consume0 fun _ => .tryEval fun _ _ _ => .parseLetRest
    · exact .consume0 fun _ => .mono .parseLetRest (Nat.le_succ _)
  · exact .consume0 fun _ => .mono .parseLetRest (Nat.le_succ _)

theorem Calls.parseGroup {start : Nat} :
    Calls rec rec' (n + 1) (parseGroup toks rec start) (parseGroup toks rec' start) := by
  unfold PModel.parseGroup
  refine .consume0 fun _ => .tryEval fun _ i c => ?_
  generalize expectToken toks i (· = .rightParen) c = e
  obtain ⟨_, _, _⟩ := e
  exact .pure _ _

theorem Calls.choiceOf {s : Nat} : ∀ alts : List NT,
    Calls rec rec' alts.length (choiceOf toks rec alts s) (choiceOf toks rec' alts s)
  | [] => .pure _ _
  | _ :: alts => .tryReturn (Calls.choiceOf alts)

/-- **Every body makes at most 9 calls of `rec`** (9 is attained by `parseJumboTerm`), does nothing
else to the state, and depends on `rec` through these calls only. -/
theorem Calls.parseBody (nt : NT) (start : Nat) :
    Calls rec rec' 9 (parseBody toks rec nt start) (parseBody toks rec' nt start) := by
  by_cases h : altsOf nt = []
  case neg =>
    rw [parseBody_choice toks rec start h, parseBody_choice toks rec' start h]
    exact (Calls.choiceOf _).mono (by cases nt <;> decide)
  cases nt <;> first | exact absurd h (by decide) | simp only [PModel.parseBody]
  -- `(n := k)` at a call of `rec`: the budget left for the calls after it (9 minus the calls so far)
  case type => exact .parseLeaf
  case «variable» => exact .consumeIdent fun _ _ => .pure _ _
  case lambda => exact .consumeIdent fun _ _ => .consume0 fun _ => .call (n := 8) _ _ fun ⟨_, _, _⟩ => .pure _ _
  case lambdaImplicit =>
    exact .consume0 fun _ => .consumeIdent fun _ _ => .consume0 fun _ => .consume0 fun _ =>
      .call (n := 8) _ _ fun ⟨_, _, _⟩ => .pure _ _
  case annotatedLambda => exact .parseBinder (n := 7)
  case annotatedLambdaImplicit => exact .parseBinder (n := 7)
  case pi => exact .parseBinder (n := 7)
  case piImplicit => exact .parseBinder (n := 7)
  case nonDependentPi => exact .tryEval (n := 8) fun _ _ _ => .consume0 fun _ => .call _ _ fun ⟨_, _, _⟩ => .pure _ _
  case application => exact .tryEval (n := 8) fun _ _ _ => .tryEval fun _ _ _ => .pure _ _
  case let_ => exact .parseLet (n := 6)
  case integer => exact .parseLeaf
  case integerLiteral => exact .consumeLiteral fun _ _ => .pure _ _
  case negation => exact .consume0 fun _ => .call (n := 8) _ _ fun ⟨_, _, _⟩ => .pure _ _
  case sum => exact .parseBinary (n := 7)
  case difference => exact .parseBinary (n := 7)
  case product => exact .parseBinary (n := 7)
  case quotient => exact .parseBinary (n := 7)
  case lessThan => exact .parseBinary (n := 7)
  case lessThanOrEqualTo => exact .parseBinary (n := 7)
  case equalTo => exact .parseBinary (n := 7)
  case greaterThan => exact .parseBinary (n := 7)
  case greaterThanOrEqualTo => exact .parseBinary (n := 7)
  case boolean => exact .parseLeaf
  case true_ => exact .parseLeaf
  case false_ => exact .parseLeaf
  case if_ => exact .parseIf (n := 6)
  case group => exact .parseGroup (n := 8)

end Calls

theorem cacheCheck_hit (nt : NT) (start : Nat) (body : ParseM PResult) (st : PState) (r : PResult)
    (h : st.cache[(nt.idx, start)]? = some r) :
    cacheCheck nt start body st = some (r, { st with hits := st.hits.modify nt.idx (· + 1) }) := by
  unfold cacheCheck; rw [h]

theorem cacheCheck_miss (nt : NT) (start : Nat) (body : ParseM PResult) (st : PState)
    (h : st.cache[(nt.idx, start)]? = none) :
    cacheCheck nt start body st =
      match body { st with misses := st.misses.modify nt.idx (· + 1) } with
      | none => none
      | some (r, st') => some (r, { st' with cache := st'.cache.insert (nt.idx, start) r }) := by
  unfold cacheCheck; rw [h]; rfl

theorem cacheCheck_elim {nt : NT} {start : Nat} {body : ParseM PResult} {st st' : PState}
    {r : PResult} (h : cacheCheck nt start body st = some (r, st')) :
    (st.cache[(nt.idx, start)]? = some r ∧ st' = { st with hits := st.hits.modify nt.idx (· + 1) }) ∨
    ∃ s1, st.cache[(nt.idx, start)]? = none ∧
      body { st with misses := st.misses.modify nt.idx (· + 1) } = some (r, s1) ∧
      st' = { s1 with cache := s1.cache.insert (nt.idx, start) r } := by
  unfold cacheCheck at h
  split at h
  · cases h; exact Or.inl ⟨‹_›, rfl⟩
  · split at h
    · cases h
    · cases h; exact Or.inr ⟨_, ‹_›, ‹_›, rfl⟩

theorem cache_insert_lookup {c : Std.HashMap (Nat × Nat) PResult} {k k' : Nat × Nat} {r r' : PResult}
    (h : (c.insert k r)[k']? = some r') : (k = k' ∧ r' = r) ∨ c[k']? = some r' := by
  simp only [Std.HashMap.getElem?_insert] at h
  split at h
  · rename_i heq
    exact Or.inl ⟨by simpa using heq, by cases h; rfl⟩
  · exact Or.inr h

def CacheLe (st st' : PState) : Prop := ∀ k, k ∈ st.cache → k ∈ st'.cache

theorem CacheLe.refl (st : PState) : CacheLe st st := fun _ h => h
theorem CacheLe.trans {a b c : PState} (h1 : CacheLe a b) (h2 : CacheLe b c) : CacheLe a c :=
  fun k h => h2 k (h1 k h)

def Grows {α : Type} (m : ParseM α) : Prop := ∀ st a st', m st = some (a, st') → CacheLe st st'

theorem Grows.pure {α : Type} (a : α) : Grows (pure a : ParseM α) := by
  intro st b st' h
  cases h
  exact CacheLe.refl _

theorem Grows.bind {α β : Type} {m : ParseM α} {f : α → ParseM β} (hm : Grows m)
    (hf : ∀ a, Grows (f a)) : Grows (m >>= f) := by
  intro st b st' h
  rw [ParseM_bind_eq] at h
  cases hm1 : m st with
  | none => simp [hm1] at h
  | some p =>
    obtain ⟨a, s1⟩ := p
    simp only [hm1] at h
    exact (hm st a s1 hm1).trans (hf a s1 b st' h)

theorem Grows.cacheCheck {nt : NT} {start : Nat} {body : ParseM PResult} (hb : Grows body) :
    Grows (cacheCheck nt start body) := by
  intro st r st' h
  rcases cacheCheck_elim h with ⟨_, rfl⟩ | ⟨s1, _, hb1, rfl⟩
  · exact CacheLe.refl _
  · exact fun k hk => Std.HashMap.mem_insert.mpr (Or.inr (hb _ _ _ hb1 k hk))

theorem Grows.elim {α : Type} {m : ParseM α} (h : Grows m) {st : PState} {a : α} {st' : PState}
    (e : m st = some (a, st')) : CacheLe st st' := h st a st' e

theorem Grows.fail {α : Type} : Grows (fun _ => none : ParseM α) := by
  intro st a st' h; simp at h

theorem Grows.ite {α : Type} {c : Prop} [Decidable c] {m1 m2 : ParseM α} (h1 : Grows m1)
    (h2 : Grows m2) : Grows (if c then m1 else m2) := by
  split <;> assumption

theorem Grows.consume0 {toks : Array PTok} {next : Nat} {kind : PKind} {k : Nat → ParseM PResult}
    (hk : ∀ n, Grows (k n)) : Grows (consume0 toks next kind k) :=
  consume0_elim (P := fun c' => Grows (c' k)) (fun _ _ => hk _) (Grows.pure _)

theorem Grows.consumeIdent {toks : Array PTok} {next : Nat} {k : Name → Nat → ParseM PResult}
    (hk : ∀ x n, Grows (k x n)) : Grows (consumeIdent toks next k) :=
  consumeIdent_elim (P := fun c' => Grows (c' k)) (fun _ _ _ => hk _ _) (Grows.pure _)

theorem Grows.consumeLiteral {toks : Array PTok} {next : Nat} {k : Nat → Nat → ParseM PResult}
    (hk : ∀ x n, Grows (k x n)) : Grows (consumeLiteral toks next k) :=
  consumeLiteral_elim (P := fun c' => Grows (c' k)) (fun _ _ _ => hk _ _) (Grows.pure _)

theorem Grows.tryReturn {p k : ParseM PResult} (hp : Grows p) (hk : Grows k) :
    Grows (tryReturn p k) := by
  unfold PModel.tryReturn
  exact Grows.bind hp (fun r => Grows.ite hk (Grows.pure _))

theorem Grows.tryEval {p : ParseM PResult} {k : Src → Nat → Bool → ParseM PResult} (hp : Grows p)
    (hk : ∀ a b c, Grows (k a b c)) : Grows (tryEval p k) := by
  unfold PModel.tryEval
  exact Grows.bind hp (fun r => Grows.ite (Grows.pure _) (hk _ _ _))

-- irreducible from here on, so that applying a rule never unfolds it
attribute [irreducible] Grows

-- `grows_tac h` closes `Grows m` for `m` built from the combinators, given `h : ∀ nt pos, Grows (rec nt pos)`.
macro "grows_tac" h:term : tactic => `(tactic|
  repeat (first
    | exact $h _ _
    | apply Grows.pure
    | apply Grows.consume0
    | apply Grows.consumeIdent
    | apply Grows.consumeLiteral
    | apply Grows.tryReturn
    | apply Grows.tryEval
    | apply Grows.bind
    | split
    | intro _))

section
variable {toks : Array PTok} {rec : NT → Nat → ParseM PResult} (hrec : ∀ nt pos, Grows (rec nt pos))
include hrec

theorem Calls.grows {rec' : NT → Nat → ParseM PResult} {n : Nat} {m m' : ParseM PResult}
    (h : Calls rec rec' n m m') : Grows m := by
  induction h with
  | pure n r => exact Grows.pure r
  | call nt pos _ ih => exact Grows.bind (hrec nt pos) ih

theorem Grows.parseBody (nt : NT) (start : Nat) : Grows (parseBody toks rec nt start) :=
  (Calls.parseBody (rec' := rec) nt start).grows hrec
end

/-- `parseNT` is `cacheCheck ∘ parseBody` iterated: what holds of the failing computation and passes
from `rec` to `cacheCheck nt s (parseBody toks rec nt s)` holds of `parseNT` at every fuel. -/
theorem parseNT_ind (toks : Array PTok) {P : NT → Nat → ParseM PResult → Prop}
    (fail : ∀ nt s, P nt s (fun _ => none))
    (step : ∀ rec, (∀ nt s, P nt s (rec nt s)) →
      ∀ nt s, P nt s (cacheCheck nt s (parseBody toks rec nt s))) :
    ∀ fuel nt s, P nt s (parseNT toks fuel nt s)
  | 0, nt, s => fail nt s
  | fuel + 1, nt, s => step _ (parseNT_ind toks fail step fuel) nt s

theorem Grows.parseNT (toks : Array PTok) : ∀ (fuel : Nat) (nt : NT) (start : Nat),
    Grows (parseNT toks fuel nt start) :=
  parseNT_ind toks (fun _ _ => Grows.fail) fun _ h nt s => Grows.cacheCheck (Grows.parseBody h nt s)

/-! The keys of the memo table: `Nonterminal as usize` numbers the variants in declaration order. -/

theorem NT.idx_eq_ctorIdx (a : NT) : a.idx = a.ctorIdx := by cases a <;> rfl

theorem NT.idx_inj {a b : NT} (h : a.idx = b.idx) : a = b := by
  rw [← NT.ofNat_ctorIdx a, ← NT.ofNat_ctorIdx b, ← NT.idx_eq_ctorIdx, ← NT.idx_eq_ctorIdx, h]

theorem NT.idx_lt (nt : NT) : nt.idx < 36 := by cases nt <;> decide

end PModel
