import GramModel.Oracle
import GramModel.Lemmas.Relab
import GramModel.Lemmas.Oracle

/-!
# The erasure `er` on which confluence is proved (C05)

The files `CC…` (`CCSubst`, `CCPar`, `CCJoin`, `CCGroup`, `CCUnify`) are the confluence chain behind "the checker is
complete for conversion".  Conversion (`Conv`, `sameX`) does not look at names, at the annotation of a `λ` or of a
definition; `er` forgets them, so that parallel reduction can be an inductive relation up to syntactic equality.  A
hole becomes `type`: `Par` has no rule for holes and every erased term has to be hole-free; any closed hole-free
constant would do (`sameX ⊆ ker er` needs only that all holes go to one term).  `erD` erases a definitions context.
`er` is the relabelling `Relab.er` (declared into the root namespace `Relab` of `Lemmas/Relab.lean`).
-/

namespace CCSubst

open OracleLemmas (eraseX_eq_relab eraseDefsX_eq_relab)

mutual
def er : Tm → Tm
  | .lam _ im _ b => .lam 0 im .type (er b)
  | .pi _ im d b => .pi 0 im (er d) (er b)
  | .app f a => .app (er f) (er a)
  | .letg ds b => .letg (erDefs ds) (er b)
  | .neg a => .neg (er a)
  | .bin op a b => .bin op (er a) (er b)
  | .ite c t e => .ite (er c) (er t) (er e)
  | .var _ i => .var 0 i
  | .hole _ _ => .type
  | .type => .type
  | .int => .int
  | .bool => .bool
  | .tt => .tt
  | .ff => .ff
  | .lit n => .lit n
def erDefs : Defs → Defs
  | .nil => .nil
  | .cons _ _ d r => .cons 0 .type (er d) (erDefs r)
end

def erD (Δ : DCtxX) : DCtxX := Δ.map (Option.map (fun p => (er p.1, p.2)))

def _root_.Relab.er : Relab := { nm := fun _ => 0, hole := none, ann := false }

theorem er_eq_relab_both : (∀ t : Tm, er t = t.relab .er) ∧ ∀ ds : Defs, erDefs ds = ds.relab .er := by
  apply Tm.rec_both <;> intros <;> simp only [er, erDefs, Tm.relab, Defs.relab, *] <;> rfl

theorem er_eq_relab (t : Tm) : er t = t.relab .er := er_eq_relab_both.1 t
theorem erDefs_eq_relab (ds : Defs) : erDefs ds = ds.relab .er := er_eq_relab_both.2 ds

theorem erDefs_len (ds : Defs) : (erDefs ds).len = ds.len := by
  rw [erDefs_eq_relab]; exact Defs.len_relab _ ds

theorem er_holeFree (t : Tm) : (er t).holeFree = true := by
  rw [er_eq_relab]; exact t.holeFree_relab rfl

theorem erDefs_holeFree (ds : Defs) : (erDefs ds).holeFree = true := by
  rw [erDefs_eq_relab]; exact ds.holeFree_relab rfl

theorem er_ushift (t : Tm) (c a : Nat) : er (ushift c a t) = ushift c a (er t) := by
  simp only [er_eq_relab]; exact t.relab_ushift _ c a

theorem erDefs_ushiftDefs : ∀ (ds : Defs) (c a : Nat), erDefs (ushiftDefs c a ds) = ushiftDefs c a (erDefs ds) :=
  fun ds c a => by simp only [erDefs_eq_relab]; exact ds.relab_ushiftDefs _ c a

theorem er_openT (t : Tm) (i : Nat) (u : Tm) (s : Nat) :
    er (openT t i u s) = openT (er t) i (er u) s := by
  simp only [er_eq_relab]; exact t.relab_openT _ i u s

theorem erDefs_openDefs (ds : Defs) (i : Nat) (u : Tm) (s : Nat) :
    erDefs (openDefs ds i u s) = openDefs (erDefs ds) i (er u) s := by
  simp only [er_eq_relab, erDefs_eq_relab]; exact ds.relab_openDefs _ i u s

theorem er_unfoldDef (x : Name) (a d : Tm) (idx : Nat) :
    er (unfoldDef x a d idx) = unfoldDef 0 .type (er d) idx := by
  unfold unfoldDef
  simp [er_openT, er_ushift, er, erDefs, openT, ushift]

theorem er_eraseX (t : Tm) : er (OracleLemmas.eraseX t) = er t := by
  simp only [er_eq_relab, eraseX_eq_relab, Tm.relab_relab]; rfl

theorem erDefs_eraseDefsX (ds : Defs) : erDefs (OracleLemmas.eraseDefsX ds) = erDefs ds := by
  simp only [erDefs_eq_relab, eraseDefsX_eq_relab, Defs.relab_relab]; rfl

theorem er_same (a b : Tm) (h : sameX a b = true) : er a = er b := by
  rw [← er_eraseX a, (OracleLemmas.sameX_iff a b).1 h, er_eraseX]

theorem erDefs_same : ∀ (a b : Defs), sameDefsX a b = true → erDefs a = erDefs b :=
  fun a b h => by rw [← erDefs_eraseDefsX a, (OracleLemmas.sameDefsX_iff a b).1 h, erDefs_eraseDefsX]

theorem eraseX_er (t : Tm) (h : t.holeFree = true) : OracleLemmas.eraseX t = er t := by
  rw [eraseX_eq_relab, er_eq_relab]; exact t.relab_congr (R := .eraseX) (S := .er) rfl rfl h

theorem eraseDefsX_erDefs (ds : Defs) (h : ds.holeFree = true) : OracleLemmas.eraseDefsX ds = erDefs ds := by
  rw [eraseDefsX_eq_relab, erDefs_eq_relab]; exact ds.relab_congr (R := .eraseX) (S := .er) rfl rfl h

theorem open_ushift_past (d : Tm) (a i : Nat) (u : Tm) (s : Nat) (h : i ≤ a) :
    openT (ushift 0 (a + 1) d) i u s = ushift 0 a d := by
  have e : ushift 0 (a + 1) d = ushift i 1 (ushift 0 a d) := by
    rw [ushift_ushift_mid d i 0 1 a (Nat.zero_le _) (by omega), Nat.add_comm]
  rw [e, open_ushift_cancel]

theorem openDefs_ushiftDefs_past (ds : Defs) (a i : Nat) (u : Tm) (s : Nat) (h : i ≤ a) :
    openDefs (ushiftDefs 0 (a + 1) ds) i u s = ushiftDefs 0 a ds := by
  have e : ushiftDefs 0 (a + 1) ds = ushiftDefs i 1 (ushiftDefs 0 a ds) := by
    rw [ushiftDefs_ushiftDefs_mid ds i 0 1 a (Nat.zero_le _) (by omega), Nat.add_comm]
  rw [e, openDefs_ushiftDefs_cancel]

end CCSubst
