import GramModel.Oracle

/-!
# What a `letg` group leaves on the two contexts

`pushedT ds k Γ` and `pushedD ds k Δ` are the contexts after the definitions `ds` have been pushed on `Γ` and `Δ` with the
offsets `k`, `k - 1`, …: definition `j` of `n` enters as `(annotation, n - j)` and `some (body, n - j)`.  The oracle's
`pushGroupX` computes exactly these (`CheckSound.pushGroupX_eq`), and so does the checker's `pushDefsS`
(`CheckNoPanic.pushDefsS_eq` in `StoreCtx.lean`), so statements about a group name the pushed contexts by these two
functions.  `WhnfLemmas.DHF Δ`: every definition in `Δ` is hole-free.

The names are those of the files that use them; nothing here speaks of the store.
-/

/-- the typing context after `pushDefsS ds k` -/
def pushedT : Defs → Nat → List (Tm × Nat) → List (Tm × Nat)
  | .nil, _, T => T
  | .cons _ ann _ r, k, T => pushedT r (k - 1) ((ann, k) :: T)
/-- the definitions context after `pushDefsS ds k` -/
def pushedD : Defs → Nat → List (Option (Tm × Nat)) → List (Option (Tm × Nat))
  | .nil, _, D => D
  | .cons _ _ d r, k, D => pushedD r (k - 1) (some (d, k) :: D)

theorem pushedT_drop : ∀ (ds : Defs) (k : Nat) (T : List (Tm × Nat)),
    (pushedT ds k T).drop ds.len = T
  | .nil, k, T => rfl
  | .cons x ann d r, k, T => by rw [pushedT, Defs.len, ← List.drop_drop, pushedT_drop r]; rfl
theorem pushedD_drop : ∀ (ds : Defs) (k : Nat) (D : List (Option (Tm × Nat))),
    (pushedD ds k D).drop ds.len = D
  | .nil, k, D => rfl
  | .cons x ann d r, k, D => by rw [pushedD, Defs.len, ← List.drop_drop, pushedD_drop r]; rfl

namespace WhnfLemmas

/-- every definition in the context is hole-free -/
def DHF (Δ : DCtxX) : Prop := ∀ e ∈ Δ, ∀ d o, e = some (d, o) → d.holeFree = true

theorem DHF.nil : DHF [] := fun _ he => nomatch he

theorem DHF.get {Δ : DCtxX} (h : DHF Δ) {i : Nat} {d : Tm} {off : Nat} (e : Δ[i]? = some (some (d, off))) :
    d.holeFree = true := h _ (List.mem_of_getElem? e) d off rfl

theorem DHF.push {Δ : DCtxX} (h : DHF Δ) : DHF (none :: Δ) := by
  intro e he d o hd
  rcases List.mem_cons.1 he with rfl | he
  · cases hd
  · exact h e he d o hd

end WhnfLemmas

namespace CheckSound

theorem pushGroupX_go_eq : ∀ (ds : Defs) (k : Nat) (Γ : TCtxX) (Δ : DCtxX),
    pushGroupX.go ds k (Γ, Δ) = (pushedT ds k Γ, pushedD ds k Δ)
  | .nil, k, Γ, Δ => rfl
  | .cons x a d r, k, Γ, Δ => by
      simp only [pushGroupX.go, pushedT, pushedD]
      exact pushGroupX_go_eq r (k - 1) _ _

theorem pushGroupX_eq (ds : Defs) (Γ : TCtxX) (Δ : DCtxX) :
    pushGroupX ds 0 (Γ, Δ) = (pushedT ds ds.len Γ, pushedD ds ds.len Δ) := by
  unfold pushGroupX
  exact pushGroupX_go_eq ds ds.len Γ Δ

end CheckSound
