import GramModel.Lemmas.RewriteParens
import GramModel.Lemmas.PrintItems

/-! # Reading a printed term back: definitions for the full round-trip statement -/

namespace PModel
open RewriteMore PrintDerives

/-- parse phase, the three re-association passes, name resolution in the scope `names` (outermost
first, as `parse` takes it); the result with its ranges forgotten, and the resolution errors -/
def readBack (toks : Array PTok) (names : List Name) : Option (Tm × List PErr) :=
  match runParser toks with
  | none => none
  | some (r, _) =>
    match reassocAll r.term with
    | none => none
    | some s =>
      let ctx := initialContext names
      match resolve s ctx.length { ctx := ctx, errors := [], nextHole := 0 } with
      | none => none
      | some (rt, st) => some (rt.erase, st.errors)

mutual
/-- what reading back can restore: the name of an unused Π binder is not printed -/
def canon : Tm → Tm
  | .pi x imp d c =>
      if freeAt c 0 then .pi x imp (canon d) (canon c) else .pi placeholder false (canon d) (canon c)
  | .lam x imp d b => .lam x imp (canon d) (canon b)
  | .app f a => .app (canon f) (canon a)
  | .letg ds b => .letg (canonDefs ds) (canon b)
  | .neg a => .neg (canon a)
  | .bin o a b => .bin o (canon a) (canon b)
  | .ite c a b => .ite (canon c) (canon a) (canon b)
  | t => t
def canonDefs : Defs → Defs
  | .nil => .nil
  | .cons x a d r => .cons x (canon a) (canon d) (canonDefs r)
end

def Defs.names : Defs → List Name
  | .nil => []
  | .cons x _ _ r => x :: Defs.names r

mutual
/-- well-scoped with gram's no-shadowing discipline: `scope` lists the names in scope, innermost
first (position = de Bruijn index); every variable carries the index of its name; binder names are
not the placeholder and not in scope (the names of a definition group pairwise distinct, all in
scope in the whole group); no hole; a definition group is not empty and its body is not itself a
definition group (the printer prints `x = …; (y = …; b)` and `x = …; y = …; b` alike) -/
def scopedOK (scope : List Name) : Tm → Bool
  | .hole _ _ => false
  | .var x i => x != placeholder && scope[i]? == some x
  | .lam x _ d b => x != placeholder && !scope.contains x && scopedOK scope d && scopedOK (x :: scope) b
  | .pi x _ d c =>
      if freeAt c 0 then
        x != placeholder && !scope.contains x && scopedOK scope d && scopedOK (x :: scope) c
      else scopedOK scope d && scopedOK (placeholder :: scope) c
  | .app f a => scopedOK scope f && scopedOK scope a
  | .letg ds b =>
      let xs := Defs.names ds
      !xs.isEmpty && xs.all (fun x => x != placeholder && !scope.contains x) && xs.Nodup &&
        !isLet b && scopedDefsOK (xs.reverse ++ scope) ds && scopedOK (xs.reverse ++ scope) b
  | .neg a => scopedOK scope a
  | .bin _ a b => scopedOK scope a && scopedOK scope b
  | .ite c a b => scopedOK scope c && scopedOK scope a && scopedOK scope b
  | _ => true
def scopedDefsOK (scope : List Name) : Defs → Bool
  | .nil => true
  | .cons _ a d r => scopedOK scope a && scopedOK scope d && scopedDefsOK scope r
end

end PModel
