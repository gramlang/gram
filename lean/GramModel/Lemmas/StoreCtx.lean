import GramModel.Check
import GramModel.Lemmas.Sat
import GramModel.Lemmas.PushedCtx

/-!
# The store monad `M`, and what the functions that only read do to the state

Running `>>=` and the primitives (`cellVal`: what `cellGet` answers); `Hoare` as an instance of `R.Sat`, `Det`, `CtxH`;
`Fr P E m` (a run of `m` changes the state within `P`, panics within `E`) with its rules, and the functions that only
read stated with `P := Same`; what `pushDefsS` and `popN` compute (`pushedT`, `pushedD` of `PushedCtx.lean`); the body
of `unifyS` after its two calls of `whnfS`, cut into `unifyHead`, `structM`, `rightM`.  The functions that allocate, and
`unifyS` and `inferS`, which push and pop, are in `StoreMono`.

Conventions of `Store.lean` that the statements rest on: a hole `.hole id sh` stands for the contents of cell `id`
lifted by `sh`, the number of binders crossed since the hole was created; a cell id beyond the end of the store reads as
an empty cell and a write to it does nothing.  (For the entries of the two contexts see `CtxOff.lean`.)

Names here are in the root namespace, except `StoreMono.bind_ok`, `pure_ok`, `CheckNoPanic.cellVal`, `cellGet_bind`, `pushDefsS_eq`, `popN_eq`,
`WhnfLemmas.Det` and `UnifyAgree.unifyHead`, `structM`, `rightM`: declared into the namespaces of later files
(`WhnfLemmas` has no file of its own).
-/

theorem StoreMono.bind_ok {α β} {m : M α} {f : α → M β} {s s2 : St} {b : β}
    (h : (m >>= f) s = .ok b s2) : ∃ a s1, m s = .ok a s1 ∧ f a s1 = .ok b s2 := by
  have h : M.bind m f s = .ok b s2 := h
  simp only [M.bind] at h
  split at h
  · exact ⟨_, _, by assumption, h⟩
  · cases h
  · cases h

theorem M.bind_ok_iff {α β} {m : M α} {f : α → M β} {s : St} {b : β} {s2 : St} :
    (m >>= f) s = .ok b s2 ↔ ∃ a s1, m s = .ok a s1 ∧ f a s1 = .ok b s2 := by
  constructor
  · exact StoreMono.bind_ok
  · rintro ⟨a, s1, h1, h2⟩
    show M.bind m f s = .ok b s2
    simp only [M.bind, h1, h2]

theorem StoreMono.pure_ok {α} {a b : α} {s s' : St} (h : (pure a : M α) s = .ok b s') : a = b ∧ s = s' := by
  cases h; exact ⟨rfl, rfl⟩

/-! The model has no `LawfulMonad` instance. -/

theorem M.bind_of_ok {α β} {m : M α} {k : α → M β} {s s' : St} {a : α} (e : m s = .ok a s') :
    (m >>= k) s = k a s' := by
  show M.bind m k s = _
  simp only [M.bind, e]

theorem M.bind_assoc {α β γ} (m : M α) (f : α → M β) (g : β → M γ) :
    (m >>= f) >>= g = m >>= fun a => f a >>= g := by
  funext s
  show M.bind (M.bind m f) g s = M.bind m (fun a => M.bind (f a) g) s
  simp only [M.bind]
  cases m s <;> rfl

theorem M.bind_congr {α β} {m : M α} {f g : α → M β} (h : ∀ a, f a = g a) : m >>= f = m >>= g := by
  have : f = g := funext h
  rw [this]

theorem M.ite_bind {α β} (c : Prop) [Decidable c] (a b : M α) (k : α → M β) :
    (if c then a else b) >>= k = if c then a >>= k else b >>= k := by
  split <;> rfl

theorem M.bind_of_fuel {α β} {m : M α} {f : α → M β} {s : St} (h : m s = .fuel) : (m >>= f) s = .fuel := by
  show M.bind m f s = _
  simp only [M.bind, h]

theorem M.bind_of_panic {α β} {m : M α} {f : α → M β} {s : St} {p : String} (h : m s = .panic p) :
    (m >>= f) s = .panic p := by
  show M.bind m f s = _
  simp only [M.bind, h]

theorem getSt_bind {β} (k : St → M β) (s : St) : (getSt >>= k) s = k s s := rfl
theorem pushCtx_bind {β} (ty : Tm × Nat) (d : Option (Tm × Nat)) (k : Unit → M β) (s : St) :
    (pushCtx ty d >>= k) s = k () { s with tctx := ty :: s.tctx, dctx := d :: s.dctx } := rfl
theorem popCtx_bind {β} (k : Unit → M β) (s : St) :
    (popCtx >>= k) s = k () { s with tctx := s.tctx.tail, dctx := s.dctx.tail } := rfl
theorem cellFresh_bind {β} (k : Nat → M β) (s : St) :
    (cellFresh >>= k) s = k s.store.length { s with store := s.store ++ [none] } := rfl

namespace CheckNoPanic
/-- the contents of a cell (`none` for an unresolved or unallocated cell) -/
def cellVal (σ : List (Option Tm)) (id : Nat) : Option Tm :=
  match σ[id]? with | some c => c | none => none

theorem cellGet_bind {β} (id : Nat) (k : Option Tm → M β) (s : St) :
    (cellGet id >>= k) s = k (cellVal s.store id) s := rfl

theorem cellVal_some {σ : List (Option Tm)} {id : Nat} {sub : Tm} :
    cellVal σ id = some sub ↔ σ[id]? = some (some sub) := by
  unfold cellVal
  rcases σ[id]? with _ | _ | x <;> simp
end CheckNoPanic

def Hoare {α} (P : St → Prop) (m : M α) (Q : α → St → Prop) : Prop :=
  ∀ s a s', P s → m s = .ok a s' → Q a s'

theorem Hoare_iff {α} {P : St → Prop} {m : M α} {Q : α → St → Prop} :
    Hoare P m Q ↔ ∀ s, P s → (m s).Sat Q fun _ => True :=
  ⟨fun h s hp => .intro (fun a s' e => h s a s' hp e) fun _ _ => trivial, fun h s _ _ hp e => (h s hp).ok e⟩

theorem Hoare.bind {α β} {P : St → Prop} {Q : α → St → Prop} {R : β → St → Prop}
    {m : M α} {f : α → M β}
    (h1 : Hoare P m Q) (h2 : ∀ a, Hoare (Q a) (f a) R) : Hoare P (m >>= f) R :=
  Hoare_iff.2 fun s hp => .bind (Hoare_iff.1 h1 s hp) fun a s1 _ q => Hoare_iff.1 (h2 a) s1 q

theorem Hoare.pure {α} {P : St → Prop} {Q : α → St → Prop} {a : α}
    (h : ∀ s, P s → Q a s) : Hoare P (pure a : M α) Q :=
  Hoare_iff.2 fun s hp => .pure (h s hp)

theorem Hoare.conseq {α} {P P' : St → Prop} {Q Q' : α → St → Prop} {m : M α}
    (h : Hoare P m Q) (hp : ∀ s, P' s → P s) (hq : ∀ a s, Q a s → Q' a s) : Hoare P' m Q' :=
  Hoare_iff.2 fun s hp' => (Hoare_iff.1 h s (hp s hp')).post hq

theorem Hoare.outOfFuel {α} {P : St → Prop} {Q : α → St → Prop} : Hoare P (outOfFuel : M α) Q :=
  Hoare_iff.2 fun _ _ => .outOfFuel
theorem Hoare.panicAt {α} {P : St → Prop} {Q : α → St → Prop} {site : String} :
    Hoare P (panicAt site : M α) Q :=
  Hoare_iff.2 fun _ _ => .panicAt trivial

namespace WhnfLemmas
structure Det {α} (m : M α) (v : α) : Prop where
  out : ∀ s a s', m s = .ok a s' → a = v ∧ s' = s

theorem Det.panicAt {α} {v : α} (site : String) : Det (panicAt site : M α) v :=
  ⟨nofun⟩
end WhnfLemmas

/-! Each function defined before `unifyS` is stated once as `Fr P Nev` with the smallest `P` it has (`s' = s` for those that only
read, allocation for the others); "leaves the contexts alone", "the store only grows", "does not panic" are weakenings. -/

def Fr {α} (P : St → St → Prop) (E : String → Prop) (m : M α) : Prop :=
  ∀ s, (m s).Sat (fun _ s' => P s s') E

section
open StoreMono (RT)
variable {α β : Type} {P : St → St → Prop} {E : String → Prop}

theorem Fr.pure [RT P] (a : α) : Fr P E (pure a : M α) := fun s => (RT.refl s : P s s)

theorem Fr.bind [RT P] {m : M α} {f : α → M β} (hm : Fr P E m) (hf : ∀ a, Fr P E (f a)) : Fr P E (m >>= f) :=
  fun s => .bind (hm s) fun a s1 _ h => (hf a s1).post fun _ _ h' => RT.trans h h'

theorem Fr.outOfFuel : Fr P E (outOfFuel : M α) := fun _ => trivial
theorem Fr.cellGet [RT P] (id : Nat) : Fr P E (cellGet id) := fun s => (RT.refl s : P s s)

theorem Fr.mono {P' : St → St → Prop} {E' : String → Prop} {m : M α} (h : Fr P E m)
    (hp : ∀ s s', P s s' → P' s s') (he : ∀ p, E p → E' p) : Fr P' E' m :=
  fun s => (h s).mono (fun _ s' => hp s s') he
end

abbrev Same (s s' : St) : Prop := s' = s

instance : StoreMono.RT Same where
  refl _ := rfl
  trans h1 h2 := h2.trans h1

theorem Fr.of_same {α} {P : St → St → Prop} [StoreMono.RT P] {E E' : String → Prop} {m : M α} (h : Fr Same E m)
    (he : ∀ p, E p → E' p) : Fr P E' m :=
  h.mono (fun s _ e => e ▸ (StoreMono.RT.refl s : P s s)) he

/-- One step through a `do` block for a goal `Fr P E (..)`: the head `>>=` or `fun` is taken apart; a leaf is a
`pure`, an `outOfFuel`, a read, or a local hypothesis (induction hypotheses, and the callees' lemmas put in front of each
use by `have h… := …`); what is left is a `match` or `if`. -/
macro "fr_step" : tactic => `(tactic| first
  | with_reducible apply Fr.bind
  | with_reducible intro _
  | with_reducible apply Fr.pure
  | with_reducible apply Fr.outOfFuel
  | with_reducible apply Fr.cellGet
  | apply_assumption (transparency := .reducible) -exfalso
  | split)

/-- The `unwrap` of `unsigned_shift` is dead whatever the store holds.  The one step of the walk: a recursive call
answers `none` only for a negative amount, and then `none` is what the caller answers.  (The `Fr Same Nev` half alone is
`UnifySound.sshiftS_rd`.) -/
theorem sshiftS_fr : ∀ f,
    (∀ c amt t s, (sshiftS f c amt t s).Sat (fun r s' => s' = s ∧ (0 ≤ amt → r ≠ none)) Nev) ∧
    (∀ c amt ds s, (sshiftDefsS f c amt ds s).Sat (fun r s' => s' = s ∧ (0 ≤ amt → r ≠ none)) Nev) := by
  intro f
  induction f with
  | zero =>
    constructor
    · intros; rw [sshiftS]; trivial
    · intros; rw [sshiftDefsS]; trivial
  | succ f ih =>
    obtain ⟨ih1, ih2⟩ := ih
    have ret : ∀ {amt : Int} {β} (x : β) (s : St),
        ((pure (some x) : M (Option β)) s).Sat (fun r s' => s' = s ∧ (0 ≤ amt → r ≠ none)) Nev :=
      fun _ _ => ⟨rfl, fun _ => nofun⟩
    have step : ∀ {amt : Int} {α β} {r : M (Option α)} {k : Option α → M (Option β)} {s : St},
        (r s).Sat (fun a s' => s' = s ∧ (0 ≤ amt → a ≠ none)) Nev → k none = pure none →
        (∀ x, (k (some x) s).Sat (fun r s' => s' = s ∧ (0 ≤ amt → r ≠ none)) Nev) →
        ((r >>= k) s).Sat (fun r s' => s' = s ∧ (0 ≤ amt → r ≠ none)) Nev :=
      fun hr hn hk => .bind_ro hr fun a qa => by
        cases a with
        | none => rw [hn]; exact ⟨rfl, fun h => absurd rfl (qa h)⟩
        | some x => exact hk x
    have idx : ∀ {amt : Int} {β} (i c : Nat) (x y : β) (s : St),
        ((if i ≥ c then if (i : Int) + amt ≥ (c : Int) then pure (some x) else pure none
          else pure (some y) : M (Option β)) s).Sat (fun r s' => s' = s ∧ (0 ≤ amt → r ≠ none)) Nev := by
      intro amt β i c x y s
      split
      · split
        · exact ret _ s
        · exact ⟨rfl, fun h => by omega⟩
      · exact ret _ s
    constructor
    · intro c amt t s
      cases t <;> unfold sshiftS <;> dsimp only
      case hole id sh =>
        rw [CheckNoPanic.cellGet_bind]
        cases CheckNoPanic.cellVal s.store id with
        | some sub =>
          -- the contents are shifted by the (non-negative) shift of the hole first: never `none`
          refine R.Sat.bind_ro (ih1 0 (sh : Int) _ s) (fun a qa => ?_)
          cases a with
          | none => exact absurd rfl (qa (Int.natCast_nonneg _))
          | some x => exact ih1 _ _ _ s
        | none => exact idx _ _ _ _ s
      case var x i => exact idx _ _ _ _ s
      case lam | pi | app | bin =>
        exact step (ih1 _ _ _ s) rfl fun _ => step (ih1 _ _ _ s) rfl fun _ => ret _ s
      case letg => exact step (ih2 _ _ _ s) rfl fun _ => step (ih1 _ _ _ s) rfl fun _ => ret _ s
      case neg => exact step (ih1 _ _ _ s) rfl fun _ => ret _ s
      case ite =>
        exact step (ih1 _ _ _ s) rfl fun _ => step (ih1 _ _ _ s) rfl fun _ => step (ih1 _ _ _ s) rfl fun _ => ret _ s
      all_goals exact ret _ s
    · intro c amt ds s
      cases ds <;> unfold sshiftDefsS <;> dsimp only
      · exact ret _ s
      · exact step (ih1 _ _ _ s) rfl fun _ => step (ih1 _ _ _ s) rfl fun _ => step (ih2 _ _ _ s) rfl fun _ => ret _ s

theorem ushiftS_fr (f c a : Nat) (t : Tm) : Fr Same Nev (ushiftS f c a t) := by
  intro s
  unfold ushiftS
  refine R.Sat.bind_ro ((sshiftS_fr f).1 c (a : Int) t s) (fun r qr => ?_)
  cases r with
  | none => exact absurd rfl (qr (Int.natCast_nonneg _))
  | some x => exact R.Sat.pure rfl

theorem derefS_fr (f t) : Fr Same Nev (derefS f t) := by
  have hu := ushiftS_fr
  fun_induction derefS f t <;> repeat fr_step

theorem synEqS_fr : ∀ f, (∀ a b, Fr Same Nev (synEqS f a b)) ∧ (∀ a b, Fr Same Nev (synEqDefsS f a b)) := by
  intro f
  induction f with
  | zero => exact ⟨fun _ _ => by rw [synEqS]; exact .outOfFuel, fun _ _ => by rw [synEqDefsS]; exact .outOfFuel⟩
  | succ f ih =>
    obtain ⟨ih1, ih2⟩ := ih
    have hd := derefS_fr f
    constructor
    · intro a b
      unfold synEqS
      repeat fr_step
    · intro a b
      unfold synEqDefsS
      repeat fr_step

theorem occursS_fr : ∀ f, (∀ id t, Fr Same Nev (occursS f id t)) ∧ (∀ id ds, Fr Same Nev (occursDefsS f id ds)) := by
  intro f
  induction f with
  | zero => exact ⟨fun _ _ => by rw [occursS]; exact .outOfFuel, fun _ _ => by rw [occursDefsS]; exact .outOfFuel⟩
  | succ f ih =>
    obtain ⟨ih1, ih2⟩ := ih
    constructor
    · intro id t
      unfold occursS
      repeat fr_step
    · intro id ds
      unfold occursDefsS
      repeat fr_step

def CtxH {α} (T : List (Tm × Nat)) (D : List (Option (Tm × Nat))) (m : M α)
    (T' : List (Tm × Nat)) (D' : List (Option (Tm × Nat))) : Prop :=
  ∀ s a s', s.tctx = T → s.dctx = D → m s = .ok a s' → s'.tctx = T' ∧ s'.dctx = D'

theorem CtxH.out {α} {T T' : List (Tm × Nat)} {D D' : List (Option (Tm × Nat))} {m : M α}
    (h : CtxH T D m T' D') {s : St} {a : α} {s' : St} (e : m s = .ok a s')
    (ht : s.tctx = T) (hd : s.dctx = D) : s'.tctx = T' ∧ s'.dctx = D' := h s a s' ht hd e

theorem CtxH.restores {α} {m : M α} (h : ∀ T D, CtxH T D m T D) {s : St} {a : α} {s' : St}
    (e : m s = .ok a s') : s'.tctx = s.tctx ∧ s'.dctx = s.dctx := (h _ _).out e rfl rfl

theorem CtxH.of_ok {α} {T : List (Tm × Nat)} {D : List (Option (Tm × Nat))} {m : M α}
    (h : ∀ {s a s'}, m s = .ok a s' → s'.tctx = s.tctx ∧ s'.dctx = s.dctx) : CtxH T D m T D :=
  fun _ _ _ ht hd e => ⟨(h e).1.trans ht, (h e).2.trans hd⟩

-- proofs go through `out`, `restores`, `of_ok`
attribute [irreducible] CtxH

namespace CheckNoPanic
theorem pushDefsS_eq : ∀ (ds : Defs) (k : Nat) (s : St),
    pushDefsS ds k s = .ok () { s with tctx := pushedT ds k s.tctx, dctx := pushedD ds k s.dctx }
  | .nil, k, s => by unfold pushDefsS pushedT pushedD; rfl
  | .cons x a d r, k, s => by
      unfold pushDefsS pushedT pushedD
      rw [pushCtx_bind, pushDefsS_eq r (k - 1)]

theorem popN_eq : ∀ (n : Nat) (s : St),
    popN n s = .ok () { s with tctx := s.tctx.drop n, dctx := s.dctx.drop n }
  | 0, s => by unfold popN; simp only [List.drop_zero]; rfl
  | n+1, s => by
      unfold popN
      rw [popCtx_bind, popN_eq n]
      simp only [List.drop_tail]
end CheckNoPanic

namespace UnifyAgree

/-- What `unifyS (f+1)` does after weak-head normalising both sides, verbatim: `unifyS_succ` and `unifyHead_eq` below
are `rfl`, so an edit of `unifyS` in `Check.lean` must be repeated here and in `structM`, or they stop checking. -/
def unifyHead (f : Nat) (w1 w2 : Tm) : M Bool :=
      let structural : M Bool :=
        match w1, w2 with
        | .type, .type | .int, .int | .bool, .bool | .tt, .tt | .ff, .ff => pure true
        | .var _ i, .var _ j => pure (i == j)
        | .lam _ im _ b1, .lam _ jm _ b2 =>
            if im == jm then do
              pushD none
              let r ← unifyS f b1 b2
              popD
              pure r
            else pure false
        | .pi _ im d1 c1, .pi _ jm d2 c2 =>
            if im == jm then do
              if ← unifyS f d1 d2 then do
                pushD none
                let r ← unifyS f c1 c2
                popD
                pure r
              else pure false
            else pure false
        | .app f1 a1, .app f2 a2 => do
            if ← unifyS f f1 f2 then unifyS f a1 a2 else pure false
        | .lit n, .lit m => pure (n == m)
        | .neg a1, .neg a2 => unifyS f a1 a2
        | .bin o1 a1 b1, .bin o2 a2 b2 =>
            if o1 == o2 then do
              if ← unifyS f a1 a2 then unifyS f b1 b2 else pure false
            else pure false
        | .ite c1 a1 b1, .ite c2 a2 b2 => do
            if ← unifyS f c1 c2 then
              if ← unifyS f a1 a2 then unifyS f b1 b2 else pure false
            else pure false
        | .letg .., _ => panicAt "unify.let_after_whnf"
        | _, .letg .. => panicAt "unify.let_after_whnf"
        | _, _ => pure false
      let rightHole : M Bool :=
        match w2 with
        | .hole j r => do
            match ← solveS f j r w1 with
            | some b => pure b
            | none => structural
        | _ => structural
      match w1, w2 with
      | .hole i s, .hole j r =>
          if i == j && s == r then pure true
          else do
            match ← solveS f i s w2 with
            | some b => pure b
            | none => rightHole
      | .hole i s, _ => do
          match ← solveS f i s w2 with
          | some b => pure b
          | none => rightHole
      | _, _ => rightHole

theorem unifyS_succ (f : Nat) (t1 t2 : Tm) :
    unifyS (f+1) t1 t2 = (do
      if ← synEqS f t1 t2 then pure true
      else do
        let w1 ← whnfS f t1
        let w2 ← whnfS f t2
        unifyHead f w1 w2) := by
  unfold unifyS unifyHead
  rfl

/-- the structural comparison of two weak head normal forms (verbatim from `unifyS`) -/
def structM (f : Nat) (w1 w2 : Tm) : M Bool :=
        match w1, w2 with
        | .type, .type | .int, .int | .bool, .bool | .tt, .tt | .ff, .ff => pure true
        | .var _ i, .var _ j => pure (i == j)
        | .lam _ im _ b1, .lam _ jm _ b2 =>
            if im == jm then do
              pushD none
              let r ← unifyS f b1 b2
              popD
              pure r
            else pure false
        | .pi _ im d1 c1, .pi _ jm d2 c2 =>
            if im == jm then do
              if ← unifyS f d1 d2 then do
                pushD none
                let r ← unifyS f c1 c2
                popD
                pure r
              else pure false
            else pure false
        | .app f1 a1, .app f2 a2 => do
            if ← unifyS f f1 f2 then unifyS f a1 a2 else pure false
        | .lit n, .lit m => pure (n == m)
        | .neg a1, .neg a2 => unifyS f a1 a2
        | .bin o1 a1 b1, .bin o2 a2 b2 =>
            if o1 == o2 then do
              if ← unifyS f a1 a2 then unifyS f b1 b2 else pure false
            else pure false
        | .ite c1 a1 b1, .ite c2 a2 b2 => do
            if ← unifyS f c1 c2 then
              if ← unifyS f a1 a2 then unifyS f b1 b2 else pure false
            else pure false
        | .letg .., _ => panicAt "unify.let_after_whnf"
        | _, .letg .. => panicAt "unify.let_after_whnf"
        | _, _ => pure false

/-- the arm of `unifyS` that tries to solve the right-hand hole -/
def rightM (f : Nat) (w1 w2 : Tm) : M Bool :=
        match w2 with
        | .hole j r => do
            match ← solveS f j r w1 with
            | some b => pure b
            | none => structM f w1 w2
        | _ => structM f w1 w2

theorem unifyHead_eq (f : Nat) (w1 w2 : Tm) :
    unifyHead f w1 w2 =
      match w1, w2 with
      | .hole i s, .hole j r =>
          if i == j && s == r then pure true
          else do
            match ← solveS f i s w2 with
            | some b => pure b
            | none => rightM f w1 w2
      | .hole i s, _ => do
          match ← solveS f i s w2 with
          | some b => pure b
          | none => rightM f w1 w2
      | _, _ => rightM f w1 w2 := by
  unfold unifyHead rightM structM
  rfl

/-- a run of `unifyS` that answers: the syntactic shortcut answered `true` and that is the answer, or it answered
`false`, both sides were weak-head normalised and the answer is that of the comparison of the heads -/
theorem unifyS_ok_inv {f : Nat} {a b : Tm} {s s' : St} {r : Bool} (h : unifyS f a b s = .ok r s') :
    ∃ g c s0, f = g + 1 ∧ synEqS g a b s = .ok c s0 ∧
      match c with
      | true => r = true ∧ s' = s0
      | false => ∃ w1 s1 w2 s2, whnfS g a s0 = .ok w1 s1 ∧ whnfS g b s1 = .ok w2 s2 ∧
          unifyHead g w1 w2 s2 = .ok r s' := by
  cases f with
  | zero => rw [unifyS] at h; cases h
  | succ f =>
    rw [unifyS_succ] at h
    obtain ⟨c, s0, h0, h1⟩ := StoreMono.bind_ok h
    refine ⟨f, c, s0, rfl, h0, ?_⟩
    cases c
    · simp only [Bool.false_eq_true, if_false] at h1
      obtain ⟨w1, s1, h2, h3⟩ := StoreMono.bind_ok h1
      obtain ⟨w2, s2, h4, h5⟩ := StoreMono.bind_ok h3
      exact ⟨w1, s1, w2, s2, h2, h4, h5⟩
    · simp only [if_true] at h1
      obtain ⟨rfl, rfl⟩ := StoreMono.pure_ok h1
      exact ⟨rfl, rfl⟩

end UnifyAgree
