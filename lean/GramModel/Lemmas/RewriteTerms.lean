import GramModel.Lemmas.Canonical
import GramModel.Lemmas.RewriteTyping

/-!
# Meaning-preserving rewrites of terms (C19): naming a subexpression, reordering independent definitions

Naming a subexpression `s₀` of a program, `x : A = s₀; b` against `b[s₀/x]`: the two programs are convertible in
every context, the evaluator reaches `b[v/x]` once `s₀` has reached the value `v`, and whenever the two programs
end in a value resp. a ground value these coincide.  Evaluation of a definition is *strict*, so the rewrite can
turn a program with a value into a stuck one (`C19_name_strict_witness`).  Then: swapping two definitions of a
group that mention no group variable.  Redundant parentheses, a rewrite of the parse tree, are in
`Lemmas/RewriteParens.lean`; both files declare into the namespace `RewriteMore`.
-/

namespace RewriteMore

open ConvCoherence WhnfLemmas


theorem unfoldDef_nonrec (x : Name) (A s₀ : Tm) : unfoldDef x A (ushift 0 1 s₀) 0 = s₀ := by
  unfold unfoldDef
  exact open_ushift_cancel s₀ 0 _ 0

theorem name_conv_gen (Δ : DCtxX) (x : Name) (A s b : Tm) :
    Conv Δ (.letg (.cons x A s .nil) b) (openT b 0 (unfoldDef x A s 0) 0) := by
  have h1 := Red1.letStep (Δ := Δ) x A s .nil b
  simp only [letStepX, Defs.len_nil, openDefs] at h1
  exact .trans (.red h1) (.red (.letNil _))

theorem name_conv (Δ : DCtxX) (x : Name) (A s₀ b : Tm) :
    Conv Δ (.letg (.cons x A (ushift 0 1 s₀) .nil) b) (openT b 0 s₀ 0) := by
  have h := name_conv_gen Δ x A (ushift 0 1 s₀) b
  rwa [unfoldDef_nonrec] at h

theorem name_eval_gen {x : Name} {A s v : Tm} (b : Tm) (hs : Steps s v) (hv : isValue v = true) :
    Steps (.letg (.cons x A s .nil) b) (openT b 0 (unfoldDef x A v 0) 0) := by
  refine Steps_trans (Steps_congr (C := fun d => .letg (.cons x A d .nil) b) .letD hs) ?_
  have h1 := @Step.letU x A v .nil b hv
  simp only [Defs.len_nil, openDefs] at h1
  exact .head h1 (.head .letNil .refl)

theorem isValue_ushift (t : Tm) (c a : Nat) : isValue (ushift c a t) = isValue t := by
  cases t
  case var x i => simp only [ushift]; by_cases h : i ≥ c <;> simp [h, isValue]
  case hole id s => simp only [ushift]; by_cases h : s ≥ c <;> simp [h, isValue]
  all_goals simp only [ushift, isValue]

theorem Step_ushift {t t' : Tm} (h : Step t t') :
    ∀ (c a : Nat), t.holeFree = true → Step (ushift c a t) (ushift c a t') := by
  induction h with
  | appL _ ih =>
    intro c a hf; simp only [Tm.holeFree, Bool.and_eq_true] at hf
    exact .appL (ih c a hf.1)
  | appR hv _ ih =>
    intro c a hf; simp only [Tm.holeFree, Bool.and_eq_true] at hf
    exact .appR (by rw [isValue_ushift]; exact hv) (ih c a hf.2)
  | @beta x im d b arg hv =>
    intro c a hf; simp only [Tm.holeFree, Bool.and_eq_true] at hf
    have e := open_ushift_high b arg 0 c a 0 hf.1.2 (Nat.zero_le _)
    rw [Nat.sub_zero] at e
    simp only [ushift]
    rw [e]
    exact .beta (by rw [isValue_ushift]; exact hv)
  | negC _ ih => intro c a hf; simp only [Tm.holeFree] at hf; exact .negC (ih c a hf)
  | negL => intro c a _; exact .negL
  | binL _ ih =>
    intro c a hf; simp only [Tm.holeFree, Bool.and_eq_true] at hf
    exact .binL (ih c a hf.1)
  | binR hv _ ih =>
    intro c a hf; simp only [Tm.holeFree, Bool.and_eq_true] at hf
    exact .binR (by rw [isValue_ushift]; exact hv) (ih c a hf.2)
  | @delta op x y r hd =>
    intro c a _
    rw [RewriteTyping.delta_ushift hd]
    exact .delta hd
  | iteC _ ih =>
    intro c a hf; simp only [Tm.holeFree, Bool.and_eq_true] at hf
    exact .iteC (ih c a hf.1.1)
  | iteT => intro c a _; exact .iteT
  | iteF => intro c a _; exact .iteF
  | letNil =>
    intro c a _
    simp only [ushift, ushiftDefs, Defs.len_nil, Nat.add_zero]
    exact .letNil
  | letD _ ih =>
    intro c a hf
    simp only [Tm.holeFree, Defs.holeFree, Bool.and_eq_true] at hf
    simp only [ushift, ushiftDefs]
    exact .letD (ih _ a hf.1.1.2)
  | @letU x ann d rest b hv =>
    intro c a hf
    simp only [Tm.holeFree, Defs.holeFree, Bool.and_eq_true] at hf
    have e0 : c + (Defs.cons x ann d rest).len = (c + rest.len) + 1 := by
      simp only [Defs.len_cons]; omega
    have eu := unfoldDef_ushift x ann d rest.len (c + rest.len) a hf.1.1.1 hf.1.1.2
      (by omega)
    have e1 := open_ushift_high b (unfoldDef x ann d rest.len) rest.len (c + rest.len) a 0 hf.2
      (by omega)
    have e2 := openDefs_ushiftDefs_high rest (unfoldDef x ann d rest.len) rest.len (c + rest.len) a 0
      hf.1.2 (by omega)
    rw [Nat.sub_zero] at e1 e2
    simp only [ushift, ushiftDefs, openDefs_len]
    rw [e0, e1, e2, eu]
    have h1 := @Step.letU x (ushift (c + rest.len + 1) a ann) (ushift (c + rest.len + 1) a d)
      (ushiftDefs (c + rest.len + 1) a rest) (ushift (c + rest.len + 1) a b)
      (by rw [isValue_ushift]; exact hv)
    rw [ushiftDefs_len] at h1
    exact h1

theorem Steps_ushift {t t' : Tm} (h : Steps t t') (c a : Nat) (hf : t.holeFree = true) :
    Steps (ushift c a t) (ushift c a t') := by
  induction h with
  | refl => exact .refl
  | head h _ ih => exact .head (Step_ushift h c a hf) (ih (Step_holeFree h hf))

theorem name_eval {x : Name} {A s₀ v : Tm} (b : Tm) (hf : s₀.holeFree = true) (hs : Steps s₀ v)
    (hv : isValue v = true) :
    Steps (.letg (.cons x A (ushift 0 1 s₀) .nil) b) (openT b 0 v 0) := by
  have h := name_eval_gen (x := x) (A := A) b (Steps_ushift hs 0 1 hf)
    (by rw [isValue_ushift]; exact hv)
  rwa [unfoldDef_nonrec] at h

theorem conv_results_agree {p q v g : Tm} (hc : Conv [] p q) (hf : p.holeFree = true)
    (hp : Steps p v) (hv : isValue v = true) (hq : Steps q g) (hg : Ground g) : v = g :=
  whnf_conv_ground Canonical.DWF_nil (Steps_holeFree hp hf) (value_whnf hv (Steps_holeFree hp hf)) hg
    (.trans (.symm (steps_conv hp [])) (.trans hc (steps_conv hq [])))


mutual
/-- exchange the variables `k` and `k + 1` -/
def swap01 (k : Nat) : Tm → Tm
  | .var x i => if i = k then .var x (k + 1) else if i = k + 1 then .var x k else .var x i
  | .hole id s => .hole id s
  | .lam x im d b => .lam x im (swap01 k d) (swap01 (k+1) b)
  | .pi x im d b => .pi x im (swap01 k d) (swap01 (k+1) b)
  | .app f a => .app (swap01 k f) (swap01 k a)
  | .letg ds b => .letg (swap01Defs (k + ds.len) ds) (swap01 (k + ds.len) b)
  | .neg a => .neg (swap01 k a)
  | .bin op a b => .bin op (swap01 k a) (swap01 k b)
  | .ite c a b => .ite (swap01 k c) (swap01 k a) (swap01 k b)
  | .type => .type
  | .int => .int
  | .bool => .bool
  | .tt => .tt
  | .ff => .ff
  | .lit n => .lit n
def swap01Defs (k : Nat) : Defs → Defs
  | .nil => .nil
  | .cons x a d r => .cons x (swap01 k a) (swap01 k d) (swap01Defs k r)
end

theorem swap01Defs_len : ∀ (k : Nat) (ds : Defs), (swap01Defs k ds).len = ds.len
  | _, .nil => by simp [swap01Defs]
  | k, .cons _ _ _ r => by simp [swap01Defs, swap01Defs_len k r]

theorem open_swap_both :
    (∀ (t : Tm) (k : Nat) (u : Tm) (s : Nat), t.holeFree = true →
      openT (swap01 k t) k u s = openT t (k + 1) u s) ∧
    ∀ (ds : Defs) (k : Nat) (u : Tm) (s : Nat), ds.holeFree = true →
      openDefs (swap01Defs k ds) k u s = openDefs ds (k + 1) u s := by
  apply Tm.rec_both
  case var =>
    intro x i k u s _
    simp only [swap01]
    by_cases h1 : i = k
    · subst h1
      have h3 : i + 1 > i := by omega
      have h5 : ¬ i > i + 1 := by omega
      simp [openT, h3, h5]
    · by_cases h2 : i = k + 1
      · subst h2
        simp [openT]
      · simp only [h1, h2, if_false, openT]
        by_cases h3 : i > k
        · have h4 : i > k + 1 := by omega
          simp [h3, h4]
        · have h4 : ¬ i > k + 1 := by omega
          simp [h3, h4]
  case hole => intro _ _ _ _ _ hf; cases hf
  case lam | pi =>
    intro x im d b ihd ihb k u s hf
    simp only [Tm.holeFree, Bool.and_eq_true] at hf
    simp only [swap01, openT, ihd k u s hf.1, ihb (k+1) u (s+1) hf.2]
  case app | bin =>
    intros; rename_i f a ih1 ih2 k u s hf
    simp only [Tm.holeFree, Bool.and_eq_true] at hf
    simp only [swap01, openT, ih1 k u s hf.1, ih2 k u s hf.2]
  case letg =>
    intro ds b ihd ihb k u s hf
    simp only [Tm.holeFree, Bool.and_eq_true] at hf
    have e : k + 1 + ds.len = k + ds.len + 1 := by omega
    simp only [swap01, openT, swap01Defs_len, e, ihd (k + ds.len) u (s + ds.len) hf.1,
      ihb (k + ds.len) u (s + ds.len) hf.2]
  case neg => intro a ih k u s hf; simp only [swap01, openT, ih k u s hf]
  case ite =>
    intro c a b ih1 ih2 ih3 k u s hf
    simp only [Tm.holeFree, Bool.and_eq_true] at hf
    simp only [swap01, openT, ih1 k u s hf.1.1, ih2 k u s hf.1.2, ih3 k u s hf.2]
  case cons =>
    intro x a d r iha ihd ihr k u s hf
    simp only [Defs.holeFree, Bool.and_eq_true] at hf
    simp only [swap01Defs, openDefs, iha k u s hf.1.1, ihd k u s hf.1.2, ihr k u s hf.2]
  all_goals intros; rfl

theorem open_swap (t : Tm) : ∀ (k : Nat) (u : Tm) (s : Nat), t.holeFree = true →
    openT (swap01 k t) k u s = openT t (k + 1) u s := open_swap_both.1 t

theorem openDefs_swap : ∀ (ds : Defs) (k : Nat) (u : Tm) (s : Nat), ds.holeFree = true →
    openDefs (swap01Defs k ds) k u s = openDefs ds (k + 1) u s := open_swap_both.2

theorem ushift2_split (t : Tm) : ushift 0 2 t = ushift 1 1 (ushift 0 1 t) := by
  rw [ushift_ushift_mid t 1 0 1 1 (by omega) (by omega)]

theorem unfoldDef_closed1 (x : Name) (A e : Tm) : unfoldDef x A (ushift 0 2 e) 1 = ushift 0 1 e := by
  unfold unfoldDef
  rw [ushift2_split]
  exact open_ushift_cancel _ 1 _ 0

/-- what a group of two definitions that mention no group variable unfolds to -/
def twoDefs (x y : Name) (A1 e1 A2 e2 : Tm) : Defs :=
  .cons x (ushift 0 2 A1) (ushift 0 2 e1) (.cons y (ushift 0 2 A2) (ushift 0 2 e2) .nil)

theorem open_closed2 (t u : Tm) : openT (ushift 0 2 t) 1 u 0 = ushift 0 1 t := by
  rw [ushift2_split]
  exact open_ushift_cancel _ 1 _ 0

theorem twoDefs_eval (x y : Name) (A1 e1 A2 e2 b : Tm) (h1 : isValue e1 = true)
    (h2 : isValue e2 = true) :
    Steps (.letg (twoDefs x y A1 e1 A2 e2) b) (openT (openT b 1 (ushift 0 1 e1) 0) 0 e2 0) := by
  have s1 := @Step.letU x (ushift 0 2 A1) (ushift 0 2 e1)
    (.cons y (ushift 0 2 A2) (ushift 0 2 e2) .nil) b (by rw [isValue_ushift]; exact h1)
  simp only [Defs.len_cons, Defs.len_nil, Nat.zero_add, unfoldDef_closed1, openDefs, open_closed2] at s1
  have s2 := @Step.letU y (ushift 0 1 A2) (ushift 0 1 e2) .nil (openT b 1 (ushift 0 1 e1) 0)
    (by rw [isValue_ushift]; exact h2)
  simp only [Defs.len_nil, openDefs, unfoldDef_nonrec] at s2
  exact .head s1 (.head s2 (.head .letNil .refl))

theorem twoDefs_conv (Δ : DCtxX) (x y : Name) (A1 e1 A2 e2 b : Tm) :
    Conv Δ (.letg (twoDefs x y A1 e1 A2 e2) b) (openT (openT b 1 (ushift 0 1 e1) 0) 0 e2 0) := by
  have s1 := Red1.letStep (Δ := Δ) x (ushift 0 2 A1) (ushift 0 2 e1)
    (.cons y (ushift 0 2 A2) (ushift 0 2 e2) .nil) b
  simp only [letStepX, Defs.len_cons, Defs.len_nil, Nat.zero_add, unfoldDef_closed1, openDefs,
    open_closed2] at s1
  have s2 := Red1.letStep (Δ := Δ) y (ushift 0 1 A2) (ushift 0 1 e2) .nil (openT b 1 (ushift 0 1 e1) 0)
  simp only [letStepX, Defs.len_nil, openDefs, unfoldDef_nonrec] at s2
  exact .trans (.red s1) (.trans (.red s2) (.red (.letNil _)))

theorem swap_subst (b e1 e2 : Tm) (hb : b.holeFree = true) :
    openT (openT (swap01 0 b) 1 (ushift 0 1 e2) 0) 0 e1 0 =
      openT (openT b 1 (ushift 0 1 e1) 0) 0 e2 0 := by
  have h := open_open (swap01 0 b) (ushift 0 1 e1) e2 0 0 (Nat.le_refl _)
  rw [open_ushift_cancel, open_swap b 0 _ 0 hb] at h
  exact h.symm

end RewriteMore
