import GramModel.Lemmas.CheckRules
import GramModel.Lemmas.UnifyAgree
import GramModel.Lemmas.TypingSound

/-!
# Soundness of the model of gram's checker on hole-free programs (C03)

On a hole-free program every type the checker computes in an error-free run is hole-free: the two cells of an
application are solved at once with the components of the weak head normal form of the function's type.  So every
`unifyS` call has one of three shapes — `Π ?i. ?j` against a hole-free type (`unify_pi_fresh`), a solved cell against a
hole-free term (`unify_solved`), hole-free against hole-free (`unifyS_ok_conv`: the run answers what `convX` answers
with the same fuel, and `convX` is sound) — each of which yields a `Conv` derivation, and the run is a derivation in
any judgement closed under `Rules` (`Lemmas/CheckRules.lean`).  The step of the induction is `check_ok`.
-/

namespace CheckSound

open UnifyAgree WhnfLemmas CheckNoPanic TypingSound
open StoreMono (bind_ok pure_ok)

theorem unifyS_ok_conv {f : Nat} {a b : Tm} {s s' : St} {r : Bool} (ha : a.holeFree = true)
    (hb : b.holeFree = true) (hD : DHF s.dctx) (h : unifyS f a b s = .ok r s') :
    s' = s ∧ (r = true → Conv s.dctx a b) := by
  obtain ⟨e, hx⟩ := (unifyS_sim false f a b s ⟨ha, nofun⟩ ⟨hb, nofun⟩ hD nofun).ok h
  exact ⟨e, fun hr => convX_sound f _ a b ha hb hD (hr ▸ hx)⟩

theorem whnfS_ok_conv {f : Nat} {t : Tm} {s s' : St} {r : Tm} (ht : t.holeFree = true)
    (hD : DHF s.dctx) (h : whnfS f t s = .ok r s') :
    s' = s ∧ r.holeFree = true ∧ NotLet r ∧ Conv s.dctx t r :=
  let ⟨e, hr, hx⟩ := whnfS_sim f t s r s' ht hD h
  ⟨e, hr, whnfS_notLet' h, whnfX_conv hx⟩

theorem solveS_fresh {f i : Nat} {w : Tm} {s s' : St} {o : Option Bool} (hw : w.holeFree = true)
    (h : solveS f i 0 w s = .ok o s') :
    o = some true ∧ s' = { s with store := s.store.set i (some w) } := by
  unfold solveS at h
  rw [show (-((0 : Nat) : Int)) = 0 from rfl] at h
  have hsh := (StoreTransparent.sshiftS_ans s f).1 0 w w 0 0 (.refl w hw)
  have e0 : sshift 0 0 w = some w := by
    have := sshift_ushift w 0 0
    rw [ushift_zero] at this
    exact this
  have h := hsh.bind_inv h
  rw [e0] at h
  dsimp only at h
  have h := ((occursS_P f).1 i w hw s).bind_inv h
  simp only [Bool.false_eq_true, if_false] at h
  have h := hsh.bind_inv h
  rw [e0] at h
  dsimp only at h
  obtain ⟨u, s1, h1, h2⟩ := bind_ok h
  obtain ⟨rfl, rfl⟩ := pure_ok h2
  cases h1
  exact ⟨rfl, rfl⟩

theorem derefS_unsolved {f i k : Nat} {s s' : St} {a : Tm} (hc : cellVal s.store i = none)
    (h : derefS f (.hole i k) s = .ok a s') : a = .hole i k ∧ s' = s := by
  cases f with
  | zero => rw [derefS] at h; cases h
  | succ f =>
    unfold derefS at h
    dsimp only at h
    rw [cellGet_bind, hc] at h
    obtain ⟨rfl, rfl⟩ := pure_ok h
    exact ⟨rfl, rfl⟩

theorem synEqS_unsolved {f i k : Nat} {b : Tm} {s s' : St} {x : Bool}
    (hc : cellVal s.store i = none) (hb : b.holeFree = true)
    (h : synEqS f (.hole i k) b s = .ok x s') : x = false ∧ s' = s := by
  cases f with
  | zero => rw [synEqS] at h; cases h
  | succ f =>
    unfold synEqS at h
    obtain ⟨a, s1, h1, h2⟩ := bind_ok h
    obtain ⟨rfl, rfl⟩ := derefS_unsolved hc h1
    have h2 := (derefS_P f b hb _).bind_inv h2
    cases b <;> first | (cases hb; done) | (obtain ⟨rfl, rfl⟩ := pure_ok h2; exact ⟨rfl, rfl⟩)

theorem whnfS_unsolved {f i k : Nat} {s s' : St} {a : Tm} (hc : cellVal s.store i = none)
    (h : whnfS f (.hole i k) s = .ok a s') : a = .hole i k ∧ s' = s := by
  cases f with
  | zero => rw [whnfS] at h; cases h
  | succ f =>
    unfold whnfS at h
    dsimp only at h
    rw [cellGet_bind, hc] at h
    obtain ⟨rfl, rfl⟩ := pure_ok h
    exact ⟨rfl, rfl⟩

theorem unifyHead_hole_left (f i k : Nat) (w2 : Tm) (h : w2.holeFree = true) :
    unifyHead f (.hole i k) w2 = (do
      match ← solveS f i k w2 with
      | some b => pure b
      | none => rightM f (.hole i k) w2) := by
  rw [unifyHead_eq]
  cases w2 <;> first | rfl | cases h

theorem unify_fresh_run {f i : Nat} {b : Tm} {s s' : St} {r : Bool} (hc : cellVal s.store i = none)
    (hb : b.holeFree = true) (hD : DHF s.dctx) (h : unifyS f (.hole i 0) b s = .ok r s') :
    r = true ∧ ∃ f' W, f' < f ∧ whnfS f' b s = .ok W s ∧
      s' = { s with store := s.store.set i (some W) } := by
  obtain ⟨f, x, s1, rfl, h1, h2⟩ := unifyS_ok_inv h
  obtain ⟨rfl, rfl⟩ := synEqS_unsolved hc hb h1
  obtain ⟨w1, s2, w2, s3, h3, h5, h6⟩ := h2
  obtain ⟨rfl, rfl⟩ := whnfS_unsolved hc h3
  obtain ⟨rfl, hw2, _⟩ := whnfS_ok_conv hb hD h5
  rw [unifyHead_hole_left f i 0 w2 hw2] at h6
  obtain ⟨o, s4, h7, h8⟩ := bind_ok h6
  obtain ⟨rfl, rfl⟩ := solveS_fresh hw2 h7
  dsimp only at h8
  obtain ⟨rfl, rfl⟩ := pure_ok h8
  exact ⟨rfl, f, w2, Nat.lt_succ_self _, h5, rfl⟩

theorem synEqS_pi_unsolved {f i : Nat} {x0 : Name} {c g : Tm} {s s' : St} {x : Bool}
    (hc : cellVal s.store i = none) (hg : g.holeFree = true)
    (h : synEqS f (.pi x0 false (.hole i 0) c) g s = .ok x s') : x = false ∧ s' = s := by
  cases f with
  | zero => rw [synEqS] at h; cases h
  | succ f =>
    unfold synEqS at h
    obtain ⟨a, s1, h1, h2⟩ := bind_ok h
    have ha : a = .pi x0 false (.hole i 0) c ∧ s1 = s := by
      cases f with
      | zero => rw [derefS] at h1; cases h1
      | succ f =>
        unfold derefS at h1
        obtain ⟨rfl, rfl⟩ := pure_ok h1
        exact ⟨rfl, rfl⟩
    obtain ⟨rfl, rfl⟩ := ha
    have h2 := (derefS_P f g hg _).bind_inv h2
    cases g <;> first
      | (cases hg; done)
      | (obtain ⟨rfl, rfl⟩ := pure_ok h2; exact ⟨rfl, rfl⟩)
      | skip
    case pi y jm d2 c2 =>
      simp only [Tm.holeFree, Bool.and_eq_true] at hg
      dsimp only at h2
      split at h2
      · obtain ⟨x1, s2, h3, h4⟩ := bind_ok h2
        obtain ⟨rfl, rfl⟩ := synEqS_unsolved hc hg.1 h3
        simp only [Bool.false_eq_true, if_false] at h4
        obtain ⟨rfl, rfl⟩ := pure_ok h4
        exact ⟨rfl, rfl⟩
      · obtain ⟨rfl, rfl⟩ := pure_ok h2
        exact ⟨rfl, rfl⟩

theorem whnfS_pi_inv {f : Nat} {x : Name} {im : Bool} {d c : Tm} {s s' : St} {a : Tm}
    (h : whnfS f (.pi x im d c) s = .ok a s') : a = .pi x im d c ∧ s' = s := by
  cases f with
  | zero => rw [whnfS] at h; cases h
  | succ f =>
    unfold whnfS at h
    obtain ⟨rfl, rfl⟩ := pure_ok h
    exact ⟨rfl, rfl⟩

theorem unifyHead_pi_left (f : Nat) (x : Name) (im : Bool) (d c w2 : Tm) (h : w2.holeFree = true) :
    unifyHead f (.pi x im d c) w2 = structM f (.pi x im d c) w2 := by
  rw [unifyHead_eq]
  cases w2 <;> first | rfl | cases h

theorem cellVal_set_ne {σ : List (Option Tm)} {i j : Nat} (v : Tm) (hij : j ≠ i) :
    cellVal (σ.set i (some v)) j = cellVal σ j := by
  unfold cellVal
  rw [List.getElem?_set_ne (fun e => hij e.symm)]

/-- The application rule's first unification, `Π (_ : ?i). ?j` against the (hole-free) type of the function:
the run is a run of `whnfS` on that type; it can succeed only if the result is a `Π` with an explicit
parameter, and then it does succeed, with two more runs of `whnfS`, on the domain and (one binder down, the
first cell set) on the codomain, whose results are put into the two cells. -/
theorem unify_pi_fresh_run {f i j : Nat} {x0 : Name} {g : Tm} {s s' : St} {r : Bool}
    (hi : cellVal s.store i = none) (hj : cellVal s.store j = none) (hij : j ≠ i)
    (hg : g.holeFree = true) (hD : DHF s.dctx)
    (h : unifyS f (.pi x0 false (.hole i 0) (.hole j 0)) g s = .ok r s') :
    ∃ f' w, f' < f ∧ whnfS f' g s = .ok w s ∧ (r = true → ∃ y d c, w = .pi y false d c) ∧
      ∀ y d c, w = .pi y false d c → r = true ∧ ∃ f1 f2 A B, whnfS f1 d s = .ok A s ∧
        whnfS f2 c { s with store := s.store.set i (some A), dctx := none :: s.dctx } =
          .ok B { s with store := s.store.set i (some A), dctx := none :: s.dctx } ∧
        s' = { s with store := (s.store.set i (some A)).set j (some B) } := by
  obtain ⟨f, x, s1, rfl, h1, h2⟩ := unifyS_ok_inv h
  obtain ⟨rfl, rfl⟩ := synEqS_pi_unsolved hi hg h1
  obtain ⟨w1, s2, w2, s3, h3, h5, h6⟩ := h2
  obtain ⟨rfl, rfl⟩ := whnfS_pi_inv h3
  obtain ⟨rfl, hw2, nl2, _⟩ := whnfS_ok_conv hg hD h5
  rw [unifyHead_pi_left f _ _ _ _ w2 hw2] at h6
  refine ⟨f, w2, Nat.lt_succ_self _, h5, fun hr => ?_, ?_⟩
  · -- against anything but a `Π` with the same flag the comparison answers `false`
    subst hr
    cases w2 <;> first
      | (cases hw2; done)
      | (exfalso; exact nl2 _ _ rfl)
      | (simp only [structM] at h6; obtain ⟨e, _⟩ := pure_ok h6; cases e; done)
      | skip
    case pi y jm d2 c2 =>
      simp only [structM] at h6
      split at h6
      · next him => cases eq_of_beq him; exact ⟨_, _, _, rfl⟩
      · obtain ⟨e, _⟩ := pure_ok h6; cases e
  · rintro y d2 c2 rfl
    simp only [Tm.holeFree, Bool.and_eq_true] at hw2
    simp only [structM, beq_self_eq_true, if_true] at h6
    obtain ⟨r1, s4, h7, h8⟩ := bind_ok h6
    obtain ⟨rfl, f1, A, _, hA, rfl⟩ := unify_fresh_run hi hw2.1 hD h7
    simp only [if_true] at h8
    obtain ⟨s5, h9, rfl⟩ := UnifySound.under_ok h8
    have hj' : cellVal (s3.store.set i (some A)) j = none := by
      rw [cellVal_set_ne A hij]; exact hj
    obtain ⟨rfl, f2, B, _, hB, rfl⟩ := unify_fresh_run (i := j) hj' hw2.2 (DHF.push hD) h9
    exact ⟨rfl, f1, f2, A, B, hA, hB, rfl⟩

theorem unify_pi_fresh {f i j : Nat} {x0 : Name} {g : Tm} {s s' : St}
    (hi : cellVal s.store i = none) (hj : cellVal s.store j = none) (hij : j ≠ i)
    (hg : g.holeFree = true) (hD : DHF s.dctx)
    (h : unifyS f (.pi x0 false (.hole i 0) (.hole j 0)) g s = .ok true s') :
    ∃ y A B, s' = { s with store := (s.store.set i (some A)).set j (some B) } ∧
      A.holeFree = true ∧ B.holeFree = true ∧ Conv s.dctx g (.pi y false A B) := by
  obtain ⟨f', w, _, hw, hpi, hrun⟩ := unify_pi_fresh_run hi hj hij hg hD h
  obtain ⟨y, d, c, rfl⟩ := hpi rfl
  obtain ⟨_, f1, f2, A, B, hA, hB, e⟩ := hrun y d c rfl
  obtain ⟨_, hf, _, cg⟩ := whnfS_ok_conv hg hD hw
  simp only [Tm.holeFree, Bool.and_eq_true] at hf
  obtain ⟨_, hfA, _, cA⟩ := whnfS_ok_conv hf.1 hD hA
  obtain ⟨_, hfB, _, cB⟩ := whnfS_ok_conv hf.2 (DHF.push hD) hB
  exact ⟨y, A, B, e, hfA, hfB, .trans cg (.pi _ _ _ cA cB)⟩

theorem derefS_solved {f i : Nat} {A : Tm} {s s' : St} {a : Tm} (hc : cellVal s.store i = some A)
    (hA : A.holeFree = true) (h : derefS f (.hole i 0) s = .ok a s') : a = A ∧ s' = s ∧ 2 ≤ f := by
  cases f with
  | zero => rw [derefS] at h; cases h
  | succ f =>
    unfold derefS at h
    dsimp only at h
    rw [cellGet_bind, hc] at h
    dsimp only at h
    have h := (StoreTransparent.ushiftS_ans f 0 0 (.refl A hA)).bind_inv h
    rw [ushift_zero] at h
    cases f with
    | zero => rw [derefS] at h; cases h
    | succ f =>
      obtain ⟨rfl, rfl⟩ := (derefS_P (f+1) A hA _).inv h
      exact ⟨rfl, rfl, by omega⟩

theorem synEqS_solved {f i : Nat} {A b : Tm} {s s' : St} {x : Bool}
    (hc : cellVal s.store i = some A) (hA : A.holeFree = true) (hb : b.holeFree = true)
    (h : synEqS f (.hole i 0) b s = .ok x s') : x = sameX A b ∧ s' = s := by
  cases f with
  | zero => rw [synEqS] at h; cases h
  | succ f =>
    have h' : synEqS (f+1) A b s = .ok x s' := by
      unfold synEqS at h ⊢
      obtain ⟨a, s1, h1, h2⟩ := bind_ok h
      obtain ⟨rfl, rfl, hf2⟩ := derefS_solved hc hA h1
      obtain ⟨f', rfl⟩ : ∃ f', f = f' + 1 := ⟨f - 1, by omega⟩
      rw [OracleLemmas.derefS_holeFree f' a hA]
      exact h2
    exact ((OracleLemmas.synEqS_ans _ (f+1)).1 A b hA hb).inv h'

theorem whnfS_solved_lt {f i : Nat} {A : Tm} {s s' : St} {a : Tm} (hc : cellVal s.store i = some A)
    (hA : A.holeFree = true) (h : whnfS f (.hole i 0) s = .ok a s') :
    ∃ f', f' < f ∧ whnfS f' A s = .ok a s' := by
  cases f with
  | zero => rw [whnfS] at h; cases h
  | succ f =>
    unfold whnfS at h
    dsimp only at h
    rw [cellGet_bind, hc] at h
    dsimp only at h
    have h := (StoreTransparent.ushiftS_ans f 0 0 (.refl A hA)).bind_inv h
    rw [ushift_zero] at h
    exact ⟨f, Nat.lt_succ_self _, h⟩

/-- a solved cell against a hole-free term: the run is the one `convX` makes on the contents of the cell, which
reach their weak head normal form with less fuel -/
theorem unify_solved {f i : Nat} {A b : Tm} {s s' : St} {r : Bool}
    (hc : cellVal s.store i = some A) (hA : A.holeFree = true) (hb : b.holeFree = true)
    (hD : DHF s.dctx) (h : unifyS f (.hole i 0) b s = .ok r s') :
    s' = s ∧ (r = true → Conv s.dctx A b) := by
  obtain ⟨f, x, s1, rfl, h1, h2⟩ := unifyS_ok_inv h
  obtain ⟨rfl, rfl⟩ := synEqS_solved hc hA hb h1
  cases hs : sameX A b
  · rw [hs] at h2
    obtain ⟨w1, s2, w2, s3, h3, h5, h6⟩ := h2
    obtain ⟨f', hlt, h3'⟩ := whnfS_solved_lt hc hA h3
    obtain ⟨rfl, hw1, x1⟩ := whnfS_sim f' A _ _ _ hA hD h3'
    obtain ⟨rfl, hw2, x2⟩ := whnfS_sim f b _ _ _ hb hD h5
    obtain ⟨e, hx⟩ := (head_sim false f (unifyS_sim false f) w1 w2 _ ⟨hw1, nofun⟩ ⟨hw2, nofun⟩
      (whnfS_notLet' h3') (whnfS_notLet' h5) hD nofun).ok h6
    refine ⟨e, fun hr => convX_sound (f+1) _ A b hA hb hD ?_⟩
    subst hr
    rw [OracleLemmas.convX_succ, hs, FuelLemmas.whnfX_mono_le (Nat.le_of_lt hlt) x1, x2]
    simp only [Bool.false_eq_true, if_false]
    exact hx
  · rw [hs] at h2
    obtain ⟨rfl, rfl⟩ := h2
    exact ⟨rfl, fun _ => .same hs⟩

theorem openS_solved {f j : Nat} {B a : Tm} {s s' : St} {ty : Tm}
    (hc : cellVal s.store j = some B) (hB : B.holeFree = true) (ha : a.holeFree = true)
    (h : openS f (.hole j 0) 0 a 0 s = .ok ty s') : ty = openT B 0 a 0 ∧ s' = s := by
  -- the solved cell reads as its contents
  have hr : StoreTransparent.Reads s.store 1 (.hole j 0) (ushift 0 0 B) :=
    .hole (cellVal_some.1 hc) (.refl B hB)
  rw [ushift_zero] at hr
  exact ((StoreTransparent.openS_ans (.refl a ha) f).1 1 _ _ 0 0 hr).inv h

theorem letTypeS_P (f : Nat) (ds : Defs) (hds : ds.holeFree = true) : ∀ (k i : Nat) (acc : Tm),
    acc.holeFree = true → AnsAll (letTypeS f ds k i acc) (letTypeX ds k i acc) := by
  intro k
  induction k with
  | zero => intro i acc _; unfold letTypeS letTypeX; exact AnsAll.pure _
  | succ k ih =>
    intro i acc h
    unfold letTypeS letTypeX
    dsimp only
    refine AnsAll.bind (v := ushiftDefs ds.len (ds.len - 1 - i) ds)
      (AnsAll.bind ((sshiftS_P f).2 ds.len ((ds.len - 1 - i : Nat) : Int) ds hds) ?_) ?_
    · rw [sshiftDefs_ushift]
      exact AnsAll.pure _
    · have hl : (Tm.letg (ushiftDefs ds.len (ds.len - 1 - i) ds)
          (.var (match (ds.toList[ds.len - 1 - i]?) with | some (x, _, _) => x | none => 0) i)).holeFree
          = true := by
        simp only [Tm.holeFree, Bool.and_eq_true, and_true]
        rw [holeFree_ushiftDefs]; exact hds
      exact AnsAll.bind (openS_P f acc 0 _ 0 h hl) (ih _ _ (openT_holeFree _ _ _ _ h hl))

open StoreMono (Le StoreLe CP inferS_ok inferDefsS_ok)

/-- Nothing is asked of `K`: in the proofs below a whole arm is taken apart first, and that no step reported an
error then follows from the chain of inequalities and `s'.nerrs = s.nerrs`. -/
theorem bind_le {α β} {m : M α} {K : α → M β} {s s' : St} {b : β}
    (hm : ∀ {a s1}, m s = .ok a s1 → Le s s1) (h : (m >>= K) s = .ok b s') :
    ∃ a s1, m s = .ok a s1 ∧ K a s1 = .ok b s' ∧ s.nerrs ≤ s1.nerrs := by
  obtain ⟨a, s1, h1, h2⟩ := bind_ok h
  exact ⟨a, s1, h1, h2, (hm h1).2⟩

theorem check_split {β} {f : Nat} {x y : Tm} {K : M β} {s s' : St} {b : β}
    (h : (unifyS f x y >>= fun r => if (!r) = true then (do reportError; K) else K) s = .ok b s') :
    ∃ r s1 s2, unifyS f x y s = .ok r s1 ∧ K s2 = .ok b s' ∧ s.nerrs ≤ s1.nerrs ∧ s1.nerrs ≤ s2.nerrs ∧
      (s2.nerrs ≤ s1.nerrs → r = true ∧ s2 = s1) := by
  obtain ⟨r, s1, h1, h2⟩ := bind_ok h
  have l1 := ((StoreMono.unifyS_le_ctx false f x y s nofun).ok h1).2.2.2
  cases r
  · simp only [Bool.not_false, if_true] at h2
    obtain ⟨u, s2, h3, h4⟩ := bind_ok h2
    cases h3
    exact ⟨false, s1, _, h1, h4, l1, Nat.le_succ _, fun hc => absurd hc (Nat.not_succ_le_self _)⟩
  · simp only [Bool.not_true, Bool.false_eq_true, if_false] at h2
    exact ⟨true, s1, s1, h1, h2, l1, Nat.le_refl _, fun _ => ⟨rfl, rfl⟩⟩

theorem pushDefsS_state (ds : Defs) (k : Nat) (s : St) (u : Unit) (s1 : St)
    (h : pushDefsS ds k s = .ok u s1) :
    s1 = { s with tctx := pushedT ds k s.tctx, dctx := pushedD ds k s.dctx } := by
  rw [pushDefsS_eq] at h
  cases h
  rfl

theorem cellVal_of_le {σ σ' : List (Option Tm)} {i : Nat} {A : Tm} (h : StoreLe σ σ')
    (hc : cellVal σ i = some A) : cellVal σ' i = some A := by
  unfold cellVal at hc ⊢
  have : σ[i]? = some (some A) := by
    cases e : σ[i]? with
    | none => rw [e] at hc; cases hc
    | some c => rw [e] at hc; dsimp only at hc; rw [hc]
  rw [h.2 i A this]

theorem cellVal_fresh1 (σ : List (Option Tm)) : cellVal ((σ ++ [none]) ++ [none]) σ.length = none := by
  unfold cellVal
  simp

theorem cellVal_fresh2 (σ : List (Option Tm)) :
    cellVal ((σ ++ [none]) ++ [none]) (σ ++ [none]).length = none := by
  unfold cellVal
  simp

theorem pi_cells {s1 s' : St} {A B : Tm}
    (e : s' = { ({ s1 with store := (s1.store ++ [none]) ++ [none] } : St) with
      store := (((s1.store ++ [none]) ++ [none]).set s1.store.length (some A)).set (s1.store ++ [none]).length
        (some B) }) :
    s'.tctx = s1.tctx ∧ s'.dctx = s1.dctx ∧ s'.nerrs = s1.nerrs ∧
      cellVal s'.store s1.store.length = some A ∧ cellVal s'.store (s1.store ++ [none]).length = some B := by
  subst e
  refine ⟨rfl, rfl, rfl, ?_, ?_⟩
  · rw [cellVal_set_ne B (by simp)]
    unfold cellVal
    rw [List.getElem?_set_self (by simp)]
  · unfold cellVal
    rw [List.getElem?_set_self (by simp)]

section Main
variable {J : TCtxX → DCtxX → Tm → Tm → Prop}

/-- what the induction proves about an error-free run of `inferS` on a hole-free term, at fuel `f` -/
def InferOK (J : TCtxX → DCtxX → Tm → Tm → Prop) (f : Nat) : Prop :=
  ∀ (t : Tm) (s : St) (e ty : Tm) (s' : St), t.holeFree = true → THF s.tctx → DHF s.dctx →
    inferS f t s = .ok (e, ty) s' → s'.nerrs = s.nerrs →
    ty.holeFree = true ∧ J s.tctx s.dctx t ty
def InferDefsOK (J : TCtxX → DCtxX → Tm → Tm → Prop) (f : Nat) : Prop :=
  ∀ (ds : Defs) (s : St) (l : List Tm) (s' : St), ds.holeFree = true → THF s.tctx → DHF s.dctx →
    inferDefsS f ds s = .ok l s' → s'.nerrs = s.nerrs → DefsJ J s.tctx s.dctx ds

theorem infer_ok {f : Nat} (ih1 : InferOK J f) {t t' ty : Tm} {s s1 : St} (ht : t.holeFree = true)
    (hΓ : THF s.tctx) (hD : DHF s.dctx) (h : inferS f t s = .ok (t', ty) s1) (hn : s1.nerrs = s.nerrs) :
    t' = t ∧ s1.tctx = s.tctx ∧ s1.dctx = s.dctx ∧ StoreLe s.store s1.store ∧ ty.holeFree = true ∧
      J s.tctx s.dctx t ty := by
  obtain ⟨hty, j⟩ := ih1 _ _ _ _ _ ht hΓ hD h hn
  obtain ⟨⟨c1, c2, le⟩, e⟩ := inferS_ok h
  exact ⟨e, c1, c2, le.1, hty, j⟩

/-- *Check `a` against `T`* — infer, unify the inferred type with the expected one (in either order), report if
that fails — is the step `inferS` is made of.  The rest `K` of the arm runs from a state `s2`; if no error was
reported up to there, the contexts stand as they were, the store has only grown, and `a : T`.  The splitting
part asks for nothing, so that an arm can be taken apart first and the error count settled at its end. -/
theorem check_ok {β} (RJ : Rules J) {f : Nat} (ih1 : InferOK J f) {a a' aty T x y : Tm} {K : M β}
    {s s1 s' : St} {b : β} (ha : a.holeFree = true) (hxy : (x = aty ∧ y = T) ∨ (x = T ∧ y = aty))
    (hi : inferS f a s = .ok (a', aty) s1)
    (h : (unifyS f x y >>= fun r => if (!r) = true then (do reportError; K) else K) s1 = .ok b s') :
    a' = a ∧ ∃ s2, K s2 = .ok b s' ∧ s.nerrs ≤ s2.nerrs ∧ (s2.nerrs ≤ s.nerrs → THF s.tctx →
      DHF s.dctx → T.holeFree = true → s2.tctx = s.tctx ∧ s2.dctx = s.dctx ∧ StoreLe s.store s2.store ∧
        J s.tctx s.dctx a T) := by
  obtain ⟨⟨_, _, _, n1⟩, e⟩ := inferS_ok hi
  obtain ⟨r, s2, s3, hu, h, n2, n3, hr⟩ := check_split h
  refine ⟨e, s3, h, by omega, fun hn hΓ hD hT => ?_⟩
  obtain ⟨rfl, rfl⟩ := hr (by omega)
  obtain ⟨_, c1, c2, le1, haty, j⟩ := infer_ok ih1 ha hΓ hD hi (by omega)
  have hD1 : DHF s1.dctx := by rw [c2]; exact hD
  have key : s3 = s1 ∧ Conv s1.dctx aty T := by
    rcases hxy with ⟨rfl, rfl⟩ | ⟨rfl, rfl⟩
    · obtain ⟨e, cv⟩ := unifyS_ok_conv haty hT hD1 hu
      exact ⟨e, cv rfl⟩
    · obtain ⟨e, cv⟩ := unifyS_ok_conv hT haty hD1 hu
      exact ⟨e, .symm (cv rfl)⟩
  obtain ⟨rfl, cv⟩ := key
  rw [c2] at cv
  exact ⟨c1, c2, le1, RJ.conv _ _ _ _ _ j cv⟩

theorem infer_app (RJ : Rules J) (f : Nat) (ih1 : InferOK J f) (g a : Tm) (s : St) (e ty : Tm)
    (s' : St) (ht : (Tm.app g a).holeFree = true) (hΓ : THF s.tctx) (hD : DHF s.dctx)
    (h : inferS (f+1) (.app g a) s = .ok (e, ty) s') (hn : s'.nerrs = s.nerrs) :
    ty.holeFree = true ∧ J s.tctx s.dctx (.app g a) ty := by
  simp only [Tm.holeFree, Bool.and_eq_true] at ht
  rw [inferS] at h
  dsimp only at h
  -- the arm taken apart: infer `g`, two cells, first check, infer `a`, second check, open the codomain
  obtain ⟨⟨g', gty⟩, s1, hg, h, n1⟩ := bind_le (fun e => (inferS_ok e).1.2.2) h
  dsimp only at h
  obtain ⟨i, s2, hi, h⟩ := bind_ok h
  cases hi
  obtain ⟨j, s3, hj, h⟩ := bind_ok h
  cases hj
  obtain ⟨r1, s4, s5, hu1, h, n4, n5, hr1⟩ := check_split h
  obtain ⟨⟨a', aty⟩, s6, ha, h, n6⟩ := bind_le (fun e => (inferS_ok e).1.2.2) h
  dsimp only at h
  obtain ⟨r2, s7, s8, hu2, h, n7, n8, hr2⟩ := check_split h
  obtain ⟨tyv, s9, ho, h, n9⟩ := bind_le (fun e => (((StoreMono.openS_fr f).1 _ _ _ _ _).ok e).le) h
  obtain ⟨e', rfl⟩ := pure_ok h
  cases e'
  -- no error was reported, so both checks succeeded
  have n4 : s1.nerrs ≤ s4.nerrs := n4
  obtain ⟨rfl, rfl⟩ := hr1 (by omega)
  obtain ⟨rfl, rfl⟩ := hr2 (by omega)
  -- `g : gty`, hole-free
  obtain ⟨rfl, c1, c2, _, hgty, jg⟩ := infer_ok ih1 ht.1 hΓ hD hg (by omega)
  have hD1 : DHF s1.dctx := by rw [c2]; exact hD
  -- the first check solves both cells at once: `gty ≡ Π (y : A). B`, `?i := A`, `?j := B`
  obtain ⟨y, A, B, es4, hA, hB, cg⟩ := unify_pi_fresh
    (s := { s1 with store := (s1.store ++ [none]) ++ [none] }) (i := s1.store.length)
    (j := (s1.store ++ [none]).length) (cellVal_fresh1 _) (cellVal_fresh2 _)
    (show (s1.store ++ [none]).length ≠ s1.store.length by simp) hgty hD1 hu1
  obtain ⟨t4, d4, _, ci4, cj4⟩ := pi_cells es4
  clear es4
  have hD4 : DHF s5.dctx := by rw [d4]; exact hD1
  -- `a : aty`, hole-free; the cells still hold `A` and `B`
  obtain ⟨rfl, c5, c6, le5, haty, ja⟩ :=
    infer_ok ih1 ht.2 (by rw [t4, c1]; exact hΓ) hD4 ha (by omega)
  -- the second check: `A ≡ aty`; the reported type is `B` opened with `a`
  obtain ⟨rfl, cA⟩ := unify_solved (cellVal_of_le le5 ci4) hA haty (by rw [c6]; exact hD4) hu2
  obtain ⟨rfl, rfl⟩ := openS_solved (cellVal_of_le le5 cj4) hB ht.2 ho
  refine ⟨openT_holeFree _ _ _ _ hB ht.2, ?_⟩
  -- everything back in the contexts of `s`
  have cA' := cA rfl
  rw [c6, d4, c2] at cA'
  rw [c2] at cg
  rw [t4, d4, c1, c2] at ja
  exact RJ.app _ _ y false g' a' A B (RJ.conv _ _ _ _ _ jg cg) (RJ.conv _ _ _ _ _ ja (.symm cA'))

theorem infer_letg (RJ : Rules J) (f : Nat) (ih1 : InferOK J f) (ih2 : InferDefsOK J f) (ds : Defs)
    (body : Tm) (s : St) (e ty : Tm) (s' : St) (ht : (Tm.letg ds body).holeFree = true)
    (hΓ : THF s.tctx) (hD : DHF s.dctx) (h : inferS (f+1) (.letg ds body) s = .ok (e, ty) s')
    (hn : s'.nerrs = s.nerrs) : ty.holeFree = true ∧ J s.tctx s.dctx (.letg ds body) ty := by
  simp only [Tm.holeFree, Bool.and_eq_true] at ht
  rw [inferS] at h
  dsimp only at h
  -- the arm taken apart: push the group, infer the definitions, infer the body, fold the type, pop
  obtain ⟨u, s1, hp, h⟩ := bind_ok h
  have es1 := pushDefsS_state _ _ _ _ _ hp
  have n1 : s.nerrs ≤ s1.nerrs := by rw [es1]; exact Nat.le_refl _
  obtain ⟨ds', s2, hds, h, n2⟩ := bind_le (fun e => (inferDefsS_ok e).1.2.2) h
  obtain ⟨⟨body', bty⟩, s3, hb, h, n3⟩ := bind_le (fun e => (inferS_ok e).1.2.2) h
  dsimp only at h
  obtain ⟨tyv, s4, hl, h, n4⟩ := bind_le (fun e => ((StoreMono.letTypeS_fr f _ _ _ _ _).ok e).le) h
  obtain ⟨u2, s5, hq, h⟩ := bind_ok h
  rw [popN_eq] at hq
  cases hq
  obtain ⟨e', rfl⟩ := pure_ok h
  cases e'
  have hn : s4.nerrs = s.nerrs := hn
  -- the contexts under the group are the oracle's, and hole-free
  have t1 : s1.tctx = (pushGroupX ds 0 (s.tctx, s.dctx)).1 := by rw [es1, pushGroupX_eq]
  have d1 : s1.dctx = (pushGroupX ds 0 (s.tctx, s.dctx)).2 := by rw [es1, pushGroupX_eq]
  clear es1
  obtain ⟨hΓ', hD'⟩ := pushGroupX_HF ds 0 s.tctx s.dctx ht.1 hΓ hD
  have hΓ1 : THF s1.tctx := by rw [t1]; exact hΓ'
  have hD1 : DHF s1.dctx := by rw [d1]; exact hD'
  -- the definitions are well typed; the body has the hole-free type `bty`
  have jds := ih2 _ _ _ _ ht.1 hΓ1 hD1 hds (by omega)
  obtain ⟨⟨t2, d2, _⟩, eds⟩ := inferDefsS_ok hds
  obtain ⟨rfl, _, _, _, hbty, jb⟩ :=
    infer_ok ih1 ht.2 (by rw [t2]; exact hΓ1) (by rw [d2]; exact hD1) hb (by omega)
  -- the fold computes `groupTypeX ds bty`
  rw [eds] at hl
  obtain ⟨rfl, _⟩ := (letTypeS_P f ds ht.1 ds.len 0 bty hbty _).inv hl
  refine ⟨letTypeX_holeFree ds ht.1 _ _ _ hbty, ?_⟩
  rw [t2, d2, t1, d1] at jb
  rw [t1, d1] at jds
  exact RJ.letU _ _ ds body' bty ht.1 ht.2 hbty jds jb

theorem inferDefs_step (RJ : Rules J) (f : Nat) (ih1 : InferOK J f) (ih2 : InferDefsOK J f) :
    InferDefsOK J (f+1) := by
  intro ds s l s' hds hΓ hD h hn
  cases ds with
  | nil => trivial
  | cons x ann d r =>
    simp only [Defs.holeFree, Bool.and_eq_true] at hds
    rw [inferDefsS] at h
    obtain ⟨⟨ann', annTy⟩, s1, hi, h⟩ := bind_ok h
    obtain ⟨_, s3, h, n3, k3⟩ := check_ok RJ ih1 hds.1.1 (.inl ⟨rfl, rfl⟩) hi h
    obtain ⟨⟨d', dty⟩, s4, hi', h⟩ := bind_ok h
    obtain ⟨_, s6, h, n6, k6⟩ := check_ok RJ ih1 hds.1.2 (.inl ⟨rfl, rfl⟩) hi' h
    obtain ⟨rest, s7, hrest, h, n7⟩ := bind_le (fun e => (inferDefsS_ok e).1.2.2) h
    obtain ⟨_, rfl⟩ := pure_ok h
    obtain ⟨c1, c2, _, jann⟩ := k3 (by omega) hΓ hD rfl
    obtain ⟨c3, c4, _, jd⟩ := k6 (by omega) (c1 ▸ hΓ) (c2 ▸ hD) hds.1.1
    have jr := ih2 _ _ _ _ hds.2 (c3 ▸ c1 ▸ hΓ) (c4 ▸ c2 ▸ hD) hrest (by omega)
    rw [c1, c2] at jd
    rw [c3, c4, c1, c2] at jr
    exact ⟨jann, jd, jr⟩

theorem infer_step (RJ : Rules J) (f : Nat) (ih1 : InferOK J f) (ih2 : InferDefsOK J f) :
    InferOK J (f+1) := by
  intro t s e ty s' ht hΓ hD h hn
  cases t
  case hole => cases ht
  case type => unfold inferS at h; obtain ⟨e, _⟩ := pure_ok h; cases e; exact ⟨rfl, RJ.type _ _⟩
  case int => unfold inferS at h; obtain ⟨e, _⟩ := pure_ok h; cases e; exact ⟨rfl, RJ.int _ _⟩
  case bool => unfold inferS at h; obtain ⟨e, _⟩ := pure_ok h; cases e; exact ⟨rfl, RJ.bool _ _⟩
  case tt => unfold inferS at h; obtain ⟨e, _⟩ := pure_ok h; cases e; exact ⟨rfl, RJ.tt _ _⟩
  case ff => unfold inferS at h; obtain ⟨e, _⟩ := pure_ok h; cases e; exact ⟨rfl, RJ.ff _ _⟩
  case lit n => unfold inferS at h; obtain ⟨e, _⟩ := pure_ok h; cases e; exact ⟨rfl, RJ.lit _ _ n⟩
  case var x i =>
    rw [inferS] at h
    obtain ⟨st, s1, h1, h2⟩ := bind_ok h
    cases h1
    rcases heq : s.tctx[i]? with _ | ⟨ty0, off⟩ <;> rw [heq] at h2 <;> dsimp only at h2
    · cases h2
    · split at h2
      · cases h2
      · next hlt =>
        have hty0 : ty0.holeFree = true := THF.get hΓ heq
        have h2 := (StoreTransparent.ushiftS_ans f 0 (i + 1 - off) (.refl ty0 hty0)).bind_inv h2
        obtain ⟨e, _⟩ := pure_ok h2
        cases e
        exact ⟨by rw [holeFree_ushift]; exact hty0, RJ.var _ _ x i ty0 off heq (by omega)⟩
  case lam x im d b =>
    simp only [Tm.holeFree, Bool.and_eq_true] at ht
    rw [inferS] at h
    obtain ⟨⟨d', dty⟩, s1, hi, h⟩ := bind_ok h
    obtain ⟨rfl, s3, h, n3, k3⟩ := check_ok RJ ih1 ht.1 (.inl ⟨rfl, rfl⟩) hi h
    obtain ⟨u, s4, hp, h⟩ := bind_ok h
    cases hp
    obtain ⟨⟨b', cod⟩, s5, hb, h, n5⟩ := bind_le (fun e => (inferS_ok e).1.2.2) h
    dsimp only at h
    obtain ⟨u2, s6, hq, h⟩ := bind_ok h
    cases hq
    obtain ⟨e, rfl⟩ := pure_ok h
    cases e
    have n5 : s3.nerrs ≤ s5.nerrs := n5
    have hn : s5.nerrs = s.nerrs := hn
    obtain ⟨c1, c2, _, jd⟩ := k3 (by omega) hΓ hD rfl
    obtain ⟨rfl, _, _, _, hcod, jb⟩ := infer_ok ih1 ht.2
      (THF_cons ht.1 (by rw [c1]; exact hΓ)) (DHF.push (by rw [c2]; exact hD)) hb (by show _ = s3.nerrs; omega)
    refine ⟨by simp [Tm.holeFree, ht.1, hcod], ?_⟩
    simp only [c1, c2] at jb
    exact RJ.lam _ _ x im d' b' cod jd jb
  case pi x im d c =>
    simp only [Tm.holeFree, Bool.and_eq_true] at ht
    rw [inferS] at h
    obtain ⟨⟨d', dty⟩, s1, hi, h⟩ := bind_ok h
    obtain ⟨rfl, s3, h, n3, k3⟩ := check_ok RJ ih1 ht.1 (.inl ⟨rfl, rfl⟩) hi h
    obtain ⟨u, s4, hp, h⟩ := bind_ok h
    cases hp
    obtain ⟨⟨c', cty⟩, s5, hi', h⟩ := bind_ok h
    obtain ⟨rfl, s7, h, n7, k7⟩ := check_ok RJ ih1 ht.2 (.inl ⟨rfl, rfl⟩) hi' h
    obtain ⟨u2, s8, hq, h⟩ := bind_ok h
    cases hq
    obtain ⟨e, rfl⟩ := pure_ok h
    cases e
    have n7 : s3.nerrs ≤ s7.nerrs := n7
    have hn : s7.nerrs = s.nerrs := hn
    obtain ⟨c1, c2, _, jd⟩ := k3 (by omega) hΓ hD rfl
    obtain ⟨_, _, _, jc⟩ := k7 (by show _ ≤ s3.nerrs; omega)
      (THF_cons ht.1 (by rw [c1]; exact hΓ)) (DHF.push (by rw [c2]; exact hD)) rfl
    simp only [c1, c2] at jc
    exact ⟨rfl, RJ.pi _ _ x im d' c' jd jc⟩
  case neg a =>
    simp only [Tm.holeFree] at ht
    rw [inferS] at h
    obtain ⟨⟨a', aty⟩, s1, hi, h⟩ := bind_ok h
    obtain ⟨rfl, s2, h, n, k⟩ := check_ok RJ ih1 ht (.inl ⟨rfl, rfl⟩) hi h
    obtain ⟨e, rfl⟩ := pure_ok h
    cases e
    exact ⟨rfl, RJ.neg _ _ _ (k (by omega) hΓ hD rfl).2.2.2⟩
  case bin op a b =>
    simp only [Tm.holeFree, Bool.and_eq_true] at ht
    unfold inferS at h
    dsimp only at h
    obtain ⟨⟨a', aty⟩, s1, hi, h⟩ := bind_ok h
    obtain ⟨rfl, s2, h, n2, k2⟩ := check_ok RJ ih1 ht.1 (.inl ⟨rfl, rfl⟩) hi h
    obtain ⟨⟨b', bty⟩, s3, hi', h⟩ := bind_ok h
    obtain ⟨rfl, s4, h, n4, k4⟩ := check_ok RJ ih1 ht.2 (.inl ⟨rfl, rfl⟩) hi' h
    obtain ⟨e, rfl⟩ := pure_ok h
    cases e
    obtain ⟨c1, c2, _, ja⟩ := k2 (by omega) hΓ hD rfl
    obtain ⟨_, _, _, jb⟩ := k4 (by omega) (c1 ▸ hΓ) (c2 ▸ hD) rfl
    rw [c1, c2] at jb
    have key := RJ.bin _ _ op _ _ ja jb
    cases op <;> exact ⟨rfl, key⟩
  case ite c a b =>
    simp only [Tm.holeFree, Bool.and_eq_true] at ht
    rw [inferS] at h
    obtain ⟨⟨c', cty⟩, s1, hi, h⟩ := bind_ok h
    obtain ⟨rfl, s3, h, n3, k3⟩ := check_ok RJ ih1 ht.1.1 (.inl ⟨rfl, rfl⟩) hi h
    obtain ⟨⟨a', aty⟩, s4, ha, h, n4⟩ := bind_le (fun e => (inferS_ok e).1.2.2) h
    dsimp only at h
    obtain ⟨⟨b', bty⟩, s5, hi', h⟩ := bind_ok h
    obtain ⟨rfl, s7, h, n7, k7⟩ := check_ok RJ ih1 ht.2 (.inr ⟨rfl, rfl⟩) hi' h
    obtain ⟨e, rfl⟩ := pure_ok h
    cases e
    obtain ⟨c1, c2, _, jc⟩ := k3 (by omega) hΓ hD rfl
    obtain ⟨rfl, c3, c4, _, haty, ja⟩ := infer_ok ih1 ht.1.2 (c1 ▸ hΓ) (c2 ▸ hD) ha (by omega)
    obtain ⟨_, _, _, jb⟩ := k7 (by omega) (c3 ▸ c1 ▸ hΓ) (c4 ▸ c2 ▸ hD) haty
    rw [c1, c2] at ja
    rw [c3, c4, c1, c2] at jb
    exact ⟨haty, RJ.ite _ _ _ _ _ _ jc ja jb⟩
  case app g a => exact infer_app RJ f ih1 g a s e ty s' ht hΓ hD h hn
  case letg ds body => exact infer_letg RJ f ih1 ih2 ds body s e ty s' ht hΓ hD h hn

theorem infer_sound (RJ : Rules J) : ∀ f, InferOK J f ∧ InferDefsOK J f := by
  intro f
  induction f with
  | zero =>
    constructor
    · intro t s e ty s' _ _ _ h; rw [inferS] at h; cases h
    · intro ds s l s' _ _ _ h; rw [inferDefsS] at h; cases h
  | succ f ih => exact ⟨infer_step RJ f ih.1 ih.2, inferDefs_step RJ f ih.1 ih.2⟩

theorem checker_sound_generic (RJ : Rules J) {fuel : Nat} {t e ty : Tm} {s : St}
    (ht : t.holeFree = true) (h : inferS fuel t {} = .ok (e, ty) s) (hn : s.nerrs = 0) :
    e = t ∧ ty.holeFree = true ∧ J [] [] t ty := by
  obtain ⟨hty, j⟩ := (infer_sound RJ fuel).1 t {} e ty s ht THF_nil DHF.nil h hn
  exact ⟨(inferS_ok h).2, hty, j⟩

theorem checker_sound_zonked (RJ : Rules J) {fuel f1 f2 : Nat} {t e ty ze zty : Tm} {s : St}
    (ht : t.holeFree = true) (h : inferS fuel t {} = .ok (e, ty) s) (hn : s.nerrs = 0)
    (hze : zonk f1 s.store e = some ze) (hzty : zonk f2 s.store ty = some zty) :
    ze = t ∧ J [] [] ze zty := by
  obtain ⟨rfl, hty, j⟩ := checker_sound_generic RJ ht h hn
  rw [UnifySound.Zk_holeFree_eq ht ⟨_, hze⟩, UnifySound.Zk_holeFree_eq hty ⟨_, hzty⟩]
  exact ⟨rfl, j⟩

end Main

end CheckSound
