import GramModel.Lemmas.PreservationBridge
import GramModel.Lemmas.Canonical
import GramModel.Lemmas.CheckRules

/-!
# Subject reduction, part 5: the theorem

`StepOK Γ Δ t t'` is the call-by-value step relation `Step` with the contexts of the redex threaded
through, in which unfolding the first definition of a group (`letU`) carries the side condition that
the recursive unfolding `let x = d; x` it substitutes (`selfLet`) is well typed in the context of the
remaining group.  `preservation`: a `StepOK` step preserves (hole-free) types.
-/

namespace Pres

open WhnfLemmas CCSubst OracleLemmas CCPar TypingSound RewriteTyping

theorem cv_comps_refl {D : Ctx} (ds : Defs) (hds : ds.holeFree = true) (i : Nat) (t1 t2 : Tm)
    (e1 : (comps ds)[i]? = some t1) (e2 : (comps ds)[i]? = some t2) : Cv D t1 t2 := by
  rw [e1] at e2; cases e2
  exact .refl (comps_holeFree ds hds t1 (List.mem_of_getElem? e1))

/-- a step is a conversion in the empty context (`ConvCoherence.step_conv`), which has no entry to respect -/
theorem step_cv {t t' : Tm} (h : Step t t') (hf : t.holeFree = true) (D : Ctx) : Cv D t t' :=
  (conv_cv_hf (ConvCoherence.step_conv h []) Canonical.DWF_nil (fun _ he => by cases he) hf
    (Step_holeFree h hf)).ctx D (fun i d x e => by simp [lkD] at e)


/-- the self-contained recursive unfolding of a definition that `unfoldDef` substitutes -/
def selfLet (x : Name) (ann d : Tm) (idx : Nat) : Tm :=
  .letg (.cons x (openT (ushift 0 1 ann) (idx + 1) (.var x 0) 0)
                 (openT (ushift 0 1 d) (idx + 1) (.var x 0) 0) .nil) (.var x 0)

theorem unfoldDef_selfLet (x : Name) (ann d : Tm) (idx : Nat) :
    unfoldDef x ann d idx = openT d idx (selfLet x ann d idx) 0 := rfl

theorem selfLet_hf {x : Name} {ann d : Tm} (idx : Nat) (ha : ann.holeFree = true) (hd : d.holeFree = true) :
    (selfLet x ann d idx).holeFree = true := by
  have h1 := openT_holeFree (ushift 0 1 ann) (idx + 1) (.var x 0) 0 (ushift_hf ha _ _) rfl
  have h2 := openT_holeFree (ushift 0 1 d) (idx + 1) (.var x 0) 0 (ushift_hf hd _ _) rfl
  simp [selfLet, Tm.holeFree, Defs.holeFree, h1, h2]

theorem openDefs_self_ref' (y : Name) (L : Tm) (v : Nat) : ∀ (ds : Defs) (k : Nat),
    openDefs (openDefs (ushiftDefs k 1 ds) (v + 1 + k) (Tm.var y 0) k) k L k = openDefs ds (v + k) L k :=
  fun ds k => by
    have := (open_self_ref_both y L).2 ds k (v + k) (Nat.le_add_left k v)
    rwa [Nat.add_right_comm v k 1] at this

/-- replacing the old self reference by the new binder and then the new binder by `L` is replacing
the old self reference by `L` -/
theorem open_self (y : Name) (L t : Tm) (v : Nat) :
    openT (openT (ushift 0 1 t) (v + 1) (Tm.var y 0) 0) 0 L 0 = openT t v L 0 :=
  open_self_ref y L t 0 v (Nat.zero_le _)

/-- re-binding the self reference twice is (up to names) re-binding it once -/
theorem sameX_swap (y : Name) (t : Tm) (ht : t.holeFree = true) :
    sameX (openT (ushift 0 1 t) 1 (Tm.var y 0) 0) t = true := by
  rw [sameX_iff, eraseX_openT, eraseX_ushift, eraseX_er t ht]
  have := swap_id t 0
  simpa [eraseX] using this

theorem selfLet_cv_inner (x : Name) (annS dS : Tm) (hAS : annS.holeFree = true) (hDS : dS.holeFree = true)
    (D : Ctx) : Cv D (.letg (.cons x annS dS .nil) (.var x 0)) (unfoldDef x annS dS 0) := by
  have s1 : Cv D (.letg (.cons x annS dS .nil) (.var x 0)) (.letg .nil (unfoldDef x annS dS 0)) := by
    have := Cv.letStep (D := D) x annS dS .nil (.var x 0) hAS hDS rfl rfl
    simpa [openDefs, openT, ushift_zero] using this
  have hU2 : (unfoldDef x annS dS 0).holeFree = true := unfoldDef_holeFree x annS dS 0 hAS hDS
  exact .trans s1 (.letNil _ hU2)

/-- the unfolding of the re-bound definition is, up to names, the unfolding of the definition -/
theorem unfold_rebound_same (x : Name) (ann d : Tm) (idx : Nat) (hd : d.holeFree = true) (annS : Tm) :
    sameX (unfoldDef x annS (openT (ushift 0 1 d) (idx + 1) (Tm.var x 0) 0) 0) (unfoldDef x ann d idx) = true := by
  have hDS : (openT (ushift 0 1 d) (idx + 1) (Tm.var x 0) 0).holeFree = true :=
    openT_holeFree _ _ _ _ (ushift_hf hd _ _) rfl
  rw [unfoldDef_selfLet x annS _ 0, unfoldDef_selfLet x ann d idx, open_self]
  refine sameX_openT idx 0 (sameX_refl d) ?_
  simp only [selfLet, sameX, sameDefsX, Bool.and_true]
  simp only [BEq.rfl, Bool.and_true]
  exact sameX_swap x _ hDS

theorem selfLet_cv (x : Name) (ann d : Tm) (idx : Nat) (ha : ann.holeFree = true) (hd : d.holeFree = true)
    (D : Ctx) : Cv D (selfLet x ann d idx) (unfoldDef x ann d idx) := by
  have hU : (unfoldDef x ann d idx).holeFree = true := unfoldDef_holeFree x ann d idx ha hd
  have hAS : (openT (ushift 0 1 ann) (idx + 1) (Tm.var x 0) 0).holeFree = true :=
    openT_holeFree _ _ _ _ (ushift_hf ha _ _) rfl
  have hDS : (openT (ushift 0 1 d) (idx + 1) (Tm.var x 0) 0).holeFree = true :=
    openT_holeFree _ _ _ _ (ushift_hf hd _ _) rfl
  have s := selfLet_cv_inner x _ _ hAS hDS D
  exact .trans s (.same (unfold_rebound_same x ann d idx hd _) (unfoldDef_holeFree x _ _ 0 hAS hDS) hU)


theorem SbC.top (n : Nat) (v : Tm) (F F' : Nat → Option Tm) (G : Ctx)
    (hF : ∀ i, i < n → F' i = (F i).map (fun t => openT t n v 0)) :
    SbC n v (ext (n + 1) F G) (ext n F' G) := by
  intro i hin
  by_cases hi : i < n
  · rw [if_pos hi, ext_lt hi, ext_lt (by omega)]; exact hF i hi
  · rw [if_neg hi, ext_ge (by omega), ext_ge (by omega), show i - 1 - n = i - (n + 1) by omega]
    cases G (i - (n + 1)) with
    | none => rfl
    | some t => simp only [Option.map_some]; rw [open_ushift_past t n n v 0 (Nat.le_refl _)]

theorem WkC.refl0 (D : Ctx) : WkC 0 0 D D := by
  intro i
  rw [if_neg (by omega), Nat.add_zero]
  cases D i <;> simp [ushift_zero]

/-- substituting `v` for the first variable of a group `x : ann = d; rest` turns its typing context into
that of `rest[v]` (`groupD`: its definitions context likewise) -/
theorem SbC.groupT (x : Name) (ann d : Tm) (rest : Defs) (v : Tm) (G : Ctx) :
    SbC rest.len v (ext (Defs.cons x ann d rest).len (annF (.cons x ann d rest)) G)
      (ext rest.len (annF (openDefs rest rest.len v 0)) G) :=
  SbC.top rest.len v _ _ _ (fun i hi => by
    simp only [annF, annAt_openDefs, annAt]; rw [if_neg (by omega)])

theorem SbC.groupD (x : Name) (ann d : Tm) (rest : Defs) (v : Tm) (D : Ctx) :
    SbC rest.len v (ext (Defs.cons x ann d rest).len (defF (.cons x ann d rest)) D)
      (ext rest.len (defF (openDefs rest rest.len v 0)) D) :=
  SbC.top rest.len v _ _ _ (fun i hi => by
    simp only [defF, defAt_openDefs, defAt]; rw [if_neg (by omega)])

theorem ext_annF_first (x : Name) (ann d : Tm) (rest : Defs) (G : Ctx) :
    ext (Defs.cons x ann d rest).len (annF (.cons x ann d rest)) G rest.len = some ann := by
  rw [ext_lt (by simp)]; simp only [annF, annAt, if_true]

theorem ext_defF_first (x : Name) (ann d : Tm) (rest : Defs) (D : Ctx) :
    ext (Defs.cons x ann d rest).len (defF (.cons x ann d rest)) D rest.len = some d := by
  rw [ext_lt (by simp)]; simp only [defF, defAt, if_true]

theorem ctxCv_pointwise {D D' : Ctx} (hD' : CHF D')
    (h : ∀ i d, D i = some d → D' i = some d ∨ ∃ d', D' i = some d' ∧ Cv D' d' d) : CtxCv D D' := by
  intro i d x e
  rcases h i d e with e' | ⟨d', e', c⟩
  · exact .delta x i d e' (hD' i d e')
  · exact .trans (.delta x i d' e' (hD' i d' e')) c

/-- the `m` entries on top of `D` exchanged for entries convertible with them -/
theorem ctxCv_ext {m : Nat} {F F' : Nat → Option Tm} {D : Ctx} (hD : CHF D)
    (hF' : ∀ i t, i < m → F' i = some t → t.holeFree = true)
    (h : ∀ i d, i < m → F i = some d → ∃ d', F' i = some d' ∧ Cv (ext m F' D) d' d) :
    CtxCv (ext m F D) (ext m F' D) := by
  refine ctxCv_pointwise (CHF_ext hF' hD) fun i d e => ?_
  by_cases hi : i < m
  · rw [ext_lt hi] at e
    obtain ⟨d', e', c⟩ := h i d hi e
    exact .inr ⟨d', by rw [ext_lt hi]; exact e', c⟩
  · rw [ext_ge (Nat.not_lt.1 hi)] at e ⊢; exact .inl e

theorem tyCv_ext {m : Nat} {F F' : Nat → Option Tm} {G D' : Ctx} (hG : CHF G)
    (h : ∀ i A, i < m → F i = some A → ∃ A', F' i = some A' ∧ A'.holeFree = true ∧ Cv D' A' A) :
    TyCv D' (ext m F G) (ext m F' G) := by
  intro i A e
  rcases ext_some e with ⟨hi, e1⟩ | ⟨hi, t0, e0, rfl⟩
  · obtain ⟨A', e', hA', c⟩ := h i A hi e1
    exact ⟨A', by rw [ext_lt hi]; exact e', hA', c⟩
  · have hA : (ushift 0 m t0).holeFree = true := by rw [holeFree_ushift]; exact hG _ _ e0
    exact ⟨_, by rw [ext_ge hi, e0]; rfl, hA, .refl hA⟩

/-- the contexts of a group instantiated with two convertible terms are convertible -/
theorem group_ctxCv (rest : Defs) (hr : rest.holeFree = true) (v v' : Tm) (hvv : ∀ X : Ctx, Cv X v v')
    (D : Ctx) (hD : CHF D) :
    CtxCv (ext rest.len (defF (openDefs rest rest.len v 0)) D)
      (ext rest.len (defF (openDefs rest rest.len v' 0)) D) := by
  have hv := (hvv D).hf
  refine ctxCv_ext hD (fun i t _ e => defAt_holeFree _ i t (openDefs_holeFree _ _ _ _ hr hv.2) e)
    fun i d _ e => ?_
  simp only [defF, defAt_openDefs, Option.map_eq_some_iff] at e ⊢
  obtain ⟨d0, e0, rfl⟩ := e
  exact ⟨_, ⟨d0, e0, rfl⟩, .symm (cv_arg (hvv _) d0 rest.len 0 _ (defAt_holeFree rest i d0 hr e0) (WkC.refl0 _))⟩

theorem group_tyCv (rest : Defs) (hr : rest.holeFree = true) (v v' : Tm) (hvv : ∀ X : Ctx, Cv X v v')
    (G D' : Ctx) (hG : CHF G) :
    TyCv D' (ext rest.len (annF (openDefs rest rest.len v 0)) G)
      (ext rest.len (annF (openDefs rest rest.len v' 0)) G) := by
  have hv := (hvv D').hf
  refine tyCv_ext hG fun i A _ e => ?_
  simp only [annF, annAt_openDefs, Option.map_eq_some_iff] at e ⊢
  obtain ⟨a0, e0, rfl⟩ := e
  have ha0 := annAt_holeFree rest i a0 hr e0
  exact ⟨_, ⟨a0, e0, rfl⟩, openT_holeFree _ _ _ _ ha0 hv.2, .symm (cv_arg (hvv _) a0 rest.len 0 _ ha0 (WkC.refl0 _))⟩


/-- `Step`, with the contexts of the redex, where unfolding the first definition of a group requires
its recursive unfolding `let x = d; x` to be well typed in the context of the remaining group (`unfoldDef` re-binds
`x` in front of the remaining group; `C04_preservation_fixed_stmt` says what goes wrong without the condition,
`Pres.Refute` is the program on which it does). -/
inductive StepOK : TCtxX → DCtxX → Tm → Tm → Prop
  | appL {Γ Δ f f' a} : StepOK Γ Δ f f' → StepOK Γ Δ (.app f a) (.app f' a)
  | appR {Γ Δ f a a'} : isValue f = true → StepOK Γ Δ a a' → StepOK Γ Δ (.app f a) (.app f a')
  | beta {Γ Δ x im d b a} : isValue a = true → StepOK Γ Δ (.app (.lam x im d b) a) (openT b 0 a 0)
  | negC {Γ Δ a a'} : StepOK Γ Δ a a' → StepOK Γ Δ (.neg a) (.neg a')
  | negL {Γ Δ n} : StepOK Γ Δ (.neg (.lit n)) (.lit (-n))
  | binL {Γ Δ op a a' b} : StepOK Γ Δ a a' → StepOK Γ Δ (.bin op a b) (.bin op a' b)
  | binR {Γ Δ op a b b'} : isValue a = true → StepOK Γ Δ b b' → StepOK Γ Δ (.bin op a b) (.bin op a b')
  | delta {Γ Δ op x y r} : delta op x y = some r → StepOK Γ Δ (.bin op (.lit x) (.lit y)) r
  | iteC {Γ Δ c c' t e} : StepOK Γ Δ c c' → StepOK Γ Δ (.ite c t e) (.ite c' t e)
  | iteT {Γ Δ t e} : StepOK Γ Δ (.ite .tt t e) t
  | iteF {Γ Δ t e} : StepOK Γ Δ (.ite .ff t e) e
  | letNil {Γ Δ b} : StepOK Γ Δ (.letg .nil b) b
  | letD {Γ Δ x ann d d' rest b} :
      StepOK (pushGroupX (.cons x ann d rest) 0 (Γ, Δ)).1 (pushGroupX (.cons x ann d rest) 0 (Γ, Δ)).2 d d' →
      StepOK Γ Δ (.letg (.cons x ann d rest) b) (.letg (.cons x ann d' rest) b)
  | letU {Γ Δ x ann d rest b} : isValue d = true →
      (∃ T, HasType
        (pushGroupX (openDefs rest rest.len (unfoldDef x ann d rest.len) 0) 0 (Γ, Δ)).1
        (pushGroupX (openDefs rest rest.len (unfoldDef x ann d rest.len) 0) 0 (Γ, Δ)).2
        (selfLet x ann d rest.len) T) →
      StepOK Γ Δ (.letg (.cons x ann d rest) b)
        (.letg (openDefs rest rest.len (unfoldDef x ann d rest.len) 0)
               (openT b rest.len (unfoldDef x ann d rest.len) 0))

theorem StepOK.step {Γ : TCtxX} {Δ : DCtxX} {t t' : Tm} (h : StepOK Γ Δ t t') : Step t t' := by
  induction h with
  | appL _ ih => exact .appL ih
  | appR hv _ ih => exact .appR hv ih
  | beta hv => exact .beta hv
  | negC _ ih => exact .negC ih
  | negL => exact .negL
  | binL _ ih => exact .binL ih
  | binR hv _ ih => exact .binR hv ih
  | delta h => exact .delta h
  | iteC _ ih => exact .iteC ih
  | iteT => exact .iteT
  | iteF => exact .iteF
  | letNil => exact .letNil
  | letD _ ih => exact .letD ih
  | letU hv _ => exact .letU hv

/-- on group-free terms the side condition is vacuous -/
theorem stepOK_of_noLet {t t' : Tm} (h : Step t t') : CheckSound.noLet t = true →
    ∀ (Γ : TCtxX) (Δ : DCtxX), StepOK Γ Δ t t' := by
  induction h with
  | appL _ ih =>
    intro hn Γ Δ; simp only [CheckSound.noLet, Bool.and_eq_true] at hn; exact .appL (ih hn.1 Γ Δ)
  | appR hv _ ih =>
    intro hn Γ Δ; simp only [CheckSound.noLet, Bool.and_eq_true] at hn; exact .appR hv (ih hn.2 Γ Δ)
  | beta hv => intro _ Γ Δ; exact .beta hv
  | negC _ ih => intro hn Γ Δ; simp only [CheckSound.noLet] at hn; exact .negC (ih hn Γ Δ)
  | negL => intro _ Γ Δ; exact .negL
  | binL _ ih =>
    intro hn Γ Δ; simp only [CheckSound.noLet, Bool.and_eq_true] at hn; exact .binL (ih hn.1 Γ Δ)
  | binR hv _ ih =>
    intro hn Γ Δ; simp only [CheckSound.noLet, Bool.and_eq_true] at hn; exact .binR hv (ih hn.2 Γ Δ)
  | delta h => intro _ Γ Δ; exact .delta h
  | iteC _ ih =>
    intro hn Γ Δ; simp only [CheckSound.noLet, Bool.and_eq_true] at hn; exact .iteC (ih hn.1.1 Γ Δ)
  | iteT => intro _ Γ Δ; exact .iteT
  | iteF => intro _ Γ Δ; exact .iteF
  | letNil => intro hn; simp [CheckSound.noLet] at hn
  | letD _ _ => intro hn; simp [CheckSound.noLet] at hn
  | letU _ => intro hn; simp [CheckSound.noLet] at hn

theorem SbC.beta (v : Tm) (F : Nat → Option Tm) (G : Ctx) : SbC 0 v (ext 1 F G) G := by
  have := SbC.top 0 v F noneF G (fun i hi => by omega)
  rwa [ext_zero] at this

theorem delta_typed {op : BinOp} {x y : Int} {r : Tm} (h : delta op x y = some r) (G D : Ctx) :
    HT G D r (binResult op) := by
  cases op <;> simp only [delta] at h
  case quot =>
    split at h
    · cases h
    · cases h; exact .lit _ _ _
  all_goals
    cases h
    first
      | exact .lit _ _ _
      | (split <;> first | exact .tt _ _ | exact .ff _ _)

theorem CHF_group {ds : Defs} (hds : ds.holeFree = true) {G D : Ctx} (hG : CHF G) (hD : CHF D) :
    CHF (ext ds.len (annF ds) G) ∧ CHF (ext ds.len (defF ds) D) :=
  ⟨CHF_ext (fun i t hi h => annF_hf hds i t hi h) hG, CHF_ext (fun i t hi h => defF_hf hds i t hi h) hD⟩

theorem preservation_ht {Γ : TCtxX} {Δ : DCtxX} {t t' : Tm} (h : StepOK Γ Δ t t') :
    OffsT Γ → DWF Δ → THF Γ → DHF Δ → ∀ T, HT (lkT Γ) (lkD Δ) t T → HT (lkT Γ) (lkD Δ) t' T := by
  induction h with
  | appL _ ih =>
    intro hO hW hT hD T ht
    obtain ⟨_, ⟨x, im, dom, cod, rfl, hg, ha⟩, c⟩ := ht.gen
    exact .conv (.app x im (ih hO hW hT hD _ hg) ha) c
  | @appR Γ Δ f a a' _ hs ih =>
    intro hO hW hT hD T ht
    obtain ⟨_, ⟨x, im, dom, cod, rfl, hg, ha⟩, c⟩ := ht.gen
    have ha' := ih hO hW hT hD _ ha
    have hc := hg.hf.2
    simp only [Tm.holeFree, Bool.and_eq_true] at hc
    have cv : Cv (lkD Δ) a a' := step_cv hs.step ha.hf.1 _
    have c2 := cv_arg cv cod 0 0 _ hc.2 (WkC.refl0 _)
    exact .conv (.app x im hg ha') (.trans (.symm c2) c)
  | @beta Γ Δ x im d b a _ =>
    intro hO hW hT hD T ht
    obtain ⟨_, ⟨x', im', dom, cod, rfl, hg, ha⟩, c⟩ := ht.gen
    obtain ⟨_, ⟨cod0, rfl, _, hb⟩, cp⟩ := hg.gen
    obtain ⟨_, c1, c2⟩ := cv_pi_inj hW hD cp
    have ha' : HT (lkT Γ) (lkD Δ) a d := .conv ha (.symm c1)
    have hav := ha.hf.1
    have hdn : ∀ d0, ext 1 noneF (lkD Δ) 0 = some d0 → Cv (lkD Δ) a (openT d0 0 a 0) := by
      intro d0 e; rw [ext_lt (by omega)] at e; cases e
    have hs := hb.subst 0 a (lkT Γ) (lkD Δ) hav (SbC.beta _ _ _) (SbC.beta _ _ _)
      (by
        intro A e
        rw [ext_lt (by omega)] at e
        cases e
        rw [open_ushift_cancel]
        exact ha') hdn
    have c3 := c2.subst 0 a (lkD Δ) hav (SbC.beta _ _ _) hdn
    exact .conv hs (.trans c3 c)
  | negC _ ih =>
    intro hO hW hT hD T ht
    obtain ⟨_, ⟨rfl, ha⟩, c⟩ := ht.gen
    exact .conv (.neg (ih hO hW hT hD _ ha)) c
  | negL =>
    intro hO hW hT hD T ht
    obtain ⟨_, ⟨rfl, _⟩, c⟩ := ht.gen
    exact .conv (.lit _ _ _) c
  | binL _ ih =>
    intro hO hW hT hD T ht
    obtain ⟨_, ⟨rfl, ha, hb⟩, c⟩ := ht.gen
    exact .conv (.bin _ (ih hO hW hT hD _ ha) hb) c
  | binR _ _ ih =>
    intro hO hW hT hD T ht
    obtain ⟨_, ⟨rfl, ha, hb⟩, c⟩ := ht.gen
    exact .conv (.bin _ ha (ih hO hW hT hD _ hb)) c
  | delta hr =>
    intro hO hW hT hD T ht
    obtain ⟨_, ⟨rfl, _, _⟩, c⟩ := ht.gen
    exact .conv (delta_typed hr _ _) c
  | iteC _ ih =>
    intro hO hW hT hD T ht
    obtain ⟨T0, ⟨h0, h1, h2⟩, c⟩ := ht.gen
    exact .conv (.ite (ih hO hW hT hD _ h0) h1 h2) c
  | iteT =>
    intro hO hW hT hD T ht
    obtain ⟨T0, ⟨_, h1, _⟩, c⟩ := ht.gen
    exact .conv h1 c
  | iteF =>
    intro hO hW hT hD T ht
    obtain ⟨T0, ⟨_, _, h2⟩, c⟩ := ht.gen
    exact .conv h2 c
  | letNil =>
    intro hO hW hT hD T ht
    obtain ⟨_, ⟨bty, rfl, _, _, _, hb⟩, c⟩ := ht.gen
    rw [Defs.len_nil, ext_zero, ext_zero] at hb
    exact .conv hb (.trans (.symm (.letNil bty hb.hf.2)) c)
  | @letD Γ Δ x ann d d' rest b hs ih =>
    intro hO hW hT hD T ht
    obtain ⟨_, ⟨bty, rfl, hds, ha, hdd, hb⟩, c⟩ := ht.gen
    have hds0 := hds
    simp only [Defs.holeFree, Bool.and_eq_true] at hds0
    obtain ⟨⟨hann, hdf⟩, hrest⟩ := hds0
    -- (a) the stepped definition `d'` has the annotation as its type (induction hypothesis, under the group)
    have e := CheckSound.pushGroupX_eq (.cons x ann d rest) Γ Δ
    rw [e] at ih
    have ih' := ih (OffsT_pushed hO _) (DWF_pushed hW _) (THF_pushed hT _ hds) (DHF_pushed hD _ hds)
    simp only [lkT_pushed hO, lkD_pushed hW] at ih'
    have hd2 := ih' ann (hdd x ann d (by simp [Defs.toList]))
    have hd'f : d'.holeFree = true := hd2.hf.1
    have hds' : (Defs.cons x ann d' rest).holeFree = true := by
      simp [Defs.holeFree, hann, hd'f, hrest]
    -- (b) the group's contexts before and after the step are convertible: `d` and `d'` are
    have cdd : ∀ X : Ctx, Cv X d d' := fun X => step_cv hs.step hdf X
    have hCG := CHF_group hds (CHF_lkT hT) (CHF_lkD hD)
    have hCG' := CHF_group hds' (CHF_lkT hT) (CHF_lkD hD)
    have HD : CtxCv (ext (Defs.cons x ann d rest).len (defF (.cons x ann d rest)) (lkD Δ))
        (ext (Defs.cons x ann d' rest).len (defF (.cons x ann d' rest)) (lkD Δ)) := by
      refine ctxCv_ext (CHF_lkD hD) (fun i t _ e => defAt_holeFree _ i t hds' e) fun i d0 _ e0 => ?_
      simp only [defF, defAt] at e0 ⊢
      by_cases hir : i = rest.len
      · rw [if_pos hir] at e0 ⊢; cases e0; exact ⟨d', rfl, .symm (cdd _)⟩
      · rw [if_neg hir] at e0 ⊢; exact ⟨d0, e0, .refl (defAt_holeFree rest i d0 hrest e0)⟩
    have HG : TyCv (ext (Defs.cons x ann d' rest).len (defF (.cons x ann d' rest)) (lkD Δ))
        (ext (Defs.cons x ann d rest).len (annF (.cons x ann d rest)) (lkT Γ))
        (ext (Defs.cons x ann d' rest).len (annF (.cons x ann d' rest)) (lkT Γ)) :=
      TyCv.rfl' hCG.1
    -- (c) every premise of the group rule moves to the new contexts; (d) the type is the old one up to `d ≡ d'`
    refine .conv (.letg hds' ?_ ?_ (hb.ctx _ _ HD HG)) ?_
    · intro y a e0 hm
      simp only [Defs.toList, List.mem_cons, Prod.mk.injEq] at hm
      rcases hm with ⟨rfl, rfl, rfl⟩ | hm
      · exact (ha y a d (by simp [Defs.toList])).ctx _ _ HD HG
      · exact (ha y a e0 (by simp [Defs.toList, hm])).ctx _ _ HD HG
    · intro y a e0 hm
      simp only [Defs.toList, List.mem_cons, Prod.mk.injEq] at hm
      rcases hm with ⟨rfl, rfl, rfl⟩ | hm
      · exact hd2.ctx _ _ HD HG
      · exact (hdd y a e0 (by simp [Defs.toList, hm])).ctx _ _ HD HG
    · refine .trans (.letg (show (Defs.cons x ann d' rest).len = (Defs.cons x ann d rest).len from rfl) hds' hds ?_ (.refl hb.hf.2)) c
      exact rel_cons_getElem? (.refl hann) (rel_cons_getElem? (.symm (cdd _)) (cv_comps_refl rest hrest))
  | @letU Γ Δ x ann d rest b _ hL =>
    intro hO hW hT hD T ht
    obtain ⟨_, ⟨bty, rfl, hds, ha, hdd, hb⟩, c⟩ := ht.gen
    have hds0 := hds
    simp only [Defs.holeFree, Bool.and_eq_true] at hds0
    obtain ⟨⟨hann, hdf⟩, hrest⟩ := hds0
    have hGf := CHF_lkT hT
    have hDf := CHF_lkD hD
    obtain ⟨U, hU⟩ : ∃ U, U = unfoldDef x ann d rest.len := ⟨_, rfl⟩
    obtain ⟨L, hLe⟩ : ∃ L, L = selfLet x ann d rest.len := ⟨_, rfl⟩
    rw [← hU, ← hLe] at hL
    rw [← hU]
    have hUf : U.holeFree = true := by rw [hU]; exact unfoldDef_holeFree x ann d rest.len hann hdf
    have hLf : L.holeFree = true := by rw [hLe]; exact selfLet_hf rest.len hann hdf
    have cLU : ∀ X : Ctx, Cv X L U := fun X => by rw [hU, hLe]; exact selfLet_cv x ann d rest.len hann hdf X
    have cUL : ∀ X : Ctx, Cv X U L := fun X => .symm (cLU X)
    have eU : U = openT d rest.len L 0 := by rw [hU, hLe]; rfl
    have hrU : (openDefs rest rest.len U 0).holeFree = true := openDefs_holeFree _ _ _ _ hrest hUf
    have hlenU := openDefs_len rest rest.len U 0
    have hlenL := openDefs_len rest rest.len L 0
    -- (a) `L` is well typed in the context of the remaining group
    obtain ⟨TL, hTL⟩ := hL
    rw [CheckSound.pushGroupX_eq] at hTL
    have a1 := hasType_ht hTL (OffsT_pushed hO _) (DWF_pushed hW _)
    rw [dhC_id (CHF_lkT (THF_pushed hT _ hrU)), dhC_id (CHF_lkD (DHF_pushed hD _ hrU)), dh_id L hLf,
      lkT_pushed hO, lkD_pushed hW, hlenU] at a1
    -- (b) ... at the instantiated annotation
    have hAS : (openT (ushift 0 1 ann) (rest.len + 1) (Tm.var x 0) 0).holeFree = true :=
      openT_holeFree _ _ _ _ (ushift_hf hann _ _) rfl
    have hDS : (openT (ushift 0 1 d) (rest.len + 1) (Tm.var x 0) 0).holeFree = true :=
      openT_holeFree _ _ _ _ (ushift_hf hdf _ _) rfl
    have b1 : HT (ext rest.len (annF (openDefs rest rest.len U 0)) (lkT Γ))
        (ext rest.len (defF (openDefs rest rest.len U 0)) (lkD Δ)) L (openT ann rest.len L 0) := by
      subst hLe
      simp only [selfLet] at a1 ⊢
      have hopen : ∀ W, openT (openT (ushift 0 1 ann) (rest.len + 1) (Tm.var x 0) 0) 0 W 0 =
          openT ann rest.len W 0 := fun W => open_self x W ann rest.len
      generalize openT (ushift 0 1 ann) (rest.len + 1) (Tm.var x 0) 0 = annS at a1 hAS hopen ⊢
      generalize openT (ushift 0 1 d) (rest.len + 1) (Tm.var x 0) 0 = dS at a1 hDS ⊢
      obtain ⟨_, ⟨btyL, -, hdsL, haL, hdL, _⟩, _⟩ := a1.gen
      have hv : HT (ext (Defs.cons x annS dS .nil).len (annF (.cons x annS dS .nil))
            (ext rest.len (annF (openDefs rest rest.len U 0)) (lkT Γ)))
          (ext (Defs.cons x annS dS .nil).len (defF (.cons x annS dS .nil))
            (ext rest.len (defF (openDefs rest rest.len U 0)) (lkD Δ))) (Tm.var x 0) annS :=
        .var _ x 0 _ (by rw [ext_lt (by simp)]; simp [annF, annAt]) hAS
      have t1 := HT.letg hdsL haL hdL hv
      have hU2f := unfoldDef_holeFree x annS dS 0 hAS hDS
      have s1 := Cv.letStep (D := ext rest.len (defF (openDefs rest rest.len U 0)) (lkD Δ)) x annS dS .nil
        annS hAS hDS rfl hAS
      simp only [openDefs, Defs.len_nil] at s1
      rw [hopen] at s1
      have s2 := Cv.letNil (D := ext rest.len (defF (openDefs rest rest.len U 0)) (lkD Δ)) _
        (openT_holeFree ann rest.len _ 0 hann hU2f)
      have s3 : Cv (ext rest.len (defF (openDefs rest rest.len U 0)) (lkD Δ)) (unfoldDef x annS dS 0)
          (.letg (.cons x annS dS .nil) (.var x 0)) := .symm (selfLet_cv_inner x annS dS hAS hDS _)
      have s4 := cv_arg s3 ann rest.len 0 _ hann (WkC.refl0 _)
      exact .conv t1 (.trans s1 (.trans s2 s4))
    -- (c) the same in the context instantiated with `L`
    have c1 : HT (ext rest.len (annF (openDefs rest rest.len L 0)) (lkT Γ))
        (ext rest.len (defF (openDefs rest rest.len L 0)) (lkD Δ)) L (openT ann rest.len L 0) :=
      b1.ctx _ _ (group_ctxCv rest hrest U L cUL _ hDf) (group_tyCv rest hrest U L cUL _ _ hGf)
    -- (d) the unfolded definition is well typed
    have hmem : (x, ann, d) ∈ (Defs.cons x ann d rest).toList := by simp [Defs.toList]
    have d1 := (hdd x ann d hmem).subst rest.len L _ _ hLf (.groupT x ann d rest L _) (.groupD x ann d rest L _)
      (by intro A e; rw [ext_annF_first] at e; cases e; exact c1)
      (by intro d0 e; rw [ext_defF_first] at e; cases e; rw [← eU]; exact cLU _)
    rw [← eU] at d1
    -- (e) ... in the context of the remaining group, at the annotation instantiated with itself
    have e1 := d1.ctx _ _ (group_ctxCv rest hrest L U cLU _ hDf) (group_tyCv rest hrest L U cLU _ _ hGf)
    have e2 : HT (ext rest.len (annF (openDefs rest rest.len U 0)) (lkT Γ))
        (ext rest.len (defF (openDefs rest rest.len U 0)) (lkD Δ)) U (openT ann rest.len U 0) :=
      .conv e1 (cv_arg (cLU _) ann rest.len 0 _ hann (WkC.refl0 _))
    -- (f) substitute it into the rest of the group and the body
    have SbGU := SbC.groupT x ann d rest U (lkT Γ)
    have SbDU := SbC.groupD x ann d rest U (lkD Δ)
    have htU : ∀ A, ext (Defs.cons x ann d rest).len (annF (.cons x ann d rest)) (lkT Γ) rest.len = some A →
        HT (ext rest.len (annF (openDefs rest rest.len U 0)) (lkT Γ))
          (ext rest.len (defF (openDefs rest rest.len U 0)) (lkD Δ)) U (openT A rest.len U 0) := by
      intro A e; rw [ext_annF_first] at e; cases e; exact e2
    have hdU : ∀ d0, ext (Defs.cons x ann d rest).len (defF (.cons x ann d rest)) (lkD Δ) rest.len = some d0 →
        Cv (ext rest.len (defF (openDefs rest rest.len U 0)) (lkD Δ)) U (openT d0 rest.len U 0) := by
      intro d0 e
      rw [ext_defF_first] at e
      cases e
      have := cv_arg (cLU (ext rest.len (defF (openDefs rest rest.len U 0)) (lkD Δ))) d rest.len 0 _ hdf
        (WkC.refl0 _)
      rwa [← eU] at this
    have f1 : HT (lkT Γ) (lkD Δ) (.letg (openDefs rest rest.len U 0) (openT b rest.len U 0))
        (.letg (openDefs rest rest.len U 0) (openT bty rest.len U 0)) := by
      refine HT.letg_len hlenU hrU ?_ ?_ (hb.subst rest.len U _ _ hUf SbGU SbDU htU hdU)
      · exact forall_mem_map_triple (toList_openDefs ..) (fun y a d hm =>
          (ha y a d (List.mem_cons_of_mem _ hm)).subst rest.len U _ _ hUf SbGU SbDU htU hdU)
      · exact forall_mem_map_triple (toList_openDefs ..) (fun y a d hm =>
          (hdd y a d (List.mem_cons_of_mem _ hm)).subst rest.len U _ _ hUf SbGU SbDU htU hdU)
    -- (g) the type is the old one, one reduction step later
    have g1 := Cv.letStep (D := lkD Δ) x ann d rest bty hann hdf hrest hb.hf.2
    rw [← hU] at g1
    exact .conv f1 (.trans (.symm g1) c)

/-- **Subject reduction** for the declarative rules: a `StepOK` step of a hole-free term in hole-free
contexts whose offsets are in range preserves every type, up to hole removal in the type. -/
theorem preservation_dh {Γ : TCtxX} {Δ : DCtxX} {t t' T : Tm} (ht : t.holeFree = true)
    (hT : THF Γ) (hD : DHF Δ) (hO : OffsT Γ) (hW : DWF Δ) (h : HasType Γ Δ t T)
    (hs : StepOK Γ Δ t t') : HasType Γ Δ t' (dh T) := by
  have h1 := hasType_ht h hO hW
  rw [dhC_id (CHF_lkT hT), dhC_id (CHF_lkD hD), dh_id t ht] at h1
  exact ht_hasType (preservation_ht hs hO hW hT hD _ h1) Γ Δ hO hW rfl rfl

theorem preservation {Γ : TCtxX} {Δ : DCtxX} {t t' T : Tm} (ht : t.holeFree = true)
    (hTy : T.holeFree = true) (hT : THF Γ) (hD : DHF Δ) (hO : OffsT Γ) (hW : DWF Δ)
    (h : HasType Γ Δ t T) (hs : StepOK Γ Δ t t') : HasType Γ Δ t' T := by
  have := preservation_dh ht hT hD hO hW h hs
  rwa [dh_id T hTy] at this

end Pres
