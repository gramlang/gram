import GramModel.Lemmas.ParserTermination

/-!
# The packrat phase makes a linear number of calls

Every call of a memoised parsing function is a hit or a miss of the memo table (`cacheCheck`
increments `hits[nt]` or `misses[nt]`, nothing else touches the counters).  No body calls `rec` in
a loop: the largest body (`parseJumboTerm`) makes at most 9 calls.  So

  `hits' - hits ≤ 9 · (misses' - misses) + (number of calls made at the top level)`

which is the graded partial-correctness triple `Cnt m c` below (`c` = a budget of top-level calls).
With `runParser_misses_le` this bounds the total number of calls by `361 · (n + 1)`.
-/

namespace PModel

/-- `Cnt m c`: `m` makes at most `c` memoised calls itself — the hit total grows by at most `9` per miss
counted, plus `c`.  The `36` slots of `misses` are what makes `modify nt.idx` count (`NT.idx_lt`). -/
def Cnt {α : Type} (m : ParseM α) (c : Nat) : Prop :=
  ∀ st a st', st.misses.size = 36 → m st = some (a, st') →
    st'.misses.size = 36 ∧
    sumN st'.hits + 9 * sumN st.misses ≤ sumN st.hits + 9 * sumN st'.misses + c

theorem Cnt.pure {α : Type} (a : α) (c : Nat) : Cnt (pure a : ParseM α) c := by
  intro st b st' hsz h
  cases h
  exact ⟨hsz, by omega⟩

theorem Cnt.bind1 {α β : Type} {m : ParseM α} {f : α → ParseM β} {c : Nat} (hm : Cnt m 1)
    (hf : ∀ a, Cnt (f a) c) : Cnt (m >>= f) (c + 1) := by
  intro st b st' hsz h
  rw [ParseM_bind_eq] at h
  cases hm1 : m st with
  | none => simp [hm1] at h
  | some p =>
    obtain ⟨a, s1⟩ := p
    simp only [hm1] at h
    obtain ⟨hsz1, h1⟩ := hm st a s1 hsz hm1
    obtain ⟨hsz2, h2⟩ := hf a s1 b st' hsz1 h
    exact ⟨hsz2, by omega⟩

theorem Cnt.mono {α : Type} {m : ParseM α} {c c' : Nat} (h : Cnt m c) (hc : c ≤ c') :
    Cnt m c' := by
  intro st a st' hsz e
  obtain ⟨h1, h2⟩ := h st a st' hsz e
  exact ⟨h1, by omega⟩

theorem Cnt.fail {α : Type} (c : Nat) : Cnt (fun _ => none : ParseM α) c := by
  intro st a st' _ h; simp at h

theorem sumN_modify_eq (a : Array Nat) (i : Nat) (h : i < a.size) :
    sumN (a.modify i (· + 1)) = sumN a + 1 := by
  rw [sumN_modify, if_pos h]

/-- **One memoised call costs one call**: a hit adds one to the hits; a miss adds one to the
misses, which pays for the (at most 9) calls made by the body. -/
theorem Cnt.cacheCheck {nt : NT} {start : Nat} {body : ParseM PResult} (hb : Cnt body 9) :
    Cnt (cacheCheck nt start body) 1 := by
  intro st r st' hsz h
  rcases cacheCheck_elim h with ⟨_, rfl⟩ | ⟨s1, _, hb1, rfl⟩
  · refine ⟨hsz, ?_⟩
    have := sumN_modify_le st.hits nt.idx
    show sumN (st.hits.modify nt.idx (· + 1)) + 9 * sumN st.misses
      ≤ sumN st.hits + 9 * sumN st.misses + 1
    omega
  · obtain ⟨hsz1, h1⟩ := hb _ _ _ (by simpa using hsz) hb1
    have h2 := sumN_modify_eq st.misses nt.idx (by have := NT.idx_lt nt; omega)
    refine ⟨hsz1, ?_⟩
    show sumN s1.hits + 9 * sumN st.misses ≤ sumN st.hits + 9 * sumN s1.misses + 1
    have h1 : sumN s1.hits + 9 * sumN (st.misses.modify nt.idx (· + 1))
        ≤ sumN st.hits + 9 * sumN s1.misses + 9 := h1
    omega

theorem Cnt.elim {α : Type} {m : ParseM α} {c : Nat} (h : Cnt m c) {st : PState} {a : α}
    {st' : PState} (hsz : st.misses.size = 36) (e : m st = some (a, st')) :
    sumN st'.hits + 9 * sumN st.misses ≤ sumN st.hits + 9 * sumN st'.misses + c :=
  (h st a st' hsz e).2

theorem Cnt.ite {α : Type} {c : Prop} [Decidable c] {m1 m2 : ParseM α} {n : Nat} (h1 : Cnt m1 n)
    (h2 : Cnt m2 n) : Cnt (if c then m1 else m2) n := by
  split <;> assumption

theorem Cnt.consume0 {toks : Array PTok} {next : Nat} {kind : PKind} {k : Nat → ParseM PResult}
    {c : Nat} (hk : ∀ n, Cnt (k n) c) : Cnt (consume0 toks next kind k) c :=
  consume0_elim (P := fun c' => Cnt (c' k) c) (fun _ _ => hk _) (Cnt.pure _ _)

theorem Cnt.consumeIdent {toks : Array PTok} {next : Nat} {k : Name → Nat → ParseM PResult}
    {c : Nat} (hk : ∀ x n, Cnt (k x n) c) : Cnt (consumeIdent toks next k) c :=
  consumeIdent_elim (P := fun c' => Cnt (c' k) c) (fun _ _ _ => hk _ _) (Cnt.pure _ _)

theorem Cnt.consumeLiteral {toks : Array PTok} {next : Nat} {k : Nat → Nat → ParseM PResult}
    {c : Nat} (hk : ∀ x n, Cnt (k x n) c) : Cnt (consumeLiteral toks next k) c :=
  consumeLiteral_elim (P := fun c' => Cnt (c' k) c) (fun _ _ _ => hk _ _) (Cnt.pure _ _)

theorem Cnt.tryReturn {p k : ParseM PResult} {c : Nat} (hp : Cnt p 1) (hk : Cnt k c) :
    Cnt (tryReturn p k) (c + 1) := by
  unfold PModel.tryReturn
  exact Cnt.bind1 hp (fun r => Cnt.ite hk (Cnt.pure _ _))

theorem Cnt.tryEval {p : ParseM PResult} {k : Src → Nat → Bool → ParseM PResult} {c : Nat}
    (hp : Cnt p 1) (hk : ∀ a b d, Cnt (k a b d) c) : Cnt (tryEval p k) (c + 1) := by
  unfold PModel.tryEval
  exact Cnt.bind1 hp (fun r => Cnt.ite (Cnt.pure _ _) (hk _ _ _))

-- irreducible from here on, so that applying a rule never unfolds it
attribute [irreducible] Cnt

-- `cnt_tac h` closes `Cnt m c` for `m` built from the combinators, given `h : ∀ nt pos, Cnt (rec nt pos) 1`.
macro "cnt_tac" h:term : tactic => `(tactic|
  repeat (first
    | exact $h _ _
    | apply Cnt.pure
    | apply Cnt.consume0
    | apply Cnt.consumeIdent
    | apply Cnt.consumeLiteral
    | apply Cnt.tryReturn
    | apply Cnt.tryEval
    | apply Cnt.bind1
    | split
    | intro _))

section
variable {toks : Array PTok} {rec : NT → Nat → ParseM PResult} (hrec : ∀ nt pos, Cnt (rec nt pos) 1)
include hrec

theorem Calls.cnt {rec' : NT → Nat → ParseM PResult} {n : Nat} {m m' : ParseM PResult}
    (h : Calls rec rec' n m m') : Cnt m n := by
  induction h with
  | pure n r => exact Cnt.pure r n
  | call nt pos _ ih => exact Cnt.bind1 (hrec nt pos) ih

theorem Cnt.parseBody (nt : NT) (start : Nat) : Cnt (parseBody toks rec nt start) 9 :=
  (Calls.parseBody (rec' := rec) nt start).cnt hrec
end

theorem Cnt.parseNT (toks : Array PTok) : ∀ (fuel : Nat) (nt : NT) (start : Nat),
    Cnt (parseNT toks fuel nt start) 1 :=
  parseNT_ind toks (P := fun _ _ m => Cnt m 1) (fun _ _ => Cnt.fail _)
    fun _ h nt s => Cnt.cacheCheck (Cnt.parseBody h nt s)

theorem runParser_hits_le (toks : Array PTok) (r : PResult) (st' : PState)
    (h : runParser toks = some (r, st')) : sumN st'.hits ≤ 9 * sumN st'.misses + 1 := by
  have h1 := (Cnt.parseNT toks (parseFuel toks) .term 0).elim
    (by simp [PState.init, NT.count]) h
  simp only [PState.init, sumN_replicate_zero] at h1
  omega

theorem runParser_calls_le (toks : Array PTok) (r : PResult) (st' : PState)
    (h : runParser toks = some (r, st')) :
    sumN st'.hits + sumN st'.misses ≤ 361 * (toks.size + 1) := by
  have h1 := runParser_hits_le toks r st' h
  have h2 := runParser_misses_le toks r st' h
  omega

end PModel
