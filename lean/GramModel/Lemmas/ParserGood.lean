import GramModel.Lemmas.Parser
import GramModel.Lemmas.ParserNoPanicDefs

/-! What the 36 parsing functions return, carried through the memo table (partial correctness;
termination is in `ParserTermination.lean`).

The bodies are walked once (`Tri.parseBody`), for an arbitrary invariant of the state and an
arbitrary *derivation predicate* `D nt a b t` closed under the productions of `grammar.y`
(`Closed`).  Its instances: `D := True` gives the invariant `Good` behind `[tag:error_check]`
(below), `D := Seg` soundness w.r.t. the grammar (`ParserSound.lean`), `D := SegT` span exactness
(`ParserSpan.lean`). -/

namespace PModel

/-- The invariant of parse results behind `[tag:error_check]`: an unconfident result carries a
recorded error, and a tree without recorded errors contains no `ParseError` node. -/
def Good (r : PResult) : Prop :=
  (r.confident = false → collectErrors r.term ≠ []) ∧ (collectErrors r.term = [] → NoPE r.term)

def CacheGood (st : PState) : Prop :=
  ∀ (k : Nat × Nat) (r : PResult), st.cache[k]? = some r → Good r

def Pres {α : Type} (m : ParseM α) (post : α → Prop) : Prop :=
  ∀ st a st', CacheGood st → m st = some (a, st') → CacheGood st' ∧ post a

def CacheInvG (I : NT → Nat → PResult → Prop) (st : PState) : Prop :=
  ∀ (nt : NT) (s : Nat) (r : PResult), st.cache[(nt.idx, s)]? = some r → I nt s r

def GPres (I : NT → Nat → PResult → Prop) {α : Type} (m : ParseM α) (post : α → Prop) : Prop :=
  ∀ st a st', CacheInvG I st → m st = some (a, st') → CacheInvG I st' ∧ post a

/-- Partial correctness w.r.t. a state invariant `C`.  `Pres`, `GPres I` (and `SPres`, `TPres`) are
`Tri CacheGood`, `Tri (CacheInvG I)` written out; the rules below apply to all of them.  `CacheGood`
speaks of every key, `CacheInvG I` of the keys `(nt.idx, s)` only, so `Pres` has its own `cacheCheck`. -/
def Tri (C : PState → Prop) {α : Type} (m : ParseM α) (post : α → Prop) : Prop :=
  ∀ st a st', C st → m st = some (a, st') → C st' ∧ post a

def KAt (toks : Array PTok) (a : Nat) (k : PKind) : Prop := ∃ h : a < toks.size, toks[a].kind = k

theorem KAt.lt {toks : Array PTok} {a : Nat} {k : PKind} (h : KAt toks a k) : a < toks.size := h.1

theorem KAt.unique {toks : Array PTok} {a : Nat} {k k' : PKind} (h : KAt toks a k)
    (h' : KAt toks a k') : k = k' := by
  obtain ⟨_, e⟩ := h; obtain ⟨_, e'⟩ := h'; rw [← e, ← e']

-- The four tables and the eleven further rules of `Closed` are a copy by hand of `grammar.y`; `PModel.Seg.derives`
-- (`Props/C07.lean`) checks that each is a production of the regenerated `Generated.grammarProductions`, not the converse.
/-- The unit productions `A : B` (the alternatives of the choice functions). -/
def unitProds : List (NT × NT) := [
  (.term, .let_), (.term, .jumboTerm),
  (.atom, .type), (.atom, .variable), (.atom, .integer), (.atom, .integerLiteral),
  (.atom, .boolean), (.atom, .true_), (.atom, .false_), (.atom, .group),
  (.smallTerm, .application), (.smallTerm, .atom),
  (.mediumTerm, .product), (.mediumTerm, .quotient), (.mediumTerm, .smallTerm),
  (.largeTerm, .negation), (.largeTerm, .mediumTerm),
  (.hugeTerm, .sum), (.hugeTerm, .difference), (.hugeTerm, .largeTerm),
  (.giantTerm, .lessThan), (.giantTerm, .lessThanOrEqualTo), (.giantTerm, .equalTo),
  (.giantTerm, .greaterThan), (.giantTerm, .greaterThanOrEqualTo), (.giantTerm, .hugeTerm),
  (.jumboTerm, .lambda), (.jumboTerm, .lambdaImplicit), (.jumboTerm, .annotatedLambda),
  (.jumboTerm, .annotatedLambdaImplicit), (.jumboTerm, .pi), (.jumboTerm, .piImplicit),
  (.jumboTerm, .nonDependentPi), (.jumboTerm, .if_), (.jumboTerm, .giantTerm)]

/-- The keyword productions `A : K`. -/
def leafProds : List (NT × PKind) := [
  (.type, .type_), (.integer, .integer), (.boolean, .boolean), (.true_, .true_), (.false_, .false_)]

/-- The binary operator productions `A : L OP R`. -/
def binProds : List (NT × NT × PKind × NT) := [
  (.sum, .largeTerm, .plus, .hugeTerm), (.difference, .largeTerm, .minus, .hugeTerm),
  (.product, .smallTerm, .asterisk, .largeTerm), (.quotient, .smallTerm, .slash, .largeTerm),
  (.lessThan, .hugeTerm, .lessThan, .hugeTerm),
  (.lessThanOrEqualTo, .hugeTerm, .lessThanOrEqualTo, .hugeTerm),
  (.equalTo, .hugeTerm, .doubleEquals, .hugeTerm),
  (.greaterThan, .hugeTerm, .greaterThan, .hugeTerm),
  (.greaterThanOrEqualTo, .hugeTerm, .greaterThanOrEqualTo, .hugeTerm)]

/-- The binder productions `A : OPEN IDENTIFIER COLON jumbo_term CLOSE ARROW term`. -/
def binderProds : List (NT × PKind × PKind × PKind) := [
  (.annotatedLambda, .leftParen, .rightParen, .thickArrow),
  (.annotatedLambdaImplicit, .leftCurly, .rightCurly, .thickArrow),
  (.pi, .leftParen, .rightParen, .thinArrow),
  (.piImplicit, .leftCurly, .rightCurly, .thinArrow)]

-- the last arms of `leafV`, `binderV`, `binOpOf`: `leafV` is only used at the nonterminals of `leafProds`; for the other two
-- the last arm is the one remaining nonterminal of `binderProds` (`pi`) resp. `binProds` (`greaterThanOrEqualTo`)
def leafV : NT → SrcV
  | .type => .type | .integer => .int | .boolean => .bool | .true_ => .tt | .false_ => .ff
  | _ => .parseError

def binderV : NT → SrcVar → Src → Src → SrcV
  | .annotatedLambda => fun v d b => .lam v false (.some d) b
  | .annotatedLambdaImplicit => fun v d b => .lam v true (.some d) b
  | .piImplicit => fun v d b => .pi v true d b
  | _ => fun v d b => .pi v false d b

def binOpOf : NT → BinOp
  | .sum => .sum | .difference => .diff | .product => .prod | .quotient => .quot
  | .lessThan => .lt | .lessThanOrEqualTo => .le | .equalTo => .eq | .greaterThan => .gt
  | _ => .ge

theorem parseBody_bin {toks : Array PTok} {A L R : NT} {op : PKind} (hm : (A, L, op, R) ∈ binProds)
    (rec : NT → Nat → ParseM PResult) (a : Nat) :
    parseBody toks rec A a = parseBinary toks rec L op R (binOpOf A) a := by
  simp only [binProds, List.mem_cons, Prod.mk.injEq, List.mem_nil_iff, or_false] at hm
  rcases hm with h | h | h | h | h | h | h | h | h <;> obtain ⟨rfl, rfl, rfl, rfl⟩ := h <;> rfl

theorem parseBody_binder {toks : Array PTok} {A : NT} {o c ar : PKind}
    (hm : (A, o, c, ar) ∈ binderProds) (rec : NT → Nat → ParseM PResult) (a : Nat) :
    parseBody toks rec A a = parseBinder toks rec o c ar (binderV A) a := by
  simp only [binderProds, List.mem_cons, Prod.mk.injEq, List.mem_nil_iff, or_false] at hm
  rcases hm with h | h | h | h <;> obtain ⟨rfl, rfl, rfl, rfl⟩ := h <;> rfl

theorem altsOf_spec {A B : NT} (h : B ∈ altsOf A) : (A, B) ∈ unitProds := by
  revert B; cases A <;> decide

/-- `Closed toks D`: the derivation predicate `D nt a b t` ("`t` is what `nt` builds from the tokens
`a … b-1`") is closed under the productions, each with the node the parsing function builds (ranges
as the function computes them). -/
structure Closed (toks : Array PTok) (D : NT → Nat → Nat → Src → Prop) : Prop where
  unit {A B a b t} : (A, B) ∈ unitProds → D B a b t → D A a b t
  leaf {A k a} : (A, k) ∈ leafProds → KAt toks a k →
    D A a (a + 1) (.mk (tokenRange toks a) false (leafV A) [])
  var {x a} : KAt toks a (.identifier x) →
    D .variable a (a + 1) (.mk (tokenRange toks a) false (.var x) [])
  lit {n a} : KAt toks a (.integerLiteral n) →
    D .integerLiteral a (a + 1) (.mk (tokenRange toks a) false (.lit (Int.ofNat n)) [])
  lambda {x a b body} : KAt toks a (.identifier x) → KAt toks (a + 1) .thickArrow →
    D .term (a + 1 + 1) b body →
    D .lambda a b (.mk (span (tokenRange toks a) body.range) false
      (.lam ⟨tokenRange toks a, x⟩ false .none body) [])
  lambdaImplicit {x a b body} : KAt toks a .leftCurly → KAt toks (a + 1) (.identifier x) →
    KAt toks (a + 1 + 1) .rightCurly → KAt toks (a + 1 + 1 + 1) .thickArrow →
    D .term (a + 1 + 1 + 1 + 1) b body →
    D .lambdaImplicit a b (.mk (span (tokenRange toks a) body.range) false
      (.lam ⟨tokenRange toks (a + 1), x⟩ true .none body) [])
  binder {A o c ar x a b d dom body} : (A, o, c, ar) ∈ binderProds → KAt toks a o →
    KAt toks (a + 1) (.identifier x) → KAt toks (a + 1 + 1) .colon →
    D .jumboTerm (a + 1 + 1 + 1) b dom → KAt toks b c → KAt toks (b + 1) ar →
    D .term (b + 1 + 1) d body →
    D A a d (.mk (span (tokenRange toks a) body.range) false
      (binderV A ⟨tokenRange toks (a + 1), x⟩ dom body) [])
  nonDependentPi {a b c dom cod} : D .smallTerm a b dom → KAt toks b .thinArrow →
    D .term (b + 1) c cod →
    D .nonDependentPi a c (.mk (span dom.range cod.range) false
      (.pi ⟨emptyRange toks a, placeholder⟩ false dom cod) [])
  application {a b c f x} : D .atom a b f → D .smallTerm b c x →
    D .application a c (.mk (span f.range x.range) false (.app f x) [])
  letPlain {x t a b c defn body} : KAt toks a (.identifier x) → KAt toks (a + 1) .equals →
    D .term (a + 1 + 1) b defn → KAt toks b (.terminator t) → D .term (b + 1) c body →
    D .let_ a c (.mk (span (tokenRange toks a) body.range) false
      (.let_ ⟨tokenRange toks a, x⟩ .none defn body) [])
  letAnn {x t a b c d ann defn body} : KAt toks a (.identifier x) → KAt toks (a + 1) .colon →
    D .smallTerm (a + 1 + 1) b ann → KAt toks b .equals → D .term (b + 1) c defn →
    KAt toks c (.terminator t) → D .term (c + 1) d body →
    D .let_ a d (.mk (span (tokenRange toks a) body.range) false
      (.let_ ⟨tokenRange toks a, x⟩ (.some ann) defn body) [])
  negation {a b x} : KAt toks a .minus → D .largeTerm (a + 1) b x →
    D .negation a b (.mk (span (tokenRange toks a) x.range) false (.neg x) [])
  bin {A L op R a b c x y} : (A, L, op, R) ∈ binProds → D L a b x → KAt toks b op →
    D R (b + 1) c y → D A a c (.mk (span x.range y.range) false (.bin (binOpOf A) x y) [])
  ite {a b c d x y z} : KAt toks a .if_ → D .term (a + 1) b x → KAt toks b .then_ →
    D .term (b + 1) c y → KAt toks c .else_ → D .term (c + 1) d z →
    D .if_ a d (.mk (span (tokenRange toks a) z.range) false (.ite x y z) [])
  group {a b inner} : KAt toks a .leftParen → D .term (a + 1) b inner → KAt toks b .rightParen →
    D .group a (b + 1)
      (.mk (span (tokenRange toks a) (tokenRange toks (b + 1 - 1))) true inner.variant [])

/-- The invariant of the result of `parse_nt(…, start)`: `Good`, and a result without recorded
error is derived from `nt` on the consumed segment. -/
def InvD (D : NT → Nat → Nat → Src → Prop) (nt : NT) (start : Nat) (r : PResult) : Prop :=
  Good r ∧ (collectErrors r.term = [] → D nt start r.next r.term)

section Comb
variable {C : PState → Prop} {α β : Type}

theorem Tri.pure {a : α} {post : α → Prop} (h : post a) : Tri C (Pure.pure a : ParseM α) post := by
  intro st b st' hI e
  cases e
  exact ⟨hI, h⟩

theorem Tri.bind {m : ParseM α} {f : α → ParseM β} {p : α → Prop} {q : β → Prop}
    (hm : Tri C m p) (hf : ∀ a, p a → Tri C (f a) q) : Tri C (m >>= f) q := by
  intro st b st' hI e
  rw [ParseM_bind_eq] at e
  cases h1 : m st with
  | none => simp [h1] at e
  | some p1 =>
    obtain ⟨a, s1⟩ := p1
    simp only [h1] at e
    obtain ⟨hI1, hp⟩ := hm st a s1 hI h1
    exact hf a hp s1 b st' hI1 e

theorem Tri.ite {c : Prop} [Decidable c] {m1 m2 : ParseM α} {p : α → Prop}
    (h1 : c → Tri C m1 p) (h2 : ¬c → Tri C m2 p) : Tri C (if c then m1 else m2) p := by
  split
  · exact h1 ‹_›
  · exact h2 ‹_›

theorem Tri.fail {post : α → Prop} : Tri C (fun _ => none : ParseM α) post := by
  intro st a st' _ e; simp at e

theorem Tri.mono {m : ParseM α} {p q : α → Prop} (h : Tri C m p) (hpq : ∀ a, p a → q a) :
    Tri C m q := by
  intro st a st' hI e
  obtain ⟨h1, h2⟩ := h st a st' hI e
  exact ⟨h1, hpq a h2⟩

variable {toks : Array PTok} {post : PResult → Prop}

theorem Tri.consume0 {next : Nat} {kind : PKind} {k : Nat → ParseM PResult}
    (hfail : post (failAt toks next)) (hk : KAt toks next kind → Tri C (k (next + 1)) post) :
    Tri C (consume0 toks next kind k) post :=
  consume0_elim (P := fun c => Tri C (c k) post) (fun h e => hk ⟨h, e⟩) (Tri.pure hfail)

theorem Tri.consumeIdent {next : Nat} {k : Name → Nat → ParseM PResult}
    (hfail : post (failAt toks next))
    (hk : ∀ x, KAt toks next (.identifier x) → Tri C (k x (next + 1)) post) :
    Tri C (consumeIdent toks next k) post :=
  consumeIdent_elim (P := fun c => Tri C (c k) post) (fun h x e => hk x ⟨h, e⟩) (Tri.pure hfail)

theorem Tri.consumeLiteral {next : Nat} {k : Nat → Nat → ParseM PResult}
    (hfail : post (failAt toks next))
    (hk : ∀ x, KAt toks next (.integerLiteral x) → Tri C (k x (next + 1)) post) :
    Tri C (consumeLiteral toks next k) post :=
  consumeLiteral_elim (P := fun c => Tri C (c k) post) (fun h x e => hk x ⟨h, e⟩) (Tri.pure hfail)

theorem Tri.tryReturn {p k : ParseM PResult} {pp : PResult → Prop} (hp : Tri C p pp)
    (hpp : ∀ r, pp r → post r) (hk : Tri C k post) : Tri C (tryReturn p k) post := by
  unfold PModel.tryReturn
  exact Tri.bind hp fun r hr => Tri.ite (fun _ => hk) (fun _ => Tri.pure (hpp r hr))

theorem Tri.tryEval {p : ParseM PResult} {k : Src → Nat → Bool → ParseM PResult}
    {pp : PResult → Prop} (hp : Tri C p pp)
    (herr : ∀ r, pp r → r.term.isParseError = true → post r)
    (hk : ∀ r, pp r → r.term.isParseError = false → Tri C (k r.term r.next r.confident) post) :
    Tri C (tryEval p k) post := by
  unfold PModel.tryEval
  refine Tri.bind hp (fun r hr => ?_)
  cases h : r.term.isParseError
  · simp only [Bool.false_eq_true, if_false]; exact hk r hr h
  · simp only [if_true]; exact Tri.pure (herr r hr h)

theorem CacheInvG.init (I : NT → Nat → PResult → Prop) : CacheInvG I PState.init := by
  intro nt s r h
  simp [PState.init] at h

theorem CacheInvG.insert {I : NT → Nat → PResult → Prop} {st : PState} {nt : NT} {s : Nat}
    {r : PResult} (h : CacheInvG I st) (hr : I nt s r) :
    CacheInvG I { st with cache := st.cache.insert (nt.idx, s) r } := by
  intro nt' s' r' hr'
  rcases cache_insert_lookup hr' with ⟨e, rfl⟩ | h'
  · simp only [Prod.mk.injEq] at e
    cases NT.idx_inj e.1; rw [← e.2]; exact hr
  · exact h nt' s' r' h'

theorem GPres.cacheCheck {I : NT → Nat → PResult → Prop} {nt : NT} {start : Nat}
    {body : ParseM PResult} (hb : GPres I body (I nt start)) :
    GPres I (cacheCheck nt start body) (I nt start) := by
  intro st r st' hI e
  rcases cacheCheck_elim e with ⟨hc, rfl⟩ | ⟨s1, _, hb1, rfl⟩
  · exact ⟨hI, hI _ _ _ hc⟩
  · obtain ⟨hI1, hg⟩ := hb { st with misses := st.misses.modify nt.idx (· + 1) } _ _ hI hb1
    exact ⟨hI1.insert hg, hg⟩

end Comb

theorem Good.failAt (toks : Array PTok) (next : Nat) : Good (failAt toks next) := by
  simp [Good, PModel.failAt, errorTerm, collectErrors]

theorem Good.confident {r : PResult} (hg : Good r) (h : collectErrors r.term = []) :
    r.confident = true := by
  cases hc : r.confident
  · exact absurd h (hg.1 hc)
  · rfl

theorem NoPE.not_isParseError {t : Src} (h : NoPE t) : t.isParseError = false := by
  obtain ⟨r, g, v, es⟩ := t
  cases v <;> first | rfl | (unfold NoPE at h; exact h.elim)

theorem collectErrors_mk_variant (t : Src) (r : SourceRange) (g : Bool) (es : List PErr) :
    ∃ X, collectErrors t = X ++ t.errors ∧ collectErrors (.mk r g t.variant es) = X ++ es := by
  obtain ⟨r0, g0, v, es0⟩ := t
  simp only [Src.variant, Src.errors]
  unfold collectErrors
  exact ⟨_, rfl, rfl⟩

theorem NoPE_mk_variant (t : Src) (r : SourceRange) (g : Bool) (es : List PErr) :
    NoPE (.mk r g t.variant es) ↔ NoPE t := by
  obtain ⟨r0, g0, v, es0⟩ := t
  simp only [Src.variant]
  unfold NoPE
  exact Iff.rfl

theorem expectToken_clean (toks : Array PTok) (next : Nat) (target : PKind → Bool) (rep : Bool) :
    rep = true → (expectToken toks next target rep).1 = [] →
      ∃ h : next < toks.size, target toks[next].kind = true ∧
        (expectToken toks next target rep).2.1 = true ∧
        (expectToken toks next target rep).2.2 = next + 1 := by
  intro hr; subst hr
  unfold expectToken
  simp only [if_true]
  intro he
  split at he
  · rename_i hlt
    split at he
    · rename_i ht
      refine ⟨hlt, ht, ?_⟩
      have hn : toks.size - next = (toks.size - next - 1) + 1 := by omega
      rw [hn]
      unfold scanLoop
      simp [hlt, ht]
    · cases he
  · cases he

theorem expectToken_errs (toks : Array PTok) (next : Nat) (target : PKind → Bool) (rep : Bool) :
    rep = true → (expectToken toks next target rep).2.1 = false →
      (expectToken toks next target rep).1 ≠ [] := fun hr hf he => by
  obtain ⟨_, _, h, _⟩ := expectToken_clean toks next target rep hr he
  rw [hf] at h; cases h

theorem isTerminator_eq {k : PKind} (h : k.isTerminator = true) : ∃ t, k = .terminator t := by
  cases k <;> first | exact ⟨_, rfl⟩ | cases h

theorem InvD.failAt {D : NT → Nat → Nat → Src → Prop} (toks : Array PTok) (nt : NT)
    (start next : Nat) : InvD D nt start (failAt toks next) :=
  ⟨Good.failAt toks next, fun h => by simp [PModel.failAt, errorTerm, collectErrors] at h⟩

theorem InvD.ofPE {D : NT → Nat → Nat → Src → Prop} {nt : NT} {start : Nat} {r : PResult}
    (hg : Good r) (he : r.term.isParseError = true) : InvD D nt start r :=
  ⟨hg, fun h => by have := (hg.2 h).not_isParseError; rw [he] at this; cases this⟩

theorem collectErrors_binderV (nt : NT) (r : SourceRange) (g : Bool) (v : SrcVar) (d b : Src)
    (es : List PErr) :
    collectErrors (.mk r g (binderV nt v d b) es) = collectErrors d ++ collectErrors b ++ es := by
  cases nt <;> simp [binderV, collectErrors, collectErrorsOpt]

theorem NoPE_binderV (nt : NT) (r : SourceRange) (g : Bool) (v : SrcVar) (d b : Src)
    (es : List PErr) : NoPE (.mk r g (binderV nt v d b) es) ↔ NoPE d ∧ NoPE b := by
  cases nt <;> simp [binderV, NoPE, NoPEOpt]

macro "good_simp" : tactic => `(tactic|
  simp only [Good, collectErrors, collectErrorsOpt, NoPE, NoPEOpt, List.append_nil,
    List.nil_append, List.append_eq_nil_iff, true_and, and_true, ne_eq] at *)

section Bodies
variable {C : PState → Prop} {toks : Array PTok} {D : NT → Nat → Nat → Src → Prop}
  (hD : Closed toks D) {rec : NT → Nat → ParseM PResult}
  (hrec : ∀ nt pos, Tri C (rec nt pos) (InvD D nt pos))
include hD

theorem InvD.unit {A B : NT} {s : Nat} {r : PResult} (hm : (A, B) ∈ unitProds)
    (h : InvD D B s r) : InvD D A s r :=
  ⟨h.1, fun hce => hD.unit hm (h.2 hce)⟩

theorem Tri.parseLeaf {nt : NT} {kind : PKind} {start : Nat} (hm : (nt, kind) ∈ leafProds) :
    Tri C (parseLeaf toks kind (leafV nt) start) (InvD D nt start) := by
  unfold PModel.parseLeaf
  refine Tri.consume0 (InvD.failAt _ _ _ _) (fun hk => Tri.pure ⟨?_, fun _ => hD.leaf hm hk⟩)
  simp only [leafProds, List.mem_cons, Prod.mk.injEq, List.not_mem_nil, or_false] at hm
  rcases hm with ⟨rfl, _⟩ | ⟨rfl, _⟩ | ⟨rfl, _⟩ | ⟨rfl, _⟩ | ⟨rfl, _⟩ <;>
    simp [Good, leafV, collectErrors, NoPE]

include hrec

theorem Tri.parseLambda {start : Nat} :
    Tri C (parseLambda toks rec start) (InvD D .lambda start) := by
  unfold PModel.parseLambda
  refine Tri.consumeIdent (InvD.failAt _ _ _ _) (fun x hx => ?_)
  refine Tri.consume0 (InvD.failAt _ _ _ _) (fun ha => ?_)
  refine Tri.bind (hrec _ _) ?_
  intro r2 hr2
  obtain ⟨t2, n2, c2⟩ := r2
  obtain ⟨hg2, hs2⟩ := hr2
  refine Tri.pure ⟨?_, ?_⟩
  · good_simp
    exact hg2
  · intro hce
    simp only [collectErrors, collectErrorsOpt, List.nil_append, List.append_nil] at hce
    exact hD.lambda hx ha (hs2 hce)

theorem Tri.parseLambdaImplicit {start : Nat} :
    Tri C (parseLambdaImplicit toks rec start) (InvD D .lambdaImplicit start) := by
  unfold PModel.parseLambdaImplicit
  refine Tri.consume0 (InvD.failAt _ _ _ _) (fun h1 => ?_)
  refine Tri.consumeIdent (InvD.failAt _ _ _ _) (fun x h2 => ?_)
  refine Tri.consume0 (InvD.failAt _ _ _ _) (fun h3 => ?_)
  refine Tri.consume0 (InvD.failAt _ _ _ _) (fun h4 => ?_)
  refine Tri.bind (hrec _ _) ?_
  intro r2 hr2
  obtain ⟨t2, n2, c2⟩ := r2
  obtain ⟨hg2, hs2⟩ := hr2
  refine Tri.pure ⟨?_, ?_⟩
  · good_simp
    exact hg2
  · intro hce
    simp only [collectErrors, collectErrorsOpt, List.nil_append, List.append_nil] at hce
    exact hD.lambdaImplicit h1 h2 h3 h4 (hs2 hce)

theorem Tri.parseBinary {nt left right : NT} {opTok : PKind} {start : Nat}
    (hm : (nt, left, opTok, right) ∈ binProds) :
    Tri C (parseBinary toks rec left opTok right (binOpOf nt) start) (InvD D nt start) := by
  unfold PModel.parseBinary
  refine Tri.tryEval (hrec _ _) (fun r hr he => InvD.ofPE hr.1 he) ?_
  intro r hr hne
  refine Tri.consume0 (InvD.failAt _ _ _ _) (fun hk => ?_)
  refine Tri.bind (hrec _ _) ?_
  intro r2 hr2
  obtain ⟨t2, n2, c2⟩ := r2
  obtain ⟨hg, hs⟩ := hr
  obtain ⟨hg2, hs2⟩ := hr2
  refine Tri.pure ⟨?_, ?_⟩
  · good_simp
    grind
  · intro hce
    simp only [collectErrors, List.append_nil, List.append_eq_nil_iff] at hce
    exact hD.bin hm (hs hce.1) hk (hs2 hce.2)

theorem Tri.parseBinder {nt : NT} {openK closeK arrowK : PKind} {start : Nat}
    (hm : (nt, openK, closeK, arrowK) ∈ binderProds) :
    Tri C (parseBinder toks rec openK closeK arrowK (binderV nt) start) (InvD D nt start) := by
  have hce := collectErrors_binderV nt
  have hnp := NoPE_binderV nt
  unfold PModel.parseBinder
  refine Tri.consume0 (InvD.failAt _ _ _ _) (fun h1 => ?_)
  refine Tri.consumeIdent (InvD.failAt _ _ _ _) (fun x h2 => ?_)
  refine Tri.consume0 (InvD.failAt _ _ _ _) (fun h3 => ?_)
  refine Tri.tryEval (hrec _ _) (fun r hr he => InvD.ofPE hr.1 he) ?_
  intro r hr hne
  refine Tri.consume0 (InvD.failAt _ _ _ _) (fun h4 => ?_)
  refine Tri.consume0 (InvD.failAt _ _ _ _) (fun h5 => ?_)
  refine Tri.bind (hrec _ _) ?_
  intro r2 hr2
  obtain ⟨t2, n2, c2⟩ := r2
  obtain ⟨hg, hs⟩ := hr
  obtain ⟨hg2, hs2⟩ := hr2
  refine Tri.pure ⟨?_, ?_⟩
  · simp only [Good, hce, hnp] at *
    good_simp
    grind
  · intro hc
    simp only [hce, List.append_nil, List.append_eq_nil_iff] at hc
    exact hD.binder hm h1 h2 h3 (hs hc.1) h4 h5 (hs2 hc.2)

theorem Tri.parseNegation {start : Nat} :
    Tri C (parseNegation toks rec start) (InvD D .negation start) := by
  unfold PModel.parseNegation
  refine Tri.consume0 (InvD.failAt _ _ _ _) (fun h1 => ?_)
  refine Tri.bind (hrec _ _) ?_
  intro r2 hr2
  obtain ⟨t2, n2, c2⟩ := r2
  obtain ⟨hg2, hs2⟩ := hr2
  refine Tri.pure ⟨?_, ?_⟩
  · good_simp
    exact hg2
  · intro hce
    simp only [collectErrors, List.append_nil] at hce
    exact hD.negation h1 (hs2 hce)

theorem Tri.parseNonDependentPi {start : Nat} :
    Tri C (parseNonDependentPi toks rec start) (InvD D .nonDependentPi start) := by
  unfold PModel.parseNonDependentPi
  refine Tri.tryEval (hrec _ _) (fun r hr he => InvD.ofPE hr.1 he) ?_
  intro r hr hne
  refine Tri.consume0 (InvD.failAt _ _ _ _) (fun hk => ?_)
  refine Tri.bind (hrec _ _) ?_
  intro r2 hr2
  obtain ⟨t2, n2, c2⟩ := r2
  obtain ⟨hg, hs⟩ := hr
  obtain ⟨hg2, hs2⟩ := hr2
  refine Tri.pure ⟨?_, ?_⟩
  · good_simp
    grind
  · intro hce
    simp only [collectErrors, List.append_nil, List.append_eq_nil_iff] at hce
    exact hD.nonDependentPi (hs hce.1) hk (hs2 hce.2)

theorem Tri.parseApplication {start : Nat} :
    Tri C (parseApplication rec start) (InvD D .application start) := by
  unfold PModel.parseApplication
  refine Tri.tryEval (hrec _ _) (fun r hr he => InvD.ofPE hr.1 he) ?_
  intro r hr hne
  refine Tri.tryEval (hrec _ _) (fun r hr he => InvD.ofPE hr.1 he) ?_
  intro r2 hr2 hne2
  obtain ⟨hg, hs⟩ := hr
  obtain ⟨hg2, hs2⟩ := hr2
  refine Tri.pure ⟨?_, ?_⟩
  · good_simp
    grind
  · intro hce
    simp only [collectErrors, List.append_nil, List.append_eq_nil_iff] at hce
    exact hD.application (hs hce.1) (hs2 hce.2)

theorem Tri.parseGroup {start : Nat} :
    Tri C (parseGroup toks rec start) (InvD D .group start) := by
  unfold PModel.parseGroup
  refine Tri.consume0 (InvD.failAt _ _ _ _) (fun h0 => ?_)
  refine Tri.tryEval (hrec _ _) (fun r hr he => InvD.ofPE hr.1 he) ?_
  intro r hr hne
  obtain ⟨hg, hs⟩ := hr
  have hc := expectToken_clean toks r.next (· = .rightParen) r.confident
  generalize expectToken toks r.next (· = .rightParen) r.confident = e at hc
  obtain ⟨errs, found, nx⟩ := e
  dsimp only at hc ⊢
  refine Tri.pure ?_
  obtain ⟨X, hX1, hX2⟩ := collectErrors_mk_variant r.term
    (span (tokenRange toks start) (tokenRange toks (nx - 1))) true
    (if (!found) = true then (if found = true then r.term.errors ++ errs else r.term.errors) ++
      [neverClosed toks start nx] else if found = true then r.term.errors ++ errs else r.term.errors)
  refine ⟨?_, ?_⟩
  · unfold Good at hg ⊢
    dsimp only
    rw [hX2, NoPE_mk_variant]
    rw [hX1] at hg
    clear hc hs
    cases found <;> simp at hg ⊢ <;> grind
  · dsimp only
    rw [hX2]
    intro hce
    cases found
    · simp at hce
    · simp at hce
      have hne : collectErrors r.term = [] := by rw [hX1]; simp [hce]
      obtain ⟨hlt, ht, _, hnx⟩ := hc (hg.confident hne) hce.2.2
      subst hnx
      simp only [hce.2.1, hce.2.2, Bool.not_true, Bool.false_eq_true, if_false, if_true,
        List.append_nil]
      exact hD.group h0 (hs hne) ⟨hlt, by simpa using ht⟩

omit hD in
theorem Tri.optTerm {next : Nat} {found : Bool} {jp : PResult → ParseM PResult}
    {post : PResult → Prop}
    (hk : ∀ r, (found = true → InvD D .term next r) → (found = false → r.confident = false) →
      Tri C (jp r) post) :
    Tri C (if found = true then rec .term next >>= jp
          else (Pure.pure ⟨skippedTerm toks next, next, false⟩ : ParseM PResult) >>= jp) post := by
  refine Tri.ite (fun hf => Tri.bind (hrec _ _) (fun r hr => hk r (fun _ => hr) ?_))
    (fun hf => Tri.bind (Tri.pure rfl) (fun r hr => hk r ?_ ?_))
  · intro h; rw [hf] at h; cases h
  · intro h; exact absurd h hf
  · intro _; rw [← hr]

theorem Tri.parseIf {start : Nat} : Tri C (parseIf toks rec start) (InvD D .if_ start) := by
  unfold PModel.parseIf
  refine Tri.consume0 (InvD.failAt _ _ _ _) (fun h0 => ?_)
  refine Tri.bind (hrec _ _) ?_
  intro r1 hr1
  obtain ⟨t1, n1, c1⟩ := r1
  obtain ⟨hg1, hs1⟩ := hr1
  dsimp only at hs1 ⊢
  have he1 := expectToken_errs toks n1 (· = .then_) c1
  have hc1 := expectToken_clean toks n1 (· = .then_) c1
  generalize expectToken toks n1 (· = .then_) c1 = e at he1 hc1
  obtain ⟨errs, found, nx⟩ := e
  dsimp only at he1 hc1 ⊢
  refine Tri.optTerm hrec ?_
  intro r2 hr2 hr2'
  obtain ⟨t2, n2, c2⟩ := r2
  have hg2 : found = true → Good ⟨t2, n2, c2⟩ := fun h => (hr2 h).1
  have hs2 : found = true → collectErrors t2 = [] → D .term nx n2 t2 := fun h => (hr2 h).2
  clear hr2
  dsimp only at hr2' ⊢
  have he2 := expectToken_errs toks n2 (· = .else_) c2
  have hc2 := expectToken_clean toks n2 (· = .else_) c2
  generalize expectToken toks n2 (· = .else_) c2 = e2 at he2 hc2
  obtain ⟨errs2, found2, nx2⟩ := e2
  dsimp only at he2 hc2 ⊢
  refine Tri.optTerm hrec ?_
  intro r3 hr3 hr3'
  obtain ⟨t3, n3, c3⟩ := r3
  have hg3 : found2 = true → Good ⟨t3, n3, c3⟩ := fun h => (hr3 h).1
  have hs3 : found2 = true → collectErrors t3 = [] → D .term nx2 n3 t3 := fun h => (hr3 h).2
  clear hr3
  refine Tri.pure ⟨?_, ?_⟩
  · clear hs1 hs2 hs3 hc1 hc2
    good_simp
    grind
  · intro hce
    simp only [collectErrors, List.append_eq_nil_iff] at hce
    obtain ⟨⟨⟨e1, e2⟩, e3⟩, e4, e5⟩ := hce
    obtain ⟨hlt1, ht1, hf1, hn1⟩ := hc1 (hg1.confident e1) e4
    subst hn1
    obtain ⟨hlt2, ht2, hf2, hn2⟩ := hc2 ((hg2 hf1).confident e2) e5
    subst hn2
    dsimp only
    rw [e4, e5]
    exact hD.ite h0 (hs1 e1) ⟨hlt1, by simpa using ht1⟩ (hs2 hf1 e2) ⟨hlt2, by simpa using ht2⟩
      (hs3 hf2 e3)

/-- what `parseLetRest` returns: as `InvD` at `let_`, with the facts about the part of the `let` parsed before it
(`errors`, `ef`, `ann`) that an error-free result implies -/
def LetRestPost (toks : Array PTok) (D : NT → Nat → Nat → Src → Prop) (vr : SourceRange)
    (x : Name) (ann : OptSrc) (errors : List PErr) (ef : Bool) (next : Nat) (r : PResult) : Prop :=
  Good r ∧ (collectErrors r.term = [] → ef = true ∧ errors = [] ∧ collectErrorsOpt ann = [] ∧
    ∃ b t defn body, D .term next b defn ∧ KAt toks b (.terminator t) ∧
      D .term (b + 1) r.next body ∧
      r.term = .mk (span vr body.range) false (.let_ ⟨vr, x⟩ ann defn body) [])

omit hD in
theorem Tri.parseLetRest {next : Nat} {vr : SourceRange} {x : Name} {ann : OptSrc}
    {errors : List PErr} {ef : Bool}
    (h1 : ef = false → errors ≠ [] ∨ collectErrorsOpt ann ≠ [])
    (h2 : collectErrorsOpt ann = [] → NoPEOpt ann) :
    Tri C (parseLetRest toks rec vr x ann next errors ef)
      (LetRestPost toks D vr x ann errors ef next) := by
  unfold PModel.parseLetRest
  refine Tri.optTerm hrec ?_
  intro r2 hr2 hr2'
  obtain ⟨t2, n2, c2⟩ := r2
  have hg2 : ef = true → Good ⟨t2, n2, c2⟩ := fun h => (hr2 h).1
  have hs2 : ef = true → collectErrors t2 = [] → D .term next n2 t2 := fun h => (hr2 h).2
  clear hr2
  dsimp only at hr2' ⊢
  have he2 := expectToken_errs toks n2 PKind.isTerminator c2
  have hc2 := expectToken_clean toks n2 PKind.isTerminator c2
  generalize expectToken toks n2 PKind.isTerminator c2 = e2 at he2 hc2
  obtain ⟨errs2, found2, nx2⟩ := e2
  dsimp only at he2 hc2 ⊢
  refine Tri.optTerm hrec ?_
  intro r3 hr3 hr3'
  obtain ⟨t3, n3, c3⟩ := r3
  have hg3 : found2 = true → Good ⟨t3, n3, c3⟩ := fun h => (hr3 h).1
  have hs3 : found2 = true → collectErrors t3 = [] → D .term nx2 n3 t3 := fun h => (hr3 h).2
  clear hr3
  refine Tri.pure ⟨?_, ?_⟩
  · clear hs2 hs3 hc2
    good_simp
    grind
  · intro hce
    simp only [collectErrors, List.append_eq_nil_iff] at hce
    obtain ⟨⟨⟨e1, e2⟩, e3⟩, e4, e5⟩ := hce
    have hef : ef = true := by
      cases hef : ef
      · rcases h1 hef with h | h
        · exact absurd e4 h
        · exact absurd e1 h
      · rfl
    obtain ⟨hlt2, ht2, hf2, hn2⟩ := hc2 ((hg2 hef).confident e2) e5
    subst hn2
    obtain ⟨t, ht⟩ := isTerminator_eq ht2
    refine ⟨hef, e4, e1, n2, t, t2, t3, hs2 hef e2, ⟨hlt2, ht⟩, hs3 hf2 e3, ?_⟩
    dsimp only
    rw [e4, e5]
    rfl

theorem Tri.parseLet {start : Nat} : Tri C (parseLet toks rec start) (InvD D .let_ start) := by
  rw [parseLet_eq]
  refine Tri.consumeIdent (InvD.failAt _ _ _ _) (fun x hx => ?_)
  have plain : ∀ {n : Nat}, KAt toks (start + 1) .equals →
      Tri C (PModel.parseLetRest toks rec (tokenRange toks start) x .none n [] true)
        (LetRestPost toks D (tokenRange toks start) x .none [] true n) →
      n = start + 1 + 1 →
      Tri C (PModel.parseLetRest toks rec (tokenRange toks start) x .none n [] true)
        (InvD D .let_ start) := by
    intro n heq h hn
    subst hn
    refine h.mono ?_
    intro r' ⟨hg', hs'⟩
    refine ⟨hg', fun hce => ?_⟩
    obtain ⟨_, _, _, b, t, defn, body, s1, ht, s2, hterm⟩ := hs' hce
    rw [hterm]
    exact hD.letPlain hx heq s1 ht s2
  split
  · split
    · refine Tri.consume0 (InvD.failAt _ _ _ _) (fun hcol => ?_)
      refine Tri.tryEval (hrec _ _) (fun r hr he => InvD.ofPE hr.1 he) ?_
      intro r hr hne
      obtain ⟨hg, hs⟩ := hr
      have he := expectToken_errs toks r.next (· = .equals) r.confident
      have hc := expectToken_clean toks r.next (· = .equals) r.confident
      refine Tri.mono (Tri.parseLetRest hrec ?_ ?_) ?_
      · intro hf
        by_cases hcf : r.confident = true
        · exact Or.inl (he hcf hf)
        · exact Or.inr (hg.1 (by simpa using hcf))
      · exact hg.2
      · intro r' ⟨hg', hs'⟩
        refine ⟨hg', fun hce => ?_⟩
        obtain ⟨_, e1, e2, b, t, defn, body, s1, ht, s2, hterm⟩ := hs' hce
        simp only [collectErrorsOpt] at e2
        obtain ⟨hlt, hte, _, hn⟩ := hc (hg.confident e2) e1
        rw [hn] at s1
        rw [hterm]
        exact hD.letAnn hx hcol (hs e2) ⟨hlt, by simpa using hte⟩ s1 ht s2
    · exact Tri.consume0 (InvD.failAt _ _ _ _) fun heq =>
        plain heq (Tri.parseLetRest hrec (by simp) (by simp [NoPEOpt])) rfl
  · exact Tri.consume0 (InvD.failAt _ _ _ _) fun heq =>
      plain heq (Tri.parseLetRest hrec (by simp) (by simp [NoPEOpt])) rfl

theorem Tri.choice (A : NT) {start : Nat} : ∀ (alts : List NT), (∀ B ∈ alts, (A, B) ∈ unitProds) →
    Tri C (choiceOf toks rec alts start) (InvD D A start)
  | [], _ => Tri.pure (InvD.failAt _ _ _ _)
  | B :: alts, h =>
    Tri.tryReturn (hrec B start) (fun _ hr => InvD.unit hD (h B (List.mem_cons_self ..)) hr)
      (Tri.choice A alts fun B' hB' => h B' (List.mem_cons_of_mem _ hB'))

theorem Tri.parseBody (nt : NT) (start : Nat) :
    Tri C (parseBody toks rec nt start) (InvD D nt start) := by
  by_cases h : altsOf nt = []
  case neg =>
    rw [parseBody_choice toks rec start h]
    exact Tri.choice hD hrec nt _ fun _ hB => altsOf_spec hB
  cases nt <;> first | exact absurd h (by decide) | simp only [PModel.parseBody]
  case type =>
    exact Tri.parseLeaf (nt := .type) hD (by decide)
  case «variable» =>
    unfold parseVariable
    refine Tri.consumeIdent (InvD.failAt _ _ _ _)
      (fun x hx => Tri.pure ⟨?_, fun _ => hD.var hx⟩)
    simp [Good, collectErrors, NoPE]
  case lambda => exact Tri.parseLambda hD hrec
  case lambdaImplicit => exact Tri.parseLambdaImplicit hD hrec
  case annotatedLambda => exact Tri.parseBinder (nt := .annotatedLambda) hD hrec (by decide)
  case annotatedLambdaImplicit => exact Tri.parseBinder (nt := .annotatedLambdaImplicit) hD hrec (by decide)
  case pi => exact Tri.parseBinder (nt := .pi) hD hrec (by decide)
  case piImplicit => exact Tri.parseBinder (nt := .piImplicit) hD hrec (by decide)
  case nonDependentPi => exact Tri.parseNonDependentPi hD hrec
  case application => exact Tri.parseApplication hD hrec
  case let_ => exact Tri.parseLet hD hrec
  case integer =>
    exact Tri.parseLeaf (nt := .integer) hD (by decide)
  case integerLiteral =>
    unfold parseIntegerLiteral
    refine Tri.consumeLiteral (InvD.failAt _ _ _ _)
      (fun x hx => Tri.pure ⟨?_, fun _ => hD.lit hx⟩)
    simp [Good, collectErrors, NoPE]
  case negation => exact Tri.parseNegation hD hrec
  case sum => exact Tri.parseBinary (nt := .sum) hD hrec (by decide)
  case difference => exact Tri.parseBinary (nt := .difference) hD hrec (by decide)
  case product => exact Tri.parseBinary (nt := .product) hD hrec (by decide)
  case quotient => exact Tri.parseBinary (nt := .quotient) hD hrec (by decide)
  case lessThan => exact Tri.parseBinary (nt := .lessThan) hD hrec (by decide)
  case lessThanOrEqualTo => exact Tri.parseBinary (nt := .lessThanOrEqualTo) hD hrec (by decide)
  case equalTo => exact Tri.parseBinary (nt := .equalTo) hD hrec (by decide)
  case greaterThan => exact Tri.parseBinary (nt := .greaterThan) hD hrec (by decide)
  case greaterThanOrEqualTo =>
    exact Tri.parseBinary (nt := .greaterThanOrEqualTo) hD hrec (by decide)
  case boolean =>
    exact Tri.parseLeaf (nt := .boolean) hD (by decide)
  case true_ =>
    exact Tri.parseLeaf (nt := .true_) hD (by decide)
  case false_ =>
    exact Tri.parseLeaf (nt := .false_) hD (by decide)
  case if_ => exact Tri.parseIf hD hrec
  case group => exact Tri.parseGroup hD hrec

end Bodies

theorem Closed.trivial (toks : Array PTok) : Closed toks (fun _ _ _ _ => True) := by
  constructor <;> intros <;> trivial

theorem Pres.cacheCheck {nt : NT} {start : Nat} {body : ParseM PResult} (hb : Pres body Good) :
    Pres (cacheCheck nt start body) Good := by
  intro st r st' hI e
  rcases cacheCheck_elim e with ⟨hc, rfl⟩ | ⟨s1, _, hb1, rfl⟩
  · exact ⟨hI, hI _ _ hc⟩
  · obtain ⟨hI1, hg⟩ := hb { st with misses := st.misses.modify nt.idx (· + 1) } _ _ hI hb1
    exact ⟨fun k r' hr' => (cache_insert_lookup hr').elim (fun e => e.2 ▸ hg) (hI1 k r'), hg⟩

theorem Pres.pure {α : Type} {a : α} {post : α → Prop} (h : post a) :
    Pres (Pure.pure a : ParseM α) post := Tri.pure h

theorem Pres.tryReturn {post : PResult → Prop} {p k : ParseM PResult} (hp : Pres p post)
    (hk : Pres k post) : Pres (tryReturn p k) post := Tri.tryReturn hp (fun _ h => h) hk

-- `galt_tac hrec` closes `Pres (…) Good` for a choice function (a `tryReturn` chain ending in `noParse`).
macro "galt_tac" hrec:ident : tactic => `(tactic|
  repeat (first
    | exact Pres.pure (Good.failAt _ _)
    | refine Pres.tryReturn ($hrec _ _) ?_))

theorem Pres.parseBody {toks : Array PTok} {rec : NT → Nat → ParseM PResult}
    (hrec : ∀ nt pos, Pres (rec nt pos) Good) (nt : NT) (start : Nat) :
    Pres (parseBody toks rec nt start) Good :=
  Tri.mono
    (Tri.parseBody (Closed.trivial toks) (fun nt pos => Tri.mono (hrec nt pos) fun _ h => ⟨h, fun _ => trivial⟩)
      nt start)
    fun _ h => h.1

theorem Pres.parseNT (toks : Array PTok) : ∀ (fuel : Nat) (nt : NT) (start : Nat),
    Pres (parseNT toks fuel nt start) Good :=
  parseNT_ind toks (P := fun _ _ m => Pres m Good) (fun _ _ => Tri.fail)
    fun _ h nt s => Pres.cacheCheck (Pres.parseBody h nt s)

theorem runParser_good {toks : Array PTok} {r : PResult} {st : PState}
    (h : runParser toks = some (r, st)) : Good r := by
  refine (Pres.parseNT toks _ _ _ PState.init r st ?_ h).2
  intro k r' hr'
  simp [PState.init] at hr'

end PModel
