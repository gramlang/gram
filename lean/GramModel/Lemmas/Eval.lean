import GramModel.StepRel
import GramModel.Lemmas.DeBruijn

/-!
# The evaluator model against the relation `Step`

`step` is sound and complete for `Step`, hence `Step` is deterministic and `evalFuel` finds what
`Steps` reaches; `stuckReason` answers exactly on the terms that neither step nor are values.  A step keeps a
term hole-free and well scoped.
-/

theorem value_step_none : ∀ (v : Tm), isValue v = true → step v = none := by
  intro v h
  cases v <;> simp [isValue] at h <;> simp [step]

-- The arms of `step` that return `some _` are, in the order of its definition, the fourteen rules of
-- `Step` (appL, appR, beta; letNil, letD, letU; negC, negL; binL, binR, delta; iteC, iteT, iteF), each
-- under the guards that are the rule's premises; in the other arms `h` is `none = some t'`.
theorem step_sound : ∀ (t t' : Tm), step t = some t' → Step t t' := by
  intro t
  fun_induction step t <;> intro t' h <;> simp_all
  all_goals (try subst_vars)
  all_goals (first
    | (constructor <;> first | assumption | simp_all)
    | skip)

theorem step_not_value : ∀ {t t' : Tm}, Step t t' → isValue t = false := by
  intro t t' h
  cases h <;> simp [isValue]

theorem step_complete : ∀ {t t' : Tm}, Step t t' → step t = some t' := by
  intro t t' h
  induction h with
  | appL _ ih => simp [step, ih]
  | appR hv h ih =>
      simp [step, value_step_none _ hv, hv, ih]
  | @beta x im d b a hv =>
      have hl : isValue (Tm.lam x im d b) = true := rfl
      simp [step, value_step_none _ hv, hv, hl]
  | negC h ih => simp [step, ih]
  | negL => simp [step, isValue]
  | binL h ih => simp [step, ih]
  | binR hv h ih => simp [step, value_step_none _ hv, hv, ih]
  | delta h => simp [step, isValue, h]
  | iteC h ih => simp [step, ih]
  | iteT => simp [step, isValue]
  | iteF => simp [step, isValue]
  | letNil => simp [step]
  | letD h ih => simp [step, ih]
  | letU hv => simp [step, value_step_none _ hv, hv]

theorem Step_deterministic {t a b : Tm} (h1 : Step t a) (h2 : Step t b) : a = b := by
  have e1 := step_complete h1
  have e2 := step_complete h2
  rw [e1] at e2
  exact Option.some.inj e2

theorem evalFuel_steps : ∀ (n : Nat) (t : Tm), Steps t (evalFuel n t)
  | 0, t => by simp [evalFuel]; exact Steps.refl
  | n+1, t => by
      simp only [evalFuel]
      cases h : step t with
      | none => exact Steps.refl
      | some t' => exact Steps.head (step_sound t t' h) (evalFuel_steps n t')

theorem Steps_trans {a b c : Tm} (h1 : Steps a b) (h2 : Steps b c) : Steps a c := by
  induction h1 with
  | refl => exact h2
  | head h _ ih => exact Steps.head h (ih h2)

theorem Steps_congr {C : Tm → Tm} (hC : ∀ {t u : Tm}, Step t u → Step (C t) (C u)) {a a' : Tm}
    (h : Steps a a') : Steps (C a) (C a') := by
  induction h with
  | refl => exact Steps.refl
  | head h _ ih => exact Steps.head (hC h) ih

theorem Steps_single {t u : Tm} (h : Step t u) : Steps t u := Steps.head h Steps.refl

theorem evalFuel_of_none {v : Tm} (h : step v = none) : ∀ k, evalFuel k v = v
  | 0 => rfl
  | k + 1 => by simp only [evalFuel, h]

theorem evalFuel_add : ∀ (n k : Nat) (t : Tm), evalFuel (n + k) t = evalFuel k (evalFuel n t)
  | 0, k, t => by rw [Nat.zero_add]; rfl
  | n + 1, k, t => by
      rw [Nat.add_right_comm]
      simp only [evalFuel]
      cases h : step t with
      | none => exact (evalFuel_of_none h k).symm
      | some t' => exact evalFuel_add n k t'

theorem Steps_evalFuel {t v : Tm} (h : Steps t v) (hv : step v = none) :
    ∃ n, ∀ m, n ≤ m → evalFuel m t = v := by
  induction h with
  | refl => exact ⟨0, fun m _ => evalFuel_of_none hv m⟩
  | @head t u v hs _ ih =>
      obtain ⟨n, hn⟩ := ih hv
      refine ⟨n + 1, ?_⟩
      intro m hm
      cases m with
      | zero => omega
      | succ m =>
        simp only [evalFuel, step_complete hs]
        exact hn m (by omega)

theorem delta_none_iff (op : BinOp) (x y : Int) : delta op x y = none ↔ (op = .quot ∧ y = 0) := by
  cases op <;> simp [delta]

/-- `stuckReason` descends along the same evaluation context as `step`, arm by arm under the same
guards, so once `step` is unfolded each case is decided by the guards of its arm. -/
theorem stuckReason_eq_none (t : Tm) :
    stuckReason t = none ↔ (step t = none → isValue t = true) := by
  fun_induction stuckReason t <;> simp_all [step, isValue, delta_none_iff]

theorem stuckReason_complete : ∀ (t : Tm), step t = none → isValue t = false →
    ∃ r, stuckReason t = some r := by
  intro t hs hv
  cases h : stuckReason t with
  | some r => exact ⟨r, rfl⟩
  | none => rw [(stuckReason_eq_none t).mp h hs] at hv; contradiction

theorem stuckReason_sound : ∀ (t : Tm) (r : StuckReason), stuckReason t = some r →
    step t = none ∧ isValue t = false := by
  intro t r h
  have := mt (stuckReason_eq_none t).mpr (by simp [h])
  simpa using this

theorem value_not_stuck : ∀ (t : Tm), isValue t = true → step t = none ∧ stuckReason t = none :=
  fun t h => ⟨value_step_none t h, (stuckReason_eq_none t).mpr fun _ => h⟩

theorem delta_cases {op : BinOp} {x y : Int} {r : Tm} (h : delta op x y = some r) :
    (∃ z, r = .lit z) ∨ r = .tt ∨ r = .ff := by
  cases op <;> simp only [delta] at h
  case quot => split at h <;> cases h; exact Or.inl ⟨_, rfl⟩
  all_goals first
    | (cases h; exact Or.inl ⟨_, rfl⟩)
    | (split at h <;> cases h <;> simp)

theorem delta_holeFree {op x y r} (h : delta op x y = some r) : r.holeFree = true := by
  rcases delta_cases h with ⟨z, rfl⟩ | rfl | rfl <;> rfl

theorem delta_scoped {op x y r} (h : delta op x y = some r) (n : Nat) : wellScoped n r = true := by
  rcases delta_cases h with ⟨z, rfl⟩ | rfl | rfl <;> rfl

theorem Step_holeFree {t t' : Tm} (h : Step t t') : t.holeFree = true → t'.holeFree = true := by
  induction h with
  | appL _ ih => intro hf; simp only [Tm.holeFree, Bool.and_eq_true] at hf ⊢; exact ⟨ih hf.1, hf.2⟩
  | appR _ _ ih => intro hf; simp only [Tm.holeFree, Bool.and_eq_true] at hf ⊢; exact ⟨hf.1, ih hf.2⟩
  | beta _ => intro hf; simp only [Tm.holeFree, Bool.and_eq_true] at hf; exact openT_holeFree _ _ _ _ hf.1.2 hf.2
  | negC _ ih => intro hf; simp only [Tm.holeFree] at hf ⊢; exact ih hf
  | negL => intro _; rfl
  | binL _ ih => intro hf; simp only [Tm.holeFree, Bool.and_eq_true] at hf ⊢; exact ⟨ih hf.1, hf.2⟩
  | binR _ _ ih => intro hf; simp only [Tm.holeFree, Bool.and_eq_true] at hf ⊢; exact ⟨hf.1, ih hf.2⟩
  | delta h => intro _; exact delta_holeFree h
  | iteC _ ih => intro hf; simp only [Tm.holeFree, Bool.and_eq_true] at hf ⊢; exact ⟨⟨ih hf.1.1, hf.1.2⟩, hf.2⟩
  | iteT => intro hf; simp only [Tm.holeFree, Bool.and_eq_true] at hf; exact hf.1.2
  | iteF => intro hf; simp only [Tm.holeFree, Bool.and_eq_true] at hf; exact hf.2
  | letNil => intro hf; simp only [Tm.holeFree, Bool.and_eq_true] at hf; exact hf.2
  | letD _ ih =>
    intro hf
    simp only [Tm.holeFree, Defs.holeFree, Bool.and_eq_true] at hf ⊢
    exact ⟨⟨⟨hf.1.1.1, ih hf.1.1.2⟩, hf.1.2⟩, hf.2⟩
  | @letU x ann d rest b _ =>
    intro hf
    simp only [Tm.holeFree, Defs.holeFree, Bool.and_eq_true] at hf ⊢
    have hu := unfoldDef_holeFree x ann d rest.len hf.1.1.1 hf.1.1.2
    exact ⟨openDefs_holeFree _ _ _ _ hf.1.2 hu, openT_holeFree _ _ _ _ hf.2 hu⟩

theorem Steps_holeFree {t t' : Tm} (h : Steps t t') (hf : t.holeFree = true) : t'.holeFree = true := by
  induction h with
  | refl => exact hf
  | head h _ ih => exact ih (Step_holeFree h hf)

theorem Step_wellScoped {t t' : Tm} (h : Step t t') :
    ∀ (n : Nat), wellScoped n t = true → wellScoped n t' = true := by
  induction h with
  | appL _ ih =>
    intro n hs; simp only [wellScoped, Bool.and_eq_true] at hs ⊢; exact ⟨ih n hs.1, hs.2⟩
  | appR _ _ ih =>
    intro n hs; simp only [wellScoped, Bool.and_eq_true] at hs ⊢; exact ⟨hs.1, ih n hs.2⟩
  | @beta x im d b a _ =>
    intro n hs
    simp only [wellScoped, Bool.and_eq_true] at hs
    exact ws_openT b (n+1) n 0 a n 0 hs.1.2 (Nat.le_refl _) (Nat.zero_le _) hs.2 (by omega)
  | negC _ ih => intro n hs; simp only [wellScoped] at hs ⊢; exact ih n hs
  | negL => intro n _; rfl
  | binL _ ih =>
    intro n hs; simp only [wellScoped, Bool.and_eq_true] at hs ⊢; exact ⟨ih n hs.1, hs.2⟩
  | binR _ _ ih =>
    intro n hs; simp only [wellScoped, Bool.and_eq_true] at hs ⊢; exact ⟨hs.1, ih n hs.2⟩
  | delta h => intro n _; exact delta_scoped h n
  | iteC _ ih =>
    intro n hs; simp only [wellScoped, Bool.and_eq_true] at hs ⊢; exact ⟨⟨ih n hs.1.1, hs.1.2⟩, hs.2⟩
  | iteT => intro n hs; simp only [wellScoped, Bool.and_eq_true] at hs; exact hs.1.2
  | iteF => intro n hs; simp only [wellScoped, Bool.and_eq_true] at hs; exact hs.2
  | letNil =>
    intro n hs
    simp only [wellScoped, Bool.and_eq_true, Defs.len_nil, Nat.add_zero] at hs
    exact hs.2
  | letD _ ih =>
    intro n hs
    simp only [wellScoped, wellScopedDefs, Bool.and_eq_true, Defs.len_cons] at hs ⊢
    exact ⟨⟨⟨hs.1.1.1, ih _ hs.1.1.2⟩, hs.1.2⟩, hs.2⟩
  | @letU x ann d rest b _ =>
    intro n hs
    simp only [wellScoped, wellScopedDefs, Bool.and_eq_true, Defs.len_cons] at hs
    have e : n + (rest.len + 1) = (n + rest.len) + 1 := by omega
    rw [e] at hs
    have hu := ws_unfoldDef x ann d rest.len (n + rest.len) hs.1.1.1 hs.1.1.2 (by omega)
    simp only [wellScoped, Bool.and_eq_true, openDefs_len]
    exact ⟨wsDefs_openDefs rest _ (n + rest.len) rest.len _ (n + rest.len) 0 hs.1.2 (Nat.le_refl _)
        (by omega) hu (by omega),
      ws_openT b _ (n + rest.len) rest.len _ (n + rest.len) 0 hs.2 (Nat.le_refl _) (by omega) hu
        (by omega)⟩

theorem Steps_wellScoped {t t' : Tm} (h : Steps t t') (n : Nat) (hs : wellScoped n t = true) :
    wellScoped n t' = true := by
  induction h with
  | refl => exact hs
  | head h _ ih => exact ih (Step_wellScoped h n hs)
