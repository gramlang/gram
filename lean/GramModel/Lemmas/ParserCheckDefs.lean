import GramModel.Lemmas.ParserNoPanicDefs

/-! `check_definitions` neither panics nor runs out of fuel on a `Clean` term (`checkDefinitions_ok`).  The
measure of `check_definition` is fuel + |`visited`|: every nested call has put one more index below the number
`n` of definitions into the duplicate-free `visited`, so `n + 1 ≤ fuel + |visited|` at entry keeps the fuel
positive (`checkDefinition_ok`; in the loop `checkVariables_ok` the call in progress has used one unit: `n ≤`). -/

namespace PModel

def VisOK (n : Nat) (v : List Nat) : Prop := v.Nodup ∧ ∀ x ∈ v, x < n

theorem VisOK.length_le {n : Nat} {v : List Nat} (h : VisOK n v) : v.length ≤ n := by
  have h1 : v.length ≤ (List.range n).length :=
    List.Nodup.length_le_of_subset h.1 (fun x hx => List.mem_range.2 (h.2 x hx))
  simpa using h1

theorem VisOK.cons {n x : Nat} {v : List Nat} (h : VisOK n v) (hx : x < n) (hn : x ∉ v) :
    VisOK n (x :: v) := by
  refine ⟨List.nodup_cons.2 ⟨hn, h.1⟩, ?_⟩
  intro y hy
  rcases List.mem_cons.1 hy with rfl | hy
  · exact hx
  · exact h.2 y hy

theorem checkVariables_ok (defs : Array (Name × RTm × RTm)) (start : Nat)
    (rec : Nat → CheckSt → Option CheckSt) (F : Nat)
    (hrec : ∀ i (st : CheckSt), VisOK defs.size st.1 → defs.size + 1 ≤ F + st.1.length →
      ∃ st', rec i st = some st' ∧ VisOK defs.size st'.1 ∧ st.1.length ≤ st'.1.length) :
    ∀ (vars : List Nat) (st : CheckSt), VisOK defs.size st.1 →
      defs.size ≤ F + st.1.length →
      ∃ st', checkVariables defs start rec vars st = some st' ∧ VisOK defs.size st'.1 ∧
        st.1.length ≤ st'.1.length := by
  intro vars
  induction vars with
  | nil =>
    intro st hv _
    exact ⟨st, by simp [checkVariables], hv, Nat.le_refl _⟩
  | cons var rest ih =>
    intro st hv hf
    obtain ⟨visited, errors⟩ := st
    simp only at hv hf
    unfold checkVariables
    by_cases hlt : var < defs.size
    · simp only [hlt, if_true]
      by_cases hc : visited.contains (defs.size - 1 - var) = true
      · simp only [hc, if_true]
        exact ih (visited, errors) hv hf
      · simp only [hc]
        have hnm : (defs.size - 1 - var) ∉ visited := by
          intro hm
          exact hc (List.contains_iff_mem.2 hm)
        have hv' : VisOK defs.size ((defs.size - 1 - var) :: visited) :=
          hv.cons (by omega) hnm
        by_cases hval : isValue (defs[defs.size - 1 - var]!).2.2.erase = true
        · simp only [hval, if_true]
          obtain ⟨st1, h1, hv1, hl1⟩ :=
            hrec (defs.size - 1 - var) ((defs.size - 1 - var) :: visited, errors) hv'
              (by simp only [List.length_cons]; omega)
          simp only [h1]
          simp only [List.length_cons] at hl1
          obtain ⟨st2, h2, hv2, hl2⟩ := ih st1 hv1 (by omega)
          exact ⟨st2, h2, hv2, by omega⟩
        · simp only [hval]
          by_cases hge : defs.size - 1 - var ≥ start
          · simp only [hge, if_true]
            obtain ⟨st2, h2, hv2, hl2⟩ :=
              ih ((defs.size - 1 - var) :: visited, errors ++ [match (defs[start]!).2.2.range with
                | some r => [r]
                | none => []]) hv' (by simp only [List.length_cons]; omega)
            simp only [List.length_cons] at hl2
            exact ⟨st2, h2, hv2, by omega⟩
          · simp only [hge]
            obtain ⟨st2, h2, hv2, hl2⟩ :=
              ih ((defs.size - 1 - var) :: visited, errors) hv'
                (by simp only [List.length_cons]; omega)
            simp only [List.length_cons] at hl2
            exact ⟨st2, h2, hv2, by omega⟩
    · simp only [hlt]
      exact ih (visited, errors) hv hf

theorem checkDefinition_ok (defs : Array (Name × RTm × RTm)) (start : Nat) :
    ∀ (fuel current : Nat) (st : CheckSt), VisOK defs.size st.1 →
      defs.size + 1 ≤ fuel + st.1.length →
      ∃ st', checkDefinition defs start fuel current st = some st' ∧ VisOK defs.size st'.1 ∧
        st.1.length ≤ st'.1.length := by
  intro fuel
  induction fuel with
  | zero =>
    intro current st hv hf
    have := hv.length_le
    omega
  | succ fuel ih =>
    intro current st hv hf
    unfold checkDefinition
    exact checkVariables_ok defs start (checkDefinition defs start fuel) fuel
      (fun i st' hv' hf' => ih i st' hv' hf') _ st hv (by omega)

theorem checkEachDefinition_ok (defs : Array (Name × RTm × RTm)) :
    ∀ (is : List Nat) (errors : List PErr), ∃ es, checkEachDefinition defs is errors = .ok es := by
  intro is
  induction is with
  | nil => intro errors; exact ⟨errors, by simp [checkEachDefinition]⟩
  | cons i rest ih =>
    intro errors
    unfold checkEachDefinition
    by_cases hval : isValue (defs[i]!).2.2.erase = true
    · simp only [hval, Bool.not_true, Bool.false_eq_true, if_false]
      exact ih errors
    · simp only [hval, Bool.not_false, if_true]
      obtain ⟨st', h1, _, _⟩ := checkDefinition_ok defs i (defs.size + 1) i ([], errors)
        ⟨List.nodup_nil, by simp⟩ (by simp)
      obtain ⟨v', es'⟩ := st'
      simp only [h1]
      exact ih es'

/-- Two steps in a row, as `checkDefinitions` writes them: if each is `.ok` from every error list, so is the pair. -/
theorem seq_ok {f g : List PErr → Except Fail (List PErr)} (hf : ∀ e, ∃ es, f e = .ok es)
    (hg : ∀ e, ∃ es, g e = .ok es) (e : List PErr) :
    ∃ es, (match f e with | .ok e' => g e' | .error x => .error x) = .ok es := by
  obtain ⟨e1, h1⟩ := hf e
  rw [h1]
  exact hg e1

mutual
theorem checkDefinitions_ok : ∀ (t : RTm) (depth : Nat) (errors : List PErr), Clean t →
    ∃ es, checkDefinitions t depth errors = .ok es
  | .mk _ (.hole _ shift), depth, errors, h => by
    simp only [Clean] at h
    unfold checkDefinitions
    exact ⟨errors, by simp [h]⟩
  | .mk _ .type, _, errors, _ | .mk _ .int, _, errors, _ | .mk _ .bool, _, errors, _
  | .mk _ .tt, _, errors, _ | .mk _ .ff, _, errors, _ | .mk _ (.lit _), _, errors, _
  | .mk _ (.var _ _), _, errors, _ => ⟨errors, by unfold checkDefinitions; rfl⟩
  | .mk _ (.lam _ _ d b), depth, errors, h | .mk _ (.pi _ _ d b), depth, errors, h => by
    simp only [Clean] at h
    simp only [checkDefinitions]
    exact seq_ok (checkDefinitions_ok d depth · h.1) (checkDefinitions_ok b (depth + 1) · h.2) errors
  | .mk _ (.app a b), depth, errors, h | .mk _ (.bin _ a b), depth, errors, h => by
    simp only [Clean] at h
    simp only [checkDefinitions]
    exact seq_ok (checkDefinitions_ok a depth · h.1) (checkDefinitions_ok b depth · h.2) errors
  | .mk _ (.letg ds b), depth, errors, h => by
    simp only [Clean] at h
    simp only [checkDefinitions]
    obtain ⟨es0, h0⟩ := checkEachDefinition_ok ds.toList.toArray
      (List.range ds.toList.toArray.size) errors
    simp only [h0]
    exact seq_ok (checkDefinitionsDefs_ok ds (depth + ds.len) · h.1)
      (checkDefinitions_ok b (depth + ds.len) · h.2) es0
  | .mk _ (.neg a), depth, errors, h => by
    simp only [Clean] at h
    simp only [checkDefinitions]
    exact checkDefinitions_ok a depth errors h
  | .mk _ (.ite c a b), depth, errors, h => by
    simp only [Clean] at h
    simp only [checkDefinitions]
    exact seq_ok (checkDefinitions_ok c depth · h.1)
      (seq_ok (checkDefinitions_ok a depth · h.2.1) (checkDefinitions_ok b depth · h.2.2)) errors
theorem checkDefinitionsDefs_ok : ∀ (ds : RDefs) (depth : Nat) (errors : List PErr),
    CleanDefs ds → ∃ es, checkDefinitionsDefs ds depth errors = .ok es
  | .nil, _, errors, _ => ⟨errors, by unfold checkDefinitionsDefs; rfl⟩
  | .cons _ _ defn rest, depth, errors, h => by
    simp only [CleanDefs] at h
    simp only [checkDefinitionsDefs]
    exact seq_ok (checkDefinitions_ok defn depth · h.1) (checkDefinitionsDefs_ok rest depth · h.2) errors
end

end PModel
