import GramModel.Lemmas.PreservationMain

/-!
# Subject reduction fails for groups whose types depend on a recursive member

Witness (closed, hole-free, accepted by the oracle):

    x : type = (w : x) -> if y w then int else bool;
    y : (x -> bool) = z => true;
    0

`x`'s definition is a value, so the group unfolds it: `U = (w : L) -> if y w then int else bool` with
`L = (x = (w : x) -> if y w then int else bool; x)` replaces `x` in `y`'s annotation and definition.  The
result is not typable: typing `L` types its definition under the new binder `x`, where `y w` needs
`w : x` to have the domain `U` of `y`'s type; `x` (a variable that unfolds to `(w : x) -> …`) and `U`
(`(w : L) -> …`) are not convertible — every reduct of the former is a tower of `Π`s over the variable,
every reduct of the latter a tower of `Π`s over a group.  In the terms below the names are numbers: `x` = 1, `y` = 2,
`w` = 7, `z` = 8.
-/

namespace Pres.Refute

open WhnfLemmas CCSubst OracleLemmas CCPar TypingSound RewriteTyping

def dx : Tm := .pi 7 false (.var 1 1) (.ite (.app (.var 2 1) (.var 7 0)) .int .bool)
def ay : Tm := .pi 8 false (.var 1 1) .bool
def dy : Tm := .lam 8 false (.var 1 1) .tt
def rest0 : Defs := .cons 2 ay dy .nil
def ds0 : Defs := .cons 1 .type dx rest0
def t0 : Tm := .letg ds0 (.lit 0)
def T0 : Tm := .letg ds0 .int

-- `L1`: the group `let x = (w : x) -> …; x`; `U1`: what `x` unfolds to
def dL : Tm := .pi 7 false (.var 1 0) (.ite (.app (.var 2 2) (.var 7 0)) .int .bool)
def dsL : Defs := .cons 1 .type dL .nil
def L1 : Tm := .letg dsL (.var 1 0)
def U1 : Tm := .pi 7 false L1 (.ite (.app (.var 2 1) (.var 7 0)) .int .bool)
def ay1 : Tm := .pi 8 false U1 .bool
def dy1 : Tm := .lam 8 false U1 .tt
def rest1 : Defs := .cons 2 ay1 dy1 .nil
def t1 : Tm := .letg rest1 (.lit 0)

theorem t0_hf : t0.holeFree = true := by decide
theorem T0_hf : T0.holeFree = true := by decide
theorem t1_hf : t1.holeFree = true := by decide

theorem t0_typed : HasType [] [] t0 T0 :=
  inferX_sound (f := 50) t0_hf THF_nil DHF.nil (by rfl)

theorem t0_step : Step t0 t1 := by
  have : Step t0 (.letg (openDefs rest0 rest0.len (unfoldDef 1 .type dx rest0.len) 0)
      (openT (.lit 0) rest0.len (unfoldDef 1 .type dx rest0.len) 0)) := Step.letU (by rfl)
  have e : (Tm.letg (openDefs rest0 rest0.len (unfoldDef 1 .type dx rest0.len) 0)
      (openT (.lit 0) rest0.len (unfoldDef 1 .type dx rest0.len) 0)) = t1 := by decide
  rwa [e] at this

/-- towers of `Π`s over the variable `x` (index `1`) -/
inductive LS : Tm → Prop
  | var (x : Name) : LS (.var x 1)
  | pi (x : Name) (im : Bool) {A : Tm} (B : Tm) : LS A → LS (.pi x im A B)

/-- towers of `Π`s over a group `let x = (w : x) -> …; x` (possibly half unfolded) -/
inductive RS : Tm → Prop
  | grp (x : Name) (a : Tm) (x' : Name) (im : Bool) (z : Name) (C : Tm) (y : Name) :
      RS (.letg (.cons x a (.pi x' im (.var z 0) C) .nil) (.var y 0))
  | nilg {c : Tm} : RS c → RS (.letg .nil c)
  | pi (x : Name) (im : Bool) {A : Tm} (B : Tm) : RS A → RS (.pi x im A B)

theorem LS_RS {t : Tm} (h : LS t) : RS t → False := by
  induction h with
  | var x => intro h; cases h
  | pi x im B _ ih => intro h; cases h with | pi _ _ _ h => exact ih h

/-- the definitions context at the point of the clash (the proofs use its erasure `erD Δ3`): `[w, x := (w : x) -> …, y := …]` -/
def Δ3 : DCtxX := [none, some (dL, 1), some (dy1, 1)]

theorem LS.par {t : Tm} (h : LS t) : ∀ t', Par (erD Δ3) 0 t t' → LS t' := by
  induction h with
  | var x =>
    intro t' hp
    cases hp with
    | var => exact .var x
    | delta _ _ _ d off _ hget =>
      have e : (erD Δ3)[1 - 0]? = some (some (er dL, 1)) := by decide
      rw [e] at hget
      simp only [Option.some.injEq, Prod.mk.injEq] at hget
      obtain ⟨rfl, rfl⟩ := hget
      have : ushift 0 (1 + 1 - 1) (er dL) =
          .pi 0 false (.var 0 1) (.ite (.app (.var 0 3) (.var 0 0)) .int .bool) := by decide
      rw [this]
      exact .pi _ _ _ (.var _)
  | pi x im B _ ih =>
    intro t' hp
    cases hp with
    | pi _ _ hA _ => exact .pi _ _ _ (ih _ hA)

theorem LS.pars {t c : Tm} (h : LS t) (hp : Pars (erD Δ3) 0 t c) : LS c := by
  induction hp with
  | refl => exact h
  | tail _ hp ih => exact ih.par _ hp

-- the `delta` cases below are impossible: the variable has index `0`, below the `n + 1` opaque binders of the step
theorem RS.par {Δ : DCtxX} {t : Tm} (h : RS t) : ∀ (n : Nat) (t' : Tm), Par Δ n t t' → RS t' := by
  induction h with
  | grp x a x' im z C y =>
    intro n t' hp
    cases hp with
    | letg hds hb =>
      cases hds with
      | cons _ ha hd hr =>
        cases hr
        cases hb with
        | var =>
          cases hd with
          | pi _ _ hA hC =>
            cases hA with
            | var => exact .grp ..
            | delta _ _ _ _ _ hle _ => simp [Defs.len] at hle
        | delta _ _ _ _ _ hle _ => simp [Defs.len] at hle
    | letStep _ ha hd hr hb =>
      cases hr
      cases hb with
      | var =>
        cases hd with
        | pi _ _ hA hC =>
          cases hA with
          | var =>
            simp only [openDefs, Defs.len_nil, openT, if_true, ushift_zero, unfoldDef, ushift,
              ushiftDefs]
            simp
            exact .nilg (.pi _ _ _ (.grp ..))
          | delta _ _ _ _ _ hle _ => simp [Defs.len] at hle
      | delta _ _ _ _ _ hle _ => simp [Defs.len] at hle
  | nilg _ ih =>
    intro n t' hp
    cases hp with
    | letg hds hb =>
      cases hds
      exact .nilg (ih _ _ hb)
    | letNil hb => exact ih _ _ hb
  | pi x im B _ ih =>
    intro n t' hp
    cases hp with
    | pi _ _ hA _ => exact .pi _ _ _ (ih _ _ hA)

theorem RS.pars {Δ : DCtxX} {n : Nat} {t c : Tm} (h : RS t) (hp : Pars Δ n t c) : RS c := by
  induction hp with
  | refl => exact h
  | tail _ hp ih => exact ih.par _ _ hp

/-- the variable `x` and the unfolding `U` are not convertible where they would have to be -/
theorem not_conv : ¬ Conv Δ3 (.var 1 1) (ushift 0 2 U1) := by
  intro hc
  have hW : DWF Δ3 := by
    intro p d off h
    match p with
    | 0 => simp [Δ3] at h
    | 1 => simp [Δ3] at h; omega
    | 2 => simp [Δ3] at h; omega
    | p+3 => simp [Δ3] at h
  obtain ⟨c, p1, p2⟩ := Conv.join hc hW
  have l : LS (er (.var 1 1)) := .var 0
  have r : RS (er (ushift 0 2 U1)) := by
    have : er (ushift 0 2 U1) = .pi 0 false
        (.letg (.cons 0 .type (.pi 0 false (.var 0 0) (.ite (.app (.var 0 4) (.var 0 0)) .int .bool)) .nil)
          (.var 0 0)) (.ite (.app (.var 0 3) (.var 0 0)) .int .bool) := by decide
    rw [this]
    exact .pi _ _ _ (.grp ..)
  exact LS_RS (l.pars p1) (r.pars p2)


theorem OffsT_nil : OffsT [] := by intro i ty off h; simp at h

theorem t1_untypable (T : Tm) : ¬ HasType [] [] t1 T := by
  intro h
  have h0 := hasType_ht h OffsT_nil Canonical.DWF_nil
  rw [dhC_id (CHF_lkT THF_nil), dhC_id (CHF_lkD DHF.nil), dh_id t1 t1_hf] at h0
  -- the group
  obtain ⟨_, ⟨_, -, hr1, ha1, _, _⟩, _⟩ := h0.gen
  have hO1 := OffsT_pushed OffsT_nil rest1
  have hW1 := DWF_pushed Canonical.DWF_nil rest1
  have hT1 := THF_pushed THF_nil rest1 hr1
  have hD1 := DHF_pushed DHF.nil rest1 hr1
  have a1 := ha1 2 ay1 dy1 (by simp [rest1, Defs.toList])
  rw [← lkT_pushed OffsT_nil, ← lkD_pushed Canonical.DWF_nil] at a1
  -- `y`'s annotation `U -> bool`, its domain `U = (w : L) -> …`, the domain `L` of that
  obtain ⟨_, ⟨-, a2, -⟩, -⟩ := a1.gen
  obtain ⟨_, ⟨-, a3, -⟩, -⟩ := a2.gen
  -- the group `L`
  obtain ⟨_, ⟨_, -, hrL, _, hdL, _⟩, _⟩ := a3.gen
  have hO2 := OffsT_pushed hO1 dsL
  have hW2 := DWF_pushed hW1 dsL
  have a4 := hdL 1 .type dL (by simp [dsL, Defs.toList])
  rw [← lkT_pushed hO1, ← lkD_pushed hW1] at a4
  -- its definition `(w : x) -> if y w then int else bool`
  obtain ⟨_, ⟨-, -, a5⟩, -⟩ := a4.gen
  rw [← lkT_cons hO2, ← lkD_none hW2] at a5
  obtain ⟨_, ⟨a6, _, _⟩, _⟩ := a5.gen
  obtain ⟨_, ⟨x, im, dom, cod, -, hg, ha⟩, _⟩ := a6.gen
  obtain ⟨ty2, e2, c2⟩ := hg.gen
  obtain ⟨ty0, e0, c0⟩ := ha.gen
  have eΔ : (none :: pushedD dsL dsL.len (pushedD rest1 rest1.len [])) = Δ3 := by decide
  have eG2 : lkT ((Tm.var 1 0, 0) :: pushedT dsL dsL.len (pushedT rest1 rest1.len [])) 2 =
      some (.pi 8 false (ushift 0 2 U1) .bool) := by decide
  have eG0 : lkT ((Tm.var 1 0, 0) :: pushedT dsL dsL.len (pushedT rest1 rest1.len [])) 0 =
      some (.var 1 1) := by decide
  have hW3 : DWF (none :: pushedD dsL dsL.len (pushedD rest1 rest1.len [])) := DWF.push hW2
  have hD3 : DHF (none :: pushedD dsL dsL.len (pushedD rest1 rest1.len [])) :=
    DHF.push (DHF_pushed hD1 dsL hrL)
  cases eG2.symm.trans e2
  cases eG0.symm.trans e0
  rw [eΔ] at c2 c0 hW3 hD3
  obtain ⟨_, ci, _⟩ := cv_pi_inj hW3 hD3 c2
  exact not_conv (cv_conv (.trans c0 (.symm ci)) Δ3 hW3 rfl)

theorem preservation_fails :
    t0.holeFree = true ∧ HasType [] [] t0 T0 ∧ Step t0 t1 ∧ ∀ T, ¬ HasType [] [] t1 T :=
  ⟨t0_hf, t0_typed, t0_step, t1_untypable⟩

end Pres.Refute
