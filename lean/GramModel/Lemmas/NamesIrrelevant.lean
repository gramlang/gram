import GramModel.Lemmas.Oracle

/-!
# Names are irrelevant

`Relab.names ρ` renames every name by `ρ` and keeps everything else.  No semantic function looks at a name: the
signed shift, opening, `step`, `evalFuel`, and the independent checker (`whnfX`, `convX`, `inferX`) commute with it,
for every `ρ` (no injectivity is needed: names are never compared).  The file ends with `eraseNames` (forget every
name), the instance `ρ := fun _ => 0` that `Props/C19.lean` is stated with.  Everything is in the root namespace.
-/

section
variable (ρ : Name → Name)

theorem Tm.names_sshift (t : Tm) (c : Nat) (amt : Int) :
    sshift c amt (t.relab (.names ρ)) = (sshift c amt t).map (Tm.relab (.names ρ)) :=
  t.relab_sshift (f := fun i => i) rfl rfl c amt
theorem Defs.names_sshift (ds : Defs) (c : Nat) (amt : Int) :
    sshiftDefs c amt (ds.relab (.names ρ)) = (sshiftDefs c amt ds).map (Defs.relab (.names ρ)) :=
  ds.relab_sshiftDefs (f := fun i => i) rfl rfl c amt

theorem Tm.names_isValue (t : Tm) : isValue (t.relab (.names ρ)) = isValue t := by
  cases t <;> rfl

theorem names_unfoldDef (x : Name) (ann d : Tm) (index : Nat) :
    unfoldDef ((Relab.names ρ).nm x) (ann.relab (.names ρ)) (d.relab (.names ρ)) index =
      (unfoldDef x ann d index).relab (.names ρ) := by
  simp only [unfoldDef, Tm.relab_openT, Tm.relab_ushift, Tm.relab, Defs.relab, Relab.names_onAnn]

theorem names_delta (op : BinOp) (a b : Int) :
    (delta op a b).map (Tm.relab (.names ρ)) = delta op a b := by
  cases op <;> simp only [delta] <;> (try split) <;> rfl

theorem Tm.names_step : ∀ (t : Tm), step (t.relab (.names ρ)) = (step t).map (Tm.relab (.names ρ))
  | .app f a => by
      simp only [Tm.relab, step, Tm.names_step f, Tm.names_step a, Tm.names_isValue]
      cases step f <;> cases isValue f <;> cases step a <;> cases isValue a <;> try rfl
      cases f <;> try rfl
      exact congrArg some (Tm.relab_openT ..).symm
  | .letg .nil body => rfl
  | .letg (.cons x ann d rest) body => by
      simp only [Tm.relab, Defs.relab, Relab.names_onAnn, step, Tm.names_step d, Tm.names_isValue,
        Defs.len_relab, names_unfoldDef, ← Tm.relab_openT, ← Defs.relab_openDefs]
      cases step d <;> cases isValue d <;> rfl
  | .neg a => by
      simp only [Tm.relab, step, Tm.names_step a, Tm.names_isValue]
      cases step a <;> cases isValue a <;> try rfl
      cases a <;> rfl
  | .bin op a b => by
      simp only [Tm.relab, step, Tm.names_step a, Tm.names_step b, Tm.names_isValue]
      cases step a <;> cases isValue a <;> cases step b <;> cases isValue b <;> try rfl
      cases a <;> try rfl
      cases b <;> try rfl
      exact (names_delta ρ op _ _).symm
  | .ite c t e => by
      simp only [Tm.relab, step, Tm.names_step c, Tm.names_isValue]
      cases step c <;> cases isValue c <;> try rfl
      cases c <;> rfl
  | .hole .. | .type | .int | .bool | .tt | .ff | .lit _ | .var .. | .lam .. | .pi .. => rfl

theorem Tm.names_evalFuel : ∀ (n : Nat) (t : Tm),
    evalFuel n (t.relab (.names ρ)) = (evalFuel n t).relab (.names ρ)
  | 0, _ => rfl
  | n+1, t => by
      simp only [evalFuel, Tm.names_step]
      cases step t
      · rfl
      · exact Tm.names_evalFuel n _


open OracleLemmas

theorem eraseX_names (t : Tm) : eraseX (t.relab (.names ρ)) = eraseX t := by
  rw [eraseX_eq_relab, eraseX_eq_relab, Tm.relab_relab]; rfl

theorem eraseDefsX_names (ds : Defs) : eraseDefsX (ds.relab (.names ρ)) = eraseDefsX ds := by
  rw [eraseDefsX_eq_relab, eraseDefsX_eq_relab, Defs.relab_relab]; rfl

theorem sameX_names (a b : Tm) : sameX (a.relab (.names ρ)) (b.relab (.names ρ)) = sameX a b := by
  rw [Bool.eq_iff_iff, sameX_iff, sameX_iff, eraseX_names, eraseX_names]

theorem names_letAllX : ∀ (f : Nat) (ds : Defs) (b : Tm),
    letAllX f (ds.relab (.names ρ)) (b.relab (.names ρ)) = (letAllX f ds b).map (Tm.relab (.names ρ))
  | 0, _, _ => rfl
  | _+1, .nil, _ => rfl
  | f+1, .cons x a d r, b => by
      simp only [letAllX, Defs.relab, Relab.names_onAnn, letStepX, Defs.len_relab]
      rw [names_unfoldDef, ← Tm.relab_openT, ← Defs.relab_openDefs]
      exact names_letAllX f _ _

/-- a relabelling of the definitions context / the typing context, entry by entry -/
def Relab.onD (R : Relab) (Δ : DCtxX) : DCtxX := Δ.map (Option.map (fun p => (p.1.relab R, p.2)))
def Relab.onG (R : Relab) (Γ : TCtxX) : TCtxX := Γ.map (fun p => (p.1.relab R, p.2))

theorem names_whnfX : ∀ (f : Nat) (Δ : DCtxX) (t : Tm),
    whnfX f ((Relab.names ρ).onD Δ) (t.relab (.names ρ)) = (whnfX f Δ t).map (Tm.relab (.names ρ))
  | 0, _, _ => rfl
  | f+1, Δ, .var x i => by
      simp only [Tm.relab, whnfX, Relab.onD, List.getElem?_map]
      rcases Δ[i]? with _ | _ | ⟨d, off⟩ <;> try rfl
      simp only [Option.map_some, ← Tm.relab_ushift]
      split
      · rfl
      · exact names_whnfX f Δ _
  | f+1, Δ, .app g a => by
      simp only [Tm.relab, whnfX, names_whnfX f Δ g]
      rcases whnfX f Δ g with _ | g' <;> try rfl
      cases g' <;> try rfl
      simp only [Option.map_some, Tm.relab, ← Tm.relab_openT]
      exact names_whnfX f Δ _
  | f+1, Δ, .letg ds b => by
      simp only [Tm.relab, whnfX, names_letAllX]
      cases letAllX (f+1) ds b <;> try rfl
      exact names_whnfX f Δ _
  | f+1, Δ, .neg a => by
      simp only [Tm.relab, whnfX, names_whnfX f Δ a]
      rcases whnfX f Δ a with _ | a' <;> try rfl
      cases a' <;> rfl
  | f+1, Δ, .bin op a b => by
      simp only [Tm.relab, whnfX, names_whnfX f Δ a, names_whnfX f Δ b]
      rcases whnfX f Δ a with _ | a' <;> rcases whnfX f Δ b with _ | b' <;> try rfl
      · cases a' <;> rfl
      cases a' <;> try rfl
      cases b' <;> try rfl
      rename_i x y
      simp only [Option.map_some, Tm.relab]
      have hd := names_delta ρ op x y
      revert hd
      cases delta op x y <;> intro hd
      · rfl
      · exact hd.symm
  | f+1, Δ, .ite c a b => by
      simp only [Tm.relab, whnfX, names_whnfX f Δ c]
      rcases whnfX f Δ c with _ | c' <;> try rfl
      cases c' <;> try rfl
      · exact names_whnfX f Δ _
      · exact names_whnfX f Δ _
  | _+1, _, .hole .. | _+1, _, .type | _+1, _, .int | _+1, _, .bool | _+1, _, .tt | _+1, _, .ff
  | _+1, _, .lit _ | _+1, _, .lam .. | _+1, _, .pi .. => rfl

theorem Relab.onD_none (R : Relab) (Δ : DCtxX) : none :: R.onD Δ = R.onD (none :: Δ) := rfl

theorem names_convX : ∀ (f : Nat) (Δ : DCtxX) (a b : Tm),
    convX f ((Relab.names ρ).onD Δ) (a.relab (.names ρ)) (b.relab (.names ρ)) = convX f Δ a b
  | 0, _, _, _ => rfl
  | f+1, Δ, a, b => by
      have ih := names_convX f
      simp only [OracleLemmas.convX_succ, sameX_names, names_whnfX]
      split
      · rfl
      rcases whnfX f Δ a with _ | wa <;> rcases whnfX f Δ b with _ | wb <;> try rfl
      -- off the diagonal both sides are the same constant; on it the subterms are compared by `ih`
      cases wa <;> cases wb <;>
        first | rfl | simp only [OracleLemmas.convHead, Option.map_some, Tm.relab, Relab.names_onAnn, Relab.onD_none, ih]

theorem names_expectX (f : Nat) (Δ : DCtxX) (a b : Tm) (e : XErr) :
    expectX f ((Relab.names ρ).onD Δ) (a.relab (.names ρ)) (b.relab (.names ρ)) e = expectX f Δ a b e := by
  unfold expectX; rw [names_convX]

theorem names_isTypeX (f : Nat) (Δ : DCtxX) (ty : Tm) :
    isTypeX f ((Relab.names ρ).onD Δ) (ty.relab (.names ρ)) = isTypeX f Δ ty :=
  names_expectX ρ f Δ ty .type .notType

theorem names_pushGroupX_go : ∀ (ds : Defs) (k : Nat) (Γ : TCtxX) (Δ : DCtxX),
    pushGroupX.go (ds.relab (.names ρ)) k ((Relab.names ρ).onG Γ, (Relab.names ρ).onD Δ) =
      ((Relab.names ρ).onG (pushGroupX.go ds k (Γ, Δ)).1, (Relab.names ρ).onD (pushGroupX.go ds k (Γ, Δ)).2)
  | .nil, _, _, _ => rfl
  | .cons _ a d r, k, Γ, Δ => names_pushGroupX_go r (k-1) ((a, k) :: Γ) (some (d, k) :: Δ)

theorem names_pushGroupX (ds : Defs) (n : Nat) (Γ : TCtxX) (Δ : DCtxX) :
    pushGroupX (ds.relab (.names ρ)) n ((Relab.names ρ).onG Γ, (Relab.names ρ).onD Δ) =
      ((Relab.names ρ).onG (pushGroupX ds n (Γ, Δ)).1, (Relab.names ρ).onD (pushGroupX ds n (Γ, Δ)).2) := by
  unfold pushGroupX
  rw [Defs.len_relab]
  exact names_pushGroupX_go ρ ds _ Γ Δ

mutual
theorem names_inferX : ∀ (f : Nat) (Γ : TCtxX) (Δ : DCtxX) (t : Tm),
    inferX f ((Relab.names ρ).onG Γ) ((Relab.names ρ).onD Δ) (t.relab (.names ρ)) =
      (inferX f Γ Δ t).map (Tm.relab (.names ρ))
  | 0, _, _, _ => rfl
  | f+1, Γ, Δ, .var x i => by
      simp only [Tm.relab, inferX_var, Relab.onG, List.getElem?_map]
      rcases Γ[i]? with _ | ⟨ty, off⟩
      · rfl
      simp only [Option.map_some, ← Tm.relab_ushift]
      split <;> rfl
  | f+1, Γ, Δ, .lam x im d b => by
      have e : ((d.relab (.names ρ), 0) :: (Relab.names ρ).onG Γ) = (Relab.names ρ).onG ((d, 0) :: Γ) := rfl
      simp only [Tm.relab, Relab.names_onAnn, inferX_lam, e, Relab.onD_none, names_inferX f,
        OracleLemmas.bind_map, OracleLemmas.map_bind,
        names_isTypeX]
      rfl
  | f+1, Γ, Δ, .pi x im d b => by
      have e : ((d.relab (.names ρ), 0) :: (Relab.names ρ).onG Γ) = (Relab.names ρ).onG ((d, 0) :: Γ) := rfl
      simp only [Tm.relab, inferX_pi, e, Relab.onD_none, names_inferX f, OracleLemmas.bind_map,
        OracleLemmas.map_bind, names_isTypeX]
      rfl
  | f+1, Γ, Δ, .app g a => by
      simp only [Tm.relab, inferX_app, names_inferX f, OracleLemmas.bind_map, OracleLemmas.map_bind, names_whnfX]
      congr 1; funext gty
      rcases whnfX f Δ gty with _ | w
      · rfl
      cases w <;> try rfl
      · simp only [Option.map_some, Tm.relab, OracleLemmas.map_bind]; rfl
      · simp only [Option.map_some, Tm.relab, OracleLemmas.map_bind, names_expectX]
        simp only [Except.map, Tm.relab_openT]
  | f+1, Γ, Δ, .letg ds body => by
      simp only [Tm.relab, inferX_letg, names_pushGroupX, names_inferX f, names_inferDefsX f,
        OracleLemmas.bind_map, OracleLemmas.map_bind]
      rfl
  | f+1, Γ, Δ, .neg a => by
      have hi := fun a => names_expectX ρ f Δ a .int
      simp only [Tm.relab] at hi
      simp only [Tm.relab, inferX_neg, names_inferX f, OracleLemmas.bind_map, OracleLemmas.map_bind, hi]
      rfl
  | f+1, Γ, Δ, .bin op a b => by
      have hi := fun a => names_expectX ρ f Δ a .int
      simp only [Tm.relab] at hi
      simp only [Tm.relab, inferX_bin, names_inferX f, OracleLemmas.bind_map, OracleLemmas.map_bind, hi]
      cases op <;> rfl
  | f+1, Γ, Δ, .ite c a b => by
      have hb := fun a => names_expectX ρ f Δ a .bool
      simp only [Tm.relab] at hb
      simp only [Tm.relab, inferX_ite, names_inferX f, OracleLemmas.bind_map, OracleLemmas.map_bind, hb,
        names_expectX]
      rfl
  | _+1, _, _, .hole .. | _+1, _, _, .type | _+1, _, _, .int | _+1, _, _, .bool | _+1, _, _, .tt
  | _+1, _, _, .ff | _+1, _, _, .lit _ => rfl
theorem names_inferDefsX : ∀ (f : Nat) (Γ : TCtxX) (Δ : DCtxX) (ds : Defs),
    inferDefsX f ((Relab.names ρ).onG Γ) ((Relab.names ρ).onD Δ) (ds.relab (.names ρ)) = inferDefsX f Γ Δ ds
  | 0, _, _, _ => rfl
  | _+1, _, _, .nil => rfl
  | f+1, Γ, Δ, .cons x ann d r => by
      simp only [Defs.relab, Relab.names_onAnn, inferDefsX_cons, names_inferX f, names_inferDefsX f,
        OracleLemmas.bind_map,
        names_isTypeX, names_expectX]
end

end

/-! `eraseNames` (forget every name) is `Relab.names fun _ => 0`: what holds for every `ρ` holds for it. -/

mutual
def eraseNames : Tm → Tm
  | .var _ i => .var 0 i
  | .lam _ im d b => .lam 0 im (eraseNames d) (eraseNames b)
  | .pi _ im d b => .pi 0 im (eraseNames d) (eraseNames b)
  | .app f a => .app (eraseNames f) (eraseNames a)
  | .letg ds b => .letg (eraseNamesDefs ds) (eraseNames b)
  | .neg a => .neg (eraseNames a)
  | .bin op a b => .bin op (eraseNames a) (eraseNames b)
  | .ite c a b => .ite (eraseNames c) (eraseNames a) (eraseNames b)
  | t => t
def eraseNamesDefs : Defs → Defs
  | .nil => .nil
  | .cons _ a d r => .cons 0 (eraseNames a) (eraseNames d) (eraseNamesDefs r)
end

theorem eraseNames_eq_relab_both : (∀ t : Tm, eraseNames t = t.relab (.names fun _ => 0)) ∧
    ∀ ds : Defs, eraseNamesDefs ds = ds.relab (.names fun _ => 0) := by
  apply Tm.rec_both <;> intros <;> simp only [eraseNames, eraseNamesDefs, Tm.relab, Defs.relab, *] <;> rfl

theorem eraseNames_eq_relab (t : Tm) : eraseNames t = t.relab (.names fun _ => 0) :=
  eraseNames_eq_relab_both.1 t
theorem eraseNamesDefs_eq_relab (ds : Defs) : eraseNamesDefs ds = ds.relab (.names fun _ => 0) :=
  eraseNames_eq_relab_both.2 ds

theorem eraseNames_fun : eraseNames = Tm.relab (.names fun _ => 0) := funext eraseNames_eq_relab
theorem eraseNamesDefs_fun : eraseNamesDefs = Defs.relab (.names fun _ => 0) := funext eraseNamesDefs_eq_relab

theorem eraseNames_sshift (t : Tm) (c : Nat) (amt : Int) :
    sshift c amt (eraseNames t) = (sshift c amt t).map eraseNames := by
  simp only [eraseNames_fun]; exact t.names_sshift _ c amt

theorem eraseNamesDefs_sshift : ∀ (ds : Defs) (c : Nat) (amt : Int),
    sshiftDefs c amt (eraseNamesDefs ds) = (sshiftDefs c amt ds).map eraseNamesDefs := fun ds c amt => by
  simp only [eraseNamesDefs_fun]; exact ds.names_sshift _ c amt

theorem eraseNamesDefs_ushift : ∀ (ds : Defs) (c a : Nat),
    ushiftDefs c a (eraseNamesDefs ds) = eraseNamesDefs (ushiftDefs c a ds) := by
  intro ds c a
  simp only [eraseNamesDefs_fun]; exact (ds.relab_ushiftDefs _ c a).symm

theorem eraseNames_openT (t u : Tm) (i s : Nat) :
    openT (eraseNames t) i (eraseNames u) s = eraseNames (openT t i u s) := by
  simp only [eraseNames_fun]; exact (t.relab_openT _ i u s).symm

theorem eraseNames_step (t : Tm) : step (eraseNames t) = (step t).map eraseNames := by
  simp only [eraseNames_fun]; exact t.names_step _

theorem eraseNames_evalFuel (n : Nat) (t : Tm) : evalFuel n (eraseNames t) = eraseNames (evalFuel n t) := by
  simp only [eraseNames_fun]; exact t.names_evalFuel _ n

section NamesOracle
open OracleLemmas

theorem eraseDefsX_eraseNames : ∀ (ds : Defs), eraseDefsX (eraseNamesDefs ds) = eraseDefsX ds := fun ds => by
  rw [eraseNamesDefs_eq_relab]; exact eraseDefsX_names _ ds

def eraseNamesD (Δ : DCtxX) : DCtxX := Δ.map (Option.map (fun p => (eraseNames p.1, p.2)))
def eraseNamesG (Γ : TCtxX) : TCtxX := Γ.map (fun p => (eraseNames p.1, p.2))

theorem eraseNamesD_cons (e : Option (Tm × Nat)) (Δ : DCtxX) :
    eraseNamesD (e :: Δ) = e.map (fun p => (eraseNames p.1, p.2)) :: eraseNamesD Δ := rfl
theorem eraseNamesG_cons (d : Tm) (o : Nat) (Γ : TCtxX) :
    (eraseNames d, o) :: eraseNamesG Γ = eraseNamesG ((d, o) :: Γ) := rfl
theorem eraseNamesD_none (Δ : DCtxX) : none :: eraseNamesD Δ = eraseNamesD (none :: Δ) := rfl
theorem eraseNamesD_some (d : Tm) (o : Nat) (Δ : DCtxX) :
    some (eraseNames d, o) :: eraseNamesD Δ = eraseNamesD (some (d, o) :: Δ) := rfl

theorem eraseNames_inferX (f : Nat) (Γ : TCtxX) (Δ : DCtxX) (t : Tm) :
    inferX f (eraseNamesG Γ) (eraseNamesD Δ) (eraseNames t) = (inferX f Γ Δ t).map eraseNames := by
  simp only [eraseNamesG, eraseNamesD, eraseNames_fun]; exact names_inferX _ f Γ Δ t

end NamesOracle
