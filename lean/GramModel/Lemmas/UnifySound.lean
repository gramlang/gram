import GramModel.Typing
import GramModel.Lemmas.Oracle
import GramModel.Lemmas.StoreRead
import GramModel.Lemmas.StoreMono

/-!
# Soundness of `unifyS` for declarative conversion (C12)

If `unifyS` answers `true` from a state whose definitions context is hole-free, no fresh cell was allocated during
the run (no hole-copy event of `openS`, KF-holecopy) and every hole of the two terms and of the store has a shift at
least its binder depth (`hdeep 0`: no hole below a cutoff, KF-holedepth), then the two terms zonked with any store
extending the final one are related by `Conv` (`Typing.lean`) whenever both readings are hole-free.

The `X_zk` say what each store-layer function computes, read through `Zk σ` (`Lemmas/Zonk.lean`) for a store `σ`
extending the current one, in runs that allocate nothing (`NFa`: the functions defined before `solveS` in `Store.lean`
and `Check.lean` only append empty cells).
-/

-- `hdeep`, `hdeepDefs` and `storeDeep` stand outside the namespace: the statements of `Props/C12.lean` use them.
mutual
/-- `hdeep c t`: every hole of `t` that stands under `j` binders of `t` has shift `≥ c + j` — its cell
lives outside all the binders of `t` (and `c` more).  `signed_shift` with cutoff `≤ c` then never meets
an unresolved hole whose shift is below the cutoff (the situation of finding KF-holedepth). -/
def hdeep (c : Nat) : Tm → Bool
  | .hole _ s => decide (c ≤ s)
  | .lam _ _ d b => hdeep c d && hdeep (c+1) b
  | .pi _ _ d b => hdeep c d && hdeep (c+1) b
  | .app f a => hdeep c f && hdeep c a
  | .letg ds b => hdeepDefs (c + ds.len) ds && hdeep (c + ds.len) b
  | .neg a => hdeep c a
  | .bin _ a b => hdeep c a && hdeep c b
  | .ite a b d => hdeep c a && hdeep c b && hdeep c d
  | _ => true
def hdeepDefs (c : Nat) : Defs → Bool
  | .nil => true
  | .cons _ a d r => hdeep c a && hdeep c d && hdeepDefs c r
end

/-- the contents of every solved cell are `hdeep 0` -/
def storeDeep (σ : List (Option Tm)) : Prop :=
  ∀ (id : Nat) (sub : Tm), σ[id]? = some (some sub) → hdeep 0 sub = true

namespace UnifySound

open StoreMono (bind_ok pure_ok RT StoreLe Le)
open WhnfLemmas (DHF)
open CheckNoPanic (cellVal cellVal_some)

variable {σ : List (Option Tm)}

theorem sshiftS_rd (f) : (∀ c amt t, Fr Same Nev (sshiftS f c amt t)) ∧
    (∀ c amt ds, Fr Same Nev (sshiftDefsS f c amt ds)) :=
  ⟨fun c amt t s => ((sshiftS_fr f).1 c amt t s).post fun _ _ h => h.1,
   fun c amt ds s => ((sshiftS_fr f).2 c amt ds s).post fun _ _ h => h.1⟩

theorem sshiftS_state {f c amt t s o s'} (h : sshiftS f c amt t s = .ok o s') : s' = s :=
  ((sshiftS_rd f).1 c amt t s).ok h

theorem synEqS_state {f a b s r s'} (h : synEqS f a b s = .ok r s') : s' = s :=
  ((synEqS_fr f).1 a b s).ok h

/-- any panic allowed: only successful runs are looked at -/
abbrev Any : String → Prop := fun _ => True

theorem whnfS_g2 (f t) : Fr G2 Any (whnfS f t) := fun s =>
  (StoreMono.whnfS_spec false f t s nofun).mono (fun _ _ h => h.1) fun _ _ => trivial

/-! ## `NFa s m Q`: a run of `m` from `s` that allocates no cell returns a value satisfying `Q` -/

abbrev NFa {α} (s : St) (m : M α) (Q : α → Prop) : Prop :=
  (m s).Sat (fun r s' => s'.store.length ≤ s.store.length → Q r) Any

theorem NFa.intro {α} {s : St} {m : M α} {Q : α → Prop}
    (h : ∀ r s', m s = .ok r s' → s'.store.length ≤ s.store.length → Q r) : NFa s m Q :=
  R.Sat.intro h fun _ _ => trivial

/-- The rule for `>>=`.  The continuation is looked at from `s` only: a run of the whole that ends with a store
no longer than that of `s` has passed through `s` (`hmid`) — because the first action only reads (`bind_same`),
or because both halves only allocate (`bind`). -/
theorem NFa.bind_of {α β} {s : St} {m : M α} {f : α → M β} {Q1 : α → Prop} {Q : β → Prop}
    (hmid : ∀ a s1 b s', m s = .ok a s1 → f a s1 = .ok b s' → s'.store.length ≤ s.store.length → s1 = s)
    (hm : NFa s m Q1) (hf : ∀ a, Q1 a → NFa s (f a) Q) : NFa s (m >>= f) Q :=
  R.Sat.bind hm fun a s1 e q => R.Sat.intro (fun b s' e2 hl => by
    obtain rfl := hmid a s1 b s' e e2 hl
    exact (hf a (q (Nat.le_refl _))).ok e2 hl) fun _ _ => trivial

theorem NFa.bind {α β} {s : St} {m : M α} {f : α → M β} {Q1 : α → Prop} {Q : β → Prop}
    {E : String → Prop} (hmG : Fr G2 E m) (hfG : ∀ a, Fr G2 E (f a)) (hm : NFa s m Q1)
    (hf : ∀ a, Q1 a → NFa s (f a) Q) : NFa s (m >>= f) Q :=
  NFa.bind_of (fun a s1 _ s' e e2 hl => by
    have g1 : G2 s s1 := (hmG s).ok e
    have l1 := g1.len_le
    have l2 := G2.len_le ((hfG a s1).ok e2)
    exact g1.eq (by omega)) hm hf

theorem NFa.bind_same {α β} {s : St} {m : M α} {f : α → M β} {Q1 : α → Prop} {Q : β → Prop}
    {E : String → Prop} (hmS : Fr Same E m) (hm : NFa s m Q1) (hf : ∀ a, Q1 a → NFa s (f a) Q) :
    NFa s (m >>= f) Q :=
  NFa.bind_of (fun _ _ _ _ e _ _ => (hmS s).ok e) hm hf

/-- a step of a function that answers `none` as soon as a component does -/
theorem NFa.opt {α β} {s : St} {m : M (Option α)} {k : Option α → M (Option β)} {Q1 : Option α → Prop}
    {Q : Option β → Prop} {E : String → Prop} (hm : Fr Same E m) (h1 : NFa s m Q1) (hk : k none = pure none)
    (hn : Q none) (h2 : ∀ a, Q1 (some a) → NFa s (k (some a)) Q) : NFa s (m >>= k) Q :=
  NFa.bind_same hm h1 fun o q => by
    cases o with
    | none => rw [hk]; exact fun _ => hn
    | some a => exact h2 a q

theorem NFa.pure {α} {s : St} {a : α} {Q : α → Prop} (h : Q a) : NFa s (pure a : M α) Q := fun _ => h

theorem NFa.outOfFuel {α} {s : St} {Q : α → Prop} : NFa s (outOfFuel : M α) Q := trivial

theorem NFa.panicAt {α} {s : St} {Q : α → Prop} (site : String) : NFa s (panicAt site : M α) Q := trivial

theorem NFa.mono {α} {s : St} {m : M α} {Q Q' : α → Prop} (h : NFa s m Q) (hq : ∀ a, Q a → Q' a) :
    NFa s m Q' := R.Sat.post h fun a _ q hl => hq a (q hl)

theorem NFa.cellGet {β} {s : St} {id : Nat} {k : Option Tm → M β} {Q : β → Prop}
    (h : NFa s (k (cellVal s.store id)) Q) : NFa s (cellGet id >>= k) Q := h

theorem NFa.getSt {β} {s : St} {k : St → M β} {Q : β → Prop}
    (h : NFa s (k s) Q) : NFa s (getSt >>= k) Q := h

/-- a hole under `o.1` binders has shift at least `c + o.1` -/
def occDeep (c : Nat) (o : Nat × Occ) : Bool := o.2.isVar || decide (c + o.1 ≤ o.2.idx)

theorem hdeep_add_eq_occs_both : (∀ (t : Tm) c n, hdeep (c + n) t = (t.occs n).all (occDeep c)) ∧
    ∀ (ds : Defs) c n, hdeepDefs (c + n) ds = (ds.occs n).all (occDeep c) := by
  apply Tm.rec_both
  case hole =>
    intros
    simp only [hdeep, Tm.occs, occDeep, Occ.isVar, Occ.idx, List.all_cons, List.all_nil, Bool.false_or, Bool.and_true]
    rfl
  all_goals intros; first | rfl |
    simp only [hdeep, hdeepDefs, Tm.occs, Defs.occs, List.all_append, Nat.add_assoc, *]

theorem hdeep_eq_occs (t : Tm) (c : Nat) : hdeep c t = (t.occs 0).all (occDeep c) :=
  hdeep_add_eq_occs_both.1 t c 0
theorem hdeepDefs_eq_occs (ds : Defs) (c : Nat) : hdeepDefs c ds = (ds.occs 0).all (occDeep c) :=
  hdeep_add_eq_occs_both.2 ds c 0

theorem occDeep_anti {c c' : Nat} (hc : c' ≤ c) (o : Nat × Occ) (h : occDeep c o = true) : occDeep c' o = true := by
  simp only [occDeep, Bool.or_eq_true, decide_eq_true_eq] at h ⊢
  exact h.imp_right fun h => by omega

theorem hdeep_anti (t : Tm) (c c' : Nat) (hc : c' ≤ c) (h : hdeep c t = true) : hdeep c' t = true := by
  rw [hdeep_eq_occs, List.all_eq_true] at h ⊢
  exact fun o ho => occDeep_anti hc o (h o ho)
theorem hdeepDefs_anti (ds : Defs) (c c' : Nat) (hc : c' ≤ c) (h : hdeepDefs c ds = true) :
    hdeepDefs c' ds = true := by
  rw [hdeepDefs_eq_occs, List.all_eq_true] at h ⊢
  exact fun o ho => occDeep_anti hc o (h o ho)

theorem hdeep_zero {t : Tm} {c : Nat} (h : hdeep c t = true) : hdeep 0 t = true :=
  hdeep_anti _ _ _ (Nat.zero_le _) h

theorem hdeep_holeFree (t : Tm) (c : Nat) (h : t.holeFree = true) : hdeep c t = true := by
  rw [Tm.holeFree_eq_occs t 0, List.all_eq_true] at h
  rw [hdeep_eq_occs, List.all_eq_true]
  exact fun o ho => by simp only [occDeep, h o ho, Bool.true_or]
theorem hdeepDefs_holeFree : ∀ (ds : Defs) (c : Nat), ds.holeFree = true → hdeepDefs c ds = true := by
  intro ds c h
  rw [Defs.holeFree_eq_occs ds 0, List.all_eq_true] at h
  rw [hdeepDefs_eq_occs, List.all_eq_true]
  exact fun o ho => by simp only [occDeep, h o ho, Bool.true_or]

theorem sshift_of_ushift : ∀ (z : Tm) (c j k m : Nat) (amt : Int), c ≤ k → c ≤ m → (m : Int) = k + amt →
    sshift (c + j) amt (ushift j k z) = some (ushift j m z) := fun z c j k m amt h1 h2 h3 =>
  sshift_ushift_mid z (c + j) j k m amt (by omega) (by omega) (by omega) h3

theorem sshiftDefs_of_ushiftDefs : ∀ (ds : Defs) (c j k m : Nat) (amt : Int), c ≤ k → c ≤ m →
    (m : Int) = k + amt → sshiftDefs (c + j) amt (ushiftDefs j k ds) = some (ushiftDefs j m ds) :=
  fun ds c j k m amt h1 h2 h3 =>
    sshiftDefs_ushiftDefs_mid ds (c + j) j k m amt (by omega) (by omega) (by omega) h3

/-- what `sshiftS c amt t` answers: a result deep at the cutoff raised by `amt` if `amt` is positive (`amt.toNat` is `0`
for a lowering), and every reading of `t` shifts to a reading of it -/
def ShiftQ (σ : List (Option Tm)) (c : Nat) (amt : Int) (t : Tm) (o : Option Tm) : Prop :=
  ∀ r, o = some r → hdeep (c + amt.toNat) r = true ∧
    ∀ zt, Zk σ t zt → ∃ zr, sshift c amt zt = some zr ∧ Zk σ r zr

def ShiftDQ (σ : List (Option Tm)) (c : Nat) (amt : Int) (ds : Defs) (o : Option Defs) : Prop :=
  ∀ r, o = some r → r.len = ds.len ∧ hdeepDefs (c + amt.toNat) r = true ∧
    ∀ zt, ZkD σ ds zt → ∃ zr, sshiftDefs c amt zt = some zr ∧ ZkD σ r zr

theorem sshiftS_zk : ∀ f,
    (∀ c amt t s, storeDeep s.store → StoreLe s.store σ → hdeep c t = true →
      NFa s (sshiftS f c amt t) (ShiftQ σ c amt t)) ∧
    (∀ c amt ds s, storeDeep s.store → StoreLe s.store σ → hdeepDefs c ds = true →
      NFa s (sshiftDefsS f c amt ds) (ShiftDQ σ c amt ds)) := by
  intro f
  induction f with
  | zero =>
    constructor
    · intros; rw [sshiftS]; exact NFa.outOfFuel
    · intros; rw [sshiftDefsS]; exact NFa.outOfFuel
  | succ f ih =>
    obtain ⟨ih1, ih2⟩ := ih
    have hg := (sshiftS_rd f).1
    have hgd := (sshiftS_rd f).2
    constructor
    · intro c amt t s hS hL hd
      cases t <;> unfold sshiftS <;> dsimp only
      case hole id k =>
        simp only [hdeep, decide_eq_true_eq] at hd
        refine NFa.cellGet ?_
        cases hv : cellVal s.store id with
        | some sub =>
          dsimp only
          have hsub : s.store[id]? = some (some sub) := cellVal_some.1 hv
          have hd0 : hdeep 0 sub = true := hS _ _ hsub
          refine NFa.bind_same (hg _ _ _) (ih1 0 k sub s hS hL hd0) (fun o q => ?_)
          cases o with
          | none => exact NFa.panicAt _
          | some sub' =>
            dsimp only
            obtain ⟨hd1, hz1⟩ := q _ rfl
            have hd1' : hdeep c sub' = true := hdeep_anti _ _ _ (by simp; omega) hd1
            refine (ih1 c amt sub' s hS hL hd1').mono (fun o2 q2 => ?_)
            intro r e
            obtain ⟨hr, hz2⟩ := q2 r e
            refine ⟨hr, fun zt hzt => ?_⟩
            rw [Zk_hole_some (hL.2 _ _ hsub)] at hzt
            obtain ⟨zs, hzs, rfl⟩ := hzt
            obtain ⟨z1, e1, k1⟩ := hz1 _ hzs
            rw [sshift_ushift] at e1
            cases e1
            exact hz2 _ k1
        | none =>
          dsimp only
          split
          · split
            · next h2 =>
              refine NFa.pure ?_
              intro r e
              cases e
              refine ⟨by simp only [hdeep, decide_eq_true_eq]; omega, fun zt hzt => ?_⟩
              have hm : (((k : Int) + amt).toNat : Int) = k + amt := by omega
              rcases hσ : σ[id]? with _ | _ | sub'
              · rw [Zk_hole_none (by simp [hσ])] at hzt
                subst hzt
                refine ⟨_, ?_, (Zk_hole_none (by simp [hσ])).2 rfl⟩
                simp only [sshift]
                rw [if_pos (by omega), if_pos (by omega)]
              · rw [Zk_hole_none (by simp [hσ])] at hzt
                subst hzt
                refine ⟨_, ?_, (Zk_hole_none (by simp [hσ])).2 rfl⟩
                simp only [sshift]
                rw [if_pos (by omega), if_pos (by omega)]
              · rw [Zk_hole_some hσ] at hzt
                obtain ⟨zs, hzs, rfl⟩ := hzt
                refine ⟨_, ?_, (Zk_hole_some hσ).2 ⟨zs, hzs, rfl⟩⟩
                have := sshift_of_ushift zs c 0 k ((k : Int) + amt).toNat amt hd (by omega) hm
                simpa using this
            · refine NFa.pure ?_
              intro r e
              cases e
          · omega
      case var x i =>
        split
        · split
          · refine NFa.pure ?_
            intro r e
            cases e
            refine ⟨by simp [hdeep], fun zt hzt => ?_⟩
            rw [Zk_leaf (by simp [Leaf])] at hzt
            subst hzt
            refine ⟨_, ?_, (Zk_leaf (by simp [Leaf])).2 rfl⟩
            simp only [sshift]
            rw [if_pos (by omega), if_pos (by omega)]
          · refine NFa.pure ?_
            intro r e
            cases e
        · refine NFa.pure ?_
          intro r e
          cases e
          refine ⟨by simp [hdeep], fun zt hzt => ?_⟩
          rw [Zk_leaf (by simp [Leaf])] at hzt
          subst hzt
          refine ⟨_, ?_, (Zk_leaf (by simp [Leaf])).2 rfl⟩
          simp only [sshift]
          rw [if_neg (by omega)]
      case lam x im d b | pi x im d b =>
        simp only [hdeep, Bool.and_eq_true] at hd
        refine NFa.opt (hg _ _ _) (ih1 c amt d s hS hL hd.1) rfl nofun fun d' q1 => ?_
        refine NFa.opt (hg _ _ _) (ih1 (c+1) amt b s hS hL hd.2) rfl nofun fun b' q2 => NFa.pure ?_
        intro r e
        cases e
        obtain ⟨h1, z1⟩ := q1 _ rfl
        obtain ⟨h2, z2⟩ := q2 _ rfl
        refine ⟨by simp only [hdeep, Bool.and_eq_true]; exact ⟨h1, by rw [Nat.add_right_comm]; exact h2⟩,
          fun zt hzt => ?_⟩
        simp only [Zk_lam, Zk_pi] at hzt
        obtain ⟨zd, zb, hzd, hzb, rfl⟩ := hzt
        obtain ⟨zd', e1, k1⟩ := z1 _ hzd
        obtain ⟨zb', e2, k2⟩ := z2 _ hzb
        refine ⟨_, ?_, by simp only [Zk_lam, Zk_pi]; exact ⟨_, _, k1, k2, rfl⟩⟩
        simp only [sshift, e1, e2]
      case app g a | bin op g a =>
        simp only [hdeep, Bool.and_eq_true] at hd
        refine NFa.opt (hg _ _ _) (ih1 c amt g s hS hL hd.1) rfl nofun fun g' q1 => ?_
        refine NFa.opt (hg _ _ _) (ih1 c amt a s hS hL hd.2) rfl nofun fun a' q2 => NFa.pure ?_
        intro r e
        cases e
        obtain ⟨h1, z1⟩ := q1 _ rfl
        obtain ⟨h2, z2⟩ := q2 _ rfl
        refine ⟨by simp only [hdeep, Bool.and_eq_true]; exact ⟨h1, h2⟩, fun zt hzt => ?_⟩
        simp only [Zk_app, Zk_bin] at hzt
        obtain ⟨zd, zb, hzd, hzb, rfl⟩ := hzt
        obtain ⟨zd', e1, k1⟩ := z1 _ hzd
        obtain ⟨zb', e2, k2⟩ := z2 _ hzb
        refine ⟨_, ?_, by simp only [Zk_app, Zk_bin]; exact ⟨_, _, k1, k2, rfl⟩⟩
        simp only [sshift, e1, e2]
      case letg ds b =>
        simp only [hdeep, Bool.and_eq_true] at hd
        refine NFa.opt (hgd _ _ _) (ih2 (c + ds.len) amt ds s hS hL hd.1) rfl nofun fun ds' q1 => ?_
        refine NFa.opt (hg _ _ _) (ih1 (c + ds.len) amt b s hS hL hd.2) rfl nofun fun b' q2 => NFa.pure ?_
        intro r e
        cases e
        obtain ⟨hl, h1, z1⟩ := q1 _ rfl
        obtain ⟨h2, z2⟩ := q2 _ rfl
        refine ⟨by simp only [hdeep, Bool.and_eq_true, hl]
                   rw [Nat.add_right_comm] at h1 h2; exact ⟨h1, h2⟩, fun zt hzt => ?_⟩
        rw [Zk_letg] at hzt
        obtain ⟨zd, zb, hzd, hzb, rfl⟩ := hzt
        obtain ⟨zd', e1, k1⟩ := z1 _ hzd
        obtain ⟨zb', e2, k2⟩ := z2 _ hzb
        exact ⟨_, by simp only [sshift, ZkD_len hzd, e1, e2], Zk_letg.2 ⟨_, _, k1, k2, rfl⟩⟩
      case neg a =>
        simp only [hdeep] at hd
        refine NFa.opt (hg _ _ _) (ih1 c amt a s hS hL hd) rfl nofun fun a' q1 => NFa.pure ?_
        intro r e
        cases e
        obtain ⟨h1, z1⟩ := q1 _ rfl
        refine ⟨by simp only [hdeep]; exact h1, fun zt hzt => ?_⟩
        rw [Zk_neg] at hzt
        obtain ⟨zd, hzd, rfl⟩ := hzt
        obtain ⟨zd', e1, k1⟩ := z1 _ hzd
        exact ⟨_, by simp only [sshift, e1], Zk_neg.2 ⟨_, k1, rfl⟩⟩
      case ite a b d =>
        simp only [hdeep, Bool.and_eq_true] at hd
        refine NFa.opt (hg _ _ _) (ih1 c amt a s hS hL hd.1.1) rfl nofun fun a' q1 => ?_
        refine NFa.opt (hg _ _ _) (ih1 c amt b s hS hL hd.1.2) rfl nofun fun b' q2 => ?_
        refine NFa.opt (hg _ _ _) (ih1 c amt d s hS hL hd.2) rfl nofun fun d' q3 => NFa.pure ?_
        intro r e
        cases e
        obtain ⟨h1, z1⟩ := q1 _ rfl
        obtain ⟨h2, z2⟩ := q2 _ rfl
        obtain ⟨h3, z3⟩ := q3 _ rfl
        refine ⟨by simp only [hdeep, Bool.and_eq_true]; exact ⟨⟨h1, h2⟩, h3⟩, fun zt hzt => ?_⟩
        rw [Zk_ite] at hzt
        obtain ⟨za, zb, zd, hza, hzb, hzd, rfl⟩ := hzt
        obtain ⟨za', e1, k1⟩ := z1 _ hza
        obtain ⟨zb', e2, k2⟩ := z2 _ hzb
        obtain ⟨zd', e3, k3⟩ := z3 _ hzd
        exact ⟨_, by simp only [sshift, e1, e2, e3], Zk_ite.2 ⟨_, _, _, k1, k2, k3, rfl⟩⟩
      all_goals
        refine NFa.pure ?_
        intro r e
        cases e
        refine ⟨by simp [hdeep], fun zt hzt => ?_⟩
        rw [Zk_leaf (by simp [Leaf])] at hzt
        subst hzt
        exact ⟨_, by simp only [sshift], (Zk_leaf (by simp [Leaf])).2 rfl⟩
    · intro c amt ds s hS hL hd
      cases ds <;> unfold sshiftDefsS <;> dsimp only
      case nil =>
        refine NFa.pure ?_
        intro r e
        cases e
        refine ⟨rfl, by simp [hdeepDefs], fun zt hzt => ?_⟩
        rw [ZkD_nil] at hzt
        subst hzt
        exact ⟨_, by simp only [sshiftDefs], ZkD_nil.2 rfl⟩
      case cons x a d rest =>
        simp only [hdeepDefs, Bool.and_eq_true] at hd
        refine NFa.opt (hg _ _ _) (ih1 c amt a s hS hL hd.1.1) rfl nofun fun a' q1 => ?_
        refine NFa.opt (hg _ _ _) (ih1 c amt d s hS hL hd.1.2) rfl nofun fun d' q2 => ?_
        refine NFa.opt (hgd _ _ _) (ih2 c amt rest s hS hL hd.2) rfl nofun fun r' q3 => NFa.pure ?_
        intro r e
        cases e
        obtain ⟨h1, z1⟩ := q1 _ rfl
        obtain ⟨h2, z2⟩ := q2 _ rfl
        obtain ⟨hl, h3, z3⟩ := q3 _ rfl
        refine ⟨by simp [hl], by simp only [hdeepDefs, Bool.and_eq_true]; exact ⟨⟨h1, h2⟩, h3⟩,
          fun zt hzt => ?_⟩
        rw [ZkD_cons] at hzt
        obtain ⟨za, zb, zd, hza, hzb, hzd, rfl⟩ := hzt
        obtain ⟨za', e1, k1⟩ := z1 _ hza
        obtain ⟨zb', e2, k2⟩ := z2 _ hzb
        obtain ⟨zd', e3, k3⟩ := z3 _ hzd
        exact ⟨_, by simp only [sshiftDefs, e1, e2, e3], ZkD_cons.2 ⟨_, _, _, k1, k2, k3, rfl⟩⟩

theorem ushiftS_zk (f c a : Nat) (t : Tm) (s : St) (hS : storeDeep s.store) (hL : StoreLe s.store σ)
    (hd : hdeep c t = true) :
    NFa s (ushiftS f c a t) (fun r => hdeep (c + a) r = true ∧ ∀ zt, Zk σ t zt → Zk σ r (ushift c a zt)) := by
  unfold ushiftS
  refine NFa.bind_same ((sshiftS_rd f).1 _ _ _) ((sshiftS_zk f).1 c (a : Int) t s hS hL hd)
    (fun o q => ?_)
  cases o with
  | none => exact NFa.panicAt _
  | some r =>
    refine NFa.pure ?_
    obtain ⟨h1, z1⟩ := q _ rfl
    refine ⟨by simpa using h1, fun zt hzt => ?_⟩
    obtain ⟨zr, e, k⟩ := z1 _ hzt
    rw [sshift_ushift] at e
    cases e
    exact k

/-- what `openS t i u sh` answers, in a run that allocates nothing: it reads as `openT` of the readings -/
def OpenQ (σ : List (Option Tm)) (t : Tm) (i : Nat) (u : Tm) (sh : Nat) (r : Tm) : Prop :=
  hdeep sh r = true ∧ (u.holeFree = true → r.holeFree = true) ∧
    ∀ zt zu, Zk σ t zt → Zk σ u zu → Zk σ r (openT zt i zu sh)

def OpenDQ (σ : List (Option Tm)) (ds : Defs) (i : Nat) (u : Tm) (sh : Nat) (r : Defs) : Prop :=
  r.len = ds.len ∧ hdeepDefs sh r = true ∧ (u.holeFree = true → r.holeFree = true) ∧
    ∀ zt zu, ZkD σ ds zt → Zk σ u zu → ZkD σ r (openDefs zt i zu sh)

theorem openS_zk : ∀ f,
    (∀ t i u sh s, storeDeep s.store → StoreLe s.store σ → hdeep 0 u = true →
      NFa s (openS f t i u sh) (OpenQ σ t i u sh)) ∧
    (∀ ds i u sh s, storeDeep s.store → StoreLe s.store σ → hdeep 0 u = true →
      NFa s (openDefsS f ds i u sh) (OpenDQ σ ds i u sh)) := by
  intro f
  induction f with
  | zero =>
    constructor
    · intros; rw [openS]; exact NFa.outOfFuel
    · intros; rw [openDefsS]; exact NFa.outOfFuel
  | succ f ih =>
    obtain ⟨ih1, ih2⟩ := ih
    have ho := (StoreMono.openS_fr f).1
    have hod := (StoreMono.openS_fr f).2
    constructor
    · intro t i u sh s hS hL hu
      cases t <;> unfold openS <;> dsimp only
      case hole id k =>
        refine NFa.cellGet ?_
        cases hv : cellVal s.store id with
        | some sub =>
          dsimp only
          have hsub : s.store[id]? = some (some sub) := cellVal_some.1 hv
          have hd0 : hdeep 0 sub = true := hS _ _ hsub
          refine NFa.bind_same (ushiftS_fr _ _ _ _) (ushiftS_zk f 0 k sub s hS hL hd0) (fun sub' q => ?_)
          refine (ih1 sub' i u sh s hS hL hu).mono (fun r q2 => ?_)
          obtain ⟨h2, f2, z2⟩ := q2
          refine ⟨h2, f2, fun zt zu hzt hzu => ?_⟩
          rw [Zk_hole_some (hL.2 _ _ hsub)] at hzt
          obtain ⟨zs, hzs, rfl⟩ := hzt
          exact z2 _ _ (q.2 _ hzs) hzu
        | none =>
          dsimp only
          refine NFa.intro fun r s' e hl => ?_
          obtain ⟨a, s1, h1, h2⟩ := bind_ok e
          cases h1
          obtain ⟨_, rfl⟩ := pure_ok h2
          simp at hl
          omega
      case var x j =>
        split
        · refine NFa.intro fun r s' e hl => ?_
          obtain ⟨h1, z1⟩ := (ushiftS_zk f 0 sh u s hS hL hu).ok e hl
          refine ⟨by simpa using h1, fun hf => ?_, fun zt zu hzt hzu => ?_⟩
          · obtain ⟨rfl, _⟩ := (StoreTransparent.ushiftS_ans f 0 sh (.refl u hf)).inv e
            rw [holeFree_ushift]; exact hf
          · rw [Zk_leaf (by simp [Leaf])] at hzt
            subst hzt
            simp only [openT]
            rw [if_pos (by assumption)]
            exact z1 _ hzu
        · next hne =>
          refine NFa.pure ⟨by simp [hdeep], fun _ => rfl, fun zt zu hzt hzu => ?_⟩
          rw [Zk_leaf (by simp [Leaf])] at hzt
          subst hzt
          simp only [openT]
          rw [if_neg hne]
          split <;> exact (Zk_leaf (by simp [Leaf])).2 rfl
      case lam x im d b | pi x im d b =>
        refine NFa.bind (ho _ _ _ _)
          (fun _ => .bind (ho _ _ _ _) fun _ => .pure _)
          (ih1 d i u sh s hS hL hu) (fun d' q1 => ?_)
        refine NFa.bind (ho _ _ _ _) (fun _ => .pure _) (ih1 b (i+1) u (sh+1) s hS hL hu) (fun b' q2 => ?_)
        refine NFa.pure ?_
        obtain ⟨h1, f1, z1⟩ := q1
        obtain ⟨h2, f2, z2⟩ := q2
        refine ⟨by simp only [hdeep, Bool.and_eq_true]; exact ⟨h1, h2⟩,
          fun hf => by simp only [Tm.holeFree, Bool.and_eq_true]; exact ⟨f1 hf, f2 hf⟩,
          fun zt zu hzt hzu => ?_⟩
        simp only [Zk_lam, Zk_pi] at hzt
        obtain ⟨zd, zb, hzd, hzb, rfl⟩ := hzt
        simp only [openT]
        exact (by simp only [Zk_lam, Zk_pi]; exact ⟨_, _, z1 _ _ hzd hzu, z2 _ _ hzb hzu, rfl⟩)
      case app g a | bin op g a =>
        refine NFa.bind (ho _ _ _ _)
          (fun _ => .bind (ho _ _ _ _) fun _ => .pure _)
          (ih1 g i u sh s hS hL hu) (fun d' q1 => ?_)
        refine NFa.bind (ho _ _ _ _) (fun _ => .pure _) (ih1 a i u sh s hS hL hu) (fun b' q2 => ?_)
        refine NFa.pure ?_
        obtain ⟨h1, f1, z1⟩ := q1
        obtain ⟨h2, f2, z2⟩ := q2
        refine ⟨by simp only [hdeep, Bool.and_eq_true]; exact ⟨h1, h2⟩,
          fun hf => by simp only [Tm.holeFree, Bool.and_eq_true]; exact ⟨f1 hf, f2 hf⟩,
          fun zt zu hzt hzu => ?_⟩
        simp only [Zk_app, Zk_bin] at hzt
        obtain ⟨zd, zb, hzd, hzb, rfl⟩ := hzt
        simp only [openT]
        exact (by simp only [Zk_app, Zk_bin]; exact ⟨_, _, z1 _ _ hzd hzu, z2 _ _ hzb hzu, rfl⟩)
      case letg ds b =>
        refine NFa.bind (hod _ _ _ _)
          (fun _ => .bind (ho _ _ _ _) fun _ => .pure _)
          (ih2 ds (i + ds.len) u (sh + ds.len) s hS hL hu)
          (fun d' q1 => ?_)
        refine NFa.bind (ho _ _ _ _) (fun _ => .pure _) (ih1 b (i + ds.len) u (sh + ds.len) s hS hL hu)
          (fun b' q2 => ?_)
        refine NFa.pure ?_
        obtain ⟨hl, h1, f1, z1⟩ := q1
        obtain ⟨h2, f2, z2⟩ := q2
        refine ⟨by simp only [hdeep, Bool.and_eq_true, hl]; exact ⟨h1, h2⟩,
          fun hf => by simp only [Tm.holeFree, Bool.and_eq_true]; exact ⟨f1 hf, f2 hf⟩,
          fun zt zu hzt hzu => ?_⟩
        rw [Zk_letg] at hzt
        obtain ⟨zd, zb, hzd, hzb, rfl⟩ := hzt
        simp only [openT, ZkD_len hzd]
        exact Zk_letg.2 ⟨_, _, z1 _ _ hzd hzu, z2 _ _ hzb hzu, rfl⟩
      case neg a =>
        refine NFa.bind (ho _ _ _ _) (fun _ => .pure _) (ih1 a i u sh s hS hL hu) (fun d' q1 => ?_)
        refine NFa.pure ?_
        obtain ⟨h1, f1, z1⟩ := q1
        refine ⟨by simp only [hdeep]; exact h1, fun hf => by simp only [Tm.holeFree]; exact f1 hf,
          fun zt zu hzt hzu => ?_⟩
        rw [Zk_neg] at hzt
        obtain ⟨zd, hzd, rfl⟩ := hzt
        simp only [openT]
        exact Zk_neg.2 ⟨_, z1 _ _ hzd hzu, rfl⟩
      case ite a b d =>
        refine NFa.bind (ho _ _ _ _)
          (fun _ => .bind (ho _ _ _ _) fun _ => .bind (ho _ _ _ _) fun _ => .pure _)
          (ih1 a i u sh s hS hL hu) (fun a' q1 => ?_)
        refine NFa.bind (ho _ _ _ _)
          (fun _ => .bind (ho _ _ _ _) fun _ => .pure _)
          (ih1 b i u sh s hS hL hu) (fun b' q2 => ?_)
        refine NFa.bind (ho _ _ _ _) (fun _ => .pure _) (ih1 d i u sh s hS hL hu) (fun d' q3 => ?_)
        refine NFa.pure ?_
        obtain ⟨h1, f1, z1⟩ := q1
        obtain ⟨h2, f2, z2⟩ := q2
        obtain ⟨h3, f3, z3⟩ := q3
        refine ⟨by simp only [hdeep, Bool.and_eq_true]; exact ⟨⟨h1, h2⟩, h3⟩,
          fun hf => by simp only [Tm.holeFree, Bool.and_eq_true]; exact ⟨⟨f1 hf, f2 hf⟩, f3 hf⟩,
          fun zt zu hzt hzu => ?_⟩
        rw [Zk_ite] at hzt
        obtain ⟨za, zb, zd, hza, hzb, hzd, rfl⟩ := hzt
        simp only [openT]
        exact Zk_ite.2 ⟨_, _, _, z1 _ _ hza hzu, z2 _ _ hzb hzu, z3 _ _ hzd hzu, rfl⟩
      all_goals
        refine NFa.pure ⟨by simp [hdeep], fun _ => rfl, fun zt zu hzt hzu => ?_⟩
        rw [Zk_leaf (by simp [Leaf])] at hzt
        subst hzt
        simp only [openT]
        exact (Zk_leaf (by simp [Leaf])).2 rfl
    · intro ds i u sh s hS hL hu
      cases ds <;> unfold openDefsS <;> dsimp only
      case nil =>
        refine NFa.pure ⟨rfl, by simp [hdeepDefs], fun _ => rfl, fun zt zu hzt hzu => ?_⟩
        rw [ZkD_nil] at hzt
        subst hzt
        simp only [openDefs]
        exact ZkD_nil.2 rfl
      case cons x a d rest =>
        refine NFa.bind (ho _ _ _ _)
          (fun _ => .bind (ho _ _ _ _) fun _ => .bind (hod _ _ _ _) fun _ => .pure _)
          (ih1 a i u sh s hS hL hu) (fun a' q1 => ?_)
        refine NFa.bind (ho _ _ _ _)
          (fun _ => .bind (hod _ _ _ _) fun _ => .pure _)
          (ih1 d i u sh s hS hL hu) (fun b' q2 => ?_)
        refine NFa.bind (hod _ _ _ _) (fun _ => .pure _) (ih2 rest i u sh s hS hL hu) (fun d' q3 => ?_)
        refine NFa.pure ?_
        obtain ⟨h1, f1, z1⟩ := q1
        obtain ⟨h2, f2, z2⟩ := q2
        obtain ⟨hl, h3, f3, z3⟩ := q3
        refine ⟨by simp [hl], by simp only [hdeepDefs, Bool.and_eq_true]; exact ⟨⟨h1, h2⟩, h3⟩,
          fun hf => by simp only [Defs.holeFree, Bool.and_eq_true]; exact ⟨⟨f1 hf, f2 hf⟩, f3 hf⟩,
          fun zt zu hzt hzu => ?_⟩
        rw [ZkD_cons] at hzt
        obtain ⟨za, zb, zd, hza, hzb, hzd, rfl⟩ := hzt
        simp only [openDefs]
        exact ZkD_cons.2 ⟨_, _, _, z1 _ _ hza hzu, z2 _ _ hzb hzu, z3 _ _ hzd hzu, rfl⟩

theorem unfoldDefS_zk (f : Nat) (x : Name) (ann d : Tm) (index : Nat) (s : St)
    (hS : storeDeep s.store) (hL : StoreLe s.store σ) (ha : hdeep 0 ann = true) (hd : hdeep 0 d = true) :
    NFa s (unfoldDefS f x ann d index) (fun r => r.holeFree = true ∧
      ∀ za zd, Zk σ ann za → Zk σ d zd → Zk σ r (unfoldDef x za zd index)) := by
  have ho := (StoreMono.openS_fr f).1
  have hus := StoreMono.ushiftS_frG f
  have hself : hdeep 0 (Tm.var x 0) = true := rfl
  unfold unfoldDefS
  dsimp only
  refine NFa.bind_same (ushiftS_fr _ _ _ _) (ushiftS_zk f 0 1 ann s hS hL ha) (fun ann1 q1 => ?_)
  refine NFa.bind (ho _ _ _ _)
    (fun _ => .bind (hus _ _ _) fun _ => .bind (ho _ _ _ _) fun _ => ho _ _ _ _)
    ((openS_zk f).1 ann1 (index+1) (.var x 0) 0 s hS hL hself)
    (fun ann2 q2 => ?_)
  refine NFa.bind_same (ushiftS_fr _ _ _ _) (ushiftS_zk f 0 1 d s hS hL hd) (fun d1 q3 => ?_)
  refine NFa.bind (ho _ _ _ _) (fun _ => ho _ _ _ _) ((openS_zk f).1 d1 (index+1) (.var x 0) 0 s hS hL hself)
    (fun d2 q4 => ?_)
  have hul : (Tm.letg (.cons x ann2 d2 .nil) (.var x 0)).holeFree = true := by
    simp [Tm.holeFree, Defs.holeFree, q2.2.1 rfl, q4.2.1 rfl]
  refine ((openS_zk f).1 d index _ 0 s hS hL (hdeep_holeFree _ _ hul)).mono (fun r q5 => ?_)
  refine ⟨q5.2.1 hul, fun za zd hza hzd => ?_⟩
  unfold unfoldDef
  refine q5.2.2 _ _ hzd ?_
  exact Zk_letg.2 ⟨_, _, ZkD_cons.2 ⟨_, _, _, q2.2.2 _ _ (q1.2 _ hza) (Zk_var x 0),
    q4.2.2 _ _ (q3.2 _ hzd) (Zk_var x 0), ZkD_nil.2 rfl, rfl⟩, Zk_var x 0, rfl⟩

theorem substDefsS_zk (f : Nat) : ∀ (ds : Defs) (idx : Nat) (u : Tm) (s : St),
    storeDeep s.store → StoreLe s.store σ → hdeep 0 u = true →
    NFa s (substDefsS f ds idx u) (OpenDQ σ ds idx u 0)
  | .nil, idx, u, s, hS, hL, hu => by
      unfold substDefsS
      refine NFa.pure ⟨rfl, by simp [hdeepDefs], fun _ => rfl, fun zt zu hzt hzu => ?_⟩
      rw [ZkD_nil] at hzt
      subst hzt
      simp only [openDefs]
      exact ZkD_nil.2 rfl
  | .cons x a d rest, idx, u, s, hS, hL, hu => by
      have ho := (StoreMono.openS_fr f).1
      have hsd := StoreMono.substDefsS_fr f
      unfold substDefsS
      refine NFa.bind (ho _ _ _ _)
        (fun _ => .bind (ho _ _ _ _) fun _ => .bind (hsd _ _ _) fun _ => .pure _)
        ((openS_zk f).1 a idx u 0 s hS hL hu) (fun a' q1 => ?_)
      refine NFa.bind (ho _ _ _ _)
        (fun _ => .bind (hsd _ _ _) fun _ => .pure _)
        ((openS_zk f).1 d idx u 0 s hS hL hu) (fun b' q2 => ?_)
      refine NFa.bind (hsd _ _ _) (fun _ => .pure _) (substDefsS_zk f rest idx u s hS hL hu) (fun d' q3 => ?_)
      refine NFa.pure ?_
      obtain ⟨h1, f1, z1⟩ := q1
      obtain ⟨h2, f2, z2⟩ := q2
      obtain ⟨hl, h3, f3, z3⟩ := q3
      refine ⟨by simp [hl], by simp only [hdeepDefs, Bool.and_eq_true]; exact ⟨⟨h1, h2⟩, h3⟩,
        fun hf => by simp only [Defs.holeFree, Bool.and_eq_true]; exact ⟨⟨f1 hf, f2 hf⟩, f3 hf⟩,
        fun zt zu hzt hzu => ?_⟩
      rw [ZkD_cons] at hzt
      obtain ⟨za, zb, zd, hza, hzb, hzd, rfl⟩ := hzt
      simp only [openDefs]
      exact ZkD_cons.2 ⟨_, _, _, z1 _ _ hza hzu, z2 _ _ hzb hzu, z3 _ _ hzd hzu, rfl⟩

theorem letLoopS_zk (Δ : DCtxX) : ∀ (f : Nat) (todo : Defs) (body : Tm) (s : St),
    storeDeep s.store → StoreLe s.store σ → hdeepDefs 0 todo = true → hdeep 0 body = true →
    NFa s (letLoopS f todo body) (fun r => hdeep 0 r = true ∧
      ∀ zt zb, ZkD σ todo zt → Zk σ body zb → ∃ zr, Zk σ r zr ∧ Conv Δ (.letg zt zb) zr ∧
        (zt.holeFree = true → zb.holeFree = true → zr.holeFree = true)) := by
  intro f
  induction f with
  | zero => intros; rw [letLoopS]; exact NFa.outOfFuel
  | succ f ih =>
    intro todo body s hS hL hdt hdb
    have ho := (StoreMono.openS_fr f).1
    have hsd := StoreMono.substDefsS_fr f
    have hun := StoreMono.unfoldDefS_fr f
    have hll := StoreMono.letLoopS_fr f
    cases todo with
    | nil =>
      unfold letLoopS
      refine NFa.pure ⟨hdb, fun zt zb hzt hzb => ?_⟩
      rw [ZkD_nil] at hzt
      subst hzt
      exact ⟨zb, hzb, .red (.letNil _), fun _ h => h⟩
    | cons x a d r =>
      simp only [hdeepDefs, Bool.and_eq_true] at hdt
      unfold letLoopS
      dsimp only
      refine NFa.bind (hun _ _ _ _)
        (fun _ => .bind (ho _ _ _ _) fun _ => .bind (ho _ _ _ _) fun _ => .bind (hsd _ _ _) fun _ =>
          .bind (ho _ _ _ _) fun _ => hll _ _)
        (unfoldDefS_zk f x a d r.len s hS hL hdt.1.1 hdt.1.2)
        (fun u qu => ?_)
      have hu : hdeep 0 u = true := hdeep_holeFree _ _ qu.1
      refine NFa.bind (ho _ _ _ _)
        (fun _ => .bind (ho _ _ _ _) fun _ => .bind (hsd _ _ _) fun _ => .bind (ho _ _ _ _) fun _ => hll _ _)
        ((openS_zk f).1 a r.len u 0 s hS hL hu) (fun _ _ => ?_)
      refine NFa.bind (ho _ _ _ _)
        (fun _ => .bind (hsd _ _ _) fun _ => .bind (ho _ _ _ _) fun _ => hll _ _)
        ((openS_zk f).1 d r.len u 0 s hS hL hu) (fun _ _ => ?_)
      refine NFa.bind (hsd _ _ _)
        (fun _ => .bind (ho _ _ _ _) fun _ => hll _ _)
        (substDefsS_zk f r r.len u s hS hL hu) (fun r' qr => ?_)
      refine NFa.bind (ho _ _ _ _) (fun _ => hll _ _) ((openS_zk f).1 body r.len u 0 s hS hL hu)
        (fun body' qb => ?_)
      refine (ih r' body' s hS hL qr.2.1 qb.1).mono (fun res q => ?_)
      refine ⟨q.1, fun zt zb hzt hzb => ?_⟩
      rw [ZkD_cons] at hzt
      obtain ⟨za, zd, zr, hza, hzd, hzr, rfl⟩ := hzt
      have hzu := qu.2 _ _ hza hzd
      obtain ⟨zres, k, cv, hfr⟩ := q.2 _ _ (qr.2.2.2 _ _ hzr hzu) (qb.2.2 _ _ hzb hzu)
      refine ⟨zres, k, .trans (.red (.letStep x za zd zr zb)) ?_, fun hft hfb => ?_⟩
      · simp only [letStepX, ZkD_len hzr]
        exact cv
      · simp only [Defs.holeFree, Bool.and_eq_true] at hft
        have hfu := unfoldDef_holeFree x za zd r.len hft.1.1 hft.1.2
        exact hfr (openDefs_holeFree _ _ _ _ hft.2 hfu)
          (openT_holeFree _ _ _ _ hfb hfu)

/-- what `whnfS t` answers, in a run that allocates nothing: every reading of `t` is convertible with a reading of it -/
def WhnfQ (σ : List (Option Tm)) (Δ : DCtxX) (t r : Tm) : Prop :=
  hdeep 0 r = true ∧ ∀ zt, Zk σ t zt → ∃ zr, Zk σ r zr ∧ Conv Δ zt zr ∧
    (zt.holeFree = true → zr.holeFree = true)

theorem WhnfQ_refl {Δ : DCtxX} {t : Tm} (h : hdeep 0 t = true) : WhnfQ σ Δ t t :=
  ⟨h, fun zt hzt => ⟨zt, hzt, .refl _ _, fun h => h⟩⟩

theorem whnfS_zk : ∀ (f : Nat) (t : Tm) (s : St), storeDeep s.store → StoreLe s.store σ →
    DHF s.dctx → hdeep 0 t = true → NFa s (whnfS f t) (WhnfQ σ s.dctx t) := by
  intro f
  induction f with
  | zero => intros; rw [whnfS]; exact NFa.outOfFuel
  | succ f ih =>
    intro t s hS hL hD hd
    have ho : ∀ t i u sh, Fr G2 Any (openS f t i u sh) := fun t i u sh =>
      ((StoreMono.openS_fr f).1 t i u sh).mono (fun _ _ h => h) nofun
    have hll : ∀ ds b, Fr G2 Any (letLoopS f ds b) := fun ds b =>
      (StoreMono.letLoopS_fr f ds b).mono (fun _ _ h => h) nofun
    have hw := whnfS_g2 f
    cases t <;> unfold whnfS <;> dsimp only
    case hole id k =>
      refine NFa.cellGet ?_
      cases hv : cellVal s.store id with
      | some sub =>
        dsimp only
        have hsub : s.store[id]? = some (some sub) := cellVal_some.1 hv
        have hd0 : hdeep 0 sub = true := hS _ _ hsub
        refine NFa.bind_same (ushiftS_fr _ _ _ _) (ushiftS_zk f 0 k sub s hS hL hd0) (fun sub' q => ?_)
        refine (ih sub' s hS hL hD (hdeep_zero q.1)).mono (fun r q2 => ?_)
        refine ⟨q2.1, fun zt hzt => ?_⟩
        rw [Zk_hole_some (hL.2 _ _ hsub)] at hzt
        obtain ⟨zs, hzs, rfl⟩ := hzt
        exact q2.2 _ (q.2 _ hzs)
      | none => exact NFa.pure (WhnfQ_refl hd)
    case var x i =>
      refine NFa.getSt ?_
      rcases heq : s.dctx[i]? with _ | _ | ⟨d, off⟩ <;> dsimp only
      · exact NFa.panicAt _
      · exact NFa.pure (WhnfQ_refl hd)
      · have hdf : d.holeFree = true := hD.get heq
        split
        · exact NFa.panicAt _
        · next hlt =>
          refine NFa.bind_same (ushiftS_fr _ _ _ _)
            (ushiftS_zk f 0 (i + 1 - off) d s hS hL (hdeep_holeFree _ _ hdf)) (fun d' q => ?_)
          refine (ih d' s hS hL hD (hdeep_zero q.1)).mono (fun r q2 => ?_)
          refine ⟨q2.1, fun zt hzt => ?_⟩
          rw [Zk_leaf (by simp [Leaf])] at hzt
          subst hzt
          obtain ⟨zr, k, cv, hfr⟩ := q2.2 _ (q.2 _ (Zk_holeFree d hdf))
          exact ⟨zr, k, .trans (.red (.delta x i d off heq (by omega))) cv,
            fun _ => hfr (by rw [holeFree_ushift]; exact hdf)⟩
    case app g a =>
      simp only [hdeep, Bool.and_eq_true] at hd
      refine NFa.bind (hw _)
        (fun _ => by split <;> first | exact .pure _ | exact .bind (ho _ _ _ _) fun _ => hw _)
        (ih g s hS hL hD hd.1) (fun g' qg => ?_)
      split
      · next x im dm body =>
        have hb := qg.1
        simp only [hdeep, Bool.and_eq_true] at hb
        refine NFa.bind (ho _ _ _ _) (fun _ => hw _) ((openS_zk f).1 body 0 a 0 s hS hL hd.2) (fun b qb => ?_)
        refine (ih b s hS hL hD qb.1).mono (fun r q2 => ?_)
        refine ⟨q2.1, fun zt hzt => ?_⟩
        rw [Zk_app] at hzt
        obtain ⟨zg, za, hzg, hza, rfl⟩ := hzt
        obtain ⟨zg', kg, cg, hfg⟩ := qg.2 _ hzg
        rw [Zk_lam] at kg
        obtain ⟨zd, zb, _, hzb, rfl⟩ := kg
        obtain ⟨zr, k, cv, hfr⟩ := q2.2 _ (qb.2.2 _ _ hzb hza)
        refine ⟨zr, k, .trans (.app cg (.refl _ _)) (.trans (.red (.beta x im zd zb za)) cv),
          fun hf => ?_⟩
        simp only [Tm.holeFree, Bool.and_eq_true] at hf
        have := hfg hf.1
        simp only [Tm.holeFree, Bool.and_eq_true] at this
        exact hfr (openT_holeFree _ _ _ _ this.2 hf.2)
      · refine NFa.pure ⟨by simp only [hdeep, Bool.and_eq_true]; exact ⟨qg.1, hd.2⟩, fun zt hzt => ?_⟩
        rw [Zk_app] at hzt
        obtain ⟨zg, za, hzg, hza, rfl⟩ := hzt
        obtain ⟨zg', kg, cg, hfg⟩ := qg.2 _ hzg
        refine ⟨_, Zk_app.2 ⟨_, _, kg, hza, rfl⟩, .app cg (.refl _ _), fun hf => ?_⟩
        simp only [Tm.holeFree, Bool.and_eq_true] at hf ⊢
        exact ⟨hfg hf.1, hf.2⟩
    case letg ds body =>
      simp only [hdeep, Bool.and_eq_true] at hd
      refine NFa.bind (hll _ _) (fun _ => hw _)
        (letLoopS_zk s.dctx f ds body s hS hL (hdeepDefs_anti _ _ _ (Nat.zero_le _) hd.1)
          (hdeep_zero hd.2)) (fun b qb => ?_)
      refine (ih b s hS hL hD qb.1).mono (fun r q2 => ?_)
      refine ⟨q2.1, fun zt hzt => ?_⟩
      rw [Zk_letg] at hzt
      obtain ⟨zd, zb, hzd, hzb, rfl⟩ := hzt
      obtain ⟨zb', kb, cb, hfb⟩ := qb.2 _ _ hzd hzb
      obtain ⟨zr, k, cv, hfr⟩ := q2.2 _ kb
      refine ⟨zr, k, .trans cb cv, fun hf => ?_⟩
      simp only [Tm.holeFree, Bool.and_eq_true] at hf
      exact hfr (hfb hf.1 hf.2)
    case neg a =>
      simp only [hdeep] at hd
      refine NFa.bind (hw _) (fun _ => by split <;> exact .pure _) (ih a s hS hL hD hd) (fun a' qa => ?_)
      split
      · next n =>
        refine NFa.pure ⟨rfl, fun zt hzt => ?_⟩
        rw [Zk_neg] at hzt
        obtain ⟨za, hza, rfl⟩ := hzt
        obtain ⟨za', ka, ca, _⟩ := qa.2 _ hza
        rw [Zk_leaf (by simp [Leaf])] at ka
        subst ka
        exact ⟨_, (Zk_leaf (by simp [Leaf])).2 rfl, .trans (.neg ca) (.red (.neg n)), fun _ => rfl⟩
      · refine NFa.pure ⟨by simp only [hdeep]; exact qa.1, fun zt hzt => ?_⟩
        rw [Zk_neg] at hzt
        obtain ⟨za, hza, rfl⟩ := hzt
        obtain ⟨za', ka, ca, hfa⟩ := qa.2 _ hza
        exact ⟨_, Zk_neg.2 ⟨_, ka, rfl⟩, .neg ca, fun hf => by
          simp only [Tm.holeFree] at hf ⊢; exact hfa hf⟩
    case bin op a b =>
      simp only [hdeep, Bool.and_eq_true] at hd
      refine NFa.bind (hw _)
        (fun _ => .bind (hw _) fun _ => by (repeat' split) <;> exact .pure _)
        (ih a s hS hL hD hd.1) (fun a' qa => ?_)
      refine NFa.bind (hw _) (fun _ => by (repeat' split) <;> exact .pure _) (ih b s hS hL hD hd.2) (fun b' qb => ?_)
      have hgen : WhnfQ σ s.dctx (.bin op a b) (.bin op a' b') := by
        refine ⟨by simp only [hdeep, Bool.and_eq_true]; exact ⟨qa.1, qb.1⟩, fun zt hzt => ?_⟩
        rw [Zk_bin] at hzt
        obtain ⟨za, zb, hza, hzb, rfl⟩ := hzt
        obtain ⟨za', ka, ca, hfa⟩ := qa.2 _ hza
        obtain ⟨zb', kb, cb, hfb⟩ := qb.2 _ hzb
        exact ⟨_, Zk_bin.2 ⟨_, _, ka, kb, rfl⟩, .bin op ca cb, fun hf => by
          simp only [Tm.holeFree, Bool.and_eq_true] at hf ⊢; exact ⟨hfa hf.1, hfb hf.2⟩⟩
      split
      · next x y =>
        split
        · next r hdl =>
          have hrf := delta_holeFree hdl
          refine NFa.pure ⟨hdeep_holeFree _ _ hrf, fun zt hzt => ?_⟩
          obtain ⟨zr, k, cv, _⟩ := hgen.2 _ hzt
          rw [Zk_bin] at k
          obtain ⟨zx, zy, kx, ky, rfl⟩ := k
          rw [Zk_leaf (by simp [Leaf])] at kx ky
          subst kx ky
          exact ⟨r, Zk_holeFree r hrf, .trans cv (.red (.arith op x y r hdl)), fun _ => hrf⟩
        · exact NFa.pure hgen
      · exact NFa.pure hgen
    case ite c a b =>
      simp only [hdeep, Bool.and_eq_true] at hd
      refine NFa.bind (hw _)
        (fun _ => by split <;> first | exact hw _ | exact .pure _)
        (ih c s hS hL hD hd.1.1) (fun c' qc => ?_)
      split
      · refine (ih a s hS hL hD hd.1.2).mono (fun r q2 => ?_)
        refine ⟨q2.1, fun zt hzt => ?_⟩
        rw [Zk_ite] at hzt
        obtain ⟨zc, za, zb, hzc, hza, hzb, rfl⟩ := hzt
        obtain ⟨zc', kc, cc, _⟩ := qc.2 _ hzc
        rw [Zk_leaf (by simp [Leaf])] at kc
        subst kc
        obtain ⟨zr, k, cv, hfr⟩ := q2.2 _ hza
        exact ⟨zr, k, .trans (.ite cc (.refl _ _) (.refl _ _)) (.trans (.red (.iteTrue za zb)) cv),
          fun hf => by simp only [Tm.holeFree, Bool.and_eq_true] at hf; exact hfr hf.1.2⟩
      · refine (ih b s hS hL hD hd.2).mono (fun r q2 => ?_)
        refine ⟨q2.1, fun zt hzt => ?_⟩
        rw [Zk_ite] at hzt
        obtain ⟨zc, za, zb, hzc, hza, hzb, rfl⟩ := hzt
        obtain ⟨zc', kc, cc, _⟩ := qc.2 _ hzc
        rw [Zk_leaf (by simp [Leaf])] at kc
        subst kc
        obtain ⟨zr, k, cv, hfr⟩ := q2.2 _ hzb
        exact ⟨zr, k, .trans (.ite cc (.refl _ _) (.refl _ _)) (.trans (.red (.iteFalse za zb)) cv),
          fun hf => by simp only [Tm.holeFree, Bool.and_eq_true] at hf; exact hfr hf.2⟩
      · refine NFa.pure ⟨by simp only [hdeep, Bool.and_eq_true]; exact ⟨⟨qc.1, hd.1.2⟩, hd.2⟩,
          fun zt hzt => ?_⟩
        rw [Zk_ite] at hzt
        obtain ⟨zc, za, zb, hzc, hza, hzb, rfl⟩ := hzt
        obtain ⟨zc', kc, cc, hfc⟩ := qc.2 _ hzc
        exact ⟨_, Zk_ite.2 ⟨_, _, _, kc, hza, hzb, rfl⟩, .ite cc (.refl _ _) (.refl _ _), fun hf => by
          simp only [Tm.holeFree, Bool.and_eq_true] at hf ⊢; exact ⟨⟨hfc hf.1.1, hf.1.2⟩, hf.2⟩⟩
    all_goals exact NFa.pure (WhnfQ_refl hd)

open OracleLemmas (sameX_refl)

theorem derefS_zk : ∀ (f : Nat) (t : Tm) (s : St), storeDeep s.store → StoreLe s.store σ →
    NFa s (derefS f t) (fun r => ∀ zt, Zk σ t zt → Zk σ r zt) := by
  intro f
  induction f with
  | zero => intros; rw [derefS]; exact NFa.outOfFuel
  | succ f ih =>
    intro t s hS hL
    cases t <;> unfold derefS <;> dsimp only
    case hole id k =>
      refine NFa.cellGet ?_
      cases hv : cellVal s.store id with
      | some sub =>
        dsimp only
        have hsub : s.store[id]? = some (some sub) := cellVal_some.1 hv
        have hd0 : hdeep 0 sub = true := hS _ _ hsub
        refine NFa.bind_same (ushiftS_fr _ _ _ _) (ushiftS_zk f 0 k sub s hS hL hd0) (fun sub' q => ?_)
        refine (ih sub' s hS hL).mono (fun r q2 zt hzt => ?_)
        rw [Zk_hole_some (hL.2 _ _ hsub)] at hzt
        obtain ⟨zs, hzs, rfl⟩ := hzt
        exact q2 _ (q.2 _ hzs)
      | none => exact NFa.pure (fun zt h => h)
    all_goals exact NFa.pure (fun zt h => h)

set_option hygiene false in
local macro "leaf_case" : tactic => `(tactic| (
  refine NFa.pure (fun e z1 z2 h1 h2 => ?_)
  rw [Zk_leaf (by simp [Leaf])] at h1 h2
  subst h1 h2
  rfl))

theorem synEqS_zk : ∀ f,
    (∀ t1 t2 s, storeDeep s.store → StoreLe s.store σ →
      NFa s (synEqS f t1 t2) (fun r => r = true → ∀ z1 z2, Zk σ t1 z1 → Zk σ t2 z2 → sameX z1 z2 = true)) ∧
    (∀ ds1 ds2 s, storeDeep s.store → StoreLe s.store σ →
      NFa s (synEqDefsS f ds1 ds2)
        (fun r => r = true → ∀ z1 z2, ZkD σ ds1 z1 → ZkD σ ds2 z2 → sameDefsX z1 z2 = true)) := by
  intro f
  induction f with
  | zero =>
    constructor
    · intros; rw [synEqS]; exact NFa.outOfFuel
    · intros; rw [synEqDefsS]; exact NFa.outOfFuel
  | succ f ih =>
    obtain ⟨ih1, ih2⟩ := ih
    have hdr := derefS_fr f
    have hse := (synEqS_fr f).1
    have hsd := (synEqS_fr f).2
    constructor
    · intro t1 t2 s hS hL
      unfold synEqS
      refine NFa.bind_same (hdr _) (derefS_zk f t1 s hS hL) (fun a qa => ?_)
      refine NFa.bind_same (hdr _) (derefS_zk f t2 s hS hL) (fun b qb => ?_)
      refine NFa.mono (Q := fun r => r = true → ∀ z1 z2, Zk σ a z1 → Zk σ b z2 → sameX z1 z2 = true) ?_
        (fun r h e z1 z2 h1 h2 => h e z1 z2 (qa _ h1) (qb _ h2))
      clear qa qb
      split
      · next i sh j r =>
        refine NFa.pure (fun e z1 z2 h1 h2 => ?_)
        simp only [Bool.and_eq_true, beq_iff_eq] at e
        obtain ⟨rfl, rfl⟩ := e
        rw [Zk_det h1 h2]
        exact sameX_refl _
      · leaf_case
      · leaf_case
      · leaf_case
      · leaf_case
      · leaf_case
      · next x i y j =>
        refine NFa.pure (fun e z1 z2 h1 h2 => ?_)
        rw [Zk_leaf (by simp [Leaf])] at h1 h2
        subst h1 h2
        simpa [sameX] using e
      · next x im d1 b1 y jm d2 b2 =>
        split
        · next him =>
          refine (ih1 b1 b2 s hS hL).mono (fun r q e z1 z2 h1 h2 => ?_)
          rw [Zk_lam] at h1 h2
          obtain ⟨zd1, zb1, _, hb1, rfl⟩ := h1
          obtain ⟨zd2, zb2, _, hb2, rfl⟩ := h2
          simp only [sameX, Bool.and_eq_true]
          exact ⟨him, q e _ _ hb1 hb2⟩
        · exact NFa.pure (fun e => by cases e)
      · next x im d1 c1 y jm d2 c2 =>
        split
        · next him =>
          refine NFa.bind_same (hse _ _) (ih1 d1 d2 s hS hL) (fun c qc => ?_)
          split
          · next hc =>
            refine (ih1 c1 c2 s hS hL).mono (fun r q e z1 z2 h1 h2 => ?_)
            rw [Zk_pi] at h1 h2
            obtain ⟨zd1, zb1, hd1, hb1, rfl⟩ := h1
            obtain ⟨zd2, zb2, hd2, hb2, rfl⟩ := h2
            simp only [sameX, Bool.and_eq_true]
            exact ⟨⟨him, qc hc _ _ hd1 hd2⟩, q e _ _ hb1 hb2⟩
          · exact NFa.pure (fun e => by cases e)
        · exact NFa.pure (fun e => by cases e)
      · next f1 a1 f2 a2 =>
        refine NFa.bind_same (hse _ _) (ih1 f1 f2 s hS hL) (fun c qc => ?_)
        split
        · next hc =>
          refine (ih1 a1 a2 s hS hL).mono (fun r q e z1 z2 h1 h2 => ?_)
          rw [Zk_app] at h1 h2
          obtain ⟨zd1, zb1, hd1, hb1, rfl⟩ := h1
          obtain ⟨zd2, zb2, hd2, hb2, rfl⟩ := h2
          simp only [sameX, Bool.and_eq_true]
          exact ⟨qc hc _ _ hd1 hd2, q e _ _ hb1 hb2⟩
        · exact NFa.pure (fun e => by cases e)
      · next ds1 b1 ds2 b2 =>
        split
        · refine NFa.bind_same (hsd _ _) (ih2 ds1 ds2 s hS hL) (fun c qc => ?_)
          split
          · next hc =>
            refine (ih1 b1 b2 s hS hL).mono (fun r q e z1 z2 h1 h2 => ?_)
            rw [Zk_letg] at h1 h2
            obtain ⟨zd1, zb1, hd1, hb1, rfl⟩ := h1
            obtain ⟨zd2, zb2, hd2, hb2, rfl⟩ := h2
            simp only [sameX, Bool.and_eq_true]
            exact ⟨qc hc _ _ hd1 hd2, q e _ _ hb1 hb2⟩
          · exact NFa.pure (fun e => by cases e)
        · exact NFa.pure (fun e => by cases e)
      · next n m =>
        refine NFa.pure (fun e z1 z2 h1 h2 => ?_)
        rw [Zk_leaf (by simp [Leaf])] at h1 h2
        subst h1 h2
        simpa [sameX] using e
      · next a1 a2 =>
        refine (ih1 a1 a2 s hS hL).mono (fun r q e z1 z2 h1 h2 => ?_)
        rw [Zk_neg] at h1 h2
        obtain ⟨zd1, hd1, rfl⟩ := h1
        obtain ⟨zd2, hd2, rfl⟩ := h2
        simp only [sameX]
        exact q e _ _ hd1 hd2
      · next o1 a1 b1 o2 a2 b2 =>
        split
        · next him =>
          refine NFa.bind_same (hse _ _) (ih1 a1 a2 s hS hL) (fun c qc => ?_)
          split
          · next hc =>
            refine (ih1 b1 b2 s hS hL).mono (fun r q e z1 z2 h1 h2 => ?_)
            rw [Zk_bin] at h1 h2
            obtain ⟨zd1, zb1, hd1, hb1, rfl⟩ := h1
            obtain ⟨zd2, zb2, hd2, hb2, rfl⟩ := h2
            simp only [sameX, Bool.and_eq_true]
            exact ⟨⟨him, qc hc _ _ hd1 hd2⟩, q e _ _ hb1 hb2⟩
          · exact NFa.pure (fun e => by cases e)
        · exact NFa.pure (fun e => by cases e)
      · next c1 a1 b1 c2 a2 b2 =>
        refine NFa.bind_same (hse _ _) (ih1 c1 c2 s hS hL) (fun c qc => ?_)
        split
        · next hc =>
          refine NFa.bind_same (hse _ _) (ih1 a1 a2 s hS hL) (fun c' qa => ?_)
          split
          · next hc' =>
            refine (ih1 b1 b2 s hS hL).mono (fun r q e z1 z2 h1 h2 => ?_)
            rw [Zk_ite] at h1 h2
            obtain ⟨zc1, zd1, zb1, hc1, hd1, hb1, rfl⟩ := h1
            obtain ⟨zc2, zd2, zb2, hc2, hd2, hb2, rfl⟩ := h2
            simp only [sameX, Bool.and_eq_true]
            exact ⟨⟨qc hc _ _ hc1 hc2, qa hc' _ _ hd1 hd2⟩, q e _ _ hb1 hb2⟩
          · exact NFa.pure (fun e => by cases e)
        · exact NFa.pure (fun e => by cases e)
      · exact NFa.pure (fun e => by cases e)
    · intro ds1 ds2 s hS hL
      unfold synEqDefsS
      split
      · refine NFa.pure (fun e z1 z2 h1 h2 => ?_)
        rw [ZkD_nil] at h1 h2
        subst h1 h2
        rfl
      · next x1 a1 d1 r1 x2 a2 d2 r2 =>
        refine NFa.bind_same (hse _ _) (ih1 d1 d2 s hS hL) (fun c qc => ?_)
        split
        · next hc =>
          refine (ih2 r1 r2 s hS hL).mono (fun r q e z1 z2 h1 h2 => ?_)
          rw [ZkD_cons] at h1 h2
          obtain ⟨za1, zd1, zr1, _, hd1, hr1, rfl⟩ := h1
          obtain ⟨za2, zd2, zr2, _, hd2, hr2, rfl⟩ := h2
          simp only [sameDefsX, Bool.and_eq_true]
          exact ⟨qc hc _ _ hd1 hd2, q e _ _ hr1 hr2⟩
        · exact NFa.pure (fun e => by cases e)
      · exact NFa.pure (fun e => by cases e)

open StoreMono (Empty HoleEmpty)

theorem solveS_zk {f id shift : Nat} {other : Tm} {s s' : St}
    (h : solveS f id shift other s = .ok (some true) s') (he : Empty s.store id)
    (hS : storeDeep s.store) (hd : hdeep 0 other = true) :
    storeDeep s'.store ∧ Le s s' ∧ s'.dctx = s.dctx ∧
    ∀ σ, StoreLe s'.store σ → σ.length ≤ s.store.length → ∀ z zo, Zk σ (.hole id shift) z →
      Zk σ other zo → z.holeFree = true → z = zo := by
  rcases (StoreMono.solveS_sat f id shift other s (E := Nev)).ok h with ⟨ne, _⟩ | ⟨_, sol, h1, _, rfl⟩
  · exact absurd rfl ne
  have hle : StoreLe s.store (s.store.set id (some sol)) := StoreMono.StoreLe_set sol he
  refine ⟨?_, ⟨hle, Nat.le_refl _⟩, rfl, ?_⟩
  · intro id' sub hsub
    dsimp only at hsub
    rw [List.getElem?_set] at hsub
    split at hsub
    · split at hsub
      · cases hsub
        have q := ((sshiftS_zk (σ := s.store) f).1 0 (-(shift : Int)) other s hS
          ⟨Nat.le_refl _, fun _ _ h => h⟩ hd).ok h1 (Nat.le_refl _) sol rfl
        exact hdeep_zero q.1
      · cases hsub
    · exact hS _ _ hsub
  · intro σ hL hlen z zo hz hzo hzf
    dsimp only at hL
    have hLs : StoreLe s.store σ :=
      ⟨Nat.le_trans hle.1 hL.1, fun i t hi => hL.2 i t (hle.2 i t hi)⟩
    rcases Nat.lt_or_ge id s.store.length with hlt | hge
    · have hσ : σ[id]? = some (some sol) := hL.2 _ _ (by rw [List.getElem?_set_self hlt])
      rw [Zk_hole_some hσ] at hz
      obtain ⟨zs, hzs, rfl⟩ := hz
      have q := ((sshiftS_zk f).1 0 (-(shift : Int)) other s hS hLs hd).ok h1 (Nat.le_refl _) sol rfl
      obtain ⟨zr, e, k⟩ := q.2 _ hzo
      rw [Zk_det hzs k]
      exact ushift_of_sshift_neg zo zr 0 shift e
    · have hσ : σ[id]? = none := List.getElem?_eq_none (by omega)
      rw [Zk_hole_none (by simp [hσ])] at hz
      subst hz
      simp [Tm.holeFree] at hzf

open UnifyAgree (unifyHead structM rightM unifyHead_eq unifyS_ok_inv)

theorem unifyHead_ok {f : Nat} {w1 w2 : Tm} {st st' : St} {r : Bool}
    (h : unifyHead f w1 w2 st = .ok r st') :
    (∃ i sh, w1 = .hole i sh ∧ w2 = .hole i sh ∧ r = true ∧ st' = st) ∨
    (∃ i sh, w1 = .hole i sh ∧ solveS f i sh w2 st = .ok (some r) st') ∨
    (∃ j sh, w2 = .hole j sh ∧ solveS f j sh w1 st = .ok (some r) st') ∨
    structM f w1 w2 st = .ok r st' := by
  -- an attempt that answers `none` has left the state alone (`solveS_spec`), so the next one starts from `st`
  have right : rightM f w1 w2 st = .ok r st' →
      (∃ j sh, w2 = .hole j sh ∧ solveS f j sh w1 st = .ok (some r) st') ∨
      structM f w1 w2 st = .ok r st' := by
    intro h
    unfold rightM at h
    split at h
    · obtain ⟨o, st1, hs, h'⟩ := bind_ok h
      split at h'
      · obtain ⟨rfl, rfl⟩ := pure_ok h'; exact .inl ⟨_, _, rfl, hs⟩
      · obtain rfl := (StoreMono.solveS_spec hs).1 rfl; exact .inr h'
    · exact .inr h
  have left : ∀ i sh, w1 = .hole i sh →
      (do match ← solveS f i sh w2 with
          | some b => pure b
          | none => rightM f w1 w2 : M Bool) st = .ok r st' →
      (∃ i sh, w1 = .hole i sh ∧ solveS f i sh w2 st = .ok (some r) st') ∨
      (∃ j sh, w2 = .hole j sh ∧ solveS f j sh w1 st = .ok (some r) st') ∨
      structM f w1 w2 st = .ok r st' := by
    intro i sh e h
    obtain ⟨o, st1, hs, h'⟩ := bind_ok h
    split at h'
    · obtain ⟨rfl, rfl⟩ := pure_ok h'; exact .inl ⟨_, _, e, hs⟩
    · obtain rfl := (StoreMono.solveS_spec hs).1 rfl; exact .inr (right h')
  rw [unifyHead_eq] at h
  split at h
  · split at h
    · next hij =>
      obtain ⟨rfl, rfl⟩ := pure_ok h
      simp only [Bool.and_eq_true, beq_iff_eq] at hij
      obtain ⟨rfl, rfl⟩ := hij
      exact .inl ⟨_, _, rfl, rfl, rfl, rfl⟩
    · exact .inr (left _ _ rfl h)
  · exact .inr (left _ _ rfl h)
  · exact .inr (.inr (right h))

theorem structM_le (f : Nat) (w1 w2 : Tm) (s : St) : (structM f w1 w2 s).Sat (fun _ s' => Le s s') Any :=
  (StoreMono.structM_spec (P := Le) (fun _ _ => .of_store_eq rfl (Nat.le_refl _)) f (K := fun _ => True) (fun _ _ => trivial) (fun _ => trivial)
    (fun a b s _ => (StoreMono.unifyS_le_ctx false f a b s nofun).mono (fun _ _ h => h) fun _ _ => trivial)
    (.inl trivial) s trivial).post fun _ _ h => h.2.2

/-- What a successful unification of `a` and `b` from `st` to `st'` establishes.  Of `st` only the length of the
store matters and of `st'` only the store, so a segment of a run may be widened on both sides (`mono`); and it
is a congruence.  `σ` may solve more cells than `st'.store` but may not be longer than the store at the start: a hole
whose id lies beyond the store reads as empty and can never be solved (`solveS_zk`), so nothing is claimed of it. -/
structure Sound (Δ : DCtxX) (a b : Tm) (st st' : St) : Prop where
  deep : storeDeep st'.store
  conv : ∀ σ, StoreLe st'.store σ → σ.length ≤ st.store.length → ∀ z1 z2,
    Zk σ a z1 → Zk σ b z2 → z1.holeFree = true → z2.holeFree = true → Conv Δ z1 z2

section
variable {Δ : DCtxX} {st st' : St}

theorem Sound.mono {a b : Tm} {t0 t t' t1 : St} (h : Sound Δ a b t t')
    (l0 : t0.store.length ≤ t.store.length) (l1 : StoreLe t'.store t1.store) (hS : storeDeep t1.store) :
    Sound Δ a b t0 t1 :=
  ⟨hS, fun σ hL hl => h.conv σ (StoreLe.trans l1 hL) (Nat.le_trans hl l0)⟩

theorem Sound.same {a b : Tm} (hS : storeDeep st.store)
    (h : ∀ σ z1 z2, Zk σ a z1 → Zk σ b z2 → sameX z1 z2 = true) : Sound Δ a b st st :=
  ⟨hS, fun σ _ _ z1 z2 h1 h2 _ _ => .same (h σ z1 z2 h1 h2)⟩

theorem Sound.symm {a b : Tm} (h : Sound Δ a b st st') : Sound Δ b a st st' :=
  ⟨h.deep, fun σ hL hl z1 z2 h1 h2 hf1 hf2 => .symm (h.conv σ hL hl z2 z1 h2 h1 hf2 hf1)⟩

theorem Sound.solved {a b : Tm} (hS : storeDeep st'.store)
    (h : ∀ σ, StoreLe st'.store σ → σ.length ≤ st.store.length → ∀ z zo,
      Zk σ a z → Zk σ b zo → z.holeFree = true → z = zo) : Sound Δ a b st st' :=
  ⟨hS, fun σ hL hl z1 z2 h1 h2 hf1 _ => by rw [h σ hL hl z1 z2 h1 h2 hf1]; exact .refl _ _⟩

theorem Sound.lam {x y : Name} {im : Bool} {d1 d2 b1 b2 : Tm} (h : Sound (none :: Δ) b1 b2 st st') :
    Sound Δ (.lam x im d1 b1) (.lam y im d2 b2) st st' := by
  refine ⟨h.deep, fun σ hL hl z1 z2 hz1 hz2 hf1 hf2 => ?_⟩
  rw [Zk_lam] at hz1 hz2
  obtain ⟨_, _, _, hb1, rfl⟩ := hz1
  obtain ⟨_, _, _, hb2, rfl⟩ := hz2
  simp only [Tm.holeFree, Bool.and_eq_true] at hf1 hf2
  exact .lam x y im _ _ (h.conv σ hL hl _ _ hb1 hb2 hf1.2 hf2.2)

theorem Sound.pi {x y : Name} {im : Bool} {d1 d2 c1 c2 : Tm} (hd : Sound Δ d1 d2 st st')
    (hc : Sound (none :: Δ) c1 c2 st st') : Sound Δ (.pi x im d1 c1) (.pi y im d2 c2) st st' := by
  refine ⟨hd.deep, fun σ hL hl z1 z2 hz1 hz2 hf1 hf2 => ?_⟩
  rw [Zk_pi] at hz1 hz2
  obtain ⟨_, _, hd1, hb1, rfl⟩ := hz1
  obtain ⟨_, _, hd2, hb2, rfl⟩ := hz2
  simp only [Tm.holeFree, Bool.and_eq_true] at hf1 hf2
  exact .pi x y im (hd.conv σ hL hl _ _ hd1 hd2 hf1.1 hf2.1) (hc.conv σ hL hl _ _ hb1 hb2 hf1.2 hf2.2)

theorem Sound.app {f1 f2 a1 a2 : Tm} (hf : Sound Δ f1 f2 st st') (ha : Sound Δ a1 a2 st st') :
    Sound Δ (.app f1 a1) (.app f2 a2) st st' := by
  refine ⟨hf.deep, fun σ hL hl z1 z2 hz1 hz2 hf1 hf2 => ?_⟩
  rw [Zk_app] at hz1 hz2
  obtain ⟨_, _, hd1, hb1, rfl⟩ := hz1
  obtain ⟨_, _, hd2, hb2, rfl⟩ := hz2
  simp only [Tm.holeFree, Bool.and_eq_true] at hf1 hf2
  exact .app (hf.conv σ hL hl _ _ hd1 hd2 hf1.1 hf2.1) (ha.conv σ hL hl _ _ hb1 hb2 hf1.2 hf2.2)

theorem Sound.neg {a1 a2 : Tm} (h : Sound Δ a1 a2 st st') : Sound Δ (.neg a1) (.neg a2) st st' := by
  refine ⟨h.deep, fun σ hL hl z1 z2 hz1 hz2 hf1 hf2 => ?_⟩
  rw [Zk_neg] at hz1 hz2
  obtain ⟨_, hd1, rfl⟩ := hz1
  obtain ⟨_, hd2, rfl⟩ := hz2
  exact .neg (h.conv σ hL hl _ _ hd1 hd2 hf1 hf2)

theorem Sound.bin {op : BinOp} {a1 a2 b1 b2 : Tm} (ha : Sound Δ a1 a2 st st')
    (hb : Sound Δ b1 b2 st st') : Sound Δ (.bin op a1 b1) (.bin op a2 b2) st st' := by
  refine ⟨ha.deep, fun σ hL hl z1 z2 hz1 hz2 hf1 hf2 => ?_⟩
  rw [Zk_bin] at hz1 hz2
  obtain ⟨_, _, hd1, hb1, rfl⟩ := hz1
  obtain ⟨_, _, hd2, hb2, rfl⟩ := hz2
  simp only [Tm.holeFree, Bool.and_eq_true] at hf1 hf2
  exact .bin op (ha.conv σ hL hl _ _ hd1 hd2 hf1.1 hf2.1) (hb.conv σ hL hl _ _ hb1 hb2 hf1.2 hf2.2)

theorem Sound.ite {c1 c2 a1 a2 b1 b2 : Tm} (hc : Sound Δ c1 c2 st st') (ha : Sound Δ a1 a2 st st')
    (hb : Sound Δ b1 b2 st st') : Sound Δ (.ite c1 a1 b1) (.ite c2 a2 b2) st st' := by
  refine ⟨hc.deep, fun σ hL hl z1 z2 hz1 hz2 hf1 hf2 => ?_⟩
  rw [Zk_ite] at hz1 hz2
  obtain ⟨_, _, _, hc1, hd1, hb1, rfl⟩ := hz1
  obtain ⟨_, _, _, hc2, hd2, hb2, rfl⟩ := hz2
  simp only [Tm.holeFree, Bool.and_eq_true] at hf1 hf2
  exact .ite (hc.conv σ hL hl _ _ hc1 hc2 hf1.1.1 hf2.1.1) (ha.conv σ hL hl _ _ hd1 hd2 hf1.1.2 hf2.1.2)
    (hb.conv σ hL hl _ _ hb1 hb2 hf1.2 hf2.2)
end

/-- the statement of `unifyS_sound` at fuel `f` -/
def SoundAt (f : Nat) : Prop :=
  ∀ (a b : Tm) (s s' : St), unifyS f a b s = .ok true s' → storeDeep s.store → DHF s.dctx →
    hdeep 0 a = true → hdeep 0 b = true → s'.store.length ≤ s.store.length → Sound s.dctx a b s s'

theorem SoundAt.seq {f : Nat} (ih : SoundAt f) {a1 a2 b1 b2 : Tm} {st st1 st2 : St}
    (h1 : unifyS f a1 a2 st = .ok true st1) (h2 : unifyS f b1 b2 st1 = .ok true st2)
    (hS : storeDeep st.store) (hD : DHF st.dctx) (ha1 : hdeep 0 a1 = true) (ha2 : hdeep 0 a2 = true)
    (hb1 : hdeep 0 b1 = true) (hb2 : hdeep 0 b2 = true) (hl : st2.store.length ≤ st.store.length) :
    Sound st.dctx a1 a2 st st2 ∧ Sound st.dctx b1 b2 st st2 := by
  obtain ⟨_, hc, l1⟩ := StoreMono.unifyS_ok h1
  obtain ⟨_, _, l2⟩ := StoreMono.unifyS_ok h2
  have n1 := l1.1.1
  have n2 := l2.1.1
  have I1 := ih _ _ _ _ h1 hS hD ha1 ha2 (by omega)
  have I2 := ih _ _ _ _ h2 I1.deep (hc ▸ hD) hb1 hb2 (by omega)
  rw [hc] at I2
  exact ⟨I1.mono (Nat.le_refl _) l2.1 I2.deep, I2.mono n1 ⟨Nat.le_refl _, fun _ _ h => h⟩ I2.deep⟩

theorem SoundAt.under {f : Nat} (ih : SoundAt f) {b1 b2 : Tm} {st st' : St}
    (h : (do pushD none; let r ← unifyS f b1 b2; popD; pure r) st = .ok true st')
    (hS : storeDeep st.store) (hD : DHF st.dctx) (h1 : hdeep 0 b1 = true) (h2 : hdeep 0 b2 = true)
    (hl : st'.store.length ≤ st.store.length) : Sound (none :: st.dctx) b1 b2 st st' := by
  obtain ⟨s1, hu, rfl⟩ := under_ok h
  have I := ih _ _ _ _ hu hS hD.push h1 h2 hl
  exact ⟨I.deep, I.conv⟩

theorem structM_sound (f : Nat) (ih : SoundAt f) : ∀ (w1 w2 : Tm) (st st' : St),
    structM f w1 w2 st = .ok true st' → storeDeep st.store → DHF st.dctx →
    hdeep 0 w1 = true → hdeep 0 w2 = true → st'.store.length ≤ st.store.length →
    Sound st.dctx w1 w2 st st' := by
  intro w1 w2 st st'
  fun_cases structM f w1 w2 <;> intro hst hS hD h1 h2 hl
  all_goals try simp only [hdeep, Bool.and_eq_true] at h1 h2
  -- constants, variables (1–6) and literals (12)
  case case1 | case2 | case3 | case4 | case5 | case6 | case12 =>
    obtain ⟨e, rfl⟩ := pure_ok hst
    refine Sound.same hS fun σ z1 z2 hz1 hz2 => ?_
    rw [Zk_leaf (by simp [Leaf])] at hz1 hz2
    subst hz1 hz2
    first | rfl | simpa [sameX] using e
  case case7 him =>  -- λ against λ
    cases eq_of_beq him
    exact .lam (ih.under hst hS hD (hdeep_zero h1.2) (hdeep_zero h2.2) hl)
  case case9 him =>  -- Π against Π
    cases eq_of_beq him
    obtain ⟨st1, hu1, hu2⟩ := seq_ok hst
    obtain ⟨_, hc, l1⟩ := StoreMono.unifyS_ok hu1
    obtain ⟨s2, hu2', e⟩ := under_ok hu2
    obtain ⟨_, _, l2⟩ := StoreMono.unifyS_ok hu2'
    have n1 := l1.1.1
    have n2 : st1.store.length ≤ s2.store.length := l2.1.1
    have e' : st'.store = s2.store := by rw [e]
    have I1 := ih _ _ _ _ hu1 hS hD h1.1 h2.1 (by rw [e'] at hl; omega)
    have I2 := ih.under hu2 I1.deep (hc ▸ hD) (hdeep_zero h1.2) (hdeep_zero h2.2) (by rw [e'] at hl ⊢; omega)
    rw [hc] at I2
    exact .pi (I1.mono (Nat.le_refl _) (e' ▸ l2.1) I2.deep)
      (I2.mono n1 ⟨Nat.le_refl _, fun _ _ h => h⟩ I2.deep)
  case case11 =>  -- application
    obtain ⟨st1, hu1, hu2⟩ := seq_ok hst
    obtain ⟨I1, I2⟩ := ih.seq hu1 hu2 hS hD h1.1 h2.1 h1.2 h2.2 hl
    exact .app I1 I2
  -- negation
  case case13 => exact .neg (ih _ _ _ _ hst hS hD h1 h2 hl)
  case case14 ho =>  -- binary operator
    cases eq_of_beq ho
    obtain ⟨st1, hu1, hu2⟩ := seq_ok hst
    obtain ⟨I1, I2⟩ := ih.seq hu1 hu2 hS hD h1.1 h2.1 h1.2 h2.2 hl
    exact .bin I1 I2
  case case16 =>  -- conditional
    obtain ⟨st1, hu1, hu23⟩ := seq_ok hst
    obtain ⟨st2, hu2, hu3⟩ := seq_ok hu23
    obtain ⟨_, hc, l1⟩ := StoreMono.unifyS_ok hu1
    obtain ⟨_, _, l2⟩ := StoreMono.unifyS_ok hu2
    obtain ⟨_, _, l3⟩ := StoreMono.unifyS_ok hu3
    have n1 := l1.1.1
    have n2 := l2.1.1
    have n3 := l3.1.1
    have I1 := ih _ _ _ _ hu1 hS hD h1.1.1 h2.1.1 (by omega)
    obtain ⟨I2, I3⟩ := ih.seq hu2 hu3 I1.deep (hc ▸ hD) h1.1.2 h2.1.2 h1.2 h2.2 (by omega)
    rw [hc] at I2 I3
    exact .ite (I1.mono (Nat.le_refl _) (StoreLe.trans l2.1 l3.1) I2.deep)
      (I2.mono n1 ⟨Nat.le_refl _, fun _ _ h => h⟩ I2.deep)
      (I3.mono n1 ⟨Nat.le_refl _, fun _ _ h => h⟩ I2.deep)
  -- flags (8, 10) or operators (15) differ; the heads differ (19)
  case case8 | case10 | case15 | case19 => obtain ⟨e, _⟩ := pure_ok hst; cases e
  -- a `let` on either side
  case case17 | case18 => cases hst

theorem unifyS_sound : ∀ f, SoundAt f := by
  intro f
  induction f with
  | zero => intro a b s s' h; rw [unifyS] at h; cases h
  | succ f ih =>
    intro a b s s' h hS hD ha hb hlen
    obtain ⟨g, c, s0, e, h0, h1⟩ := unifyS_ok_inv h
    cases e
    obtain rfl : s = s0 := (synEqS_state h0).symm
    cases c with
    | true =>
      obtain ⟨_, rfl⟩ := h1
      refine ⟨hS, fun σ hL _ z1 z2 hz1 hz2 _ _ => .same ?_⟩
      exact ((synEqS_zk f).1 a b _ hS hL).ok h0 (Nat.le_refl _) rfl z1 z2 hz1 hz2
    | false =>
      obtain ⟨w1, s1, w2, s2, hw1, hw2, h3⟩ := h1
      have g1 : G2 s s1 := (whnfS_g2 _ _ _).ok hw1
      have g2 : G2 s1 s2 := (whnfS_g2 _ _ _).ok hw2
      have E1 : HoleEmpty w1 s2 :=
        fun i sh e => g2.empty (((StoreMono.whnfS_spec false f a s nofun).ok hw1).2.2 i sh e)
      have E2 : HoleEmpty w2 s2 := ((StoreMono.whnfS_spec false f b s1 nofun).ok hw2).2.2
      have key : Le s2 s' ∧ (storeDeep s2.store → DHF s2.dctx → hdeep 0 w1 = true → hdeep 0 w2 = true →
          s'.store.length ≤ s2.store.length → Sound s2.dctx w1 w2 s2 s') := by
        rcases unifyHead_ok h3 with ⟨i, sh, rfl, rfl, _, rfl⟩ | ⟨i, sh, rfl, hs⟩ | ⟨j, sh, rfl, hs⟩ | hst
        · exact ⟨RT.refl _, fun hS _ _ _ _ => Sound.same hS fun σ z1 z2 hz1 hz2 => by
            rw [Zk_det hz1 hz2]; exact sameX_refl _⟩
        · refine ⟨(StoreMono.solveS_spec hs).2 (E1 _ _ rfl), fun hS _ _ h2 _ => ?_⟩
          obtain ⟨sd, _, _, hz⟩ := solveS_zk hs (E1 _ _ rfl) hS h2
          exact Sound.solved sd hz
        · refine ⟨(StoreMono.solveS_spec hs).2 (E2 _ _ rfl), fun hS _ h1 _ _ => ?_⟩
          obtain ⟨sd, _, _, hz⟩ := solveS_zk hs (E2 _ _ rfl) hS h1
          exact (Sound.solved sd hz).symm
        · exact ⟨(structM_le f w1 w2 _).ok hst, structM_sound f ih w1 w2 _ _ hst⟩
      obtain ⟨l2', K⟩ := key
      have n1 := g1.len_le
      have n2 := g2.len_le
      have n3 := l2'.1.1
      obtain rfl : s1 = s := g1.eq (by omega)
      obtain rfl : s2 = s1 := g2.eq (by omega)
      have rf : StoreLe s2.store s2.store := ⟨Nat.le_refl _, fun _ _ h => h⟩
      have q1 := (whnfS_zk f a s2 hS rf hD ha).ok hw1 (Nat.le_refl _)
      have q2 := (whnfS_zk f b s2 hS rf hD hb).ok hw2 (Nat.le_refl _)
      have SD := K hS hD q1.1 q2.1 hlen
      refine ⟨SD.deep, fun σ hL hl z1 z2 hz1 hz2 hf1 hf2 => ?_⟩
      -- both sides are convertible with their weak head normal forms, read through the same `σ`
      have hLs : StoreLe s2.store σ := StoreLe.trans l2'.1 hL
      obtain ⟨zw1, k1, c1, f1⟩ := ((whnfS_zk f a s2 hS hLs hD ha).ok hw1 (Nat.le_refl _)).2 z1 hz1
      obtain ⟨zw2, k2, c2, f2⟩ := ((whnfS_zk f b s2 hS hLs hD hb).ok hw2 (Nat.le_refl _)).2 z2 hz2
      exact .trans c1 (.trans (SD.conv σ hL hl zw1 zw2 k1 k2 (f1 hf1) (f2 hf2)) (.symm c2))

/-- The form used by `Props/C12.lean`: zonking with the final store itself. -/
theorem unifyS_sound_final {f fz : Nat} {a b za zb : Tm} {s s' : St}
    (h : unifyS f a b s = .ok true s') (hS : storeDeep s.store) (hD : DHF s.dctx)
    (ha : hdeep 0 a = true) (hb : hdeep 0 b = true) (hlen : s'.store.length = s.store.length)
    (hza : zonk fz s'.store a = some za) (hzb : zonk fz s'.store b = some zb)
    (hfa : za.holeFree = true) (hfb : zb.holeFree = true) : Conv s.dctx za zb :=
  (unifyS_sound f a b s s' h hS hD ha hb (Nat.le_of_eq hlen)).conv s'.store
    ⟨Nat.le_refl _, fun _ _ h => h⟩ (Nat.le_of_eq hlen) za zb ⟨fz, hza⟩ ⟨fz, hzb⟩ hfa hfb

end UnifySound
