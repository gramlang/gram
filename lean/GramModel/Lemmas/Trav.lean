import GramModel.DeBruijn

/-!
# Traversals and occurrences

`Tm.trav F n` maps over the variables and holes of a term and knows how many binders it has passed; the
`Act` `F` says what is put in place of each.  Composition, identity and extensionality of such maps are
proved once.  `Tm.occs n` lists the variables and holes of a term, each with the number of binders above
it.  What the model asks about a term (`holeFree`, `wellScoped`, `freeAt`, `lowFree`, `freeVars`) it asks
about this list, and the occurrences after a traversal are those of what it put in place of each
(`occs_trav`).  A statement about `Tm` and its twin about `Defs` come out of one walk (`Tm.rec_both`).
-/

theorem Tm.rec_both {P : Tm → Prop} {Q : Defs → Prop}
    (hole : ∀ id s, P (.hole id s)) (type : P .type) (int : P .int) (bool : P .bool) (tt : P .tt)
    (ff : P .ff) (lit : ∀ n, P (.lit n)) (var : ∀ x i, P (.var x i))
    (lam : ∀ x im d b, P d → P b → P (.lam x im d b)) (pi : ∀ x im d b, P d → P b → P (.pi x im d b))
    (app : ∀ f a, P f → P a → P (.app f a)) (letg : ∀ ds b, Q ds → P b → P (.letg ds b))
    (neg : ∀ a, P a → P (.neg a)) (bin : ∀ op a b, P a → P b → P (.bin op a b))
    (ite : ∀ c a b, P c → P a → P b → P (.ite c a b)) (nil : Q .nil)
    (cons : ∀ x a d r, P a → P d → Q r → Q (.cons x a d r)) : (∀ t, P t) ∧ ∀ ds, Q ds :=
  ⟨fun t => Tm.rec (motive_1 := P) (motive_2 := Q) hole type int bool tt ff lit var lam pi app letg
      neg bin ite nil cons t,
   fun ds => Defs.rec (motive_1 := P) (motive_2 := Q) hole type int bool tt ff lit var lam pi app letg
      neg bin ite nil cons ds⟩

/-- What a traversal does to a variable and to a hole that it meets under `n` binders. -/
structure Act where
  var : Nat → Name → Nat → Tm
  hole : Nat → Nat → Nat → Tm

mutual
def Tm.trav (F : Act) (n : Nat) : Tm → Tm
  | .var x i => F.var n x i
  | .hole id s => F.hole n id s
  | .lam x im d b => .lam x im (d.trav F n) (b.trav F (n + 1))
  | .pi x im d b => .pi x im (d.trav F n) (b.trav F (n + 1))
  | .app f a => .app (f.trav F n) (a.trav F n)
  | .letg ds b => .letg (ds.trav F (n + ds.len)) (b.trav F (n + ds.len))
  | .neg a => .neg (a.trav F n)
  | .bin op a b => .bin op (a.trav F n) (b.trav F n)
  | .ite a b c => .ite (a.trav F n) (b.trav F n) (c.trav F n)
  | .type => .type
  | .int => .int
  | .bool => .bool
  | .tt => .tt
  | .ff => .ff
  | .lit k => .lit k
def Defs.trav (F : Act) (n : Nat) : Defs → Defs
  | .nil => .nil
  | .cons x a d r => .cons x (a.trav F n) (d.trav F n) (r.trav F n)
end

theorem Defs.len_trav (F : Act) (n : Nat) : ∀ ds : Defs, (ds.trav F n).len = ds.len
  | .nil => rfl
  | .cons _ _ _ r => congrArg (· + 1) (Defs.len_trav F n r)

/-- every variable and hole stays -/
def Act.id : Act := ⟨fun _ x i => .var x i, fun _ id s => .hole id s⟩

theorem trav_id_both : (∀ (t : Tm) n, t.trav .id n = t) ∧ ∀ (ds : Defs) n, ds.trav .id n = ds := by
  apply Tm.rec_both <;> intros <;> first | rfl | simp only [Tm.trav, Defs.trav, *]

theorem Tm.trav_id (t : Tm) (n : Nat) : t.trav .id n = t := trav_id_both.1 t n
theorem Defs.trav_id (ds : Defs) (n : Nat) : ds.trav .id n = ds := trav_id_both.2 ds n

/-- first `G`, then `F` on what `G` put in place of the variable or hole -/
def Act.comp (F G : Act) : Act :=
  ⟨fun n x i => (G.var n x i).trav F n, fun n id s => (G.hole n id s).trav F n⟩

theorem trav_trav_both (F G : Act) :
    (∀ (t : Tm) n, (t.trav G n).trav F n = t.trav (F.comp G) n) ∧
    ∀ (ds : Defs) n, (ds.trav G n).trav F n = ds.trav (F.comp G) n := by
  apply Tm.rec_both <;> intros <;> first | rfl | simp only [Tm.trav, Defs.trav, Defs.len_trav, *]

theorem Tm.trav_trav (F G : Act) (t : Tm) (n : Nat) : (t.trav G n).trav F n = t.trav (F.comp G) n :=
  (trav_trav_both F G).1 t n
theorem Defs.trav_trav (F G : Act) (ds : Defs) (n : Nat) :
    (ds.trav G n).trav F n = ds.trav (F.comp G) n :=
  (trav_trav_both F G).2 ds n

/-- a variable or a hole, as it occurs in a term -/
inductive Occ
  | var (x : Name) (i : Nat)
  | hole (id s : Nat)

def Occ.idx : Occ → Nat
  | .var _ i => i
  | .hole _ s => s

def Occ.isVar : Occ → Bool
  | .var .. => true
  | .hole .. => false

def Occ.reidx (f : Nat → Nat) : Occ → Occ
  | .var x i => .var x (f i)
  | .hole id s => .hole id (f s)

theorem Occ.idx_reidx (f : Nat → Nat) (l : Occ) : (l.reidx f).idx = f l.idx := by cases l <;> rfl
theorem Occ.isVar_reidx (f : Nat → Nat) (l : Occ) : (l.reidx f).isVar = l.isVar := by cases l <;> rfl

/-- what `F` puts in place of an occurrence met under `n` binders -/
def Act.at (F : Act) (n : Nat) : Occ → Tm
  | .var x i => F.var n x i
  | .hole id s => F.hole n id s

mutual
def Tm.occs (n : Nat) : Tm → List (Nat × Occ)
  | .var x i => [(n, .var x i)]
  | .hole id s => [(n, .hole id s)]
  | .lam _ _ d b | .pi _ _ d b => d.occs n ++ b.occs (n + 1)
  | .app f a | .bin _ f a => f.occs n ++ a.occs n
  | .letg ds b => ds.occs (n + ds.len) ++ b.occs (n + ds.len)
  | .neg a => a.occs n
  | .ite a b c => a.occs n ++ b.occs n ++ c.occs n
  | .type | .int | .bool | .tt | .ff | .lit _ => []
def Defs.occs (n : Nat) : Defs → List (Nat × Occ)
  | .nil => []
  | .cons _ a d r => a.occs n ++ d.occs n ++ r.occs n
end

theorem occs_trav_both (F : Act) :
    (∀ (t : Tm) n, (t.trav F n).occs n = (t.occs n).flatMap fun o => (F.at o.1 o.2).occs o.1) ∧
    ∀ (ds : Defs) n, (ds.trav F n).occs n = (ds.occs n).flatMap fun o => (F.at o.1 o.2).occs o.1 := by
  apply Tm.rec_both
  case var | hole =>
    intros; simp only [Tm.trav, Tm.occs, List.flatMap_cons, List.flatMap_nil, List.append_nil, Act.at]
  all_goals intros; simp only [Tm.trav, Defs.trav, Tm.occs, Defs.occs, Defs.len_trav, List.flatMap_append,
    List.flatMap_nil, *]

theorem Tm.occs_trav (F : Act) (t : Tm) (n : Nat) :
    (t.trav F n).occs n = (t.occs n).flatMap fun o => (F.at o.1 o.2).occs o.1 :=
  (occs_trav_both F).1 t n
theorem Defs.occs_trav (F : Act) (ds : Defs) (n : Nat) :
    (ds.trav F n).occs n = (ds.occs n).flatMap fun o => (F.at o.1 o.2).occs o.1 :=
  (occs_trav_both F).2 ds n

theorem trav_congr_occs_both {F G : Act} :
    (∀ (t : Tm) n, (∀ o ∈ t.occs n, F.at o.1 o.2 = G.at o.1 o.2) → t.trav F n = t.trav G n) ∧
    ∀ (ds : Defs) n, (∀ o ∈ ds.occs n, F.at o.1 o.2 = G.at o.1 o.2) → ds.trav F n = ds.trav G n := by
  apply Tm.rec_both
  case var => exact fun x i n h => h (n, .var x i) (List.mem_singleton.2 rfl)
  case hole => exact fun id s n h => h (n, .hole id s) (List.mem_singleton.2 rfl)
  case neg => exact fun _ ih n h => by simp only [Tm.trav, ih n h]
  case lam | pi | app | bin | letg =>
    intros; rename_i ih1 ih2 n h
    simp only [Tm.occs, List.mem_append, or_imp, forall_and] at h
    simp only [Tm.trav, ih1 _ h.1, ih2 _ h.2]
  case ite | cons =>
    intros; rename_i ih1 ih2 ih3 n h
    simp only [Tm.occs, Defs.occs, List.mem_append, or_imp, forall_and] at h
    simp only [Tm.trav, Defs.trav, ih1 _ h.1.1, ih2 _ h.1.2, ih3 _ h.2]
  all_goals intros; rfl

theorem Tm.trav_congr_occs {F G : Act} (t : Tm) (n : Nat) :
    (∀ o ∈ t.occs n, F.at o.1 o.2 = G.at o.1 o.2) → t.trav F n = t.trav G n :=
  trav_congr_occs_both.1 t n
theorem Defs.trav_congr_occs {F G : Act} (ds : Defs) (n : Nat) :
    (∀ o ∈ ds.occs n, F.at o.1 o.2 = G.at o.1 o.2) → ds.trav F n = ds.trav G n :=
  trav_congr_occs_both.2 ds n

/-- indices (of variables and holes alike) are renamed by `f`, whose first argument is the binder depth -/
def Act.ren (f : Nat → Nat → Nat) : Act := ⟨fun n x i => .var x (f n i), fun n id s => .hole id (f n s)⟩

theorem occs_ren_at (f : Nat → Nat → Nat) (n : Nat) (l : Occ) :
    ((Act.ren f).at n l).occs n = [(n, l.reidx (f n))] := by cases l <;> rfl

theorem occs_all_isVar_both : (∀ (t : Tm) n, ((t.occs n).all fun o => o.2.isVar) = t.holeFree) ∧
    ∀ (ds : Defs) n, ((ds.occs n).all fun o => o.2.isVar) = ds.holeFree := by
  apply Tm.rec_both <;> intros <;> first | rfl | simp only [Tm.holeFree, Defs.holeFree, Tm.occs, Defs.occs,
    List.all_append, Bool.and_assoc, *]

theorem Tm.holeFree_eq_occs (t : Tm) (n : Nat) : t.holeFree = (t.occs n).all fun o => o.2.isVar :=
  (occs_all_isVar_both.1 t n).symm
theorem Defs.holeFree_eq_occs (ds : Defs) (n : Nat) : ds.holeFree = (ds.occs n).all fun o => o.2.isVar :=
  (occs_all_isVar_both.2 ds n).symm

/-- is the occurrence within a scope of `N` variables around the term? -/
def occScoped (N : Nat) (o : Nat × Occ) : Bool :=
  bif o.2.isVar then decide (o.2.idx < N + o.1) else decide (o.2.idx ≤ N + o.1)

theorem wellScoped_add_eq_occs_both :
    (∀ (t : Tm) N n, wellScoped (N + n) t = (t.occs n).all (occScoped N)) ∧
    ∀ (ds : Defs) N n, wellScopedDefs (N + n) ds = (ds.occs n).all (occScoped N) := by
  apply Tm.rec_both
  case var | hole => intros; simp only [Tm.occs, List.all_cons, List.all_nil, Bool.and_true, wellScoped]; rfl
  all_goals intros; simp only [wellScoped, wellScopedDefs, Tm.occs, Defs.occs, List.all_append, List.all_nil,
    Nat.add_assoc, Bool.and_assoc, *]

theorem wellScoped_add_eq_occs (t : Tm) (N n : Nat) : wellScoped (N + n) t = (t.occs n).all (occScoped N) :=
  wellScoped_add_eq_occs_both.1 t N n
theorem wellScopedDefs_add_eq_occs (ds : Defs) (N n : Nat) :
    wellScopedDefs (N + n) ds = (ds.occs n).all (occScoped N) :=
  wellScoped_add_eq_occs_both.2 ds N n

/-- is the occurrence the variable `j` (counted from outside the term)? -/
def occAt (j : Nat) (o : Nat × Occ) : Bool := o.2.isVar && o.2.idx == j + o.1

theorem freeAt_add_eq_occs_both : (∀ (t : Tm) j n, freeAt t (j + n) = (t.occs n).any (occAt j)) ∧
    ∀ (ds : Defs) j n, freeAtDefs ds (j + n) = (ds.occs n).any (occAt j) := by
  apply Tm.rec_both
  case var | hole => intros; simp only [Tm.occs, List.any_cons, List.any_nil, Bool.or_false, freeAt]; rfl
  all_goals intros; simp only [freeAt, freeAtDefs, Tm.occs, Defs.occs, List.any_append, List.any_nil,
    Nat.add_assoc, Bool.or_assoc, *]

theorem freeAt_add_eq_occs (t : Tm) (j n : Nat) : freeAt t (j + n) = (t.occs n).any (occAt j) :=
  freeAt_add_eq_occs_both.1 t j n

/-- is it a variable or hole index in `[c, c + k)`? -/
def occIn (c k : Nat) (o : Nat × Occ) : Bool := decide (c + o.1 ≤ o.2.idx ∧ o.2.idx < c + o.1 + k)

theorem occIn_true {c k n : Nat} {l : Occ} (h : c + n ≤ l.idx ∧ l.idx < c + n + k) :
    occIn c k (n, l) = true := decide_eq_true h
theorem occIn_false {c k n : Nat} {l : Occ} (h : ¬ (c + n ≤ l.idx ∧ l.idx < c + n + k)) :
    occIn c k (n, l) = false := decide_eq_false h

theorem lowFree_add_eq_occs_both : (∀ (t : Tm) c k n, lowFree t (c + n) k = (t.occs n).any (occIn c k)) ∧
    ∀ (ds : Defs) c k n, lowFreeDefs ds (c + n) k = (ds.occs n).any (occIn c k) := by
  apply Tm.rec_both
  case var | hole => intros; simp only [Tm.occs, List.any_cons, List.any_nil, Bool.or_false, lowFree]; rfl
  all_goals intros; simp only [lowFree, lowFreeDefs, Tm.occs, Defs.occs, List.any_append, List.any_nil,
    Nat.add_assoc, Bool.or_assoc, *]

/-- the free variable an occurrence is, seen from outside `c` binders around the term -/
def occFree (c : Nat) (o : Nat × Occ) : Option Nat :=
  if o.2.isVar && decide (c + o.1 ≤ o.2.idx) then some (o.2.idx - (c + o.1)) else none

theorem freeVars_add_eq_occs_both :
    (∀ (t : Tm) c n, freeVars t (c + n) = (t.occs n).filterMap (occFree c)) ∧
    ∀ (ds : Defs) c n, freeVarsDefs ds (c + n) = (ds.occs n).filterMap (occFree c) := by
  apply Tm.rec_both
  case var =>
    intro x i c n
    by_cases h : c + n ≤ i <;> simp [freeVars, Tm.occs, occFree, Occ.isVar, Occ.idx, h]
  case hole => intros; rfl
  all_goals intros; simp only [freeVars, freeVarsDefs, Tm.occs, Defs.occs, List.filterMap_append,
    List.filterMap_nil, Nat.add_assoc, List.append_assoc, *]

theorem wellScoped_eq_occs (t : Tm) (N : Nat) : wellScoped N t = (t.occs 0).all (occScoped N) :=
  wellScoped_add_eq_occs t N 0
theorem wellScopedDefs_eq_occs (ds : Defs) (N : Nat) : wellScopedDefs N ds = (ds.occs 0).all (occScoped N) :=
  wellScopedDefs_add_eq_occs ds N 0
theorem freeAt_eq_occs (t : Tm) (j : Nat) : freeAt t j = (t.occs 0).any (occAt j) :=
  freeAt_add_eq_occs t j 0
theorem freeAtDefs_eq_occs (ds : Defs) (j : Nat) : freeAtDefs ds j = (ds.occs 0).any (occAt j) :=
  freeAt_add_eq_occs_both.2 ds j 0
theorem lowFree_eq_occs (t : Tm) (c k : Nat) : lowFree t c k = (t.occs 0).any (occIn c k) :=
  lowFree_add_eq_occs_both.1 t c k 0
theorem lowFreeDefs_eq_occs (ds : Defs) (c k : Nat) : lowFreeDefs ds c k = (ds.occs 0).any (occIn c k) :=
  lowFree_add_eq_occs_both.2 ds c k 0
theorem freeVars_eq_occs (t : Tm) (c : Nat) : freeVars t c = (t.occs 0).filterMap (occFree c) :=
  freeVars_add_eq_occs_both.1 t c 0
theorem freeVarsDefs_eq_occs (ds : Defs) (c : Nat) : freeVarsDefs ds c = (ds.occs 0).filterMap (occFree c) :=
  freeVars_add_eq_occs_both.2 ds c 0

theorem any_occIn_iff {l : List (Nat × Occ)} (c k : Nat) (hl : (l.all fun o => o.2.isVar) = true) :
    l.any (occIn c k) = true ↔ ∃ j, c ≤ j ∧ j < c + k ∧ l.any (occAt j) = true := by
  rw [List.all_eq_true] at hl
  simp only [List.any_eq_true, occIn, occAt, decide_eq_true_eq, Bool.and_eq_true, beq_iff_eq]
  exact ⟨fun ⟨o, ho, h1, h2⟩ => ⟨o.2.idx - o.1, by omega, by omega, o, ho, hl o ho, by omega⟩,
    fun ⟨j, h1, h2, o, ho, _, e⟩ => ⟨o, ho, by omega, by omega⟩⟩

theorem lowFree_iff_freeAt : ∀ (t : Tm) (c k : Nat), t.holeFree = true →
    (lowFree t c k = true ↔ ∃ j, c ≤ j ∧ j < c + k ∧ freeAt t j = true) := fun t c k hf => by
  simp only [lowFree_eq_occs, freeAt_eq_occs]
  exact any_occIn_iff c k (t.holeFree_eq_occs 0 ▸ hf)

theorem lowFreeDefs_iff_freeAtDefs : ∀ (ds : Defs) (c k : Nat), ds.holeFree = true →
    (lowFreeDefs ds c k = true ↔ ∃ j, c ≤ j ∧ j < c + k ∧ freeAtDefs ds j = true) := fun ds c k hf => by
  simp only [lowFreeDefs_eq_occs, freeAtDefs_eq_occs]
  exact any_occIn_iff c k (ds.holeFree_eq_occs 0 ▸ hf)

theorem mem_filterMap_occFree (l : List (Nat × Occ)) (c j : Nat) :
    j ∈ l.filterMap (occFree c) ↔ l.any (occAt (j + c)) = true := by
  simp only [List.mem_filterMap, List.any_eq_true, occFree, occAt, Bool.and_eq_true, beq_iff_eq,
    decide_eq_true_eq]
  constructor
  · rintro ⟨o, ho, h⟩
    split at h
    · next hc => exact ⟨o, ho, hc.1, by have := Option.some.inj h; omega⟩
    · cases h
  · rintro ⟨o, ho, hv, e⟩
    exact ⟨o, ho, by rw [if_pos ⟨hv, by omega⟩]; exact congrArg some (by omega)⟩

theorem mem_freeVars : ∀ (t : Tm) (c j : Nat), j ∈ freeVars t c ↔ freeAt t (j + c) = true :=
  fun t c j => by rw [freeAt_eq_occs, ← mem_filterMap_occFree, freeVars_eq_occs]

theorem mem_freeVarsDefs : ∀ (ds : Defs) (c j : Nat),
    j ∈ freeVarsDefs ds c ↔ freeAtDefs ds (j + c) = true :=
  fun ds c j => by rw [freeAtDefs_eq_occs, ← mem_filterMap_occFree, freeVarsDefs_eq_occs]

theorem Act.at_eq_of {F G : Act} (hv : ∀ n x i, F.var n x i = G.var n x i) {l : List (Nat × Occ)}
    (hh : (l.all fun o => o.2.isVar) = true ∨ ∀ n id s, F.hole n id s = G.hole n id s) :
    ∀ o ∈ l, F.at o.1 o.2 = G.at o.1 o.2
  | (n, .var x i), _ => hv n x i
  | (n, .hole id s), ho => hh.elim (fun h => nomatch List.all_eq_true.1 h _ ho) (fun h => h n id s)

-- on a hole-free term the two traversals need not agree at holes
theorem Tm.trav_congr {F G : Act} (hv : ∀ n x i, F.var n x i = G.var n x i) :
    ∀ (t : Tm) (n : Nat), (t.holeFree = true ∨ ∀ n id s, F.hole n id s = G.hole n id s) →
      t.trav F n = t.trav G n :=
  fun t n hh => t.trav_congr_occs n (Act.at_eq_of hv (t.holeFree_eq_occs n ▸ hh))

theorem Defs.trav_congr {F G : Act} (hv : ∀ n x i, F.var n x i = G.var n x i) :
    ∀ (ds : Defs) (n : Nat), (ds.holeFree = true ∨ ∀ n id s, F.hole n id s = G.hole n id s) →
      ds.trav F n = ds.trav G n :=
  fun ds n hh => ds.trav_congr_occs n (Act.at_eq_of hv (ds.holeFree_eq_occs n ▸ hh))

theorem trav_congr_both {F G : Act} (hv : ∀ n x i, F.var n x i = G.var n x i)
    (hh : ∀ n id s, F.hole n id s = G.hole n id s) :
    (∀ (t : Tm) n, t.trav F n = t.trav G n) ∧ (∀ (ds : Defs) n, ds.trav F n = ds.trav G n) :=
  ⟨fun t n => t.trav_congr hv n (.inr hh), fun ds n => ds.trav_congr hv n (.inr hh)⟩

theorem trav_ren_congr {f g : Nat → Nat → Nat} (h : ∀ n i, f n i = g n i) :
    (∀ (t : Tm) n, t.trav (.ren f) n = t.trav (.ren g) n) ∧
    (∀ (ds : Defs) n, ds.trav (.ren f) n = ds.trav (.ren g) n) :=
  trav_congr_both (fun n x i => congrArg (Tm.var x) (h n i)) (fun n id s => congrArg (Tm.hole id) (h n s))

theorem Tm.holeFree_trav {F : Act} (hv : ∀ n x i, (F.var n x i).holeFree = true)
    (hh : ∀ n id s, (F.hole n id s).holeFree = false) :
    ∀ (t : Tm) (n : Nat), (t.trav F n).holeFree = t.holeFree := fun t n => by
  rw [Tm.holeFree_eq_occs _ n, t.holeFree_eq_occs n, Tm.occs_trav, List.all_flatMap]
  refine List.all_congr rfl fun o => (Tm.holeFree_eq_occs _ _).symm.trans ?_
  rcases o with ⟨m, _ | _⟩
  · exact hv ..
  · exact hh ..

theorem Defs.holeFree_trav {F : Act} (hv : ∀ n x i, (F.var n x i).holeFree = true)
    (hh : ∀ n id s, (F.hole n id s).holeFree = false) :
    ∀ (ds : Defs) (n : Nat), (ds.trav F n).holeFree = ds.holeFree := fun ds n => by
  rw [Defs.holeFree_eq_occs _ n, ds.holeFree_eq_occs n, Defs.occs_trav, List.all_flatMap]
  refine List.all_congr rfl fun o => (Tm.holeFree_eq_occs _ _).symm.trans ?_
  rcases o with ⟨m, _ | _⟩
  · exact hv ..
  · exact hh ..

theorem occScoped_at {F : Act} {N M : Nat}
    (hv : ∀ n x i, i < N + n → wellScoped (M + n) (F.var n x i) = true)
    (hh : ∀ n id s, s ≤ N + n → wellScoped (M + n) (F.hole n id s) = true) :
    ∀ o : Nat × Occ, occScoped N o = true → ((F.at o.1 o.2).occs o.1).all (occScoped M) = true
  | (n, .var x i), h => (wellScoped_add_eq_occs ..).symm.trans (hv n x i (of_decide_eq_true h))
  | (n, .hole id s), h => (wellScoped_add_eq_occs ..).symm.trans (hh n id s (of_decide_eq_true h))

theorem Tm.wellScoped_trav {F : Act} {N M : Nat}
    (hv : ∀ n x i, i < N + n → wellScoped (M + n) (F.var n x i) = true)
    (hh : ∀ n id s, s ≤ N + n → wellScoped (M + n) (F.hole n id s) = true) :
    ∀ (t : Tm) (n : Nat), wellScoped (N + n) t = true → wellScoped (M + n) (t.trav F n) = true :=
  fun t n h => by
    rw [wellScoped_add_eq_occs, List.all_eq_true] at h
    rw [wellScoped_add_eq_occs, Tm.occs_trav, List.all_flatMap, List.all_eq_true]
    exact fun o ho => occScoped_at hv hh o (h o ho)

theorem Defs.wellScoped_trav {F : Act} {N M : Nat}
    (hv : ∀ n x i, i < N + n → wellScoped (M + n) (F.var n x i) = true)
    (hh : ∀ n id s, s ≤ N + n → wellScoped (M + n) (F.hole n id s) = true) :
    ∀ (ds : Defs) (n : Nat), wellScopedDefs (N + n) ds = true → wellScopedDefs (M + n) (ds.trav F n) = true :=
  fun ds n h => by
    rw [wellScopedDefs_add_eq_occs, List.all_eq_true] at h
    rw [wellScopedDefs_add_eq_occs, Defs.occs_trav, List.all_flatMap, List.all_eq_true]
    exact fun o ho => occScoped_at hv hh o (h o ho)
