import GramModel.Lemmas.ParserSpan
import GramModel.Lemmas.Names
import GramModel.Lemmas.ReassocChain

/-! Scoping diagnostics of `resolve_variables` at range level (property C15).

The *error behaviour* of `resolveAux` is factored through a linear sequence of **scope events**
(`events t chain`): a variable occurrence, a binder entry, a scope exit.  `runE` interprets an event
sequence over a set of bound names: a variable event reports its range iff the name is not the
placeholder and not bound; a binder event reports the range of the binder's identifier iff the name
is not the placeholder and already bound (and binds it anyway); nothing else is ever reported.
`resolveAux_events`: the resolver appends exactly `runE (events t …)`.

The event sequence is a list, so it is insensitive to re-bracketing: the three re-association
passes preserve it verbatim (`reassoc_passes_events`).  Hence everything can be stated for the parse tree
`s` (`SegT`) although the resolver runs on the re-associated tree: the second half of the file reads the events
on the token segment of a parse tree (`EvOK`, `ParenVar`, `SegT.treeOK`) and says which token range a
diagnostic of a parsed program points at (`ScopeRange`, `parsed_scope_errors`). -/

namespace PModel

inductive Ev
  | var (r : SourceRange) (x : Name)   -- `Variant::Variable(x)` at a node of range `r`
  | bind (v : SrcVar)                   -- entry of a binder (λ, Π, definition of a group)
  | unbind (x : Name)                   -- `context.remove(x)` (a `defer!`)
deriving DecidableEq, Repr

abbrev Bound := Name → Bool

def Bound.ins (x : Name) (B : Bound) : Bound := fun y => y == x || B y
def Bound.rem (x : Name) (B : Bound) : Bound := fun y => !(y == x) && B y

def Ev.stepB : Ev → Bound → Bound
  | .var _ _, B => B
  | .bind v, B => if v.name != placeholder then B.ins v.name else B
  | .unbind x, B => B.rem x

/-- The ranges reported by an event: "not in scope" for an unbound non-placeholder variable (range of
the variable node), "already exists" for a non-placeholder binder whose name is bound (range of the
binder's identifier). -/
def Ev.stepE : Ev → Bound → List SourceRange
  | .var r x, B => if x != placeholder && !B x then [r] else []
  | .bind v, B => if v.name != placeholder && B v.name then [v.range] else []
  | .unbind _, _ => []

def runB : List Ev → Bound → Bound
  | [], B => B
  | e :: es, B => runB es (e.stepB B)

def runE : List Ev → Bound → List SourceRange
  | [], _ => []
  | e :: es, B => e.stepE B ++ runE es (e.stepB B)

theorem runB_append : ∀ (e1 e2 : List Ev) (B : Bound), runB (e1 ++ e2) B = runB e2 (runB e1 B)
  | [], _, _ => rfl
  | e :: es, e2, B => by simp [runB, runB_append es]

theorem runE_append : ∀ (e1 e2 : List Ev) (B : Bound),
    runE (e1 ++ e2) B = runE e1 B ++ runE e2 (runB e1 B)
  | [], _, _ => rfl
  | e :: es, e2, B => by simp [runE, runB, runE_append es]

/-- The binders of a chain of nested lets (what `collect_definitions` flattens), in source order. -/
def letBinders : Src → List SrcVar
  | .mk _ _ (.let_ x _ _ body) _ => x :: letBinders body
  | _ => []

theorem letBinders_of_not_isLet : ∀ {t : Src}, t.isLet = false → letBinders t = []
  | .mk _ _ v _, h => by cases v <;> first | rfl | cases h

theorem collectDefinitions_binders (t : Src) : (collectDefinitions t).1.map (·.1) = letBinders t := by
  induction t using Src.letChain_induction with
  | let_ r g v ann defn body es ih => rw [collectDefinitions_let, letBinders, ← ih]; rfl
  | other t h => rw [collectDefinitions_of_not_isLet h, letBinders_of_not_isLet h]; rfl

/-- First loop of the `Let` arm. -/
def bindEvs (vs : List SrcVar) : List Ev := vs.map .bind
/-- The `defer!` of the `Let` arm. -/
def unbindEvs : List SrcVar → List Ev
  | [] => []
  | v :: vs => if v.name != placeholder then .unbind v.name :: unbindEvs vs else unbindEvs vs

mutual
/-- The scope events of `resolve_variables` on `t`, in the order in which they happen.
`chain = true`: `t` is the continuation of a group whose names are already registered (`chain.isSome` of the
chain position of `resolveAux`).  The λ and Π arms end with `.unbind x.name` whatever the name: their `defer!`
runs `context.remove(variable.name)` unconditionally (parser.rs:1460, 1514); the `Let` arm removes only the
names it has added (`variables_added`, parser.rs:1600), hence `unbindEvs` skips the placeholder. -/
def events (t : Src) (chain : Bool) : List Ev :=
  match t with
  | .mk range _ v _ =>
    match v with
    | .parseError => []
    | .type => []
    | .var x => [.var range x]
    | .lam x _ dom body => eventsOpt dom ++ (.bind x :: (events body false ++ [.unbind x.name]))
    | .pi x _ dom cod => events dom false ++ (.bind x :: (events cod false ++ [.unbind x.name]))
    | .app f a => events f false ++ events a false
    | .let_ x ann defn body =>
      (if chain then [] else bindEvs (x :: letBinders body)) ++
        ((eventsOpt ann ++ (events defn false ++ events body true)) ++
          (if chain then [] else unbindEvs (x :: letBinders body)))
    | .int => []
    | .lit _ => []
    | .neg a => events a false
    | .bin _ a b => events a false ++ events b false
    | .bool => []
    | .tt => []
    | .ff => []
    | .ite c a b => events c false ++ (events a false ++ events b false)
termination_by structural t
def eventsOpt (o : OptSrc) : List Ev :=
  match o with
  | .none => []
  | .some t => events t false
termination_by structural o
end

def Agree (c : Ctx) (B : Bound) : Prop := ∀ y, c.containsKey y = B y

def Ctx.keys (c : Ctx) : Bound := fun y => c.containsKey y

theorem Agree.keys (c : Ctx) : Agree c c.keys := fun _ => rfl

theorem Agree.insert {c : Ctx} {B : Bound} (h : Agree c B) (x : Name) (d : Nat) :
    Agree (c.insert x d) (B.ins x) := by
  intro y
  rw [Ctx.containsKey_eq, Ctx.get_insert]
  by_cases hy : y = x
  · simp [hy, Bound.ins]
  · simp [hy, Bound.ins, ← h y, Ctx.containsKey_eq]

theorem Agree.remove {c : Ctx} {B : Bound} (h : Agree c B) (x : Name) :
    Agree (c.remove x) (B.rem x) := by
  intro y
  rw [Ctx.containsKey_eq, Ctx.get_remove]
  by_cases hy : y = x
  · simp [hy, Bound.rem]
  · simp [hy, Bound.rem, ← h y, Ctx.containsKey_eq]

/-- `st'` is `st` after the events `evs` from the bound set `B`: the keys are `runB evs B` and the
reported errors are exactly `runE evs B`, one single-range listing each, appended in order. -/
def Sim (B : Bound) (evs : List Ev) (st st' : RState) : Prop :=
  Agree st'.ctx (runB evs B) ∧ st'.errors = st.errors ++ (runE evs B).map (fun r => [r])

theorem Sim.nil {B : Bound} {st : RState} (h : Agree st.ctx B) : Sim B [] st st :=
  ⟨h, by simp [runE]⟩

theorem Sim.trans {B : Bound} {e1 e2 : List Ev} {s0 s1 s2 : RState}
    (h1 : Sim B e1 s0 s1) (h2 : Sim (runB e1 B) e2 s1 s2) : Sim B (e1 ++ e2) s0 s2 := by
  refine ⟨?_, ?_⟩
  · rw [runB_append]; exact h2.1
  · rw [h2.2, h1.2, runE_append, List.map_append, List.append_assoc]

/-- Every run of `m` from a state whose keys are `B` performs the events `evs`.  (`Sim` is the relation
between the two states of a run, `EvSim` the statement about a computation.) -/
def EvSim (B : Bound) (evs : List Ev) {α : Type} (m : ResolveM α) : Prop :=
  ∀ st a st', Agree st.ctx B → m st = some (a, st') → Sim B evs st st'

theorem EvSim.pure {B : Bound} {α : Type} (a : α) : EvSim B [] (pure a : ResolveM α) :=
  fun _ _ _ hB h => (pure_inv h).2 ▸ Sim.nil hB

theorem EvSim.bind {B : Bound} {e1 e2 : List Ev} {α β : Type} {m : ResolveM α} {f : α → ResolveM β}
    (h1 : EvSim B e1 m) (h2 : ∀ a, EvSim (runB e1 B) e2 (f a)) : EvSim B (e1 ++ e2) (m >>= f) :=
  fun _ _ _ hB h =>
    have ⟨a, _, r1, r2⟩ := (StateT_bind_some ..).1 h
    have k1 := h1 _ _ _ hB r1
    k1.trans (h2 a _ _ _ k1.1 r2)

theorem EvSim.of_eq {B : Bound} {e e' : List Ev} {α : Type} {m : ResolveM α} (h : e' = e)
    (hm : EvSim B e m) : EvSim B e' m := h ▸ hm

theorem bindName_evSim (v : SrcVar) (d : Nat) (B : Bound) : EvSim B [.bind v] (bindName v d) := by
  intro st u st' hB h
  unfold bindName at h
  by_cases hv : v.name = placeholder
  · simp [hv] at h
    subst h
    refine ⟨?_, ?_⟩
    · simpa [runB, Ev.stepB, hv] using hB
    · simp [runE, Ev.stepE, hv]
  · have hv' : (v.name != placeholder) = true := by simp [hv]
    simp only [hv', if_true, Option.some.injEq, Prod.mk.injEq] at h
    obtain ⟨_, rfl⟩ := h
    refine ⟨?_, ?_⟩
    · simp only [runB, Ev.stepB, hv', if_true]
      exact hB.insert _ _
    · simp only [runE, Ev.stepE, hv', Bool.true_and, ← hB v.name, List.append_nil]
      cases st.ctx.containsKey v.name <;> simp

theorem unbindName_evSim (x : Name) (B : Bound) : EvSim B [.unbind x] (unbindName x) := by
  intro st u st' hB h
  rw [unbindName_inv h]
  exact ⟨by simpa [runB, Ev.stepB] using hB.remove x, by simp [runE, Ev.stepE]⟩

theorem bindDefinitions_evSim (depth : Nat) : ∀ (ds : List (SrcVar × OptSrc × Src)) (i : Nat) (B : Bound),
    EvSim B (bindEvs (ds.map (·.1))) (bindDefinitions depth ds i)
  | [], _, _ => .pure _
  | (v, _, _) :: rest, i, B =>
    (bindName_evSim v _ B).bind fun _ => bindDefinitions_evSim depth rest (i + 1) _

theorem unbindDefinitions_evSim : ∀ (ds : List (SrcVar × OptSrc × Src)) (B : Bound),
    EvSim B (unbindEvs (ds.map (·.1))) (unbindDefinitions ds)
  | [], _ => .pure _
  | (v, _, _) :: rest, B => by
    unfold unbindDefinitions
    simp only [List.map_cons, unbindEvs]
    split
    · exact (unbindName_evSim _ B).bind fun _ => unbindDefinitions_evSim rest _
    · exact unbindDefinitions_evSim rest B

theorem freshHole_evSim (r : Option SourceRange) (s : Nat) (B : Bound) : EvSim B [] (freshHole r s) :=
  fun _ _ _ hB h => have ⟨_, e⟩ := freshHole_inv h; e ▸ ⟨hB, by simp [runE]⟩

theorem lamDomain_evSim : ∀ (a : Option RTm) (B : Bound), EvSim B [] (lamDomain a)
  | some d, _ => .pure d
  | none, B => freshHole_evSim none 0 B

theorem lookupVar_evSim (range : SourceRange) (x : Name) (depth : Nat) (B : Bound) :
    EvSim B [.var range x] (lookupVar range x depth) := by
  intro st res st' hB h
  unfold lookupVar at h
  cases hg : st.ctx.get x with
  | some vd =>
    simp only [hg, Option.some.injEq, Prod.mk.injEq] at h
    obtain ⟨_, rfl⟩ := h
    have hx : B x = true := by rw [← hB x, Ctx.containsKey_eq, hg]; rfl
    exact ⟨by simpa [runB, Ev.stepB] using hB, by simp [runE, Ev.stepE, hx]⟩
  | none =>
    simp only [hg, Option.some.injEq, Prod.mk.injEq] at h
    obtain ⟨_, rfl⟩ := h
    have hx : B x = false := by rw [← hB x, Ctx.containsKey_eq, hg]; rfl
    refine ⟨by simpa [runB, Ev.stepB] using hB, ?_⟩
    simp only [runE, Ev.stepE, hx, Bool.not_false, Bool.and_true, List.append_nil]
    cases (x != placeholder) <;> simp

def EventsAt (t : Src) : Prop :=
  ∀ (chain : Option (Nat × Nat)) (depth : Nat) (B : Bound),
    EvSim B (events t chain.isSome) (resolveAux t chain depth)

theorem resolveOpt_events_of {o : OptSrc} (ih : o.all EventsAt) (depth : Nat) (B : Bound) :
    EvSim B (eventsOpt o) (resolveOpt o depth) := by
  unfold resolveOpt
  cases o with
  | none => exact .pure _
  | some t => exact .of_eq (List.append_nil _).symm ((ih none depth B).bind fun (_, _) => .pure _)

theorem resolveAnnotation_events_of {o : OptSrc} (ih : o.all EventsAt) (n i newDepth : Nat) (B : Bound) :
    EvSim B (eventsOpt o) (resolveAnnotation o n i newDepth) := by
  unfold resolveAnnotation
  cases o with
  | none => exact freshHole_evSim none (n - i) B
  | some t => exact .of_eq (List.append_nil _).symm ((ih none newDepth B).bind fun (_, _) => .pure _)

theorem resolveAux_events (t : Src) : EventsAt t := by
  induction t using Src.induction with
  | parseError => exact fun _ _ _ => nofun
  | type | int | bool | tt | ff | lit => exact fun _ _ _ => .pure _
  | var range g x es => exact fun chain depth B => resolveAux_var .. ▸ lookupVar_evSim range x depth B
  | app range g f a es ihf iha | bin range g _ f a es ihf iha =>
    exact fun _ depth B => .of_eq (by simp [events])
      ((ihf none depth B).bind fun (_, _) => (iha none depth _).bind fun (_, _) => .pure _)
  | neg range g a es iha =>
    exact fun _ depth B => .of_eq (by simp [events]) ((iha none depth B).bind fun (_, _) => .pure _)
  | ite range g c a b es ihc iha ihb =>
    exact fun _ depth B => .of_eq (by simp [events])
      ((ihc none depth B).bind fun (_, _) => (iha none depth _).bind fun (_, _) =>
        (ihb none depth _).bind fun (_, _) => .pure _)
  | pi range g x imp dom cod es ihd ihc =>
    exact fun _ depth B => .of_eq (by simp [events])
      ((ihd none depth B).bind fun (_, _) => (bindName_evSim x depth _).bind fun _ =>
        (ihc none (depth + 1) _).bind fun (_, _) => (unbindName_evSim x.name _).bind fun _ => .pure _)
  | lam range g x imp dom body es ihd ihb =>
    intro _ depth B
    rw [resolveAux_lam]
    exact .of_eq (by simp [events])
      ((resolveOpt_events_of ihd depth B).bind fun dom' => (bindName_evSim x depth _).bind fun _ =>
        (lamDomain_evSim dom' _).bind fun _ => (ihb none (depth + 1) _).bind fun (_, _) =>
        (unbindName_evSim x.name _).bind fun _ => .pure _)
  | let_ range g x ann defn body es iha ihd ihb =>
    intro chain depth B
    cases chain with
    | some c =>
      exact .of_eq (by simp [events])
        ((resolveAnnotation_events_of iha c.1 c.2 depth B).bind fun _ => (ihd none depth _).bind fun (_, _) =>
          (ihb (some (c.1, c.2 + 1)) depth _).bind fun (_, _) => .pure _)
    | none =>
      refine .of_eq ?_
        ((bindDefinitions_evSim depth _ 0 B).bind fun _ =>
          (resolveAnnotation_events_of iha _ 0 _ _).bind fun _ => (ihd none _ _).bind fun (_, _) =>
          (ihb (some (_, 1)) _ _).bind fun (_, _) => (unbindDefinitions_evSim _ _).bind fun _ => .pure _)
      simp [events, collectDefinitions_binders]

theorem resolveOpt_events : ∀ (o : OptSrc) (depth : Nat) (B : Bound) (st : RState)
    (res : Option RTm) (st' : RState),
    Agree st.ctx B → resolveOpt o depth st = some (res, st') → Sim B (eventsOpt o) st st' :=
  fun o depth B st res st' hB h =>
    resolveOpt_events_of (OptSrc.all_of_forall resolveAux_events o) depth B st res st' hB h

theorem resolveAnnotation_events : ∀ (o : OptSrc) (n i newDepth : Nat) (B : Bound)
    (st : RState) (res : RTm) (st' : RState),
    Agree st.ctx B → resolveAnnotation o n i newDepth st = some (res, st') →
    Sim B (eventsOpt o) st st' :=
  fun o n i newDepth B st res st' hB h =>
    resolveAnnotation_events_of (OptSrc.all_of_forall resolveAux_events o) n i newDepth B st res st' hB h

theorem resolve_evSim (t : Src) (depth : Nat) (B : Bound) : EvSim B (events t false) (resolve t depth) :=
  .of_eq (List.append_nil _).symm ((resolveAux_events t none depth B).bind fun (_, _) => .pure _)

/-- The range an event can report (none for placeholders and scope exits). -/
def Ev.cand : Ev → List SourceRange
  | .var r x => if x != placeholder then [r] else []
  | .bind v => if v.name != placeholder then [v.range] else []
  | .unbind _ => []

def cands : List Ev → List SourceRange
  | [] => []
  | e :: es => e.cand ++ cands es

theorem Ev.stepE_sublist (e : Ev) (B : Bound) : (e.stepE B).Sublist e.cand := by
  cases e with
  | var r x =>
    simp only [Ev.stepE, Ev.cand]
    cases (x != placeholder) <;> cases (B x) <;> simp
  | bind v =>
    simp only [Ev.stepE, Ev.cand]
    cases (v.name != placeholder) <;> cases (B v.name) <;> simp
  | unbind x => simp [Ev.stepE, Ev.cand]

theorem runE_sublist : ∀ (evs : List Ev) (B : Bound), (runE evs B).Sublist (cands evs)
  | [], _ => by simp [runE, cands]
  | e :: es, B => by
      simp only [runE, cands]
      exact (e.stepE_sublist B).append (runE_sublist es _)

theorem mem_runE : ∀ (evs : List Ev) (B : Bound) (r : SourceRange),
    r ∈ runE evs B ↔
      (∃ pre post x, evs = pre ++ .var r x :: post ∧ x ≠ placeholder ∧ runB pre B x = false) ∨
      (∃ pre post v, evs = pre ++ .bind v :: post ∧ v.name ≠ placeholder ∧
        runB pre B v.name = true ∧ r = v.range)
  | [], B, r => by simp [runE]
  | e :: es, B, r => by
      simp only [runE, List.mem_append, mem_runE es]
      constructor
      · rintro (h | ⟨pre, post, x, rfl, hx, hb⟩ | ⟨pre, post, v, rfl, hv, hb, rfl⟩)
        · cases e with
          | var r' x =>
            simp only [Ev.stepE] at h
            split at h
            · rename_i hc
              simp only [List.mem_singleton] at h; subst h
              simp only [Bool.and_eq_true, bne_iff_ne, ne_eq, Bool.not_eq_true'] at hc
              exact Or.inl ⟨[], es, x, rfl, hc.1, by simpa [runB] using hc.2⟩
            · simp at h
          | bind v =>
            simp only [Ev.stepE] at h
            split at h
            · rename_i hc
              simp only [List.mem_singleton] at h; subst h
              simp only [Bool.and_eq_true, bne_iff_ne, ne_eq] at hc
              exact Or.inr ⟨[], es, v, rfl, hc.1, by simpa [runB] using hc.2, rfl⟩
            · simp at h
          | unbind x => simp [Ev.stepE] at h
        · exact Or.inl ⟨e :: pre, post, x, rfl, hx, by simpa [runB] using hb⟩
        · exact Or.inr ⟨e :: pre, post, v, rfl, hv, by simpa [runB] using hb, rfl⟩
      · rintro (⟨pre, post, x, he, hx, hb⟩ | ⟨pre, post, v, he, hv, hb, rfl⟩)
        · cases pre with
          | nil =>
            simp only [List.nil_append, List.cons.injEq] at he
            obtain ⟨rfl, rfl⟩ := he
            simp only [runB] at hb
            left; simp [Ev.stepE, hx, hb]
          | cons e' pre' =>
            simp only [List.cons_append, List.cons.injEq] at he
            obtain ⟨rfl, rfl⟩ := he
            right; left; exact ⟨pre', post, x, rfl, hx, by simpa [runB] using hb⟩
        · cases pre with
          | nil =>
            simp only [List.nil_append, List.cons.injEq] at he
            obtain ⟨rfl, rfl⟩ := he
            simp only [runB] at hb
            left; simp [Ev.stepE, hv, hb]
          | cons e' pre' =>
            simp only [List.cons_append, List.cons.injEq] at he
            obtain ⟨rfl, rfl⟩ := he
            right; right; exact ⟨pre', post, v, rfl, hv, by simpa [runB] using hb, rfl⟩

theorem mem_cands : ∀ (evs : List Ev) (r : SourceRange), r ∈ cands evs →
    (∃ x, .var r x ∈ evs ∧ x ≠ placeholder) ∨ (∃ v, .bind v ∈ evs ∧ v.name ≠ placeholder ∧ r = v.range)
  | [], r, h => by simp [cands] at h
  | e :: es, r, h => by
      simp only [cands, List.mem_append] at h
      rcases h with h | h
      · cases e with
        | var r' x =>
          simp only [Ev.cand] at h
          split at h
          · rename_i hc
            simp only [List.mem_singleton] at h; subst h
            exact Or.inl ⟨x, by simp, by simpa using hc⟩
          · simp at h
        | bind v =>
          simp only [Ev.cand] at h
          split at h
          · rename_i hc
            simp only [List.mem_singleton] at h; subst h
            exact Or.inr ⟨v, by simp, by simpa using hc, rfl⟩
          · simp at h
        | unbind x => simp [Ev.cand] at h
      · rcases mem_cands es r h with ⟨x, h1, h2⟩ | ⟨v, h1, h2, h3⟩
        · exact Or.inl ⟨x, List.mem_cons_of_mem _ h1, h2⟩
        · exact Or.inr ⟨v, List.mem_cons_of_mem _ h1, h2, h3⟩

def bindRange (v : SrcVar) : List SourceRange := if v.name != placeholder then [v.range] else []

mutual
/-- The ranges of the variable nodes of `t` (placeholders excepted), in field order. -/
def varRanges (t : Src) : List SourceRange :=
  match t with
  | .mk range _ v _ =>
    match v with
    | .parseError => []
    | .type => []
    | .var x => if x != placeholder then [range] else []
    | .lam _ _ dom body => varRangesOpt dom ++ varRanges body
    | .pi _ _ dom cod => varRanges dom ++ varRanges cod
    | .app f a => varRanges f ++ varRanges a
    | .let_ _ ann defn body => varRangesOpt ann ++ (varRanges defn ++ varRanges body)
    | .int => []
    | .lit _ => []
    | .neg a => varRanges a
    | .bin _ a b => varRanges a ++ varRanges b
    | .bool => []
    | .tt => []
    | .ff => []
    | .ite c a b => varRanges c ++ (varRanges a ++ varRanges b)
termination_by structural t
def varRangesOpt (o : OptSrc) : List SourceRange :=
  match o with
  | .none => []
  | .some t => varRanges t
termination_by structural o
end

mutual
/-- The identifier ranges (`SrcVar.range`) of the binders of `t` — λ, Π, definitions — placeholders
excepted, in field order. -/
def binderRanges (t : Src) : List SourceRange :=
  match t with
  | .mk _ _ v _ =>
    match v with
    | .parseError => []
    | .type => []
    | .var _ => []
    | .lam x _ dom body => bindRange x ++ (binderRangesOpt dom ++ binderRanges body)
    | .pi x _ dom cod => bindRange x ++ (binderRanges dom ++ binderRanges cod)
    | .app f a => binderRanges f ++ binderRanges a
    | .let_ x ann defn body =>
      bindRange x ++ (binderRangesOpt ann ++ (binderRanges defn ++ binderRanges body))
    | .int => []
    | .lit _ => []
    | .neg a => binderRanges a
    | .bin _ a b => binderRanges a ++ binderRanges b
    | .bool => []
    | .tt => []
    | .ff => []
    | .ite c a b => binderRanges c ++ (binderRanges a ++ binderRanges b)
termination_by structural t
def binderRangesOpt (o : OptSrc) : List SourceRange :=
  match o with
  | .none => []
  | .some t => binderRanges t
termination_by structural o
end

theorem letBinders_sub (t : Src) (v : SrcVar) (h : v ∈ letBinders t) (hv : v.name ≠ placeholder) :
    v.range ∈ binderRanges t := by
  induction t using Src.letChain_induction with
  | let_ r g x ann defn body es ih =>
    simp only [letBinders, List.mem_cons] at h
    simp only [binderRanges, List.mem_append]
    rcases h with rfl | h
    · left; simp [bindRange, hv]
    · right; right; right; exact ih h
  | other t ht => rw [letBinders_of_not_isLet ht] at h; cases h

theorem mem_unbindEvs : ∀ (vs : List SrcVar) (ev : Ev), ev ∈ unbindEvs vs → ∃ x, ev = .unbind x
  | [], ev, h => by simp [unbindEvs] at h
  | v :: vs, ev, h => by
      simp only [unbindEvs] at h
      split at h
      · simp only [List.mem_cons] at h
        rcases h with rfl | h
        · exact ⟨_, rfl⟩
        · exact mem_unbindEvs vs ev h
      · exact mem_unbindEvs vs ev h

def EvRangesAt (t : Src) : Prop :=
  (∀ c r x, .var r x ∈ events t c → x ≠ placeholder → r ∈ varRanges t) ∧
  (∀ c v, .bind v ∈ events t c → v.name ≠ placeholder → v.range ∈ binderRanges t)

theorem eventsOpt_ranges_of {o : OptSrc} (ih : o.all EvRangesAt) :
    (∀ r x, .var r x ∈ eventsOpt o → x ≠ placeholder → r ∈ varRangesOpt o) ∧
    (∀ v, .bind v ∈ eventsOpt o → v.name ≠ placeholder → v.range ∈ binderRangesOpt o) := by
  cases o with
  | none => exact ⟨fun _ _ h => (nomatch h), fun _ h => (nomatch h)⟩
  | some t => exact ⟨ih.1 false, ih.2 false⟩

theorem events_ranges (t : Src) : EvRangesAt t := by
  induction t using Src.induction with
  | parseError | type | int | bool | tt | ff | lit =>
    exact ⟨fun _ _ _ h => (nomatch h), fun _ _ h => (nomatch h)⟩
  | var range g y es =>
    refine ⟨fun c r x h hx => ?_, fun c v h => ?_⟩
    · simp only [events, List.mem_singleton, Ev.var.injEq] at h
      obtain ⟨rfl, rfl⟩ := h
      simp [varRanges, hx]
    · simp [events] at h
  | lam range g y imp dom body es ihd ihb =>
    have io := eventsOpt_ranges_of ihd
    refine ⟨fun c r x h hx => ?_, fun c v h hv => ?_⟩
    · simp only [events, List.mem_append, List.mem_cons, List.not_mem_nil, reduceCtorEq,
        false_or, or_false] at h
      simp only [varRanges, List.mem_append]
      exact h.imp (io.1 r x · hx) (ihb.1 false r x · hx)
    · simp only [events, List.mem_append, List.mem_cons, List.not_mem_nil, reduceCtorEq,
        or_false, Ev.bind.injEq] at h
      simp only [binderRanges, List.mem_append]
      rcases h with h | rfl | h
      · exact .inr (.inl (io.2 v h hv))
      · left; simp [bindRange, hv]
      · exact .inr (.inr (ihb.2 false v h hv))
  | pi range g y imp dom cod es ihd ihc =>
    refine ⟨fun c r x h hx => ?_, fun c v h hv => ?_⟩
    · simp only [events, List.mem_append, List.mem_cons, List.not_mem_nil, reduceCtorEq,
        false_or, or_false] at h
      simp only [varRanges, List.mem_append]
      exact h.imp (ihd.1 false r x · hx) (ihc.1 false r x · hx)
    · simp only [events, List.mem_append, List.mem_cons, List.not_mem_nil, reduceCtorEq,
        or_false, Ev.bind.injEq] at h
      simp only [binderRanges, List.mem_append]
      rcases h with h | rfl | h
      · exact .inr (.inl (ihd.2 false v h hv))
      · left; simp [bindRange, hv]
      · exact .inr (.inr (ihc.2 false v h hv))
  | app range g f a es ihf iha | bin range g _ f a es ihf iha =>
    refine ⟨fun c r x h hx => ?_, fun c v h hv => ?_⟩
    · simp only [events, varRanges, List.mem_append] at h ⊢
      exact h.imp (ihf.1 false r x · hx) (iha.1 false r x · hx)
    · simp only [events, binderRanges, List.mem_append] at h ⊢
      exact h.imp (ihf.2 false v · hv) (iha.2 false v · hv)
  | neg range g a es iha => exact ⟨fun _ => iha.1 false, fun _ => iha.2 false⟩
  | ite range g k a b es ihk iha ihb =>
    refine ⟨fun c r x h hx => ?_, fun c v h hv => ?_⟩
    · simp only [events, varRanges, List.mem_append] at h ⊢
      exact h.imp (ihk.1 false r x · hx) (·.imp (iha.1 false r x · hx) (ihb.1 false r x · hx))
    · simp only [events, binderRanges, List.mem_append] at h ⊢
      exact h.imp (ihk.2 false v · hv) (·.imp (iha.2 false v · hv) (ihb.2 false v · hv))
  | let_ range g y ann defn body es iha ihd ihb =>
    have io := eventsOpt_ranges_of iha
    refine ⟨fun c r x h hx => ?_, fun c v h hv => ?_⟩
    · simp only [events, List.mem_append] at h
      simp only [varRanges, List.mem_append]
      rcases h with h | (h | h | h) | h
      · split at h
        · cases h
        · simp [bindEvs] at h
      · exact .inl (io.1 r x h hx)
      · exact .inr (.inl (ihd.1 false r x h hx))
      · exact .inr (.inr (ihb.1 true r x h hx))
      · split at h
        · cases h
        · exact nomatch mem_unbindEvs _ _ h
    · simp only [events, List.mem_append] at h
      simp only [binderRanges, List.mem_append]
      rcases h with h | (h | h | h) | h
      · split at h
        · cases h
        · simp only [bindEvs, List.map_cons, List.mem_cons, Ev.bind.injEq, List.mem_map] at h
          rcases h with rfl | ⟨w, hw, rfl⟩
          · left; simp [bindRange, hv]
          · right; right; right; exact letBinders_sub body w hw hv
      · exact .inr (.inl (io.2 v h hv))
      · exact .inr (.inr (.inl (ihd.2 false v h hv)))
      · exact .inr (.inr (.inr (ihb.2 true v h hv)))
      · split at h
        · cases h
        · exact nomatch mem_unbindEvs _ _ h

theorem eventsOpt_var : ∀ (o : OptSrc) (r : SourceRange) (x : Name),
    .var r x ∈ eventsOpt o → x ≠ placeholder → r ∈ varRangesOpt o :=
  fun o => (eventsOpt_ranges_of (OptSrc.all_of_forall events_ranges o)).1

theorem eventsOpt_bind : ∀ (o : OptSrc) (v : SrcVar),
    .bind v ∈ eventsOpt o → v.name ≠ placeholder → v.range ∈ binderRangesOpt o :=
  fun o => (eventsOpt_ranges_of (OptSrc.all_of_forall events_ranges o)).2

/-- The candidate ranges of `resolve_variables` on `t` in the order in which it meets them: for a
λ / Π the domain, then the binder, then the body; for a group *all* the names of the group first
(in source order), then annotation and definition of each member in source order, then the body. -/
def traversalRanges (t : Src) : List SourceRange := cands (events t false)

theorem mem_cands_events {t : Src} {c : Bool} {r : SourceRange} (h : r ∈ cands (events t c)) :
    r ∈ varRanges t ∨ r ∈ binderRanges t := by
  rcases mem_cands _ r h with ⟨x, h1, h2⟩ | ⟨v, h1, h2, rfl⟩
  · exact Or.inl ((events_ranges t).1 c r x h1 h2)
  · exact Or.inr ((events_ranges t).2 c v h1 h2)

theorem events_of_not_isLet : ∀ {t : Src}, t.isLet = false → events t true = events t false
  | .mk _ _ v _, h => by cases v <;> first | rfl | cases h

theorem events_build (r : SourceRange) (g : Bool) (es : List PErr) (l : Link) (a b : Src) (c : Bool) :
    events (.mk r g (l.build a b) es) c = events a false ++ events b false := by
  cases l <;> simp [Link.build, events]

theorem isLet_build (r : SourceRange) (g : Bool) (es : List PErr) (l : Link) (a b : Src) :
    (Src.mk r g (l.build a b) es).isLet = false := by
  cases l <;> rfl

def accEvents : Option (Src × Link) → List Ev
  | none => []
  | some (ac, _) => events ac false

/-- What a re-association call preserves: the events of accumulator + term, in that order; with
an accumulator the result is never a definition; without, the result continues a group exactly
as the term did. -/
def EvPres (acc : Option (Src × Link)) (t t' : Src) : Prop :=
  events t' false = accEvents acc ++ events t false ∧
  (acc = none → events t' true = events t true ∧ letBinders t' = letBinders t) ∧
  (acc ≠ none → t'.isLet = false)

theorem EvPres.of_some {ac : Src} {l : Link} {t t' : Src}
    (h1 : events t' false = events ac false ++ events t false) (h2 : t'.isLet = false) :
    EvPres (some (ac, l)) t t' := by
  refine ⟨h1, ?_, fun _ => h2⟩
  intro h; cases h

theorem EvPres.of_none_notLet {t t' : Src} (h1 : events t' false = events t false)
    (h2 : t'.isLet = false) (h3 : t.isLet = false) : EvPres none t t' := by
  refine ⟨by simpa [accEvents] using h1, fun _ => ?_, fun h => absurd rfl h⟩
  rw [events_of_not_isLet h2, events_of_not_isLet h3, letBinders_of_not_isLet h2,
    letBinders_of_not_isLet h3]
  exact ⟨h1, rfl⟩

theorem EvPres.tail {acc : Option (Src × Link)} {t reduced : Src}
    (h1 : events reduced false = events t false) (h2 : events reduced true = events t true)
    (h3 : letBinders reduced = letBinders t) : EvPres acc t (reassocTail acc reduced) := by
  cases acc with
  | none => exact ⟨by simpa [accEvents, reassocTail] using h1, fun _ => ⟨h2, h3⟩, fun h => absurd rfl h⟩
  | some p =>
    obtain ⟨ac, l⟩ := p
    simp only [reassocTail]
    exact EvPres.of_some (by rw [events_build, h1]) (isLet_build _ _ _ _ _ _)

theorem EvPres.none_all {t t' : Src} (h : EvPres none t t') :
    (∀ c, events t' c = events t c) ∧ letBinders t' = letBinders t := by
  refine ⟨fun c => ?_, (h.2.1 rfl).2⟩
  cases c
  · simpa [accEvents] using h.1
  · exact (h.2.1 rfl).1

theorem EvPres.some_ev {ac : Src} {l : Link} {t t' : Src} (h : EvPres (some (ac, l)) t t') :
    events t' false = events ac false ++ events t false ∧ t'.isLet = false :=
  ⟨h.1, h.2.2 (by simp)⟩

theorem chainArm_evpres {fam : Family} {l : Link} {range : SourceRange} {group : Bool} {a b : Src}
    (es : List PErr)
    (iha : ∀ acc t', reassoc fam acc a = some t' → EvPres acc a t')
    (ihb : ∀ acc t', reassoc fam acc b = some t' → EvPres acc b t')
    {acc : Option (Src × Link)} {t' : Src} (h : chainArm fam l range group a b acc = some t') :
    EvPres acc (.mk range group (l.build a b) es) t' := by
  unfold chainArm at h
  by_cases hg : b.group = true
  · simp only [hg, if_true] at h
    cases acc with
    | none =>
      cases hf : reassoc fam none a with
      | none => simp [hf] at h
      | some a0 =>
        cases hb : reassoc fam none b with
        | none => simp [hf, hb] at h
        | some b0 =>
          simp only [hf, hb, Option.some.injEq] at h; subst h
          have i1 := (iha none a0 hf).none_all
          have i2 := (ihb none b0 hb).none_all
          exact EvPres.of_none_notLet (by simp [events_build, i1.1, i2.1]) (isLet_build ..)
            (isLet_build ..)
    | some p =>
      obtain ⟨ac, l'⟩ := p
      cases hf : reassoc fam (some (ac, l')) a with
      | none => simp [hf] at h
      | some a1 =>
        cases hb : reassoc fam none b with
        | none => simp [hf, hb] at h
        | some b0 =>
          simp only [hf, hb, Option.some.injEq] at h; subst h
          have i1 := (iha _ a1 hf).some_ev
          have i2 := (ihb none b0 hb).none_all
          exact EvPres.of_some (by simp [events_build, i1.1, i2.1]) (isLet_build ..)
  · simp only [hg, Bool.false_eq_true, if_false] at h
    cases hf : reassoc fam none a with
    | none => simp [hf] at h
    | some a0 =>
      have i1 := (iha none a0 hf).none_all
      simp only [hf] at h
      cases acc with
      | none =>
        have i2 := (ihb _ t' h).some_ev
        exact EvPres.of_none_notLet (by simp [events_build, i1.1, i2.1]) i2.2 (isLet_build ..)
      | some p =>
        obtain ⟨ac, l'⟩ := p
        have i2 := (ihb _ t' h).some_ev
        exact EvPres.of_some (by simp [events_build, i1.1, i2.1]) i2.2

theorem chainStep_evpres {fam : Family} {l : Link} {range : SourceRange} {group : Bool} {a b : Src}
    (es : List PErr)
    (iha : ∀ acc t', reassoc fam acc a = some t' → EvPres acc a t')
    (ihb : ∀ acc t', reassoc fam acc b = some t' → EvPres acc b t')
    {acc : Option (Src × Link)} {t' : Src} (h : chainStep fam l range group a b acc = some t') :
    EvPres acc (.mk range group (l.build a b) es) t' := by
  unfold chainStep at h
  split at h
  · cases hr : chainArm fam l range group a b none with
    | none => simp [hr] at h
    | some reduced =>
      simp only [hr, Option.some.injEq] at h; subst h
      have i := (chainArm_evpres es iha ihb hr).none_all
      exact EvPres.tail (i.1 false) (i.1 true) i.2
  · exact chainArm_evpres es iha ihb h

theorem rebuildStep_evpres {fam : Family} {l : Link} {range : SourceRange} {group : Bool} {a b : Src}
    (es : List PErr)
    (iha : ∀ t', reassoc fam none a = some t' → EvPres none a t')
    (ihb : ∀ t', reassoc fam none b = some t' → EvPres none b t')
    {acc : Option (Src × Link)} {t' : Src} (h : rebuildStep fam l range group a b acc = some t') :
    EvPres acc (.mk range group (l.build a b) es) t' := by
  obtain ⟨a0, b0, hf, hb, rfl⟩ := rebuildStep_some.1 h
  have i1 := (iha a0 hf).none_all
  have i2 := (ihb b0 hb).none_all
  apply EvPres.tail <;> simp [events_build, letBinders_of_not_isLet (isLet_build ..), i1.1, i2.1]

def EvPresAt (fam : Family) (t : Src) : Prop :=
  ∀ (acc : Option (Src × Link)) (t' : Src), reassoc fam acc t = some t' → EvPres acc t t'

theorem reassocOpt_evpres_of {fam : Family} {o o' : OptSrc} (ih : o.all (EvPresAt fam))
    (h : reassocOpt fam o = some o') : eventsOpt o' = eventsOpt o := by
  cases o with
  | none => cases h; rfl
  | some t =>
    rw [reassocOpt] at h
    split at h
    · rename_i t1 ht
      cases h
      exact (ih none t1 ht).none_all.1 false
    · cases h

theorem reassoc_evpres (fam : Family) (t : Src) : EvPresAt fam t := by
  induction t using Src.induction with
  | parseError => intro acc t' h; rw [reassoc] at h; cases h
  | type | int | bool | tt | ff | lit | var =>
    intro acc t' h
    rw [reassoc] at h
    cases h
    exact EvPres.tail rfl rfl rfl
  | lam range g x imp dom body es ihd ihb =>
    intro acc t' h
    obtain ⟨d', b', hd, hb, rfl⟩ := reassoc_lam_some.1 h
    have i1 := reassocOpt_evpres_of ihd hd
    have i2 := (ihb none b' hb).none_all
    apply EvPres.tail <;> simp [events, letBinders, i1, i2.1]
  | pi range g x imp dom cod es ihd ihc =>
    intro acc t' h
    obtain ⟨d', b', hd, hb, rfl⟩ := reassoc_pi_some.1 h
    have i1 := (ihd none d' hd).none_all
    have i2 := (ihc none b' hb).none_all
    apply EvPres.tail <;> simp [events, letBinders, i1.1, i2.1]
  | let_ range g x ann defn body es iha ihd ihb =>
    intro acc t' h
    obtain ⟨n', d', b', hn, hd, hb, rfl⟩ := reassoc_let_some.1 h
    have i0 := reassocOpt_evpres_of iha hn
    have i1 := (ihd none d' hd).none_all
    have i2 := (ihb none b' hb).none_all
    apply EvPres.tail <;> simp [events, letBinders, i0, i1.1, i2.1, i2.2]
  | neg range g a es iha =>
    intro acc t' h
    obtain ⟨a', ha, rfl⟩ := reassoc_neg_some.1 h
    have i1 := (iha none a' ha).none_all
    apply EvPres.tail <;> simp [events, letBinders, i1.1]
  | ite range g c a b es ihc iha ihb =>
    intro acc t' h
    obtain ⟨c', a', b', hc, ha, hb, rfl⟩ := reassoc_ite_some.1 h
    have i0 := (ihc none c' hc).none_all
    have i1 := (iha none a' ha).none_all
    have i2 := (ihb none b' hb).none_all
    apply EvPres.tail <;> simp [events, letBinders, i0.1, i1.1, i2.1]
  | app range g f a es ihf iha =>
    intro acc t' h
    rw [reassoc_app] at h
    split at h
    · exact chainStep_evpres (l := .app) es ihf iha h
    · exact rebuildStep_evpres (l := .app) es (ihf none) (iha none) h
  | bin range g o a b es iha ihb =>
    intro acc t' h
    rw [reassoc_bin] at h
    split at h
    · exact chainStep_evpres (l := .op o) es iha ihb h
    · exact rebuildStep_evpres (l := .op o) es (iha none) (ihb none) h

theorem reassocOpt_evpres : ∀ (fam : Family) (o o' : OptSrc),
    reassocOpt fam o = some o' → eventsOpt o' = eventsOpt o :=
  fun fam o _ => reassocOpt_evpres_of (OptSrc.all_of_forall (reassoc_evpres fam) o)

theorem reassoc_passes_events {t t1 t2 t3 : Src} (h1 : reassociateApplications t = some t1)
    (h2 : reassociateProductsAndQuotients t1 = some t2)
    (h3 : reassociateSumsAndDifferences t2 = some t3) : events t3 false = events t false := by
  rw [(reassoc_evpres _ _ _ _ h3).none_all.1, (reassoc_evpres _ _ _ _ h2).none_all.1,
    (reassoc_evpres _ _ _ _ h1).none_all.1]

/-- The segment `[a, b)` is the identifier `x` wrapped in `k ≥ 0` pairs of parentheses:
`( … ( x ) … )`. -/
def ParenVar (toks : Array PTok) (a b : Nat) (x : Name) : Prop :=
  ∃ k, b = a + 2 * k + 1 ∧ KAt toks (a + k) (.identifier x) ∧
    ∀ j, j < k → KAt toks (a + j) .leftParen ∧ KAt toks (b - 1 - j) .rightParen

/-- What the events of a parse tree of `[lo, hi)` look like: a variable event carries the range of
an identifier token of the segment — extended to the enclosing parentheses if the variable is
parenthesised (`parse_group` returns the inner node with the range of the group); a binder event is
an identifier token of the segment, or the anonymous binder of `a -> b`. -/
def EvOK (toks : Array PTok) (lo hi : Nat) : Ev → Prop
  | .var r x => ∃ a b, lo ≤ a ∧ b ≤ hi ∧ ParenVar toks a b x ∧ r = rng toks a b
  | .bind v => (∃ i, lo ≤ i ∧ i < hi ∧ IdentAt toks i v) ∨ v.name = placeholder
  | .unbind _ => True

theorem EvOK.mono {toks : Array PTok} {lo hi lo' hi' : Nat} {ev : Ev} (h : EvOK toks lo hi ev)
    (h1 : lo' ≤ lo) (h2 : hi ≤ hi') : EvOK toks lo' hi' ev := by
  cases ev with
  | var r x =>
    obtain ⟨a, b, ha, hb, hp, hr⟩ := h
    exact ⟨a, b, by omega, by omega, hp, hr⟩
  | bind v =>
    rcases h with ⟨i, hi1, hi2, hI⟩ | h
    · exact Or.inl ⟨i, by omega, by omega, hI⟩
    · exact Or.inr h
  | unbind x => trivial

theorem events_leafV (r : SourceRange) (g : Bool) (es : List PErr) (A : NT) (c : Bool) :
    events (.mk r g (leafV A) es) c = [] := by
  cases A <;> simp [leafV, events]

theorem events_binderV (r : SourceRange) (g : Bool) (es : List PErr) (A : NT) (v : SrcVar)
    (d b : Src) (c : Bool) :
    events (.mk r g (binderV A v d b) es) c =
      events d false ++ (.bind v :: (events b false ++ [.unbind v.name])) := by
  cases A <;> simp [binderV, events, eventsOpt]

theorem leafV_ne_var (A : NT) (x : Name) : leafV A ≠ .var x := by
  cases A <;> simp [leafV]

theorem binderV_ne_var (A : NT) (v : SrcVar) (d b : Src) (x : Name) : binderV A v d b ≠ .var x := by
  cases A <;> simp [binderV]

theorem events_range_irrel (r r' : SourceRange) (g g' : Bool) (es es' : List PErr) (v : SrcV)
    (c : Bool) (hv : ∀ x, v ≠ .var x) :
    events (.mk r g v es) c = events (.mk r' g' v es') c := by
  cases v <;> simp [events] <;> exact absurd rfl (hv _)

theorem bindEvs_letBinders_sub (t : Src) (ev : Ev) (h : ev ∈ bindEvs (letBinders t)) :
    ev ∈ events t false := by
  induction t using Src.letChain_induction with
  | let_ r g x ann defn body es _ =>
    simp only [events, letBinders, Bool.false_eq_true, if_false, List.mem_append] at h ⊢
    exact Or.inl h
  | other t ht => rw [letBinders_of_not_isLet ht] at h; cases h

/-- What `SegT.treeOK` proves of the parse tree `t` of `[a, b)`.  The second conjunct is for its `group` case: the
tree of `( x )` is the variable node of `x` with the range of the parentheses, so the enclosing group has to know
that `[a, b)` is `x` in `k` pairs of parentheses in order to add one. -/
def TreeOK (toks : Array PTok) (a b : Nat) (t : Src) : Prop :=
  (∀ c ev, ev ∈ events t c → EvOK toks a b ev) ∧ (∀ x, t.variant = .var x → ParenVar toks a b x)

theorem TreeOK.let_ {toks : Array PTok} {a e : Nat} {x : Name} {r : SourceRange} {g : Bool}
    {es : List PErr} {ann : OptSrc} {defn body : Src}
    (hx : KAt toks a (.identifier x)) (ha : a < e)
    (hann : ∀ ev, ev ∈ eventsOpt ann → EvOK toks a e ev)
    (hdefn : ∀ ev, ev ∈ events defn false → EvOK toks a e ev)
    (hb : ∀ c ev, ev ∈ events body c → EvOK toks a e ev) :
    TreeOK toks a e (.mk r g (.let_ ⟨tokenRange toks a, x⟩ ann defn body) es) := by
  refine ⟨?_, fun y hy => by simp [Src.variant] at hy⟩
  intro c ev hev
  simp only [events, List.mem_append] at hev
  rcases hev with h | (h | h | h) | h
  · split at h
    · simp at h
    · simp only [bindEvs, List.map_cons, List.mem_cons] at h
      rcases h with rfl | h
      · exact Or.inl ⟨a, Nat.le_refl _, ha, hx, rfl⟩
      · exact hb false ev (bindEvs_letBinders_sub body ev (by simpa [bindEvs] using h))
  · exact hann ev h
  · exact hdefn ev h
  · exact hb true ev h
  · split at h
    · simp at h
    · obtain ⟨y, rfl⟩ := mem_unbindEvs _ _ h
      trivial

theorem SegT.treeOK {toks : Array PTok} {A : NT} {a b : Nat} {t : Src} (h : SegT toks A a b t) :
    TreeOK toks a b t := by
  induction h with
  | unit _ _ ih => exact ih
  | leaf hm hk =>
    exact ⟨fun c ev hev => by simp [events_leafV] at hev,
      fun x hx => absurd hx (leafV_ne_var _ _)⟩
  | @var x a hk =>
    refine ⟨fun c ev hev => ?_, fun y hy => ?_⟩
    · simp only [events, List.mem_singleton] at hev
      subst hev
      exact ⟨a, a + 1, Nat.le_refl _, Nat.le_refl _, ⟨0, by omega, by simpa using hk,
        fun j hj => by omega⟩, rfl⟩
    · simp only [Src.variant, SrcV.var.injEq] at hy
      subst hy
      exact ⟨0, by omega, by simpa using hk, fun j hj => by omega⟩
  | lit hk =>
    exact ⟨fun c ev hev => by simp [events] at hev, fun x hx => by simp [Src.variant] at hx⟩
  | @lambda x a b body h1 h2 hb ih =>
    have bb := hb.spanned.bounds
    refine ⟨fun c ev hev => ?_, fun y hy => by simp [Src.variant] at hy⟩
    simp only [events, eventsOpt, List.nil_append, List.mem_cons, List.mem_append,
      List.not_mem_nil, or_false] at hev
    rcases hev with rfl | h | rfl
    · exact Or.inl ⟨a, Nat.le_refl _, by omega, h1, rfl⟩
    · exact (ih.1 false ev h).mono (by omega) (Nat.le_refl _)
    · trivial
  | @lambdaImplicit x a b body h1 h2 h3 h4 hb ih =>
    have bb := hb.spanned.bounds
    refine ⟨fun c ev hev => ?_, fun y hy => by simp [Src.variant] at hy⟩
    simp only [events, eventsOpt, List.nil_append, List.mem_cons, List.mem_append,
      List.not_mem_nil, or_false] at hev
    rcases hev with rfl | h | rfl
    · exact Or.inl ⟨a + 1, by omega, by omega, h2, rfl⟩
    · exact (ih.1 false ev h).mono (by omega) (Nat.le_refl _)
    · trivial
  | @binder A o cl ar x a b d dom body hm h1 h2 h3 hd h4 h5 hb ihd ihb =>
    have bd := hd.spanned.bounds
    have bb := hb.spanned.bounds
    refine ⟨fun c ev hev => ?_, fun y hy => absurd hy (binderV_ne_var _ _ _ _ _)⟩
    simp only [events_binderV, List.mem_cons, List.mem_append, List.not_mem_nil, or_false] at hev
    rcases hev with h | rfl | h | rfl
    · exact (ihd.1 false ev h).mono (by omega) (by omega)
    · exact Or.inl ⟨a + 1, by omega, by omega, h2, rfl⟩
    · exact (ihb.1 false ev h).mono (by omega) (Nat.le_refl _)
    · trivial
  | @nonDependentPi a b c dom cod hd hk hc ihd ihc =>
    have bd := hd.spanned.bounds
    have bc := hc.spanned.bounds
    refine ⟨fun c ev hev => ?_, fun y hy => by simp [Src.variant] at hy⟩
    simp only [events, List.mem_cons, List.mem_append, List.not_mem_nil, or_false] at hev
    rcases hev with h | rfl | h | rfl
    · exact (ihd.1 false ev h).mono (Nat.le_refl _) (by omega)
    · exact Or.inr rfl
    · exact (ihc.1 false ev h).mono (by omega) (Nat.le_refl _)
    · trivial
  | @application a b c x y hx hy ihx ihy | @bin _ _ _ _ a b c x y _ hx _ hy ihx ihy =>
    have bx := hx.spanned.bounds
    have by' := hy.spanned.bounds
    refine ⟨fun c ev hev => ?_, fun y hy => by simp [Src.variant] at hy⟩
    simp only [events, List.mem_append] at hev
    rcases hev with h | h
    · exact (ihx.1 false ev h).mono (Nat.le_refl _) (by omega)
    · exact (ihy.1 false ev h).mono (by omega) (Nat.le_refl _)
  | @letPlain x t a b c defn body h1 h2 hd h3 hb ihd ihb =>
    have bd := hd.spanned.bounds
    have bb := hb.spanned.bounds
    exact TreeOK.let_ h1 (by omega) (fun ev h => by simp [eventsOpt] at h)
      (fun ev h => (ihd.1 false ev h).mono (by omega) (by omega))
      (fun c' ev h => (ihb.1 c' ev h).mono (by omega) (Nat.le_refl _))
  | @letAnn x t a b c d ann defn body h1 h2 ha h3 hd h4 hb iha ihd ihb =>
    have ba := ha.spanned.bounds
    have bd := hd.spanned.bounds
    have bb := hb.spanned.bounds
    exact TreeOK.let_ h1 (by omega)
      (fun ev h => (iha.1 false ev (by simpa [eventsOpt] using h)).mono (by omega) (by omega))
      (fun ev h => (ihd.1 false ev h).mono (by omega) (by omega))
      (fun c' ev h => (ihb.1 c' ev h).mono (by omega) (Nat.le_refl _))
  | @negation a b x h1 hx ih =>
    refine ⟨fun c ev hev => ?_, fun y hy => by simp [Src.variant] at hy⟩
    simp only [events] at hev
    exact (ih.1 false ev hev).mono (by omega) (Nat.le_refl _)
  | @ite a b c d x y z h1 hx h2 hy h3 hz ihx ihy ihz =>
    have bx := hx.spanned.bounds
    have by' := hy.spanned.bounds
    have bz := hz.spanned.bounds
    refine ⟨fun c ev hev => ?_, fun y hy => by simp [Src.variant] at hy⟩
    simp only [events, List.mem_append] at hev
    rcases hev with h | h | h
    · exact (ihx.1 false ev h).mono (by omega) (by omega)
    · exact (ihy.1 false ev h).mono (by omega) (by omega)
    · exact (ihz.1 false ev h).mono (by omega) (Nat.le_refl _)
  | @group a b inner h1 hi h2 ih =>
    -- the one case that is not "the events lie in the sub-segments": a parenthesised variable gets one more pair
    -- of parentheses (`ParenVar`); any other node keeps its events whatever its range (`events_range_irrel`)
    have bi := hi.spanned.bounds
    obtain ⟨ri, gi, vi, ei⟩ := inner
    simp only [Src.variant] at ih ⊢
    by_cases hv : ∃ x, vi = .var x
    · obtain ⟨x, rfl⟩ := hv
      obtain ⟨k, hk, hid, hpar⟩ := ih.2 x rfl
      have hP : ParenVar toks a (b + 1) x := by
        refine ⟨k + 1, by omega, ?_, ?_⟩
        · have : a + (k + 1) = a + 1 + k := by omega
          rw [this]; exact hid
        · intro j hj
          cases j with
          | zero => exact ⟨by simpa using h1, by simpa using h2⟩
          | succ j' =>
            obtain ⟨p1, p2⟩ := hpar j' (by omega)
            have e1 : a + (j' + 1) = a + 1 + j' := by omega
            have e2 : b + 1 - 1 - (j' + 1) = b - 1 - j' := by omega
            rw [e1, e2]; exact ⟨p1, p2⟩
      refine ⟨fun c ev hev => ?_, fun y hy => ?_⟩
      · simp only [events, List.mem_singleton] at hev
        subst hev
        exact ⟨a, b + 1, Nat.le_refl _, Nat.le_refl _, hP, rfl⟩
      · have hy' : x = y := by injection hy
        subst hy'; exact hP
    · have hv' : ∀ x, vi ≠ .var x := fun x e => hv ⟨x, e⟩
      refine ⟨fun c ev hev => ?_, fun y hy => absurd hy (hv' y)⟩
      rw [events_range_irrel _ ri _ gi _ ei vi c hv'] at hev
      exact (ih.1 c ev hev).mono (by omega) (by omega)

theorem resolve_errors_exact {t : Src} {depth : Nat} {st st' : RState} {r : RTm}
    (h : resolve t depth st = some (r, st')) :
    st'.errors = st.errors ++ (runE (events t false) st.ctx.keys).map (fun r => [r]) :=
  (resolve_evSim t depth _ st r st' (.keys _) h).2

theorem resolve_errors_sublist {t : Src} {depth : Nat} {st st' : RState} {r : RTm}
    (h : resolve t depth st = some (r, st')) :
    ∃ rs : List SourceRange, st'.errors = st.errors ++ rs.map (fun r => [r]) ∧
      rs.Sublist (traversalRanges t) ∧ ∀ r ∈ rs, r ∈ varRanges t ∨ r ∈ binderRanges t := by
  refine ⟨_, resolve_errors_exact h, runE_sublist _ _, fun r hr => ?_⟩
  exact mem_cands_events (c := false) ((runE_sublist _ _).subset hr)

theorem resolveAux_errors_ranges {t : Src} {chain : Option (Nat × Nat)} {depth : Nat}
    {st st' : RState} {res : RDefs × RTm} (h : resolveAux t chain depth st = some (res, st')) :
    ∃ rs : List SourceRange, st'.errors = st.errors ++ rs.map (fun r => [r]) ∧
      ∀ r ∈ rs, r ∈ varRanges t ∨ r ∈ binderRanges t := by
  exact ⟨_, (resolveAux_events t chain depth _ st res st' (.keys _) h).2,
    fun r hr => mem_cands_events ((runE_sublist _ _).subset hr)⟩

/-- What a scoping diagnostic of a parsed program points at, inside the token segment `[a, b)`:
a variable occurrence — the identifier token, **extended to the enclosing parentheses if the
variable is parenthesised** — or the identifier token of a binder. -/
def ScopeRange (toks : Array PTok) (a b : Nat) (r : SourceRange) : Prop :=
  (∃ lo hi x, a ≤ lo ∧ hi ≤ b ∧ ParenVar toks lo hi x ∧ r = rng toks lo hi) ∨
  (∃ i x, a ≤ i ∧ i < b ∧ KAt toks i (.identifier x) ∧ r = tokenRange toks i)

/-- No identifier token stands alone between parentheses: `( x )` does not occur. -/
def NoParenIdent (toks : Array PTok) : Prop :=
  ∀ i x, KAt toks i .leftParen → KAt toks (i + 1) (.identifier x) → KAt toks (i + 2) .rightParen →
    False

theorem ParenVar.bare {toks : Array PTok} {lo hi : Nat} {x : Name} (h : ParenVar toks lo hi x)
    (hn : NoParenIdent toks) : hi = lo + 1 ∧ KAt toks lo (.identifier x) := by
  obtain ⟨k, hk, hid, hpar⟩ := h
  cases k with
  | zero => exact ⟨by omega, by simpa using hid⟩
  | succ k' =>
    exfalso
    obtain ⟨p1, p2⟩ := hpar k' (by omega)
    have e1 : lo + (k' + 1) = lo + k' + 1 := by omega
    have e2 : hi - 1 - k' = lo + k' + 2 := by omega
    rw [e1] at hid; rw [e2] at p2
    exact hn _ _ p1 hid p2

theorem parsed_scope_errors {toks : Array PTok} {nt : NT} {a b : Nat} {s s1 s2 s3 : Src}
    {depth : Nat} {st st' : RState} {r : RTm} (hs : SegT toks nt a b s)
    (h1 : reassociateApplications s = some s1) (h2 : reassociateProductsAndQuotients s1 = some s2)
    (h3 : reassociateSumsAndDifferences s2 = some s3) (h : resolve s3 depth st = some (r, st')) :
    ∃ rs : List SourceRange, st'.errors = st.errors ++ rs.map (fun r => [r]) ∧
      rs.Sublist (traversalRanges s) ∧ ∀ r ∈ rs, ScopeRange toks a b r := by
  have he := reassoc_passes_events h1 h2 h3
  refine ⟨runE (events s false) st.ctx.keys, ?_, runE_sublist _ _, fun r hr => ?_⟩
  · rw [← he]; exact resolve_errors_exact h
  · have ok := hs.treeOK.1 false
    rcases (mem_runE _ _ _).1 hr with ⟨pre, post, x, hev, hx, _⟩ | ⟨pre, post, v, hev, hv, _, rfl⟩
    · obtain ⟨lo, hi, x1, x2, x3, x4⟩ := ok (.var r x) (by rw [hev]; simp)
      exact Or.inl ⟨lo, hi, x, x1, x2, x3, x4⟩
    · rcases ok (.bind v) (by rw [hev]; simp) with ⟨i, i1, i2, i3, i4⟩ | hp
      · exact Or.inr ⟨i, v.name, i1, i2, i3, i4⟩
      · exact absurd hp hv

theorem ScopeRange.ident {toks : Array PTok} {a b : Nat} {r : SourceRange}
    (h : ScopeRange toks a b r) (hn : NoParenIdent toks) :
    ∃ (i : Nat) (hi : i < toks.size) (x : Name), a ≤ i ∧ i < b ∧ toks[i].kind = .identifier x ∧
      r = toks[i].range := by
  rcases h with ⟨lo, hi, x, h1, h2, hp, rfl⟩ | ⟨i, x, h1, h2, ⟨hlt, hk⟩, rfl⟩
  · obtain ⟨e, ⟨hlt, hk⟩⟩ := hp.bare hn
    subst e
    exact ⟨lo, hlt, x, h1, by omega, hk, by rw [← rng_single, tokenRange_lt hlt]⟩
  · exact ⟨i, hlt, x, h1, h2, hk, tokenRange_lt hlt⟩

/-- Everything in `parse` between the parse phase and `check_definitions`, reduced to the error
list `resolve_variables` leaves (for concrete examples). -/
def scopeErrorsOf (t : Src) (context : List Name) : Option (List PErr) :=
  match reassociateApplications t with
  | none => none
  | some t1 =>
  match reassociateProductsAndQuotients t1 with
  | none => none
  | some t2 =>
  match reassociateSumsAndDifferences t2 with
  | none => none
  | some t3 =>
  match resolve t3 (initialContext context).length
      { ctx := initialContext context, errors := [], nextHole := 0 } with
  | none => none
  | some (_, st) => some st.errors

theorem scopeErrorsOf_some {t : Src} {context : List Name} {es : List PErr}
    (h : scopeErrorsOf t context = some es) :
    ∃ t1 t2 t3 r st, reassociateApplications t = some t1 ∧
      reassociateProductsAndQuotients t1 = some t2 ∧ reassociateSumsAndDifferences t2 = some t3 ∧
      resolve t3 (initialContext context).length
        { ctx := initialContext context, errors := [], nextHole := 0 } = some (r, st) ∧
      st.errors = es := by
  unfold scopeErrorsOf at h
  split at h
  · cases h
  · rename_i t1 h1
    split at h
    · cases h
    · rename_i t2 h2
      split at h
      · cases h
      · rename_i t3 h3
        split at h
        · cases h
        · rename_i r st h4
          simp only [Option.some.injEq] at h
          exact ⟨t1, t2, t3, r, st, h1, h2, h3, h4, h⟩

end PModel
