import GramModel.Lemmas.ParseComplete
import GramModel.Lemmas.ReassocPasses
import GramModel.Lemmas.CheckDefsLaws

/-!
# Redundant parentheses at TOKEN level (C19)

Every range of a parse tree is read off the tokens of its own segment, so `SegT` survives embedding the
token array into a longer one and `( sentence )` is a sentence with the same tree up to the root's range
and `group` flag; after the parse phase nothing reads that range or flag except to copy it (`paren_program_tokens`).
The outcome of `parse` on a sentence depends only on `resView` of the three passes and `resolve` on its tree
(`parseModel_of_resView`), which reduces parentheses around an argument or operand to statements about the passes
(`paren_argument`, `paren_operand_opaque`).  `parseModel_eval`, `parseModel_errors_eval` read `parse`'s verdict off a
kernel evaluation, for examples.
-/

namespace ParenTokens
open PModel Unamb

section Shift
variable {toks : Array PTok} (pre post : Array PTok)

theorem segT_cast {A : NT} {a b a' b' : Nat} {t t' : Src} (h : SegT toks A a b t)
    (ea : a = a') (eb : b = b') (et : t = t') : SegT toks A a' b' t' := by
  subst ea; subst eb; subst et; exact h

theorem segT_shift {A : NT} {a b : Nat} {t : Src} (h : SegT toks A a b t) :
    SegT (pre ++ toks ++ post) A (a + pre.size) (b + pre.size) t := by
  rw [Nat.add_comm a, Nat.add_comm b]
  exact h.transport fun i hi => by
    have := h.le_size
    rw [Array.getElem?_append_left (by simp; omega), Array.getElem?_append_right (by omega)]
    simp

end Shift

def wrapParens (toks : Array PTok) (lp rp : PTok) : Array PTok := #[lp] ++ toks ++ #[rp]

theorem wrapParens_size (toks : Array PTok) (lp rp : PTok) :
    (wrapParens toks lp rp).size = toks.size + 2 := by
  simp [wrapParens, Array.size_append]; omega

/-- the parse tree of `( toks )`: the tree of `toks` with `group = true` and the range from the `(`
to the `)` -/
def wrapTree (toks : Array PTok) (lp rp : PTok) (t : Src) : Src :=
  .mk (rng (wrapParens toks lp rp) 0 (toks.size + 2)) true t.variant []

theorem wrapTree_variant (toks : Array PTok) (lp rp : PTok) (t : Src) :
    (wrapTree toks lp rp t).variant = t.variant := rfl

theorem segT_group_term {toks : Array PTok} {a b : Nat} {t : Src} (h : SegT toks .group a b t) :
    SegT toks .term a b t :=
  (SegT.unit (B := .group) (by decide) h : SegT toks .atom a b t).up

theorem segT_wrap {toks : Array PTok} {t : Src} (lp rp : PTok) (hl : lp.kind = .leftParen)
    (hr : rp.kind = .rightParen) (h : SegT toks .term 0 toks.size t) :
    SegT (wrapParens toks lp rp) .term 0 (wrapParens toks lp rp).size (wrapTree toks lp rp t) := by
  have hs := segT_shift #[lp] #[rp] h
  have hsz := wrapParens_size toks lp rp
  have k1 : KAt (wrapParens toks lp rp) 0 .leftParen :=
    ⟨by omega, by simpa [wrapParens] using hl⟩
  have k2 : KAt (wrapParens toks lp rp) (toks.size + 1) .rightParen := by
    refine ⟨by omega, ?_⟩
    simp only [wrapParens]
    rw [Array.getElem_append_right (by simp [Array.size_append]; omega)]
    simpa [Array.size_append, Nat.add_comm] using hr
  have hg := SegT.group k1 (segT_cast hs (by simp) (by simp) rfl) k2
  exact segT_cast (segT_group_term hg) rfl (by omega) rfl


/-- what is compared after name resolution: the resolved term's `variant` (everything but the range
of the root: all inner ranges included), the context, the hole counter, the NUMBER of errors -/
def resViewV (p : RTm × RState) : RTmV × Ctx × Nat × Nat :=
  (p.1.variant, p.2.ctx, p.2.nextHole, p.2.errors.length)

def resViewAuxV (p : (RDefs × RTm) × RState) : RTmV × Ctx × Nat × Nat :=
  (p.1.2.variant, p.2.ctx, p.2.nextHole, p.2.errors.length)

theorem resolveAux_topV (r r' : SourceRange) (g g' : Bool) (v : SrcV) (es es' : List PErr)
    (depth : Nat) (st : RState) :
    (resolveAux (.mk r' g' v es') none depth st).map resViewAuxV =
      (resolveAux (.mk r g v es) none depth st).map resViewAuxV := by
  cases v
  case var x =>
    rw [resolveAux, resolveAux]
    dsimp only
    cases st.ctx.get x <;> simp [resViewAuxV, RTm.variant]
    split <;> simp
  case parseError => rw [resolveAux, resolveAux]
  case lam x imp dom body =>
    rw [resolveAux, resolveAux]
    simp only [bind, StateT.bind, Option.map_bind, Function.comp_def]
    congr 1; funext p; congr 1; funext q
    cases p.fst <;>
      simp only [bind, StateT.bind, pure, StateT.pure, Option.map_bind, Function.comp_def, Option.map_some,
        resViewAuxV, RTm.variant, Option.bind_some]
  -- every other arm copies `r` into the root of the result and reads nothing else of `r`, `g`, `es`
  all_goals
    rw [resolveAux, resolveAux]
    simp only [bind, StateT.bind, pure, StateT.pure, Option.map_bind, Function.comp_def, Option.map_some,
      resViewAuxV, RTm.variant]

theorem resolve_topV {t t' : Src} (h : t'.variant = t.variant) (depth : Nat) (st : RState) :
    (resolve t' depth st).map resViewV = (resolve t depth st).map resViewV := by
  obtain ⟨r, g, v, es⟩ := t
  obtain ⟨r', g', v', es'⟩ := t'
  simp only [Src.variant] at h
  subst h
  have h := resolveAux_topV r r' g g' v' es es' depth st
  unfold resolve
  simp only [bind, StateT.bind, pure, StateT.pure, Option.map_bind, Function.comp_def, Option.map_some,
    resViewV]
  simpa only [Option.map_eq_bind, Function.comp_def, resViewAuxV] using h

theorem erase_of_variant {t t' : RTm} (h : t'.variant = t.variant) : t'.erase = t.erase := by
  obtain ⟨r, v⟩ := t
  obtain ⟨r', v'⟩ := t'
  simp only [RTm.variant] at h
  subst h
  cases v' <;> simp only [RTm.erase]

/-- What is compared of two outcomes of `parse`: an accepted program's resolved term up to the range
of its root node (`RTm.variant`: the whole term, inner source ranges included, without the root's
range), the NUMBER of diagnostics, a panic, the model's out-of-fuel. -/
inductive OutView
  | ok (v : RTmV)
  | errors (n : Nat)
  | panic
  | outOfFuel

def outView : ParseOutcome → OutView
  | .ok t => .ok t.variant
  | .errors es => .errors es.length
  | .panic => .panic
  | .outOfFuel => .outOfFuel

theorem finishParse_clean (toks : Array PTok) (context : List Name) (term : Src)
    (hce : collectErrors term = []) :
    finishParse toks context term toks.size =
      match RewriteMore.reassocAll term with
      | none => .panic
      | some t3 => finishResolved context t3 := by
  rw [finishParse_stages, syntaxErrors_eq_nil.2 ⟨hce, rfl⟩]; rfl

theorem finishResolved_rel (context : List Name) {u u' : Src} {r r' : RTm} {s s' : RState}
    (e' : resolve u' (initialContext context).length
      { ctx := initialContext context, errors := [], nextHole := 0 } = some (r', s'))
    (e : resolve u (initialContext context).length
      { ctx := initialContext context, errors := [], nextHole := 0 } = some (r, s))
    (hv : r'.erase = r.erase) (hc : s'.ctx = s.ctx) (hl : s'.errors.length = s.errors.length) :
    (finishResolved context u' = .ok r' ∧ finishResolved context u = .ok r) ∨
    (∃ es' es, finishResolved context u' = .errors es' ∧ finishResolved context u = .errors es ∧
      es'.length = es.length) ∨
    (finishResolved context u' = .panic ∧ finishResolved context u = .panic) ∨
    (finishResolved context u' = .outOfFuel ∧ finishResolved context u = .outOfFuel) := by
  rw [finishResolved_some e', finishResolved_some e, hc]
  rcases except_len_cases (checkDefinitions_cnt r' r s.ctx.length s'.errors s.errors hv hl) with
    ⟨f, ha, hb⟩ | ⟨f1, f2, ha, hb, hl'⟩
  · rw [ha, hb]; cases f
    · exact .inr (.inr (.inl ⟨rfl, rfl⟩))
    · exact .inr (.inr (.inr ⟨rfl, rfl⟩))
  · rw [ha, hb]
    have he : f1.isEmpty = f2.isEmpty := by
      rw [Bool.eq_iff_iff, List.isEmpty_iff_length_eq_zero, List.isEmpty_iff_length_eq_zero, hl']
    simp only [he]
    split
    · exact .inl ⟨rfl, rfl⟩
    · exact .inr (.inl ⟨_, _, rfl, rfl, hl'⟩)

theorem finishResolved_top (context : List Name) {t t' : Src} (h : t'.variant = t.variant) :
    outView (finishResolved context t') = outView (finishResolved context t) := by
  rcases RewriteMore.map_eq_map_cases (resolve_topV h (initialContext context).length
      { ctx := initialContext context, errors := [], nextHole := 0 }) with
    ⟨e', e⟩ | ⟨⟨r', s'⟩, ⟨r, s⟩, e', e, hv⟩
  · rw [finishResolved_none e', finishResolved_none e]
  · simp only [resViewV, Prod.mk.injEq] at hv
    obtain ⟨hv, hc, _, hl⟩ := hv
    rcases finishResolved_rel context e' e (erase_of_variant hv) hc hl with
      ⟨a, b⟩ | ⟨_, _, a, b, hl'⟩ | ⟨a, b⟩ | ⟨a, b⟩ <;> rw [a, b] <;> simp only [outView, hv]
    rw [hl']

theorem finishParse_top (toks toks' : Array PTok) (context : List Name) {t t' : Src}
    (h : t'.variant = t.variant) (hce : collectErrors t = []) (hce' : collectErrors t' = []) :
    outView (finishParse toks' context t' toks'.size) =
      outView (finishParse toks context t toks.size) := by
  rw [finishParse_clean toks' context t' hce', finishParse_clean toks context t hce]
  rcases RewriteMore.map_eq_map_cases (RewriteMore.reassocAll_top h) with
    ⟨e', e⟩ | ⟨u', u, e', e, h1⟩ <;> rw [e', e]
  exact finishResolved_top context h1

theorem parseModel_sentence {toks : Array PTok} {t : Src} (h : SegT toks .term 0 toks.size t)
    (context : List Name) : parseModel toks context = finishParse toks context t toks.size := by
  obtain ⟨r, st, hr, ht, hn, _, _⟩ := parse_complete h
  unfold parseModel
  rw [hr]
  simp only [ht, hn]

theorem paren_program_tokens {toks : Array PTok} {t : Src} (lp rp : PTok)
    (hl : lp.kind = .leftParen) (hr : rp.kind = .rightParen)
    (h : SegT toks .term 0 toks.size t) (context : List Name) :
    outView (parseModel (wrapParens toks lp rp) context) = outView (parseModel toks context) := by
  have h' := segT_wrap lp rp hl hr h
  rw [parseModel_sentence h' context, parseModel_sentence h context]
  exact finishParse_top toks (wrapParens toks lp rp) context (wrapTree_variant toks lp rp t)
    (ce_segT h) (ce_segT h')

theorem outView_ok {o : ParseOutcome} {v : RTmV} (h : outView o = .ok v) :
    ∃ r, o = .ok r ∧ r.variant = v := by
  cases o <;> simp only [outView, OutView.ok.injEq, reduceCtorEq] at h
  exact ⟨_, rfl, h⟩

theorem outView_errors {o : ParseOutcome} {n : Nat} (h : outView o = .errors n) :
    ∃ es, o = .errors es ∧ es.length = n := by
  cases o <;> simp only [outView, OutView.errors.injEq, reduceCtorEq] at h
  exact ⟨_, rfl, h⟩

theorem paren_program_tokens_accepted {toks : Array PTok} (lp rp : PTok)
    (hl : lp.kind = .leftParen) (hr : rp.kind = .rightParen)
    (hacc : ∃ r st, runParser toks = some (r, st) ∧ r.next = toks.size ∧ collectErrors r.term = [])
    (context : List Name) :
    (∃ r st, runParser (wrapParens toks lp rp) = some (r, st) ∧
      r.next = (wrapParens toks lp rp).size ∧ collectErrors r.term = []) ∧
    outView (parseModel (wrapParens toks lp rp) context) = outView (parseModel toks context) := by
  obtain ⟨r, st, h1, hn, hce⟩ := hacc
  have h := runParser_spans h1 hce
  rw [hn] at h
  obtain ⟨r', st', h1', _, hn', hce', _⟩ := parse_complete (segT_wrap lp rp hl hr h)
  exact ⟨⟨r', st', h1', hn', hce'⟩, paren_program_tokens lp rp hl hr h context⟩

theorem paren_program_tokens_plain {toks : Array PTok} {t : Src} (lp rp : PTok)
    (hl : lp.kind = .leftParen) (hr : rp.kind = .rightParen)
    (h : SegT toks .term 0 toks.size t) (context : List Name) :
    (∀ r, parseModel toks context = .ok r →
      ∃ r', parseModel (wrapParens toks lp rp) context = .ok r' ∧ r'.variant = r.variant ∧
        r'.erase = r.erase) ∧
    (∀ r', parseModel (wrapParens toks lp rp) context = .ok r' →
      ∃ r, parseModel toks context = .ok r ∧ r'.variant = r.variant ∧ r'.erase = r.erase) ∧
    (∀ es, parseModel toks context = .errors es →
      ∃ es', parseModel (wrapParens toks lp rp) context = .errors es' ∧ es'.length = es.length) ∧
    (∀ es', parseModel (wrapParens toks lp rp) context = .errors es' →
      ∃ es, parseModel toks context = .errors es ∧ es'.length = es.length) ∧
    (parseModel (wrapParens toks lp rp) context = .panic ↔ parseModel toks context = .panic) ∧
    (parseModel (wrapParens toks lp rp) context = .outOfFuel ↔
      parseModel toks context = .outOfFuel) := by
  have e := paren_program_tokens lp rp hl hr h context
  refine ⟨?_, ?_, ?_, ?_, ?_, ?_⟩
  · intro r hr0
    rw [hr0] at e
    obtain ⟨r', h1, h2⟩ := outView_ok e
    exact ⟨r', h1, h2, erase_of_variant h2⟩
  · intro r' hr0
    rw [hr0] at e
    obtain ⟨r, h1, h2⟩ := outView_ok e.symm
    exact ⟨r, h1, h2.symm, erase_of_variant h2.symm⟩
  · intro es hr0
    rw [hr0] at e
    exact outView_errors e
  · intro es' hr0
    rw [hr0] at e
    obtain ⟨es, h1, h2⟩ := outView_errors e.symm
    exact ⟨es, h1, h2.symm⟩
  · constructor <;> intro hp <;> rw [hp] at e
    · cases ho : parseModel toks context <;> rw [ho] at e <;> simp [outView] at e
    · cases ho : parseModel (wrapParens toks lp rp) context <;> rw [ho] at e <;> simp [outView] at e
  · constructor <;> intro hp <;> rw [hp] at e
    · cases ho : parseModel toks context <;> rw [ho] at e <;> simp [outView] at e
    · cases ho : parseModel (wrapParens toks lp rp) context <;> rw [ho] at e <;> simp [outView] at e

def okErase : ParseOutcome → Option Tm
  | .ok t => some t.erase
  | _ => none

/-- read `parse`'s verdict off a kernel evaluation of the cache-free parser -/
theorem parseModel_eval (toks : Array PTok) (fuel : Nat) (context : List Name) (v : Tm)
    (h : (parsePure toks fuel .term 0 PState.init).map
      (fun p => (okErase (finishParse toks context p.1.term p.1.next), p.1.next,
        collectErrors p.1.term)) = some (some v, toks.size, [])) :
    (∃ r, parseModel toks context = .ok r ∧ r.erase = v) ∧
      ∃ t, SegT toks .term 0 toks.size t := by
  obtain ⟨r, st, hr, ho⟩ := runParser_eval toks fuel
    (fun r => (okErase (finishParse toks context r.term r.next), r.next, collectErrors r.term)) _ h
  simp only [Prod.mk.injEq] at ho
  obtain ⟨h1, h2, h3⟩ := ho
  have hs := runParser_spans hr h3
  rw [h2] at hs
  refine ⟨?_, _, hs⟩
  unfold parseModel
  rw [hr]
  simp only
  cases hf : finishParse toks context r.term r.next <;> rw [hf] at h1 <;>
    simp only [okErase, Option.some.injEq, reduceCtorEq] at h1
  exact ⟨_, rfl, h1⟩

def errCount : ParseOutcome → Option Nat
  | .errors es => some es.length
  | _ => none

theorem parseModel_errors_eval (toks : Array PTok) (fuel : Nat) (context : List Name) (n : Nat)
    (h : (parsePure toks fuel .term 0 PState.init).map
      (fun p => errCount (finishParse toks context p.1.term p.1.next)) = some (some n)) :
    ∃ es, parseModel toks context = .errors es ∧ es.length = n := by
  obtain ⟨r, st, hr, ho⟩ := runParser_eval toks fuel
    (fun r => errCount (finishParse toks context r.term r.next)) _ h
  unfold parseModel
  rw [hr]
  simp only
  cases hf : finishParse toks context r.term r.next <;> rw [hf] at ho <;>
    simp only [errCount, Option.some.injEq, reduceCtorEq] at ho
  exact ⟨_, rfl, ho⟩


/-! The front-end outcome of a sentence only depends on `resView` of re-association + resolution.  This reduces every token-level rewrite statement ("the two token arrays are sentences with trees `t`,
`t'`") to the statement about the three passes and `resolve` on the two trees. -/

/-- the outcome of `parse` up to source ranges: the de Bruijn term, the NUMBER of diagnostics (forgets more than `OutView`,
which keeps the inner ranges of an accepted term) -/
inductive OutE
  | ok (t : Tm)
  | errors (n : Nat)
  | panic
  | outOfFuel
deriving DecidableEq

def outE : ParseOutcome → OutE
  | .ok t => .ok t.erase
  | .errors es => .errors es.length
  | .panic => .panic
  | .outOfFuel => .outOfFuel

def st0 (context : List Name) : RState := { ctx := initialContext context, errors := [], nextHole := 0 }

theorem finishResolved_resView (context : List Name) {u u' : Src}
    (h : (resolve u' (initialContext context).length (st0 context)).map RewriteMore.resView =
      (resolve u (initialContext context).length (st0 context)).map RewriteMore.resView) :
    outE (finishResolved context u') = outE (finishResolved context u) := by
  rcases RewriteMore.map_eq_map_cases h with ⟨e', e⟩ | ⟨⟨r', s'⟩, ⟨r, s⟩, e', e, hv⟩
  · rw [finishResolved_none e', finishResolved_none e]
  · simp only [RewriteMore.resView, Prod.mk.injEq] at hv
    obtain ⟨hv, hc, _, hl⟩ := hv
    rcases finishResolved_rel context e' e hv hc hl with
      ⟨a, b⟩ | ⟨_, _, a, b, hl'⟩ | ⟨a, b⟩ | ⟨a, b⟩ <;> rw [a, b] <;> simp only [outE, hv]
    rw [hl']

theorem parseModel_of_resView {toks toks' : Array PTok} {t t' : Src} (context : List Name)
    (h : SegT toks .term 0 toks.size t) (h' : SegT toks' .term 0 toks'.size t')
    (hr : (RewriteMore.reassocResolve t' (initialContext context).length (st0 context)).map
        RewriteMore.resView =
      (RewriteMore.reassocResolve t (initialContext context).length (st0 context)).map
        RewriteMore.resView) :
    outE (parseModel toks' context) = outE (parseModel toks context) := by
  rw [parseModel_sentence h' context, parseModel_sentence h context,
    finishParse_clean toks' context t' (ce_segT h'), finishParse_clean toks context t (ce_segT h)]
  unfold RewriteMore.reassocResolve at hr
  cases e' : RewriteMore.reassocAll t' <;> cases e : RewriteMore.reassocAll t <;>
    simp only [e', e] at hr ⊢
  · exact congrArg outE (finishResolved_none (Option.map_eq_none_iff.mp hr.symm)).symm
  · exact congrArg outE (finishResolved_none (Option.map_eq_none_iff.mp hr))
  · exact finishResolved_resView context hr

/-- the token array with the segment `[a, b)` put in parentheses (two more tokens) -/
def spliceParens (toks : Array PTok) (a b : Nat) (lp rp : PTok) : Array PTok :=
  toks.extract 0 a ++ #[lp] ++ toks.extract a b ++ #[rp] ++ toks.extract b toks.size

/-! Parentheses around an argument or operand: instances of `RewriteMore.paren_chain_operand`.
`RewriteMore.paren_operand` (`C19_paren_operand`) is the instance for a binary-operator node with a kept
right operand; here the `Application` arm of `reassociate_applications` (`f x` against `f (x)`), and any
operand the pass does not enter with its accumulator: atoms, nodes outside the family
(`opaque_nonfam`), parenthesised chains.  E.g. `a + f x` against `a + (f x)` in the sums pass. -/

section Operand
open RewriteMore

theorem build_app (a b : Src) : Link.app.build a b = .app a b := rfl

theorem paren_argument (acc : Option (Src × Link)) (r : SourceRange) (g : Bool)
    (f a a' : Src) (es : List PErr) (ha : Kept .applications a) (ha' : Kept .applications a')
    (hs : strip a' = strip a) (hf : Opaque .applications f) :
    (reassoc .applications acc (.mk r g (.app f a') es)).map strip =
      (reassoc .applications acc (.mk r g (.app f a) es)).map strip := by
  rw [reassoc_app, reassoc_app, if_pos rfl, if_pos rfl]
  exact paren_chain_operand _ _ acc r g f a a' (opaque_of_kept ha) (opaque_of_kept ha')
    (kept_strip ha ha' hs) hf

theorem opaque_grouped_app (r : SourceRange) (f a : Src) (es : List PErr) :
    Opaque .applications (.mk r true (.app f a) es) :=
  PModel.opaque_of _ r true _ es (Or.inl rfl)

def famNode (fam : Family) : SrcV → Bool
  | .app _ _ => decide (fam = .applications)
  | .bin o _ _ => decide ((fam = .productsAndQuotients ∧ (o = .prod ∨ o = .quot))
      ∨ (fam = .sumsAndDifferences ∧ (o = .sum ∨ o = .diff)))
  | _ => false

theorem inFam_eq_famNode (fam : Family) (v : SrcV) : PModel.inFam fam v = famNode fam v := by
  cases v <;> rfl

theorem opaque_nonfam (fam : Family) (r : SourceRange) (g : Bool) (v : SrcV) (es : List PErr)
    (h : famNode fam v = false) : Opaque fam (.mk r g v es) :=
  PModel.opaque_of fam r g v es (Or.inr ((inFam_eq_famNode fam v).trans h))

theorem paren_operand_opaque (fam : Family) (acc : Option (Src × Link)) (r : SourceRange) (g : Bool)
    (o : BinOp) (a b b' : Src) (es : List PErr)
    (ho : (fam = .productsAndQuotients ∧ (o = .prod ∨ o = .quot))
        ∨ (fam = .sumsAndDifferences ∧ (o = .sum ∨ o = .diff)))
    (hb : Opaque fam b) (hb' : Opaque fam b')
    (hs : (reassoc fam none b').map strip = (reassoc fam none b).map strip) (ha : Opaque fam a) :
    (reassoc fam acc (.mk r g (.bin o a b') es)).map strip =
      (reassoc fam acc (.mk r g (.bin o a b) es)).map strip := by
  rw [reassoc_bin, reassoc_bin, if_pos ho, if_pos ho]
  exact paren_chain_operand fam _ acc r g a b b' hb hb' hs ha

end Operand

end ParenTokens
