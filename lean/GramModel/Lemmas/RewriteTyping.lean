import GramModel.Lemmas.Natural
import GramModel.Lemmas.Fuel
import GramModel.Lemmas.TypingSound

/-!
# Typing facts behind the C19 rewrites

* the syntactic shortcut of `convX`; lifting commutes with `eraseX`, `sameX`, `delta`;
* **weakening** of the independent checker: inserting one entry into both contexts at depth `k`
  (entries in front of it lifted accordingly) and lifting the term at cutoff `k` lifts the answer of
  `whnfX`, keeps a positive answer of `convX`, and lifts the type computed by `inferX`.  This needs the offsets of the
  entries behind the insertion point to be in range (`off ≤ i + 1`), which is what the relations `WkD` / `WkT` record;
* the three typing rewrites: `if true then e else e`, the annotated identity applied to `e`, a definition nothing
  refers to put in front of a term (the verdict is the same, the type is the old one under the group:
  `RewriteMore.name_conv_gen` unfolds it away).

`Act.NameBlind` and its three instances are declared into the root namespace `Act`.
-/

namespace RewriteTyping
open WhnfLemmas OracleLemmas FuelLemmas TypingSound

theorem convX_same {f : Nat} {Δ : DCtxX} {a b : Tm} (h : sameX a b = true) :
    convX (f+1) Δ a b = some true := by
  unfold convX; simp [h]

theorem expectX_same {f : Nat} {Δ : DCtxX} {a b : Tm} {e : XErr} (h : sameX a b = true) :
    expectX (f+1) Δ a b e = .ok () := by
  unfold expectX; rw [convX_same h]

theorem isTypeX_type (f : Nat) (Δ : DCtxX) : isTypeX (f+1) Δ .type = .ok () := by
  unfold isTypeX; rw [convX_same (sameX_refl _)]

theorem eraseX_ushift (t : Tm) (c a : Nat) : eraseX (ushift c a t) = ushift c a (eraseX t) := by
  simp only [eraseX_eq_relab]; exact t.relab_ushift _ c a

theorem eraseDefsX_ushift (ds : Defs) (c a : Nat) :
    eraseDefsX (ushiftDefs c a ds) = ushiftDefs c a (eraseDefsX ds) := by
  simp only [eraseDefsX_eq_relab]; exact ds.relab_ushiftDefs _ c a

/-- what `F` does to a variable, names forgotten -/
def eraseAct (F : Act) : Act :=
  ⟨fun n _ i => eraseX (F.var n 0 i), fun n id s => eraseX (F.hole n id s)⟩

/-- what `F` puts for a variable depends on the variable's name at most by copying it -/
def _root_.Act.NameBlind (F : Act) : Prop :=
  ∀ n x y i, F.var n x i = F.var n y i ∨ ∃ j, F.var n x i = .var x j ∧ F.var n y i = .var y j

theorem _root_.Act.lift_nameBlind (k m : Nat) : (Act.lift k m).NameBlind := fun _ _ _ _ => .inr ⟨_, rfl, rfl⟩
theorem _root_.Act.id_nameBlind : Act.id.NameBlind := fun _ _ _ _ => .inr ⟨_, rfl, rfl⟩
theorem _root_.Act.subst_nameBlind (k : Nat) (v : Tm) (s : Nat) : (Act.subst k v s).NameBlind := by
  intro n x y i
  by_cases h : i = k + n
  · rw [h, Act.subst_var_self, Act.subst_var_self]; exact .inl rfl
  · rw [Act.subst_var_ne h, Act.subst_var_ne h]; exact .inr ⟨_, rfl, rfl⟩

theorem _root_.Act.NameBlind.eraseX_var {F : Act} (hF : F.NameBlind) (n : Nat) (x : Name) (i : Nat) :
    (F.var n x i).relab .eraseX = (eraseAct F).var n 0 i := by
  show _ = eraseX (F.var n 0 i)
  rw [eraseX_eq_relab]
  rcases hF n x 0 i with e | ⟨j, e1, e2⟩
  · rw [e]
  · rw [e1, e2]; rfl

theorem sameX_trav {F : Act} (hF : F.NameBlind) {a b : Tm} (h : sameX a b = true) (n : Nat) :
    sameX (a.trav F n) (b.trav F n) = true := by
  have hh : ∀ n id s, (F.hole n id s).relab .eraseX = (Relab.eraseX.onHole id s).trav (eraseAct F) n :=
    fun n id s => (eraseX_eq_relab _).symm
  rw [sameX_iff, eraseX_eq_relab, eraseX_eq_relab] at h ⊢
  rw [a.relab_trav _ hF.eraseX_var hh, b.relab_trav _ hF.eraseX_var hh, h]

theorem sameX_ushift {a b : Tm} (c n : Nat) (h : sameX a b = true) :
    sameX (ushift c n a) (ushift c n b) = true := by
  rw [sameX_iff] at h ⊢
  rw [eraseX_ushift, eraseX_ushift, h]

theorem delta_ushift {op : BinOp} {x y : Int} {r : Tm} (h : delta op x y = some r) (c a : Nat) :
    ushift c a r = r := by
  rw [ushift_eq_trav]; exact delta_trav h _ _

theorem letAllX_wk : ∀ (f : Nat) (ds : Defs) (body b : Tm) (k : Nat), ds.holeFree = true →
    body.holeFree = true → letAllX f ds body = some b →
    letAllX f (ushiftDefs (k + ds.len) 1 ds) (ushift (k + ds.len) 1 body) = some (ushift k 1 b)
  | 0, _, _, _, _, _, _, h => by simp [letAllX] at h
  | f+1, .nil, body, b, k, _, _, h => by
      simp only [letAllX] at h
      cases h
      simp [letAllX, ushiftDefs]
  | f+1, .cons x a d rest, body, b, k, hds, hb, h => by
      simp only [Defs.holeFree, Bool.and_eq_true] at hds
      simp only [letAllX, letStepX] at h
      have hu := unfoldDef_holeFree x a d rest.len hds.1.1 hds.1.2
      have ih := letAllX_wk f _ _ b k (openDefs_holeFree _ _ _ _ hds.2 hu)
        (openT_holeFree _ _ _ _ hb hu) h
      rw [openDefs_len] at ih
      have e0 : k + (Defs.cons x a d rest).len = (k + rest.len) + 1 := by
        simp only [Defs.len_cons]; omega
      rw [e0]
      simp only [ushiftDefs, letAllX, letStepX, ushiftDefs_len]
      rw [← unfoldDef_ushift x a d rest.len (k + rest.len) 1 hds.1.1 hds.1.2 (by omega)]
      have e1 := open_ushift_high body (unfoldDef x a d rest.len) rest.len (k + rest.len) 1 0 hb
        (by omega)
      have e2 := openDefs_ushiftDefs_high rest (unfoldDef x a d rest.len) rest.len (k + rest.len) 1 0
        hds.2 (by omega)
      rw [Nat.sub_zero] at e1 e2
      rw [← e1, ← e2]
      exact ih


/-- the entry at position `i < k`, after an insertion at depth `k`: its term lives `i + 1 - off`
entries further out, so the insertion point is at depth `k - (i + 1 - off)` there -/
def wkE (k i : Nat) (p : Tm × Nat) : Tm × Nat := (ushift (k + p.2 - (i + 1)) 1 p.1, p.2)

/-- `Δ'` is `Δ` with one entry inserted at depth `k` -/
structure WkD (k : Nat) (Δ Δ' : DCtxX) : Prop where
  lo : ∀ i e, i < k → Δ[i]? = some e → Δ'[i]? = some (e.map (wkE k i))
  hi : ∀ i e, k ≤ i → Δ[i]? = some e →
    Δ'[i+1]? = some e ∧ ∀ d off, e = some (d, off) → k + off ≤ i + 1

/-- the same for the typing context -/
structure WkT (k : Nat) (Γ Γ' : TCtxX) : Prop where
  lo : ∀ i p, i < k → Γ[i]? = some p → Γ'[i]? = some (wkE k i p)
  hi : ∀ i p, k ≤ i → Γ[i]? = some p → Γ'[i+1]? = some p ∧ k + p.2 ≤ i + 1

theorem WkD.zero {Δ : DCtxX} (x : Option (Tm × Nat))
    (wf : ∀ i d off, Δ[i]? = some (some (d, off)) → off ≤ i + 1) : WkD 0 Δ (x :: Δ) := by
  refine ⟨fun i e h => by omega, fun i e _ h => ⟨by simpa using h, ?_⟩⟩
  intro d off he; subst he
  have := wf i d off h; omega

theorem WkT.zero {Γ : TCtxX} (x : Tm × Nat)
    (wf : ∀ i ty off, Γ[i]? = some (ty, off) → off ≤ i + 1) : WkT 0 Γ (x :: Γ) := by
  refine ⟨fun i e h => by omega, fun i p _ h => ⟨by simpa using h, ?_⟩⟩
  have := wf i p.1 p.2 h; omega

theorem WkD.cons {k : Nat} {Δ Δ' : DCtxX} (h : WkD k Δ Δ') (e : Option (Tm × Nat)) :
    WkD (k+1) (e :: Δ) (e.map (wkE (k+1) 0) :: Δ') := by
  constructor
  · intro i e' hi hg
    cases i with
    | zero => simp at hg ⊢; subst hg; rfl
    | succ i =>
      simp only [List.getElem?_cons_succ] at hg ⊢
      rw [h.lo i e' (by omega) hg]
      congr 2
      funext p
      simp only [wkE]
      congr 2
      omega
  · intro i e' hi hg
    cases i with
    | zero => omega
    | succ i =>
      simp only [List.getElem?_cons_succ] at hg ⊢
      obtain ⟨h1, h2⟩ := h.hi i e' (by omega) hg
      refine ⟨h1, fun d off he => ?_⟩
      have := h2 d off he; omega

theorem WkD.none {k : Nat} {Δ Δ' : DCtxX} (h : WkD k Δ Δ') :
    WkD (k+1) (Option.none :: Δ) (Option.none :: Δ') := h.cons Option.none

theorem WkD.some {k : Nat} {Δ Δ' : DCtxX} (h : WkD k Δ Δ') (d : Tm) (m : Nat) :
    WkD (k+1) (Option.some (d, m) :: Δ) (Option.some (ushift (k + m) 1 d, m) :: Δ') := by
  have := h.cons (Option.some (d, m))
  simp only [Option.map_some, wkE] at this
  rw [show k + 1 + m - (0 + 1) = k + m by omega] at this
  exact this

theorem WkT.cons {k : Nat} {Γ Γ' : TCtxX} (h : WkT k Γ Γ') (d : Tm) (m : Nat) :
    WkT (k+1) ((d, m) :: Γ) ((ushift (k + m) 1 d, m) :: Γ') := by
  constructor
  · intro i p hi hg
    cases i with
    | zero =>
      simp at hg ⊢; subst hg
      simp only [wkE]
      rw [show k + 1 + m - 1 = k + m by omega]
    | succ i =>
      simp only [List.getElem?_cons_succ] at hg ⊢
      rw [h.lo i p (by omega) hg]
      simp only [wkE]
      congr 3
      omega
  · intro i p hi hg
    cases i with
    | zero => omega
    | succ i =>
      simp only [List.getElem?_cons_succ] at hg ⊢
      obtain ⟨h1, h2⟩ := h.hi i p (by omega) hg
      exact ⟨h1, by omega⟩

theorem pushGroupX_go_wk : ∀ (ds : Defs) (m k : Nat) (Γ Γ' : TCtxX) (Δ Δ' : DCtxX), ds.len ≤ m →
    WkT k Γ Γ' → WkD k Δ Δ' →
    WkT (k + ds.len) (pushGroupX.go ds m (Γ, Δ)).1
      (pushGroupX.go (ushiftDefs (k + m) 1 ds) m (Γ', Δ')).1 ∧
    WkD (k + ds.len) (pushGroupX.go ds m (Γ, Δ)).2
      (pushGroupX.go (ushiftDefs (k + m) 1 ds) m (Γ', Δ')).2
  | .nil, m, k, Γ, Γ', Δ, Δ', _, hT, hD => by
      simp only [pushGroupX.go, ushiftDefs, Defs.len_nil, Nat.add_zero]; exact ⟨hT, hD⟩
  | .cons x a d r, m, k, Γ, Γ', Δ, Δ', hm, hT, hD => by
      simp only [Defs.len_cons] at hm
      simp only [pushGroupX.go, ushiftDefs, Defs.len_cons]
      have ih := pushGroupX_go_wk r (m - 1) (k + 1) _ _ _ _ (by omega) (hT.cons a m) (hD.some d m)
      rw [show k + 1 + (m - 1) = k + m by omega, show k + 1 + r.len = k + (r.len + 1) by omega] at ih
      exact ih

theorem pushGroupX_wk (ds : Defs) (n k : Nat) (Γ Γ' : TCtxX) (Δ Δ' : DCtxX)
    (hT : WkT k Γ Γ') (hD : WkD k Δ Δ') :
    WkT (k + ds.len) (pushGroupX ds n (Γ, Δ)).1
      (pushGroupX (ushiftDefs (k + ds.len) 1 ds) n (Γ', Δ')).1 ∧
    WkD (k + ds.len) (pushGroupX ds n (Γ, Δ)).2
      (pushGroupX (ushiftDefs (k + ds.len) 1 ds) n (Γ', Δ')).2 := by
  unfold pushGroupX
  rw [ushiftDefs_len]
  exact pushGroupX_go_wk ds ds.len k Γ Γ' Δ Δ' (Nat.le_refl _) hT hD


theorem ushift_eq_lit {c a : Nat} {t : Tm} {n : Int} (h : ushift c a t = .lit n) : t = .lit n := by
  cases t <;> simp only [ushift] at h <;> first | exact h | (cases h; done) | (split at h <;> cases h)

theorem ushift_eq_lam {c a : Nat} {t : Tm} {x : Name} {im : Bool} {d b : Tm} (h : ushift c a t = .lam x im d b) :
    ∃ d' b', t = .lam x im d' b' := by
  cases t <;> simp only [ushift] at h <;>
    first | (cases h; exact ⟨_, _, rfl⟩) | (cases h; done) | (split at h <;> cases h)

theorem ushift_eq_bool {c a : Nat} {t v : Tm} (hv : v = .tt ∨ v = .ff) (h : ushift c a t = v) : t = v := by
  rcases hv with rfl | rfl <;> cases t <;> simp only [ushift] at h <;>
    first | rfl | (cases h; done) | (split at h <;> cases h)

theorem whnfX_wk : ∀ (f k : Nat) (Δ Δ' : DCtxX) (t r : Tm), WkD k Δ Δ' → DHF Δ →
    t.holeFree = true → whnfX f Δ t = some r → whnfX f Δ' (ushift k 1 t) = some (ushift k 1 r)
  | 0, _, _, _, _, _, _, _, _, h => by cases h
  | f+1, k, Δ, Δ', .var x i, r, hW, hD, _, h => by
      rcases whnfX_var_some.1 h with ⟨hg, rfl⟩ | ⟨d, off, hg, hlt, h⟩
      · by_cases hik : i < k
        · simp only [ushift, if_neg (show ¬ (i ≥ k) by omega)]
          exact whnfX_var_some.2 (.inl ⟨by rw [hW.lo i _ hik hg]; rfl, rfl⟩)
        · simp only [ushift, if_pos (show i ≥ k by omega)]
          exact whnfX_var_some.2 (.inl ⟨(hW.hi i _ (by omega) hg).1, rfl⟩)
      · have hd : d.holeFree = true := hD.get hg
        have ih' := whnfX_wk f k Δ Δ' _ r hW hD (by rw [holeFree_ushift]; exact hd) h
        by_cases hik : i < k
        · simp only [ushift, if_neg (show ¬ (i ≥ k) by omega)]
          refine whnfX_var_some.2 (.inr ⟨_, off, by rw [hW.lo i _ hik hg]; rfl, hlt, ?_⟩)
          rw [ushift_comm d 0 (k + off - (i + 1)) (i + 1 - off) 1 (Nat.zero_le _),
            show k + off - (i + 1) + (i + 1 - off) = k by omega]
          exact ih'
        · obtain ⟨h1, h2⟩ := hW.hi i _ (by omega) hg
          have h3 := h2 d off rfl
          simp only [ushift, if_pos (show i ≥ k by omega)]
          refine whnfX_var_some.2 (.inr ⟨d, off, h1, by omega, ?_⟩)
          rw [ushift_ushift_mid d k 0 1 (i + 1 - off) (Nat.zero_le _) (by omega)] at ih'
          rw [show i + 1 + 1 - off = 1 + (i + 1 - off) by omega]
          exact ih'
  | f+1, k, Δ, Δ', .app g a, r, hW, hD, ht, h => by
      simp only [Tm.holeFree, Bool.and_eq_true] at ht
      obtain ⟨g', hg, hr⟩ := whnfX_app_some.1 h
      refine whnfX_app_some.2 ⟨_, whnfX_wk f k Δ Δ' g g' hW hD ht.1 hg, ?_⟩
      rcases hr with ⟨x, im, d, body, rfl, h⟩ | ⟨hn, rfl⟩
      · have hg'f := whnfX_holeFree hg hD ht.1
        simp only [Tm.holeFree, Bool.and_eq_true] at hg'f
        have := whnfX_wk f k Δ Δ' _ r hW hD (openT_holeFree _ _ _ _ hg'f.2 ht.2) h
        rw [open_ushift_high body a 0 k 1 0 hg'f.2 (Nat.zero_le _), Nat.sub_zero] at this
        exact .inl ⟨_, _, _, _, rfl, this⟩
      · exact .inr ⟨fun x im d body e => have ⟨_, _, e'⟩ := ushift_eq_lam e; hn _ _ _ _ e', rfl⟩
  | f+1, k, Δ, Δ', .letg ds b, r, hW, hD, ht, h => by
      simp only [Tm.holeFree, Bool.and_eq_true] at ht
      obtain ⟨b', hg, h⟩ := whnfX_letg_some.1 h
      exact whnfX_letg_some.2 ⟨_, letAllX_wk (f+1) ds b b' k ht.1 ht.2 hg,
        whnfX_wk f k Δ Δ' b' r hW hD (letAllX_holeFree _ _ _ _ hg ht.1 ht.2) h⟩
  | f+1, k, Δ, Δ', .neg a, r, hW, hD, ht, h => by
      simp only [Tm.holeFree] at ht
      obtain ⟨a', hg, hr⟩ := whnfX_neg_some.1 h
      refine whnfX_neg_some.2 ⟨_, whnfX_wk f k Δ Δ' a a' hW hD ht hg, ?_⟩
      rcases hr with ⟨n, rfl, rfl⟩ | ⟨hn, rfl⟩
      · exact .inl ⟨n, rfl, rfl⟩
      · exact .inr ⟨fun n e => hn n (ushift_eq_lit e), rfl⟩
  | f+1, k, Δ, Δ', .bin op a b, r, hW, hD, ht, h => by
      simp only [Tm.holeFree, Bool.and_eq_true] at ht
      obtain ⟨a', b', ha, hb, hr⟩ := whnfX_bin_some.1 h
      refine whnfX_bin_some.2 ⟨_, _, whnfX_wk f k Δ Δ' a a' hW hD ht.1 ha, whnfX_wk f k Δ Δ' b b' hW hD ht.2 hb, ?_⟩
      rcases hr with ⟨x, y, rfl, rfl, hd⟩ | ⟨hn, rfl⟩
      · exact .inl ⟨x, y, rfl, rfl, by rw [delta_ushift hd]; exact hd⟩
      · exact .inr ⟨fun x y e1 e2 => hn x y (ushift_eq_lit e1) (ushift_eq_lit e2), rfl⟩
  | f+1, k, Δ, Δ', .ite c a b, r, hW, hD, ht, h => by
      simp only [Tm.holeFree, Bool.and_eq_true] at ht
      obtain ⟨c', hg, hr⟩ := whnfX_ite_some.1 h
      refine whnfX_ite_some.2 ⟨_, whnfX_wk f k Δ Δ' c c' hW hD ht.1.1 hg, ?_⟩
      rcases hr with ⟨rfl, h⟩ | ⟨rfl, h⟩ | ⟨h1, h2, rfl⟩
      · exact .inl ⟨rfl, whnfX_wk f k Δ Δ' a r hW hD ht.1.2 h⟩
      · exact .inr (.inl ⟨rfl, whnfX_wk f k Δ Δ' b r hW hD ht.2 h⟩)
      · exact .inr (.inr ⟨fun e => h1 (ushift_eq_bool (.inl rfl) e), fun e => h2 (ushift_eq_bool (.inr rfl) e), rfl⟩)
  | _+1, _, _, _, .hole .., _, _, _, ht, _ => by cases ht
  | _+1, _, _, _, .type, _, _, _, _, h | _+1, _, _, _, .int, _, _, _, _, h
  | _+1, _, _, _, .bool, _, _, _, _, h | _+1, _, _, _, .tt, _, _, _, _, h
  | _+1, _, _, _, .ff, _, _, _, _, h | _+1, _, _, _, .lit _, _, _, _, _, h
  | _+1, _, _, _, .lam .., _, _, _, _, h | _+1, _, _, _, .pi .., _, _, _, _, h => by cases h; rfl

theorem convX_wk : ∀ (f k : Nat) (Δ Δ' : DCtxX) (a b : Tm), WkD k Δ Δ' → DHF Δ →
    a.holeFree = true → b.holeFree = true → convX f Δ a b = some true →
    convX f Δ' (ushift k 1 a) (ushift k 1 b) = some true
  | 0, _, _, _, _, _, _, _, _, _, h => by cases h
  | f+1, k, Δ, Δ', a, b, hW, hD, ha, hb, h => by
    have ih := convX_wk f
    rcases convX_some.1 h with ⟨hs, -⟩ | ⟨-, wa, wb, hwa, hwb, h⟩
    · exact convX_some.2 (.inl ⟨sameX_ushift k 1 hs, rfl⟩)
    cases hs' : sameX (ushift k 1 a) (ushift k 1 b)
    case true => exact convX_some.2 (.inl ⟨hs', rfl⟩)
    refine convX_some.2 (.inr ⟨hs', _, _, whnfX_wk f k Δ Δ' a wa hW hD ha hwa, whnfX_wk f k Δ Δ' b wb hW hD hb hwb, ?_⟩)
    have hfa := whnfX_holeFree hwa hD ha
    have hfb := whnfX_holeFree hwb hD hb
    simp only [convHead] at h ⊢
    -- one case per arm of `convHead`; the last arm answers `some false`
    split at h
    case h_1 => exact Bool.noConfusion hfa  -- a hole on the left
    case h_2 => exact Bool.noConfusion hfb  -- a hole on the right
    case h_3 | h_4 | h_5 | h_6 | h_7 | h_8 => exact h  -- equal constants, two literals
    case h_9 x i y j =>  -- variables
      simp only [Option.some.injEq, beq_iff_eq] at h
      subst h
      simp only [ushift]
      by_cases hj : i ≥ k <;> simp only [hj, if_true, if_false, beq_self_eq_true]
    case h_10 x1 i1 d1 b1 x2 i2 d2 b2 =>  -- λ
      simp only [Tm.holeFree, Bool.and_eq_true] at hfa hfb
      obtain ⟨him, hc⟩ := guard_eq_true.1 h
      exact guard_eq_true.2 ⟨him, ih (k+1) _ _ _ _ hW.none (DHF.push hD) hfa.2 hfb.2 hc⟩
    case h_11 x1 i1 d1 c1 x2 i2 d2 c2 =>  -- Π
      simp only [Tm.holeFree, Bool.and_eq_true] at hfa hfb
      obtain ⟨him, hc⟩ := guard_eq_true.1 h
      obtain ⟨h1, h2⟩ := seq_eq_true.1 hc
      exact guard_eq_true.2 ⟨him, seq_eq_true.2 ⟨ih k _ _ _ _ hW hD hfa.1 hfb.1 h1,
        ih (k+1) _ _ _ _ hW.none (DHF.push hD) hfa.2 hfb.2 h2⟩⟩
    case h_12 f1 a1 f2 a2 =>  -- application
      simp only [Tm.holeFree, Bool.and_eq_true] at hfa hfb
      obtain ⟨h1, h2⟩ := seq_eq_true.1 h
      exact seq_eq_true.2 ⟨ih k _ _ _ _ hW hD hfa.1 hfb.1 h1, ih k _ _ _ _ hW hD hfa.2 hfb.2 h2⟩
    case h_13 a1 a2 =>  -- negation
      simp only [Tm.holeFree] at hfa hfb
      exact ih k _ _ _ _ hW hD hfa hfb h
    case h_14 o1 a1 b1 o2 a2 b2 =>  -- binary operator
      simp only [Tm.holeFree, Bool.and_eq_true] at hfa hfb
      obtain ⟨hop, hc⟩ := guard_eq_true.1 h
      obtain ⟨h1, h2⟩ := seq_eq_true.1 hc
      exact guard_eq_true.2 ⟨hop, seq_eq_true.2 ⟨ih k _ _ _ _ hW hD hfa.1 hfb.1 h1,
        ih k _ _ _ _ hW hD hfa.2 hfb.2 h2⟩⟩
    case h_15 c1 a1 b1 c2 a2 b2 =>  -- conditional
      simp only [Tm.holeFree, Bool.and_eq_true] at hfa hfb
      obtain ⟨h1, hc⟩ := seq_eq_true.1 h
      obtain ⟨h2, h3⟩ := seq_eq_true.1 hc
      exact seq_eq_true.2 ⟨ih k _ _ _ _ hW hD hfa.1.1 hfb.1.1 h1,
        seq_eq_true.2 ⟨ih k _ _ _ _ hW hD hfa.1.2 hfb.1.2 h2, ih k _ _ _ _ hW hD hfa.2 hfb.2 h3⟩⟩
    case h_16 => cases h  -- different heads

theorem expectX_wk {f k : Nat} {Δ Δ' : DCtxX} {a b : Tm} {e : XErr} (hW : WkD k Δ Δ') (hD : DHF Δ)
    (ha : a.holeFree = true) (hb : b.holeFree = true) (h : expectX f Δ a b e = .ok ()) :
    expectX f Δ' (ushift k 1 a) (ushift k 1 b) e = .ok () := by
  have := convX_wk f k Δ Δ' a b hW hD ha hb (expectX_ok h)
  unfold expectX; rw [this]

theorem isTypeX_wk {f k : Nat} {Δ Δ' : DCtxX} {ty : Tm} (hW : WkD k Δ Δ') (hD : DHF Δ)
    (hty : ty.holeFree = true) (h : isTypeX f Δ ty = .ok ()) :
    isTypeX f Δ' (ushift k 1 ty) = .ok () :=
  expectX_wk (e := .notType) hW hD hty rfl h

theorem inferX_wk_aux : ∀ (f : Nat),
    (∀ (k : Nat) (Γ Γ' : TCtxX) (Δ Δ' : DCtxX) (t T : Tm), WkT k Γ Γ' → WkD k Δ Δ' → THF Γ →
      DHF Δ → t.holeFree = true → inferX f Γ Δ t = .ok T →
      inferX f Γ' Δ' (ushift k 1 t) = .ok (ushift k 1 T)) ∧
    (∀ (k : Nat) (Γ Γ' : TCtxX) (Δ Δ' : DCtxX) (ds : Defs), WkT k Γ Γ' → WkD k Δ Δ' → THF Γ →
      DHF Δ → ds.holeFree = true → inferDefsX f Γ Δ ds = .ok () →
      inferDefsX f Γ' Δ' (ushiftDefs k 1 ds) = .ok ()) := by
  intro f
  induction f with
  | zero =>
    exact ⟨fun _ _ _ _ _ _ _ _ _ _ _ _ h => (by cases h), fun _ _ _ _ _ _ _ _ _ _ _ h => (by cases h)⟩
  | succ f ih =>
    obtain ⟨ih1, ih2⟩ := ih
    constructor
    · intro k Γ Γ' Δ Δ' t T hT hW hΓ hD ht h
      cases t
      case hole => simp [Tm.holeFree] at ht
      case var x i =>
        obtain ⟨ty, off, hg, hlt, rfl⟩ := inferX_var_inv h
        by_cases hik : i < k
        · have h1 := hT.lo i _ hik hg
          simp only [ushift, if_neg (show ¬ (i ≥ k) by omega)]
          simp only [inferX_var, h1, wkE, if_neg hlt]
          rw [ushift_comm ty 0 (k + off - (i + 1)) (i + 1 - off) 1 (Nat.zero_le _),
            show k + off - (i + 1) + (i + 1 - off) = k by omega]
        · obtain ⟨h1, h2⟩ := hT.hi i _ (by omega) hg
          simp only at h2
          simp only [ushift, if_pos (show i ≥ k by omega)]
          simp only [inferX_var, h1, if_neg (show ¬ (i + 1 + 1 < off) by omega)]
          rw [ushift_ushift_mid ty k 0 1 (i + 1 - off) (Nat.zero_le _) (by omega),
            show i + 1 + 1 - off = 1 + (i + 1 - off) by omega]
      case lam x im d b =>
        simp only [Tm.holeFree, Bool.and_eq_true] at ht
        obtain ⟨dty, cod, h1, h2, h3, rfl⟩ := inferX_lam_inv h
        have hdty := inferX_type_holeFree ht.1 hΓ hD h1
        have e3 := ih1 (k+1) _ _ _ _ _ _ (hT.cons d 0) hW.none (THF_cons ht.1 hΓ) (DHF.push hD)
          ht.2 h3
        rw [Nat.add_zero] at e3
        simp only [ushift, inferX_lam, Except.bind, ih1 k _ _ _ _ _ _ hT hW hΓ hD ht.1 h1, isTypeX_wk hW hD hdty h2, e3]
      case pi x im d c =>
        simp only [Tm.holeFree, Bool.and_eq_true] at ht
        obtain ⟨dty, cty, h1, h2, h3, h4, rfl⟩ := inferX_pi_inv h
        have hdty := inferX_type_holeFree ht.1 hΓ hD h1
        have hcty := inferX_type_holeFree ht.2 (THF_cons ht.1 hΓ) (DHF.push hD) h3
        have e3 := ih1 (k+1) _ _ _ _ _ _ (hT.cons d 0) hW.none (THF_cons ht.1 hΓ)
          (DHF.push hD) ht.2 h3
        rw [Nat.add_zero] at e3
        simp only [ushift, inferX_pi, Except.bind, ih1 k _ _ _ _ _ _ hT hW hΓ hD ht.1 h1, isTypeX_wk hW hD hdty h2,
          e3, isTypeX_wk hW.none (DHF.push hD) hcty h4]
      case app g a =>
        simp only [Tm.holeFree, Bool.and_eq_true] at ht
        obtain ⟨gty, W, aty, h1, hw, h2, hW'⟩ := inferX_app_inv h
        have hgty := inferX_type_holeFree ht.1 hΓ hD h1
        have hpi := whnfX_holeFree hw hD hgty
        rcases hW' with ⟨x, im, dom, cod, rfl, h3, rfl⟩ | ⟨id, sh, rfl, _⟩
        · simp only [Tm.holeFree, Bool.and_eq_true] at hpi
          have haty := inferX_type_holeFree ht.2 hΓ hD h2
          have hw' := whnfX_wk f k Δ Δ' _ _ hW hD hgty hw
          simp only [ushift] at hw' ⊢
          simp only [inferX_app, Except.bind, ih1 k _ _ _ _ _ _ hT hW hΓ hD ht.1 h1, hw',
            ih1 k _ _ _ _ _ _ hT hW hΓ hD ht.2 h2, expectX_wk hW hD haty hpi.1 h3]
          rw [open_ushift_high cod a 0 k 1 0 hpi.2 (Nat.zero_le _), Nat.sub_zero]
        · cases hpi
      case letg ds body =>
        simp only [Tm.holeFree, Bool.and_eq_true] at ht
        obtain ⟨hΓ', hD'⟩ := pushGroupX_HF ds 0 Γ Δ ht.1 hΓ hD
        obtain ⟨hT', hW'⟩ := pushGroupX_wk ds 0 k Γ Γ' Δ Δ' hT hW
        obtain ⟨bty, h1, h2, rfl⟩ := inferX_letg_inv h
        simp only [ushift, inferX_letg, Except.bind, ih2 _ _ _ _ _ _ hT' hW' hΓ' hD' ht.1 h1,
          ih1 _ _ _ _ _ _ _ hT' hW' hΓ' hD' ht.2 h2]
      case neg a =>
        simp only [Tm.holeFree] at ht
        obtain ⟨aty, h1, h2, rfl⟩ := inferX_neg_inv h
        have e2 := expectX_wk hW hD (inferX_type_holeFree ht hΓ hD h1) rfl h2
        simp only [ushift] at e2 ⊢
        simp only [inferX_neg, Except.bind, ih1 k _ _ _ _ _ _ hT hW hΓ hD ht h1, e2]
      case bin op a b =>
        simp only [Tm.holeFree, Bool.and_eq_true] at ht
        obtain ⟨aty, bty, h1, h2, h3, h4, rfl⟩ := inferX_bin_inv h
        have e2 := expectX_wk hW hD (inferX_type_holeFree ht.1 hΓ hD h1) rfl h2
        have e4 := expectX_wk hW hD (inferX_type_holeFree ht.2 hΓ hD h3) rfl h4
        simp only [ushift] at e2 e4 ⊢
        simp only [inferX_bin, Except.bind, ih1 k _ _ _ _ _ _ hT hW hΓ hD ht.1 h1, e2,
          ih1 k _ _ _ _ _ _ hT hW hΓ hD ht.2 h3, e4]
        cases op <;> rfl
      case ite c a b =>
        simp only [Tm.holeFree, Bool.and_eq_true] at ht
        obtain ⟨cty, bty, h1, h2, h3, h4, h5⟩ := inferX_ite_inv h
        have haty := inferX_type_holeFree ht.1.2 hΓ hD h3
        have hbty := inferX_type_holeFree ht.2 hΓ hD h4
        have e2 := expectX_wk hW hD (inferX_type_holeFree ht.1.1 hΓ hD h1) rfl h2
        simp only [ushift] at e2 ⊢
        simp only [inferX_ite, Except.bind, ih1 k _ _ _ _ _ _ hT hW hΓ hD ht.1.1 h1, e2,
          ih1 k _ _ _ _ _ _ hT hW hΓ hD ht.1.2 h3, ih1 k _ _ _ _ _ _ hT hW hΓ hD ht.2 h4,
          expectX_wk hW hD haty hbty h5]
      all_goals (cases h; rfl)
    · intro k Γ Γ' Δ Δ' ds hT hW hΓ hD hds h
      cases ds
      case nil => rfl
      case cons x ann d r =>
        simp only [Defs.holeFree, Bool.and_eq_true] at hds
        obtain ⟨annTy, dty, h1, h2, h3, h4, h5⟩ := inferDefsX_cons_inv h
        have hannTy := inferX_type_holeFree hds.1.1 hΓ hD h1
        have hdty := inferX_type_holeFree hds.1.2 hΓ hD h3
        simp only [ushiftDefs, inferDefsX_cons, Except.bind, ih1 k _ _ _ _ _ _ hT hW hΓ hD hds.1.1 h1,
          isTypeX_wk hW hD hannTy h2, ih1 k _ _ _ _ _ _ hT hW hΓ hD hds.1.2 h3,
          expectX_wk hW hD hdty hds.1.1 h4]
        exact ih2 k _ _ _ _ _ hT hW hΓ hD hds.2 h5

theorem inferX_wk {f k : Nat} {Γ Γ' : TCtxX} {Δ Δ' : DCtxX} {t T : Tm} (hT : WkT k Γ Γ')
    (hW : WkD k Δ Δ') (hΓ : THF Γ) (hD : DHF Δ) (ht : t.holeFree = true)
    (h : inferX f Γ Δ t = .ok T) : inferX f Γ' Δ' (ushift k 1 t) = .ok (ushift k 1 T) :=
  (inferX_wk_aux f).1 k Γ Γ' Δ Δ' t T hT hW hΓ hD ht h


theorem if_true_infer {f : Nat} {Γ : TCtxX} {Δ : DCtxX} {e T : Tm} (h : inferX (f+1) Γ Δ e = .ok T) :
    inferX (f+2) Γ Δ (.ite .tt e e) = .ok T := by
  have htt : inferX (f+1) Γ Δ .tt = .ok .bool := rfl
  simp only [inferX_ite, htt, h, expectX_same (sameX_refl _), Except.bind]

theorem identity_infer {f : Nat} {Γ : TCtxX} {Δ : DCtxX} (x : Name) {e T : Tm}
    (he : inferX (f+1) Γ Δ e = .ok T) (hT : inferX (f+1) Γ Δ T = .ok .type) :
    inferX (f+3) Γ Δ (.app (.lam x false T (.var x 0)) e) = .ok T := by
  have hv : inferX (f+1) ((T, 0) :: Γ) (none :: Δ) (.var x 0) = .ok (ushift 0 1 T) := rfl
  have hl : inferX (f+2) Γ Δ (.lam x false T (.var x 0)) = .ok (.pi x false T (ushift 0 1 T)) := by
    simp only [inferX_lam, hT, isTypeX_type, hv, Except.bind]
  have hw : whnfX (f+2) Δ (.pi x false T (ushift 0 1 T)) = some (.pi x false T (ushift 0 1 T)) := rfl
  have he' := inferX_mono _ _ _ _ _ he (ne_fuel_of_ok rfl)
  simp only [inferX_app, hl, hw, he', expectX_same (sameX_refl _), open_ushift_cancel, Except.bind]

/-- the offsets of a typing context are in range: entry `i` is stored at most `i + 1` entries deep -/
def OffsT (Γ : TCtxX) : Prop := ∀ i ty off, Γ[i]? = some (ty, off) → off ≤ i + 1

theorem unused_def_infer {f : Nat} {Γ : TCtxX} {Δ : DCtxX} (u : Name) (n : Int) {e T : Tm}
    (he : e.holeFree = true) (hΓ : THF Γ) (hD : DHF Δ) (wΓ : OffsT Γ)
    (wΔ : ∀ i d off, Δ[i]? = some (some (d, off)) → off ≤ i + 1)
    (h : inferX f Γ Δ e = .ok T) :
    inferX (f+2) Γ Δ (.letg (.cons u .int (.lit n) .nil) (ushift 0 1 e)) =
      .ok (.letg (.cons u .int (.lit n) .nil) (ushift 0 1 T)) := by
  cases f with
  | zero => cases h
  | succ f =>
    have hb := inferX_wk (WkT.zero (Γ := Γ) (.int, 1) wΓ) (WkD.zero (Δ := Δ) (some (.lit n, 1)) wΔ)
      hΓ hD he h
    have hb' := inferX_mono _ _ _ _ _ hb (ne_fuel_of_ok rfl)
    have hp : pushGroupX (.cons u .int (.lit n) .nil) 0 (Γ, Δ) =
        ((.int, 1) :: Γ, some (.lit n, 1) :: Δ) := rfl
    have hi : ∀ (Γ' : TCtxX) (Δ' : DCtxX), inferX (f+1) Γ' Δ' .int = .ok .type := fun _ _ => rfl
    have hl : ∀ (Γ' : TCtxX) (Δ' : DCtxX), inferX (f+1) Γ' Δ' (.lit n) = .ok .int := fun _ _ => rfl
    have hn : ∀ (Γ' : TCtxX) (Δ' : DCtxX), inferDefsX (f+1) Γ' Δ' .nil = .ok () := fun _ _ => rfl
    simp only [inferX_letg, inferDefsX_cons, hp, hi, hl, hn, hb', isTypeX_type, expectX_same (sameX_refl _),
      Except.bind]

end RewriteTyping
