import GramModel.Lemmas.PreservationConv

/-!
# Subject reduction, part 3: the substitution lemma for typing, generation

`HT.trav` / `HT.sub` are to `HT` what `Cv.trav` / `Cv.sub` are to `Cv`; weakening, substitution for a variable and
change of context are the instances `HT.wk`, `HT.subst`, `HT.ctx`.
-/

namespace Pres

open WhnfLemmas OracleLemmas TypingSound RewriteTyping

/-- a property of all entries of a group, read off the entries of the group it is the image of -/
theorem forall_mem_map_triple {f : Tm → Tm} {l l' : List (Name × Tm × Tm)}
    (e : l' = l.map (fun p => (p.1, f p.2.1, f p.2.2))) {P : Name → Tm → Tm → Prop}
    (h : ∀ x a d, (x, a, d) ∈ l → P x (f a) (f d)) : ∀ x a d, (x, a, d) ∈ l' → P x a d := by
  intro x a d hm
  rw [e, List.mem_map] at hm
  obtain ⟨⟨y, a0, d0⟩, hm, e⟩ := hm
  cases e
  exact h y a0 d0 hm

theorem binResult_trav (op : BinOp) (F : Act) (n : Nat) : (binResult op).trav F n = binResult op := by
  cases op <;> rfl
theorem binResult_dh (op : BinOp) : dh (binResult op) = binResult op := by
  cases op <;> rfl

theorem defF_hf {ds : Defs} (hds : ds.holeFree = true) :
    ∀ i d, i < ds.len → defF ds i = some d → d.holeFree = true :=
  fun i d _ e => defAt_holeFree ds i d hds e
theorem annF_hf {ds : Defs} (hds : ds.holeFree = true) :
    ∀ i d, i < ds.len → annF ds i = some d → d.holeFree = true :=
  fun i d _ e => annAt_holeFree ds i d hds e

theorem HT.letg_len {G D : Ctx} {ds : Defs} {body bty : Tm} {n : Nat} (hn : ds.len = n)
    (hds : ds.holeFree = true)
    (ha : ∀ x a d, (x, a, d) ∈ ds.toList → HT (ext n (annF ds) G) (ext n (defF ds) D) a .type)
    (hd : ∀ x a d, (x, a, d) ∈ ds.toList → HT (ext n (annF ds) G) (ext n (defF ds) D) d a)
    (hb : HT (ext n (annF ds) G) (ext n (defF ds) D) body bty) : HT G D (.letg ds body) (.letg ds bty) := by
  subst hn
  exact .letg hds ha hd hb

/-- **The substitution lemma for typing.**  `R n G D G' D'` is any relation between the contexts that makes `F`, met
under `n` binders, map every variable typed in `G` to a term of the mapped type (`hG`) and every definition of `D` to a
term convertible with what `F` puts for the variable (`hD`), and that is kept when both sides are extended by
hole-free entries and their images (`hE`). -/
theorem HT.trav {F : Act} (hF : F.Natural) (hN : F.NameBlind) (R : Nat → Ctx → Ctx → Ctx → Ctx → Prop)
    (hG : ∀ {n G D G' D'}, R n G D G' D' → ∀ i A x, G i = some A → A.holeFree = true →
      HT G' D' (F.var n x i) (A.trav F n))
    (hD : ∀ {n G D G' D'}, R n G D G' D' → ∀ i d x, D i = some d → d.holeFree = true →
      Cv D' (F.var n x i) (d.trav F n))
    (hE : ∀ {n G D G' D'} (m : Nat) (E1 E2 : Nat → Option Tm),
      (∀ i t, i < m → E1 i = some t → t.holeFree = true) → (∀ i t, i < m → E2 i = some t → t.holeFree = true) →
      R n G D G' D' →
      R (n + m) (ext m E1 G) (ext m E2 D) (ext m (mapF F (n + m) E1) G') (ext m (mapF F (n + m) E2) D'))
    {G D : Ctx} {t T : Tm} (h : HT G D t T) :
    ∀ (n : Nat) (G' D' : Ctx), R n G D G' D' → HT G' D' (t.trav F n) (T.trav F n) := by
  have noneE : ∀ m i t, i < m → noneF i = some t → t.holeFree = true := fun _ _ _ _ e => by cases e
  have binder : ∀ {n G D G' D'} {d : Tm}, d.holeFree = true → R n G D G' D' →
      R (n + 1) (ext 1 (fun _ => some (ushift 0 1 d)) G) (ext 1 noneF D)
        (ext 1 (fun _ => some (ushift 0 1 (d.trav F n))) G') (ext 1 noneF D') := fun {n G D G' D' d} hd H => by
    have H' := hE 1 (fun _ => some (ushift 0 1 d)) noneF (fun _ _ _ e => by cases e; exact ushift_hf hd _ _)
      (noneE 1) H
    have e : mapF F (n + 1) (fun _ => some (ushift 0 1 d)) = fun _ => some (ushift 0 1 (d.trav F n)) := by
      funext _; simp only [mapF, Option.map_some, hF.trav_ushift0 hd]
    rw [e] at H'
    exact H'
  induction h with
  | type | int | bool | lit | tt | ff => intro n G' D' _; constructor
  | var D x i ty hi hty => intro n G' D' H; exact hG H i ty x hi hty
  | lam x im h1 _ ih1 ih2 =>
    intro n G' D' H; exact .lam x im (ih1 n G' D' H) (ih2 (n + 1) _ _ (binder h1.hf.1 H))
  | pi x im h1 _ ih1 ih2 =>
    intro n G' D' H; exact .pi x im (ih1 n G' D' H) (ih2 (n + 1) _ _ (binder h1.hf.1 H))
  | @app G D x im g a dom cod hg ha ih1 ih2 =>
    intro n G' D' H
    have hc := hg.hf.2
    simp only [Tm.holeFree, Bool.and_eq_true] at hc
    have e := hF.trav_open hc.2 ha.hf.1 n 0
    rw [Nat.add_zero] at e
    rw [e]
    exact .app x im (ih1 n G' D' H) (ih2 n G' D' H)
  | @letg G D ds body bty hds _ _ _ iha ihd ihb =>
    intro n G' D' H
    have H' := hE ds.len (annF ds) (defF ds) (annF_hf hds) (defF_hf hds) H
    have e1 : mapF F (n + ds.len) (annF ds) = annF (ds.trav F (n + ds.len)) := by
      funext i; simp only [mapF, annF, annAt_trav]
    have e2 : mapF F (n + ds.len) (defF ds) = defF (ds.trav F (n + ds.len)) := by
      funext i; simp only [mapF, defF, defAt_trav]
    rw [e1, e2] at H'
    simp only [Tm.trav]
    refine HT.letg_len (Defs.len_trav F _ ds) (hF.travDefs_hf hds _) ?_ ?_ (ihb _ _ _ H')
    · exact forall_mem_map_triple (toList_trav ..) (fun x a d hm => iha x a d hm _ _ _ H')
    · exact forall_mem_map_triple (toList_trav ..) (fun x a d hm => ihd x a d hm _ _ _ H')
  | neg _ ih => intro n G' D' H; exact .neg (ih n G' D' H)
  | bin op _ _ ih1 ih2 =>
    intro n G' D' H
    rw [binResult_trav]
    exact .bin op (ih1 n G' D' H) (ih2 n G' D' H)
  | ite _ _ _ ih0 ih1 ih2 => intro n G' D' H; exact .ite (ih0 n G' D' H) (ih1 n G' D' H) (ih2 n G' D' H)
  | @conv G D t T T' _ hc ih =>
    intro n G' D' H
    refine .conv (ih n G' D' H) (hc.trav hF hN (fun n D D' => ∃ G G', R n G D G' D') ?_ ?_ n D' ⟨G, G', H⟩)
    · rintro n D D' ⟨G, G', H⟩; exact hD H
    · rintro n D D' m ⟨G, G', H⟩
      exact ⟨_, _, hE m noneF noneF (noneE m) (noneE m) H⟩

theorem HT.wk {G D : Ctx} {t T : Tm} (h : HT G D t T) (k m : Nat) (G' D' : Ctx) (HG : WkC k m G G')
    (HD : WkC k m D D') : HT G' D' (ushift k m t) (ushift k m T) := by
  rw [ushift_eq_trav, ushift_eq_trav]
  refine h.trav (Act.lift_natural k m) (Act.lift_nameBlind k m) (fun n G D G' D' => WkC (k + n) m G G' ∧ WkC (k + n) m D D')
    ?_ ?_ ?_ 0 G' D' ⟨HG, HD⟩
  · intro n G D G' D' H i A x hi hA
    exact .var _ x _ _ (H.1.look hi) ((Act.lift_natural k m).trav_hf hA n)
  · intro n G D G' D' H i d x hi hd
    exact .delta x _ _ (H.2.look hi) ((Act.lift_natural k m).trav_hf hd n)
  · intro n G D G' D' p E1 E2 _ _ H
    rw [← Nat.add_assoc]
    exact ⟨H.1.under p _ _ (fun i _ => by simp only [mapF, ← ushift_add_eq_trav, Nat.add_assoc]),
      H.2.under p _ _ (fun i _ => by simp only [mapF, ← ushift_add_eq_trav, Nat.add_assoc])⟩

theorem HT.push {G D : Ctx} {t T : Tm} (h : HT G D t T) (n : Nat) (F F' : Nat → Option Tm) :
    HT (ext n F G) (ext n F' D) (ushift 0 n t) (ushift 0 n T) :=
  h.wk 0 n _ _ (WkC.push n F G) (WkC.push n F' D)

/-- under `n` binders, `F` maps every variable typed in `G` to a term of the mapped type -/
def TyRel (F : Act) (n : Nat) (G G' D' : Ctx) : Prop :=
  ∀ i A (x : Name), G i = some A → A.holeFree = true → HT G' D' (F.var n x i) (A.trav F n)

theorem TyRel.under {F : Act} (hF : F.Natural) {n : Nat} {G G' D' : Ctx} (h : TyRel F n G G' D') (m : Nat)
    (E E' : Nat → Option Tm) :
    TyRel F (n + m) (ext m E G) (ext m (mapF F (n + m) E) G') (ext m E' D') := by
  intro i A x e hA
  rcases ext_some e with ⟨hi, e1⟩ | ⟨hi, A0, e0, rfl⟩
  · rw [hF.bound _ x i (by omega)]
    exact .var _ x i _ (by rw [ext_lt hi]; simp only [mapF, e1, Option.map_some]) (hF.trav_hf hA _)
  · have hA0 : A0.holeFree = true := (holeFree_ushift A0 0 m).symm.trans hA
    have := (h (i - m) A0 x e0 hA0).push m (mapF F (n + m) E) E'
    rwa [← hF.var_ge x hi, ← hF.trav_ushift0 hA0] at this

theorem HT.sub {F : Act} (hF : F.Natural) (hN : F.NameBlind) {G D G' D' : Ctx} {t T : Tm} (h : HT G D t T) {n : Nat}
    (HG : TyRel F n G G' D') (HD : CtxRel F n D D') : HT G' D' (t.trav F n) (T.trav F n) :=
  h.trav hF hN (fun n G D G' D' => TyRel F n G G' D' ∧ CtxRel F n D D') (fun H => H.1) (fun H => H.2)
    (fun m E1 E2 _ _ H => ⟨H.1.under hF m E1 _, H.2.under hF m E2⟩) n G' D' ⟨HG, HD⟩

theorem HT.subst {G D : Ctx} {t T : Tm} (h : HT G D t T) (k : Nat) (v : Tm) (G' D' : Ctx)
    (hv : v.holeFree = true) (HG : SbC k v G G') (HD : SbC k v D D')
    (ht : ∀ A, G k = some A → HT G' D' v (openT A k v 0))
    (hd : ∀ d, D k = some d → Cv D' v (openT d k v 0)) : HT G' D' (openT t k v 0) (openT T k v 0) := by
  rw [openT_eq_trav, openT_eq_trav]
  refine h.sub (Act.subst_natural k hv) (Act.subst_nameBlind k v 0) ?_ ?_
  · intro i A x hi hA
    rw [← openT_eq_trav, subst_var0]
    split
    · next hik => subst hik; exact ht A hi
    · next hik => exact .var _ x _ _ (HG.look hik hi) (openT_holeFree _ _ _ _ hA hv)
  · intro i d x hi hdf
    rw [← openT_eq_trav, subst_var0]
    split
    · next hik => subst hik; exact hd d hi
    · next hik => exact .delta x _ _ (HD.look hik hi) (openT_holeFree _ _ _ _ hdf hv)

/-- every entry of `G` is, in `G'`, an entry convertible (under `D'`) with it -/
def TyCv (D' G G' : Ctx) : Prop :=
  ∀ i A, G i = some A → ∃ A', G' i = some A' ∧ A'.holeFree = true ∧ Cv D' A' A

theorem HT.ctx {G D : Ctx} {t T : Tm} (h : HT G D t T) (G' D' : Ctx) (HD : CtxCv D D') (HG : TyCv D' G G') :
    HT G' D' t T := by
  have := h.sub Act.id_natural Act.id_nameBlind (n := 0) (G' := G') (D' := D')
    (fun i A x hi _ => by
      obtain ⟨A', g', hA', c⟩ := HG i A hi
      rw [Tm.trav_id]; exact .conv (.var _ x i A' g' hA') c)
    HD.rel
  rwa [Tm.trav_id, Tm.trav_id] at this

theorem CtxCv.rfl' {D : Ctx} (hD : CHF D) : CtxCv D D :=
  fun i d x e => .delta x i d e (hD i d e)

theorem TyCv.rfl' {D G : Ctx} (hG : CHF G) : TyCv D G G :=
  fun i A e => ⟨A, e, hG i A e, .refl (hG i A e)⟩

/-- what the last rule other than conversion of a derivation for `t` says, `T0` being the type it assigns, with all
the rule's premises (`Canonical.Gen`, for `HasType`, records only what canonical forms need) -/
def Gen (G D : Ctx) : Tm → Tm → Prop
  | .var _ i, T0 => G i = some T0
  | .lam x im d b, T0 => ∃ cod, T0 = .pi x im d cod ∧ HT G D d .type ∧
      HT (ext 1 (fun _ => some (ushift 0 1 d)) G) (ext 1 noneF D) b cod
  | .pi _ _ d c, T0 => T0 = .type ∧ HT G D d .type ∧
      HT (ext 1 (fun _ => some (ushift 0 1 d)) G) (ext 1 noneF D) c .type
  | .app g a, T0 => ∃ x im dom cod, T0 = openT cod 0 a 0 ∧ HT G D g (.pi x im dom cod) ∧ HT G D a dom
  | .neg a, T0 => T0 = .int ∧ HT G D a .int
  | .bin op a b, T0 => T0 = binResult op ∧ HT G D a .int ∧ HT G D b .int
  | .ite c a b, T0 => HT G D c .bool ∧ HT G D a T0 ∧ HT G D b T0
  | .letg ds body, T0 => ∃ bty, T0 = .letg ds bty ∧ ds.holeFree = true ∧
      (∀ x a d, (x, a, d) ∈ ds.toList → HT (ext ds.len (annF ds) G) (ext ds.len (defF ds) D) a .type) ∧
      (∀ x a d, (x, a, d) ∈ ds.toList → HT (ext ds.len (annF ds) G) (ext ds.len (defF ds) D) d a) ∧
      HT (ext ds.len (annF ds) G) (ext ds.len (defF ds) D) body bty
  | _, _ => True

/-- generation (inversion up to conversion): only the conversion rule needs the induction -/
theorem HT.gen {G D : Ctx} {t T : Tm} (h : HT G D t T) : ∃ T0, Gen G D t T0 ∧ Cv D T0 T := by
  induction h with
  | conv _ hc ih => obtain ⟨T0, g, c⟩ := ih; exact ⟨T0, g, .trans c hc⟩
  | type | int | bool | lit | tt | ff => exact ⟨_, trivial, .refl rfl⟩
  | var D x i ty hi hty => exact ⟨ty, hi, .refl hty⟩
  | lam x im h1 h2 => exact ⟨_, ⟨_, rfl, h1, h2⟩, .refl (HT.lam x im h1 h2).hf.2⟩
  | pi x im h1 h2 => exact ⟨_, ⟨rfl, h1, h2⟩, .refl rfl⟩
  | app x im h1 h2 => exact ⟨_, ⟨x, im, _, _, rfl, h1, h2⟩, .refl (HT.app x im h1 h2).hf.2⟩
  | letg hds ha hd hb => exact ⟨_, ⟨_, rfl, hds, ha, hd, hb⟩, .refl (HT.letg hds ha hd hb).hf.2⟩
  | neg h1 => exact ⟨_, ⟨rfl, h1⟩, .refl rfl⟩
  | bin op h1 h2 => exact ⟨_, ⟨rfl, h1, h2⟩, .refl (binResult_hf op)⟩
  | ite h0 h1 h2 => exact ⟨_, ⟨h0, h1, h2⟩, .refl h1.hf.2⟩

end Pres
