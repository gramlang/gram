import GramModel.Lemmas.Names
import GramModel.Lemmas.ResolveSteps

/-!
# Name resolution does not depend on layout

Two surface trees that are equal after erasing source ranges, `group` flags and recorded-error lists
(`RewriteMore.strip`) resolve alike: same success/failure, the same semantic term (`RTm.erase`), the same final
context, the same hole counter and the same *number* of diagnostics (their ranges are layout).
`resolve_variables` never branches on a range, a `group` flag or an error list.  `LSim` is the two-state
simulation, `StEq` its relation on states: equal context, equal allocator, error lists of equal length.
`strip` (with `stripV`, `stripO`) and `resView` are declared into `RewriteMore`, the namespace of the lemmas about
rewrites of the program (C19), the rest into `PModel`.  `strip` is `eraseLayout` of Props/C08.lean
(`strip_eq_eraseLayout` there).
-/

namespace RewriteMore
open PModel

mutual
def strip : Src → Src
  | .mk _ _ v _ => .mk ⟨0, 0⟩ false (stripV v) []
def stripV : SrcV → SrcV
  | .parseError => .parseError
  | .type => .type
  | .var x => .var x
  | .lam v imp dom body => .lam ⟨⟨0, 0⟩, v.name⟩ imp (stripO dom) (strip body)
  | .pi v imp dom cod => .pi ⟨⟨0, 0⟩, v.name⟩ imp (strip dom) (strip cod)
  | .app f a => .app (strip f) (strip a)
  | .let_ v ann d b => .let_ ⟨⟨0, 0⟩, v.name⟩ (stripO ann) (strip d) (strip b)
  | .int => .int
  | .lit n => .lit n
  | .neg a => .neg (strip a)
  | .bin o a b => .bin o (strip a) (strip b)
  | .bool => .bool
  | .tt => .tt
  | .ff => .ff
  | .ite c t e => .ite (strip c) (strip t) (strip e)
def stripO : OptSrc → OptSrc
  | .none => .none
  | .some t => .some (strip t)
end

/-- what name resolution of a whole program shows of its result: the semantic term (ranges
forgotten), the context, the hole counter and the number of errors -/
def resView (p : RTm × RState) : Tm × Ctx × Nat × Nat :=
  (p.1.erase, p.2.ctx, p.2.nextHole, p.2.errors.length)

end RewriteMore

namespace PModel
open RewriteMore

def StEq (st st' : RState) : Prop :=
  st.ctx = st'.ctx ∧ st.nextHole = st'.nextHole ∧ st.errors.length = st'.errors.length

theorem StEq.refl (st : RState) : StEq st st := ⟨rfl, rfl, rfl⟩

/-- `m'` does what `m` does, from related states, up to `R` on the results. -/
def LSim {α : Type} (R : α → α → Prop) (m m' : ResolveM α) : Prop :=
  ∀ st st' : RState, StEq st st' →
    match m st, m' st' with
    | none, none => True
    | some (a, s1), some (a', s1') => R a a' ∧ StEq s1 s1'
    | _, _ => False

theorem LSim.bind {α β : Type} {R : α → α → Prop} {Q : β → β → Prop}
    {m m' : ResolveM α} {k k' : α → ResolveM β}
    (h1 : LSim R m m') (h2 : ∀ a a', R a a' → LSim Q (k a) (k' a')) :
    LSim Q (m >>= k) (m' >>= k') := by
  intro st st' hs
  have h := h1 st st' hs
  rw [StateT_run_bind, StateT_run_bind]
  cases hm : m st with
  | none =>
    cases hm' : m' st' with
    | none => trivial
    | some p' => rw [hm, hm'] at h; exact h.elim
  | some p =>
    obtain ⟨a, s1⟩ := p
    cases hm' : m' st' with
    | none => rw [hm, hm'] at h; exact h.elim
    | some p' =>
      obtain ⟨a', s1'⟩ := p'
      rw [hm, hm'] at h
      exact h2 a a' h.1 s1 s1' h.2

theorem LSim.pure {α : Type} {R : α → α → Prop} {a a' : α} (h : R a a') :
    LSim R (pure a) (pure a') := by
  intro st st' hs
  have e1 : (Pure.pure a : ResolveM α) st = some (a, st) := rfl
  have e2 : (Pure.pure a' : ResolveM α) st' = some (a', st') := rfl
  rw [e1, e2]
  exact ⟨h, hs⟩

theorem LSim.fail {α : Type} {R : α → α → Prop} :
    LSim R (fun _ => (none : Option (α × RState))) (fun _ => none) := by
  intro st st' _; trivial

theorem freshHole_lsim (r r' : Option SourceRange) (s : Nat) :
    LSim (fun a b => a.erase = b.erase) (freshHole r s) (freshHole r' s) := by
  intro st st' hs
  obtain ⟨h1, h2, h3⟩ := hs
  refine ⟨?_, h1, ?_, h3⟩
  · simp [RTm.erase, h2]
  · simp [h2]

theorem bindName_lsim (v v' : SrcVar) (d : Nat) (hv : v'.name = v.name) :
    LSim (fun _ _ => True) (bindName v d) (bindName v' d) := by
  intro st st' hs
  obtain ⟨h1, h2, h3⟩ := hs
  unfold bindName
  rw [hv, ← h1]
  by_cases hp : (v.name != placeholder) = true
  · simp only [hp, if_true]
    refine ⟨trivial, rfl, h2, ?_⟩
    simp only
    split <;> simp [h3]
  · simp only [hp]
    exact ⟨trivial, h1, h2, h3⟩

theorem unbindName_lsim (x : Name) :
    LSim (fun _ _ => True) (unbindName x) (unbindName x) := by
  intro st st' hs
  obtain ⟨h1, h2, h3⟩ := hs
  exact ⟨trivial, by simp [h1], h2, h3⟩

def stripDef (d : SrcVar × OptSrc × Src) : SrcVar × OptSrc × Src :=
  (⟨⟨0, 0⟩, d.1.name⟩, stripO d.2.1, strip d.2.2)

theorem strip_isLet : ∀ t : Src, (strip t).isLet = t.isLet
  | .mk _ _ v _ => by cases v <;> rfl

theorem collectDefinitions_strip (t : Src) :
    (collectDefinitions (strip t)).1 = (collectDefinitions t).1.map stripDef := by
  induction t using Src.letChain_induction with
  | let_ r g v ann defn body es ih =>
    rw [strip, stripV, collectDefinitions_let, collectDefinitions_let, List.map_cons, ← ih]; rfl
  | other t h =>
    rw [collectDefinitions_of_not_isLet h, collectDefinitions_of_not_isLet ((strip_isLet t).trans h)]
    rfl

theorem bindDefinitions_lsim (depth : Nat) : ∀ (ds : List (SrcVar × OptSrc × Src)) (i : Nat),
    LSim (fun _ _ => True) (bindDefinitions depth ds i) (bindDefinitions depth (ds.map stripDef) i)
  | [], i => by
      simp only [bindDefinitions, List.map_nil]
      exact LSim.pure trivial
  | (v, a, d) :: rest, i => by
      simp only [bindDefinitions, List.map_cons, stripDef]
      exact LSim.bind (bindName_lsim v _ (depth + i) rfl)
        (fun _ _ _ => bindDefinitions_lsim depth rest (i + 1))

theorem unbindDefinitions_lsim : ∀ (ds : List (SrcVar × OptSrc × Src)),
    LSim (fun _ _ => True) (unbindDefinitions ds) (unbindDefinitions (ds.map stripDef))
  | [] => by
      simp only [unbindDefinitions, List.map_nil]
      exact LSim.pure trivial
  | (v, a, d) :: rest => by
      have ih := unbindDefinitions_lsim rest
      simp only [unbindDefinitions, List.map_cons, stripDef]
      by_cases hp : (v.name != placeholder) = true
      · simp only [hp, if_true]
        exact LSim.bind (unbindName_lsim v.name) (fun _ _ _ => ih)
      · simp only [hp]
        exact ih

def ResEq (p p' : RDefs × RTm) : Prop := p.1.erase = p'.1.erase ∧ p.2.erase = p'.2.erase

theorem LSim.bind_res {β : Type} {Q : β → β → Prop} {m m' : ResolveM (RDefs × RTm)}
    {k k' : RDefs × RTm → ResolveM β} (h1 : LSim ResEq m m')
    (h2 : ∀ ds r ds' r', ds.erase = ds'.erase → r.erase = r'.erase →
      LSim Q (k (ds, r)) (k' (ds', r'))) :
    LSim Q (m >>= k) (m' >>= k') :=
  LSim.bind h1 (fun p p' hp => h2 p.1 p.2 p'.1 p'.2 hp.1 hp.2)

def OptEq (a b : Option RTm) : Prop := a.map RTm.erase = b.map RTm.erase

theorem lamDomain_lsim {a a' : Option RTm} (h : OptEq a a') :
    LSim (fun x y => x.erase = y.erase) (lamDomain a) (lamDomain a') := by
  cases a <;> cases a' <;>
    first | exact freshHole_lsim none none 0 | exact LSim.pure (Option.some.inj h) | cases h

theorem lookupVar_lsim (r r' : SourceRange) (x : Name) (depth : Nat) :
    LSim ResEq (lookupVar r x depth) (lookupVar r' x depth) := by
  intro st st' hs
  obtain ⟨h1, h2, h3⟩ := hs
  unfold lookupVar
  simp only [← h1]
  cases hg : st.ctx.get x with
  | some vd => exact ⟨⟨rfl, rfl⟩, h1, h2, h3⟩
  | none =>
    refine ⟨by simp [ResEq, RTm.erase, RDefs.erase, h2], rfl, by simp [h2], ?_⟩
    simp only
    split <;> simp [h3]

def StripAt (t : Src) : Prop :=
  ∀ (chain : Option (Nat × Nat)) (depth : Nat),
    LSim ResEq (resolveAux t chain depth) (resolveAux (strip t) chain depth)

theorem resolveOpt_strip_of {o : OptSrc} (ih : o.all StripAt) {depth : Nat} :
    LSim OptEq (resolveOpt o depth) (resolveOpt (stripO o) depth) := by
  cases o with
  | none => exact LSim.pure rfl
  | some t =>
    simp only [stripO]; unfold resolveOpt
    exact LSim.bind_res (ih none depth) (fun _ _ _ _ _ hr => LSim.pure (congrArg some hr))

theorem resolveAnnotation_strip_of {o : OptSrc} (ih : o.all StripAt) {n i newDepth : Nat} :
    LSim (fun a b => a.erase = b.erase) (resolveAnnotation o n i newDepth)
      (resolveAnnotation (stripO o) n i newDepth) := by
  cases o with
  | none => exact freshHole_lsim _ _ _
  | some t =>
    simp only [stripO]; unfold resolveAnnotation
    exact LSim.bind_res (ih none newDepth) (fun _ _ _ _ _ hr => LSim.pure hr)

theorem resolveAux_strip (t : Src) : StripAt t := by
  induction t using Src.induction with
  | parseError => intro chain depth; simp only [strip, stripV]; unfold resolveAux; exact LSim.fail
  | type | int | bool | tt | ff | lit =>
    intro chain depth
    simp only [strip, stripV]; unfold resolveAux; exact LSim.pure ⟨rfl, rfl⟩
  | var range g x es =>
    intro chain depth
    simp only [strip, stripV, resolveAux_var]; exact lookupVar_lsim _ _ x depth
  | app range g f a es ihf iha | bin range g _ f a es ihf iha =>
    intro chain depth
    simp only [strip, stripV]; unfold resolveAux
    refine LSim.bind_res (ihf none depth) (fun _ _ _ _ _ hf => ?_)
    refine LSim.bind_res (iha none depth) (fun _ _ _ _ _ ha => ?_)
    exact LSim.pure ⟨rfl, by simp only [RTm.erase, hf, ha]⟩
  | neg range g a es iha =>
    intro chain depth
    simp only [strip, stripV]; unfold resolveAux
    refine LSim.bind_res (iha none depth) (fun _ _ _ _ _ ha => ?_)
    exact LSim.pure ⟨rfl, by simp only [RTm.erase, ha]⟩
  | ite range g c a b es ihc iha ihb =>
    intro chain depth
    simp only [strip, stripV]; unfold resolveAux
    refine LSim.bind_res (ihc none depth) (fun _ _ _ _ _ hc => ?_)
    refine LSim.bind_res (iha none depth) (fun _ _ _ _ _ ha => ?_)
    refine LSim.bind_res (ihb none depth) (fun _ _ _ _ _ hb => ?_)
    exact LSim.pure ⟨rfl, by simp only [RTm.erase, hc, ha, hb]⟩
  | pi range g v imp dom cod es ihd ihc =>
    intro chain depth
    simp only [strip, stripV]; unfold resolveAux
    refine LSim.bind_res (ihd none depth) (fun _ _ _ _ _ hd => ?_)
    refine LSim.bind (bindName_lsim v _ depth rfl) (fun _ _ _ => ?_)
    refine LSim.bind_res (ihc none (depth + 1)) (fun _ _ _ _ _ hc => ?_)
    refine LSim.bind (unbindName_lsim v.name) (fun _ _ _ => ?_)
    exact LSim.pure ⟨rfl, by simp only [RTm.erase, hd, hc]⟩
  | lam range g v imp dom body es ihd ihb =>
    intro chain depth
    simp only [strip, stripV, resolveAux_lam]
    refine LSim.bind (resolveOpt_strip_of ihd) (fun od od' hod => ?_)
    refine LSim.bind (bindName_lsim v _ depth rfl) (fun _ _ _ => ?_)
    refine LSim.bind (lamDomain_lsim hod) (fun _ _ hd => ?_)
    refine LSim.bind_res (ihb none (depth + 1)) (fun _ _ _ _ _ hb => ?_)
    refine LSim.bind (unbindName_lsim v.name) (fun _ _ _ => ?_)
    exact LSim.pure ⟨rfl, by simp only [RTm.erase, hd, hb]⟩
  | let_ range g v ann defn body es iha ihd ihb =>
    intro chain depth
    cases chain with
    | some c =>
      obtain ⟨n, i⟩ := c
      simp only [strip, stripV]; unfold resolveAux
      refine LSim.bind (resolveAnnotation_strip_of iha) (fun _ _ ha => ?_)
      refine LSim.bind_res (ihd none depth) (fun _ _ _ _ _ hd => ?_)
      refine LSim.bind_res (ihb (some (n, i + 1)) depth) (fun _ _ _ _ hr hb => ?_)
      exact LSim.pure ⟨by simp only [RDefs.erase, ha, hd, hr], hb⟩
    | none =>
      have hmap : ((⟨⟨0, 0⟩, v.name⟩ : SrcVar), stripO ann, strip defn) ::
          (collectDefinitions (strip body)).1 =
          ((v, ann, defn) :: (collectDefinitions body).1).map stripDef := by
        rw [collectDefinitions_strip]; rfl
      simp only [strip, stripV]; unfold resolveAux
      dsimp only
      rw [hmap, List.length_map]
      refine LSim.bind (bindDefinitions_lsim depth _ 0) (fun _ _ _ => ?_)
      refine LSim.bind (resolveAnnotation_strip_of iha) (fun _ _ ha => ?_)
      refine LSim.bind_res (ihd none _) (fun _ _ _ _ _ hd => ?_)
      refine LSim.bind_res (ihb (some (_, 1)) _) (fun _ _ _ _ hr hb => ?_)
      refine LSim.bind (unbindDefinitions_lsim _) (fun _ _ _ => ?_)
      exact LSim.pure ⟨rfl, by simp only [RTm.erase, RDefs.erase, ha, hd, hr, hb]⟩

theorem resolveOpt_strip : ∀ (o : OptSrc) (depth : Nat),
    LSim (fun a b => match a, b with
        | none, none => True
        | some x, some y => x.erase = y.erase
        | _, _ => False)
      (resolveOpt o depth) (resolveOpt (stripO o) depth) := by
  intro o depth st st' hs
  have h := resolveOpt_strip_of (OptSrc.all_of_forall resolveAux_strip o) (depth := depth) st st' hs
  revert h
  rcases resolveOpt o depth st with _ | ⟨a, s1⟩ <;>
    rcases resolveOpt (stripO o) depth st' with _ | ⟨a', s1'⟩ <;> try exact id
  rintro ⟨hr, hst⟩
  refine ⟨?_, hst⟩
  cases a <;> cases a' <;> first | trivial | cases hr | exact Option.some.inj hr

theorem resolveAnnotation_strip : ∀ (o : OptSrc) (n i newDepth : Nat),
    LSim (fun a b => a.erase = b.erase) (resolveAnnotation o n i newDepth)
      (resolveAnnotation (stripO o) n i newDepth) :=
  fun o _ _ _ => resolveAnnotation_strip_of (OptSrc.all_of_forall resolveAux_strip o)

theorem resolve_strip (s : Src) (depth : Nat) (st : RState) :
    (resolve (strip s) depth st).map resView = (resolve s depth st).map resView := by
  have h : LSim (fun a b => a.erase = b.erase) (resolve s depth) (resolve (strip s) depth) :=
    LSim.bind_res (resolveAux_strip s none depth) fun _ _ _ _ _ hr => LSim.pure hr
  have := h st st (StEq.refl st)
  revert this
  rcases resolve s depth st with _ | ⟨r, s1⟩ <;> rcases resolve (strip s) depth st with _ | ⟨r', s1'⟩ <;>
    intro this <;> first | rfl | exact this.elim | skip
  obtain ⟨hr, h1, h2, h3⟩ := this
  show some (resView (r', s1')) = some (resView (r, s1))
  simp only [resView, hr, h1, h2, h3]

theorem resolve_layout_independent (s s' : Src) (depth : Nat) (st : RState)
    (h : strip s = strip s') :
    (resolve s depth st).map resView = (resolve s' depth st).map resView := by
  rw [← resolve_strip s, ← resolve_strip s', h]

end PModel
