import GramModel.Lemmas.DeBruijn
import GramModel.Lemmas.Eval

/-!
# Traversals that are parallel substitutions

`Act.Natural F`: the traversal `F` leaves the variables bound inside the term alone, and what it puts for a free
variable under `m` more binders is what it puts for it outside, lifted by `m`.  Lifting (`Act.lift`), opening
(`Act.subst`) and the identity are natural.  A natural traversal of hole-free terms commutes with lifting
(`trav_ushift0`), with opening (`trav_open`) and hence with `unfoldDef` (`unfoldDef_trav`); `unfoldDef_ushift` is the
instance at `Act.lift`.  Everything is in the root namespace (`Act`, `Tm`, `Defs`).
-/

/-- `F` as it acts under `m` more binders -/
def Act.up (F : Act) (m : Nat) : Act := ⟨fun n => F.var (n + m), fun n => F.hole (n + m)⟩

theorem trav_up_both (F : Act) (m : Nat) : (∀ (t : Tm) n, t.trav F (n + m) = t.trav (F.up m) n) ∧
    ∀ (ds : Defs) n, ds.trav F (n + m) = ds.trav (F.up m) n := by
  apply Tm.rec_both
  case lam | pi => intro _ _ _ _ ihd ihb n; simp only [Tm.trav, ihd, Nat.add_right_comm n m 1, ihb]
  case letg => intro ds _ ihds ihb n; simp only [Tm.trav, Nat.add_right_comm n m ds.len, ihds, ihb]
  all_goals intros; first | rfl | simp only [Tm.trav, Defs.trav, *]

theorem Tm.trav_up (F : Act) (m : Nat) (t : Tm) (n : Nat) : t.trav F (n + m) = t.trav (F.up m) n :=
  (trav_up_both F m).1 t n
theorem Defs.trav_up (F : Act) (m : Nat) (ds : Defs) (n : Nat) : ds.trav F (n + m) = ds.trav (F.up m) n :=
  (trav_up_both F m).2 ds n

theorem Tm.trav_up0 (F : Act) (t : Tm) (k : Nat) : t.trav F k = t.trav (F.up k) 0 := by
  have := t.trav_up F k 0; rwa [Nat.zero_add] at this
theorem Defs.trav_up0 (F : Act) (ds : Defs) (k : Nat) : ds.trav F k = ds.trav (F.up k) 0 := by
  have := ds.trav_up F k 0; rwa [Nat.zero_add] at this

theorem delta_trav {op : BinOp} {x y : Int} {r : Tm} (h : delta op x y = some r) (F : Act) (m : Nat) :
    r.trav F m = r := by
  rcases delta_cases h with ⟨z, rfl⟩ | rfl | rfl <;> rfl

/-- A traversal that is a parallel substitution of hole-free terms for variables (`hf`) and puts a term with a hole for a
hole (`holeF`), so that `holeFree` of a traversed term is that of the term (`trav_hf`). -/
structure Act.Natural (F : Act) : Prop where
  bound : ∀ n x i, i < n → F.var n x i = .var x i
  lift : ∀ n m x i, F.var (n + m) x (i + m) = ushift 0 m (F.var n x i)
  hf : ∀ n x i, (F.var n x i).holeFree = true
  holeF : ∀ n id s, (F.hole n id s).holeFree = false

namespace Act.Natural
variable {F : Act} (hF : F.Natural)
include hF

theorem var_ge {n p : Nat} (x : Name) {j : Nat} (h : p ≤ j) :
    F.var (n + p) x j = ushift 0 p (F.var n x (j - p)) := by
  have := hF.lift n p x (j - p)
  rwa [Nat.sub_add_cancel h] at this

theorem ushift0_var (n m p : Nat) (x : Name) (j : Nat) :
    ((F.up (n + m)).comp (.lift 0 m)).var p x j = ((Act.lift 0 m).comp (F.up n)).var p x j := by
  show F.var (p + (n + m)) x (liftIdx 0 m p j) = (F.var (p + n) x j).trav (.lift 0 m) p
  rw [← ushift_add_eq_trav]
  by_cases h : p ≤ j
  · rw [lift_of_le (by omega), ← Nat.add_assoc, hF.lift, Nat.add_comm p n, hF.var_ge x h,
      ushift_ushift, ushift_ushift_mid _ (0 + p) 0 m p (Nat.zero_le _) (by omega)]
  · rw [lift_of_lt (by omega), hF.bound _ x j (by omega), hF.bound _ x j (by omega)]
    simp only [ushift]; rw [if_neg (by omega)]

theorem trav_ushift0 {t : Tm} (ht : t.holeFree = true) (n m : Nat) :
    (ushift 0 m t).trav F (n + m) = ushift 0 m (t.trav F n) := by
  rw [ushift_eq_trav, ushift_eq_trav, Tm.trav_up0 F _ (n + m), Tm.trav_up0 F t n, Tm.trav_trav, Tm.trav_trav]
  exact t.trav_congr (hF.ushift0_var n m) 0 (.inl ht)

-- the variable `i + p` is bound where `F` acts, smaller ones too; a larger one `j` is free there, what `F`
-- puts for it is lifted over the opened variable, and opening undoes that lift
theorem open_var {u : Tm} (hu : u.holeFree = true) (n i p : Nat) (x : Name) (j : Nat) :
    ((F.up (n + i)).comp (.subst i u 0)).var p x j =
      ((Act.subst i (u.trav F (n + i)) 0).comp (F.up (n + i + 1))).var p x j := by
  show ((Act.subst i u 0).var p x j).trav (F.up (n + i)) p =
    (F.var (p + (n + i + 1)) x j).trav (.subst i (u.trav F (n + i)) 0) p
  rw [← openT_add_eq_trav, ← Tm.trav_up]
  by_cases h1 : j = i + p
  · subst h1
    rw [Act.subst_var_self, hF.bound _ x _ (by omega), Nat.add_comm p (n + i), Nat.zero_add,
      hF.trav_ushift0 hu]
    simp only [openT, if_true]
  · rw [Act.subst_var_ne h1]
    show F.var (p + (n + i)) x (lowerIdx i p j) = _
    by_cases h2 : j < i + p
    · rw [lower_of_le (by omega), hF.bound _ x j (by omega), hF.bound _ x j (by omega)]
      simp only [openT]; rw [if_neg h1, if_neg (by omega)]
    · have e : lowerIdx i p j = j - 1 := lower_of_lt (by omega)
      have e1 : p + (n + i) = n + (i + p) := by omega
      have e2 : p + (n + i + 1) = n + (i + p + 1) := by omega
      rw [e, e1, e2, hF.var_ge x (show i + p ≤ j - 1 by omega), hF.var_ge x (show i + p + 1 ≤ j by omega),
        show j - (i + p + 1) = j - 1 - (i + p) by omega,
        Nat.add_comm (i + p) 1, ← ushift_ushift_mid _ (i + p) 0 1 (i + p) (Nat.zero_le _) (by omega),
        open_ushift_cancel]

theorem trav_open {t u : Tm} (ht : t.holeFree = true) (hu : u.holeFree = true) (n i : Nat) :
    (openT t i u 0).trav F (n + i) = openT (t.trav F (n + i + 1)) i (u.trav F (n + i)) 0 := by
  rw [openT_eq_trav, openT_eq_trav, Tm.trav_up0 F _ (n + i), Tm.trav_up0 F t (n + i + 1), Tm.trav_trav,
    Tm.trav_trav]
  exact t.trav_congr (hF.open_var hu n i) 0 (.inl ht)

theorem travDefs_open {ds : Defs} {u : Tm} (ht : ds.holeFree = true) (hu : u.holeFree = true) (n i : Nat) :
    (openDefs ds i u 0).trav F (n + i) = openDefs (ds.trav F (n + i + 1)) i (u.trav F (n + i)) 0 := by
  rw [openDefs_eq_trav, openDefs_eq_trav, Defs.trav_up0 F _ (n + i), Defs.trav_up0 F ds (n + i + 1),
    Defs.trav_trav, Defs.trav_trav]
  exact ds.trav_congr (hF.open_var hu n i) 0 (.inl ht)

theorem trav_hf {t : Tm} (ht : t.holeFree = true) (n : Nat) : (t.trav F n).holeFree = true :=
  (t.holeFree_trav hF.hf hF.holeF n).trans ht
theorem travDefs_hf {ds : Defs} (ht : ds.holeFree = true) (n : Nat) : (ds.trav F n).holeFree = true :=
  (ds.holeFree_trav hF.hf hF.holeF n).trans ht

theorem unfoldDef_trav (x : Name) {a d : Tm} (ha : a.holeFree = true) (hd : d.holeFree = true)
    (n idx : Nat) :
    (unfoldDef x a d idx).trav F (n + idx) =
      unfoldDef x (a.trav F (n + idx + 1)) (d.trav F (n + idx + 1)) idx := by
  have hv : (Tm.var x 0).holeFree = true := rfl
  have h2 : ∀ k, (Tm.var x 0).trav F (k + 1) = Tm.var x 0 := fun k => hF.bound _ x 0 (Nat.succ_pos k)
  have hs : ∀ {t : Tm}, t.holeFree = true →
      (openT (ushift 0 1 t) (idx + 1) (Tm.var x 0) 0).holeFree = true := fun {t} ht =>
    openT_holeFree _ _ _ _ ((holeFree_ushift t 0 1).trans ht) hv
  have inner : ∀ {t : Tm}, t.holeFree = true →
      (openT (ushift 0 1 t) (idx + 1) (Tm.var x 0) 0).trav F (n + idx + 1) =
        openT (ushift 0 1 (t.trav F (n + idx + 1))) (idx + 1) (Tm.var x 0) 0 := fun {t} ht => by
    have h1 := hF.trav_open ((holeFree_ushift t 0 1).trans ht) hv n (idx + 1)
    rw [show n + (idx + 1) = n + idx + 1 from rfl, h2, hF.trav_ushift0 ht] at h1
    exact h1
  have hS : (Tm.letg (.cons x (openT (ushift 0 1 a) (idx + 1) (Tm.var x 0) 0)
      (openT (ushift 0 1 d) (idx + 1) (Tm.var x 0) 0) .nil) (Tm.var x 0)).holeFree = true := by
    simp only [Tm.holeFree, Defs.holeFree, hs ha, hs hd, Bool.and_self]
  unfold unfoldDef
  dsimp only
  rw [hF.trav_open hd hS n idx]
  congr 1
  simp only [Tm.trav, Defs.trav, Defs.len_cons, Defs.len_nil, Nat.zero_add]
  rw [inner ha, inner hd]
  exact congrArg _ (h2 _)

end Act.Natural

theorem Act.lift_natural (k m : Nat) : (Act.lift k m).Natural where
  bound n x i h := by
    exact congrArg (Tm.var x) (lift_of_lt (by omega) m)
  lift n p x i := by
    show Tm.var x (liftIdx k m (n + p) (i + p)) = ushift 0 p (Tm.var x (liftIdx k m n i))
    simp only [ushift, Nat.zero_le, ge_iff_le, if_true, lift_under]
  hf _ _ _ := rfl
  holeF _ _ _ := rfl

theorem Act.id_natural : Act.id.Natural where
  bound _ _ _ _ := rfl
  lift n p x i := by
    show Tm.var x (i + p) = ushift 0 p (Tm.var x i)
    simp only [ushift, Nat.zero_le, ge_iff_le, if_true]
  hf _ _ _ := rfl
  holeF _ _ _ := rfl

theorem Act.subst_natural (k : Nat) {v : Tm} (hv : v.holeFree = true) : (Act.subst k v 0).Natural where
  bound n x i h := by rw [Act.subst_var_ne (by omega), lower_of_le (by omega)]
  lift n p x i := by
    by_cases h : i = k + n
    · rw [h, Act.subst_var_self, show k + n + p = k + (n + p) by omega, Act.subst_var_self, ushift_ushift]
      congr 1; omega
    · rw [Act.subst_var_ne h, Act.subst_var_ne (by omega)]
      simp only [ushift, Nat.zero_le, ge_iff_le, if_true, lower_under]
  hf := Act.subst_var_holeFree k 0 hv
  holeF _ _ _ := rfl

theorem Act.Natural.comp {F G : Act} (hF : F.Natural) (hG : G.Natural) : (F.comp G).Natural where
  bound n x i h := by
    show (G.var n x i).trav F n = _
    rw [hG.bound n x i h]; exact hF.bound n x i h
  lift n m x i := by
    show (G.var (n + m) x (i + m)).trav F (n + m) = ushift 0 m ((G.var n x i).trav F n)
    rw [hG.lift, hF.trav_ushift0 (hG.hf n x i)]
  hf n x i := hF.trav_hf (hG.hf n x i) n
  holeF n id s := ((G.hole n id s).holeFree_trav hF.hf hF.holeF n).trans (hG.holeF n id s)

theorem unfoldDef_ushift (x : Name) (a d : Tm) (idx c k : Nat) (ha : a.holeFree = true)
    (hd : d.holeFree = true) (h : idx ≤ c) :
    ushift c k (unfoldDef x a d idx) =
      unfoldDef x (ushift (c+1) k a) (ushift (c+1) k d) idx := by
  have := (Act.lift_natural (c - idx) k).unfoldDef_trav x ha hd 0 idx
  simp only [← ushift_add_eq_trav, Nat.zero_add] at this
  rwa [show c - idx + idx = c by omega, show c - idx + (idx + 1) = c + 1 by omega] at this
