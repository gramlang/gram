import GramModel.Parser

/-!
# `finishParse` as its stages

What `parse` does with the tree and the position the parse phase returns, one stage after the other:
the syntax errors (`syntaxErrors`), the three re-association passes (`reassocAll`), name resolution and
the definition-order check (`finishResolved`).  `finishParse_stages` is the decomposition; what an outcome of `finishParse`
implies (`finishParse_ok`, `finishParse_errors_ne`) is read off it.

`reassocAll` and `reassocResolve` are declared into namespace `RewriteMore`, the namespace of the lemmas about
rewrites of the program (C19: Lemmas/RewriteParens.lean, RewriteTerms.lean, and `strip` in ResolveLayout.lean),
whose statements name them.
-/

namespace RewriteMore

open PModel

/-- the three re-association passes of `parse`, in order -/
def reassocAll (t : Src) : Option Src :=
  match reassociateApplications t with
  | none => none
  | some t1 =>
    match reassociateProductsAndQuotients t1 with
    | none => none
    | some t2 => reassociateSumsAndDifferences t2

def reassocResolve (t : Src) (depth : Nat) (st : RState) : Option (RTm × RState) :=
  match reassocAll t with
  | none => none
  | some t3 => resolve t3 depth st

end RewriteMore

namespace PModel

open RewriteMore

/-- the errors `parse` reports before any pass runs: those recorded in the tree, or, if there are none,
the first token the parse phase left unread -/
def syntaxErrors (toks : Array PTok) (term : Src) (next : Nat) : List PErr :=
  if (collectErrors term).isEmpty && next != toks.size then collectErrors term ++ [errorFactory toks next]
  else collectErrors term

def finishResolved (context : List Name) (t3 : Src) : ParseOutcome :=
  let ctx := initialContext context
  match resolve t3 ctx.length { ctx := ctx, errors := [], nextHole := 0 } with
  | none => .panic
  | some (resolved, st) =>
  match checkDefinitions resolved st.ctx.length st.errors with
  | .error .panic => .panic
  | .error .outOfFuel => .outOfFuel
  | .ok errors => if errors.isEmpty then .ok resolved else .errors errors

theorem finishParse_stages (toks : Array PTok) (context : List Name) (term : Src) (next : Nat) :
    finishParse toks context term next =
      if !(syntaxErrors toks term next).isEmpty then .errors (syntaxErrors toks term next) else
        match reassocAll term with
        | none => .panic
        | some t3 => finishResolved context t3 := by
  unfold finishParse reassocAll finishResolved syntaxErrors
  cases reassociateApplications term with
  | none => rfl
  | some t1 =>
    dsimp only
    cases reassociateProductsAndQuotients t1 with
    | none => rfl
    | some t2 => dsimp only; cases reassociateSumsAndDifferences t2 <;> rfl

theorem finishResolved_none {context : List Name} {t3 : Src}
    (h : resolve t3 (initialContext context).length
      { ctx := initialContext context, errors := [], nextHole := 0 } = none) :
    finishResolved context t3 = .panic := by
  unfold finishResolved; simp only [h]

theorem finishResolved_some {context : List Name} {t3 : Src} {r : RTm} {s : RState}
    (h : resolve t3 (initialContext context).length
      { ctx := initialContext context, errors := [], nextHole := 0 } = some (r, s)) :
    finishResolved context t3 =
      match checkDefinitions r s.ctx.length s.errors with
      | .error .panic => .panic
      | .error .outOfFuel => .outOfFuel
      | .ok errors => if errors.isEmpty then .ok r else .errors errors := by
  unfold finishResolved; simp only [h]

theorem syntaxErrors_eq_nil {toks : Array PTok} {term : Src} {next : Nat} :
    syntaxErrors toks term next = [] ↔ collectErrors term = [] ∧ next = toks.size := by
  unfold syntaxErrors
  cases collectErrors term with
  | nil => by_cases hn : next = toks.size <;> simp [hn]
  | cons e es => simp

theorem finishResolved_errors_ne {context : List Name} {t3 : Src} {es : List PErr}
    (h : finishResolved context t3 = .errors es) : es ≠ [] := by
  cases hr : resolve t3 (initialContext context).length
      { ctx := initialContext context, errors := [], nextHole := 0 } with
  | none => rw [finishResolved_none hr] at h; cases h
  | some p =>
    rw [finishResolved_some (r := p.1) (s := p.2) hr] at h
    repeat' split at h
    all_goals first | exact ParseOutcome.noConfusion h | skip
    rename_i hne
    cases h
    intro e; rw [e] at hne; exact hne rfl

theorem finishParse_ok {toks : Array PTok} {ctx : List Name} {term : Src} {next : Nat} {t : RTm}
    (h : finishParse toks ctx term next = .ok t) : next = toks.size ∧ collectErrors term = [] := by
  rw [finishParse_stages] at h
  split at h
  · cases h
  · rename_i hs
    have := syntaxErrors_eq_nil.1 (List.isEmpty_iff.1 (by simpa using hs))
    exact ⟨this.2, this.1⟩

theorem finishParse_errors_ne {toks : Array PTok} {ctx : List Name} {term : Src} {next : Nat}
    {es : List PErr} (h : finishParse toks ctx term next = .errors es) : es ≠ [] := by
  rw [finishParse_stages] at h
  split at h
  · rename_i hs
    cases h
    intro e; rw [e] at hs; simp at hs
  · split at h
    · cases h
    · exact finishResolved_errors_ne h

end PModel
