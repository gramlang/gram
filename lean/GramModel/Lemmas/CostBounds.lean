import GramModel.Lemmas.Lexer
import GramModel.Lemmas.ParserCalls

/-!
# Step counts for the tokenizer's loops and the parser's error-recovery scans

`C17` bounds the number of *calls* of the 36 packrat functions.  This file bounds the work done by
the loops that are not packrat calls:

* the tokenizer's main loop `scan` together with its inner loops `spanChars` (identifier / number
  tails) and `skipComment`, and the second pass `filterToks`;
* the parser's recovery scan `scanLoop` (inside `expectToken`), which runs inside the bodies of
  `parse_let`, `parse_if` and `parse_group`.

Every count is the second component of a *counting twin* whose first component is proved equal to
the model's own function, so the bounds are about the model's loops.  The tokenizer's twins are defined
in `Lemmas/LexBody.lean`, beside the one-step function `lexStep` they iterate.
-/

/-- What one iteration costs (it never takes the panic arm): it consumes at least one character and makes
between one and twice-the-consumed-characters inspections. -/
theorem lexStep_bounded (cc : CharClass) (pos : Nat) (c : Char) (cs : List Char) (s : LexState) :
    ∃ p r s' k, lexStep cc pos c cs s = .next p r s' k ∧ r.length < cs.length + 1 ∧ 1 ≤ k ∧
      k + 2 * r.length ≤ 2 * (cs.length + 1) := by
  obtain ⟨lex, rest, s', e, h⟩ := ScanStep.total cc s pos c cs
  obtain ⟨c', l, k, rfl, e2, h1, h2⟩ := h.lexStep_eq
  rw [List.cons_append] at e
  obtain ⟨rfl, rfl⟩ := List.cons.inj e
  simp only [List.length_append, List.length_cons] at h2 ⊢
  exact ⟨_, _, _, k, e2, by omega, h1, by omega⟩

theorem scanC_fst (cc : CharClass) : ∀ (fuel pos : Nat) (cs : List Char) (s : LexState),
    (scanC cc fuel pos cs s).1 = scan cc fuel pos cs s
  | 0, _, _, _ => by rw [scan_zero]; rfl
  | fuel + 1, pos, [], s => by rw [scan_nil]; simp [scanC]
  | fuel + 1, pos, c :: cs, s => by
      rw [scan_succ, scanC]
      cases lexStep cc pos c cs s with
      | halt s' => rfl
      | next p r s' k => exact scanC_fst cc fuel p r s'

/-- **Every character is inspected at most twice** (once when it is consumed, by the main loop or
by an inner loop, and at most once as the look-ahead that ends the previous lexeme). -/
theorem scanC_steps_le (cc : CharClass) : ∀ (fuel pos : Nat) (cs : List Char) (s : LexState),
    (scanC cc fuel pos cs s).2 ≤ 2 * cs.length
  | 0, _, _, _ => by simp [scanC]
  | fuel + 1, pos, [], s => by simp [scanC]
  | fuel + 1, pos, c :: cs, s => by
      obtain ⟨p, r, s', k, e, _, _, hk⟩ := lexStep_bounded cc pos c cs s
      have ih := scanC_steps_le cc fuel p r s'
      rw [scanC, e]
      simp only [List.length_cons]
      omega

theorem scan_out_le (cc : CharClass) (fuel pos : Nat) (cs : List Char) (s : LexState) :
    (scan cc fuel pos cs s).toks.length + (scan cc fuel pos cs s).errs.length
      ≤ s.toks.length + s.errs.length + cs.length := by
  have key := scan_run cc
    (fun _ c s' => s'.toks.length + s'.errs.length + c.length ≤ s.toks.length + s.errs.length + cs.length)
    ?_ fuel pos cs s (Nat.le_refl _)
  · obtain ⟨_, cs', h, _⟩ := key; omega
  rintro _ _ s1 _ c' s2 hi ⟨lex, hne, rfl, _, _, hc⟩
  have := List.length_pos_iff.2 hne
  rw [List.length_append] at hi
  rcases hc with ⟨k, ht, he, _⟩ | ⟨ht, he, _⟩ | ⟨ht, he, _⟩ | ⟨ht, he, _⟩ <;>
    rw [ht, he] <;> (try simp only [List.length_cons]) <;> omega

theorem scan_fuel_irrel (cc : CharClass) (f1 f2 pos : Nat) (cs : List Char) (s : LexState)
    (h1 : cs.length ≤ f1) (h2 : cs.length ≤ f2) : scan cc f1 pos cs s = scan cc f2 pos cs s := by
  obtain ⟨p, r, hr, hl⟩ := scan_runs cc f1 pos cs s
  obtain rfl := hl h1
  exact (hr.scan_done h2).symm

theorem scanC_fuel_irrel (cc : CharClass) : ∀ (f1 f2 pos : Nat) (cs : List Char) (s : LexState),
    cs.length ≤ f1 → cs.length ≤ f2 → scanC cc f1 pos cs s = scanC cc f2 pos cs s
  | f1, f2, pos, [], s, _, _ => by cases f1 <;> cases f2 <;> simp [scanC]
  | 0, _, _, _ :: _, _, h, _ => by simp at h
  | _, 0, _, _ :: _, _, _, h => by simp at h
  | f1 + 1, f2 + 1, pos, c :: cs, s, h1, h2 => by
      obtain ⟨p, r, s', k, e, hr, _⟩ := lexStep_bounded cc pos c cs s
      simp only [List.length_cons] at h1 h2
      simp only [scanC, e, scanC_fuel_irrel cc f1 f2 p r s' (by omega) (by omega)]

theorem filterToksC_fst : ∀ (ts : List Tok), (filterToksC ts).1 = filterToks ts
  | [] => rfl
  | t :: rest => by
      rw [filterToksC, filterToks, filterToksC_fst rest]
      rfl

theorem filterToksC_snd : ∀ (ts : List Tok), (filterToksC ts).2 = ts.length + 1
  | [] => rfl
  | t :: rest => by rw [filterToksC]; simp [filterToksC_snd rest]

theorem filterToks_length_le (l ts : List Tok) (h : filterToks l = some ts) : ts.length ≤ l.length :=
  (filterToks_sublist l ts h).length_le

theorem tokenizeC_fst (cc : CharClass) (text : List Char) :
    (tokenizeC cc text).1 = tokenize cc text := by
  unfold tokenizeC tokenize
  simp only [scanC_fst, filterToksC_fst]
  split
  · rfl
  · split
    · rfl
    · rfl

theorem tokenizeC_steps_le (cc : CharClass) (text : List Char) :
    (tokenizeC cc text).2 ≤ 4 * text.length + 1 := by
  have h1 := scanC_steps_le cc text.length 0 text { toks := [], errs := [] }
  have h2 := scan_out_le cc text.length 0 text { toks := [], errs := [] }
  rw [← scanC_fst] at h2
  unfold tokenizeC
  simp only [filterToksC_snd, List.length_reverse]
  simp only [List.length_nil] at h2
  split
  · dsimp only; omega
  · split
    · dsimp only; omega
    · dsimp only; omega

theorem tokenize_length_le (cc : CharClass) (text : List Char) (ts : List Tok)
    (h : tokenize cc text = .ok ts) : ts.length ≤ text.length := by
  have h2 : (scan0 cc text).toks.length + (scan0 cc text).errs.length ≤ 0 + 0 + text.length :=
    scan_out_le cc text.length 0 text { toks := [], errs := [] }
  have := filterToks_length_le _ _ (tokenize_ok h).2
  rw [List.length_reverse] at this
  omega

namespace PModel

/-- the counting twin of `scanLoop`: the second component is the number of tokens inspected (the iterations
that find a token at `next`) -/
def scanLoopC (toks : Array PTok) (target : PKind → Bool) : Nat → Nat → Nat → (Bool × Nat) × Nat
  | 0, next, _ => ((false, next), 0)
  | n + 1, next, depth =>
    if h : next < toks.size then
      let k := toks[next].kind
      if target k && depth == 0 then ((true, next + 1), 1)
      else match k with
        | .leftParen =>
          ((scanLoopC toks target n (next + 1) (depth + 1)).1,
           (scanLoopC toks target n (next + 1) (depth + 1)).2 + 1)
        | .rightParen =>
          if depth > 0 then
            ((scanLoopC toks target n (next + 1) (depth - 1)).1,
             (scanLoopC toks target n (next + 1) (depth - 1)).2 + 1)
          else ((false, next), 1)
        | .terminator _ =>
          if depth == 0 then ((false, next), 1)
          else
            ((scanLoopC toks target n (next + 1) depth).1,
             (scanLoopC toks target n (next + 1) depth).2 + 1)
        | _ =>
          ((scanLoopC toks target n (next + 1) depth).1,
           (scanLoopC toks target n (next + 1) depth).2 + 1)
    else ((false, next), 0)

def scanLoopSteps (toks : Array PTok) (target : PKind → Bool) (n next depth : Nat) : Nat :=
  (scanLoopC toks target n next depth).2

theorem scanLoopC_fst (toks : Array PTok) (target : PKind → Bool) : ∀ (n next depth : Nat),
    (scanLoopC toks target n next depth).1 = scanLoop toks target n next depth
  | 0, _, _ => rfl
  | n + 1, next, depth => by
      have ih := fun d => scanLoopC_fst toks target n (next + 1) d
      unfold scanLoopC scanLoop
      split
      · dsimp only
        generalize toks[next].kind = k
        split
        · rfl
        · cases k <;> dsimp only <;> (try split) <;> first | rfl | exact ih _
      · rfl

/-- the `+ 1` is the token the scan stops at -/
theorem scanLoopC_steps_le (toks : Array PTok) (target : PKind → Bool) : ∀ (n next depth : Nat),
    (scanLoopC toks target n next depth).2 ≤ n ∧
    (scanLoopC toks target n next depth).2 + next ≤ (scanLoopC toks target n next depth).1.2 + 1
  | 0, _, _ => by simp [scanLoopC]
  | n + 1, next, depth => by
      have ih := fun d => scanLoopC_steps_le toks target n (next + 1) d
      unfold scanLoopC
      split
      · dsimp only
        generalize toks[next].kind = k
        split
        · dsimp only; omega
        · cases k <;> dsimp only <;> (try split) <;> (try dsimp only) <;>
            (have := ih depth; have := ih (depth + 1); have := ih (depth - 1); omega)
      · dsimp only; omega

/-- the counting twin of `expectToken`: the tokens inspected by `expect_token_*!` — the peek at the current
token that decides whether an error is reported, and the scan -/
def expectTokenC (toks : Array PTok) (next : Nat) (target : PKind → Bool) (reportError : Bool) :
    (List PErr × Bool × Nat) × Nat :=
  (expectToken toks next target reportError,
   (if reportError && decide (next < toks.size) then 1 else 0) +
     scanLoopSteps toks target (toks.size - next) next 0)

def expectTokenSteps (toks : Array PTok) (next : Nat) (target : PKind → Bool) (reportError : Bool) :
    Nat := (expectTokenC toks next target reportError).2

theorem expectTokenSteps_le (toks : Array PTok) (next : Nat) (target : PKind → Bool) (rep : Bool) :
    expectTokenSteps toks next target rep ≤ toks.size - next + 1 := by
  unfold expectTokenSteps expectTokenC scanLoopSteps
  have := (scanLoopC_steps_le toks target (toks.size - next) next 0).1
  dsimp only
  split <;> omega

theorem expectTokenSteps_le' (toks : Array PTok) (next : Nat) (target : PKind → Bool) (rep : Bool) :
    expectTokenSteps toks next target rep ≤ toks.size + 1 := by
  have := expectTokenSteps_le toks next target rep
  omega

/-! ### Writer-style twins of the three bodies that scan

`parseLetC`, `parseIfC`, `parseGroupC` are `parseLet`, `parseIf`, `parseGroup` with one extra
output: the number of tokens inspected by the `expectToken` calls made *by this execution of the
body* (not by the recursive calls `rec …`, which are other body executions).  They are written with
the same combinators (`consume0C`, `consumeIdentC`, `tryEvalC` = the macros, passing a count of 0
on the early exits), and forgetting the count gives back the model's body (`…_fst`). -/

def consume0C (toks : Array PTok) (next : Nat) (kind : PKind) (k : Nat → ParseM (PResult × Nat)) :
    ParseM (PResult × Nat) :=
  if h : next < toks.size then
    if toks[next].kind = kind then k (next + 1) else pure (failAt toks next, 0)
  else pure (failAt toks next, 0)

def consumeIdentC (toks : Array PTok) (next : Nat) (k : Name → Nat → ParseM (PResult × Nat)) :
    ParseM (PResult × Nat) :=
  if h : next < toks.size then
    match toks[next].kind with
    | .identifier x => k x (next + 1)
    | _ => pure (failAt toks next, 0)
  else pure (failAt toks next, 0)

def tryEvalC (p : ParseM PResult) (k : Src → Nat → Bool → ParseM (PResult × Nat)) :
    ParseM (PResult × Nat) := do
  let r ← p
  if r.term.isParseError then pure (r, 0) else k r.term r.next r.confident

theorem consume0C_fst (toks : Array PTok) (next : Nat) (kind : PKind)
    (k : Nat → ParseM (PResult × Nat)) :
    Prod.fst <$> consume0C toks next kind k = consume0 toks next kind (fun n => Prod.fst <$> k n) := by
  unfold consume0C consume0
  split
  · split
    · rfl
    · rfl
  · rfl

theorem consumeIdentC_fst (toks : Array PTok) (next : Nat) (k : Name → Nat → ParseM (PResult × Nat)) :
    Prod.fst <$> consumeIdentC toks next k = consumeIdent toks next (fun x n => Prod.fst <$> k x n) := by
  unfold consumeIdentC consumeIdent
  split
  · generalize toks[next].kind = kd
    cases kd <;> rfl
  · rfl

theorem tryEvalC_fst (p : ParseM PResult) (k : Src → Nat → Bool → ParseM (PResult × Nat)) :
    Prod.fst <$> tryEvalC p k = tryEval p (fun a b c => Prod.fst <$> k a b c) := by
  unfold tryEvalC tryEval
  rw [map_bind]
  congr 1
  funext r
  split
  · rfl
  · rfl

theorem map_ite' {α β : Type} (f : α → β) (c : Prop) [Decidable c] (a b : ParseM α) :
    f <$> (if c then a else b) = if c then f <$> a else f <$> b := by
  split <;> rfl

section Twins
variable (toks : Array PTok) (rec : NT → Nat → ParseM PResult)

def parseGroupC (start : Nat) : ParseM (PResult × Nat) :=
  consume0C toks start .leftParen fun next =>
  tryEvalC (rec .term next) fun term next confident =>
  let steps := expectTokenSteps toks next (· = .rightParen) confident
  let (phonyErrors, found, next) := expectToken toks next (· = .rightParen) confident
  let errors := term.errors
  let errors := if found then errors ++ phonyErrors else errors
  let errors := if !found then errors ++ [neverClosed toks start next] else errors
  pure (⟨.mk (span (tokenRange toks start) (tokenRange toks (next - 1))) true term.variant errors,
        next, found⟩, steps)

theorem parseGroupC_fst (start : Nat) :
    Prod.fst <$> parseGroupC toks rec start = parseGroup toks rec start := by
  unfold parseGroupC parseGroup
  rw [consume0C_fst]
  congr 1
  funext next
  rw [tryEvalC_fst]
  rfl

def parseIfC (start : Nat) : ParseM (PResult × Nat) :=
  consume0C toks start .if_ fun next => do
  let ⟨condition, next, conditionConfident⟩ ← rec .term next
  let steps1 := expectTokenSteps toks next (· = .then_) conditionConfident
  let (errs1, foundThen, next) := expectToken toks next (· = .then_) conditionConfident
  let ⟨thenBranch, next, thenConfident⟩ ←
    if foundThen then rec .term next else pure ⟨skippedTerm toks next, next, false⟩
  let steps2 := expectTokenSteps toks next (· = .else_) thenConfident
  let (errs2, foundElse, next) := expectToken toks next (· = .else_) thenConfident
  let ⟨elseBranch, next, elseConfident⟩ ←
    if foundElse then rec .term next else pure ⟨skippedTerm toks next, next, false⟩
  pure (⟨.mk (span (tokenRange toks start) elseBranch.range) false
          (.ite condition thenBranch elseBranch) (errs1 ++ errs2), next, elseConfident⟩,
        steps1 + steps2)

theorem parseIfC_fst (start : Nat) :
    Prod.fst <$> parseIfC toks rec start = parseIf toks rec start := by
  unfold parseIfC parseIf
  rw [consume0C_fst]
  congr 1
  funext next
  simp only [map_bind, map_pure, map_ite', pure_bind]

/-- the two scans of `parse_let`: for `=` after an annotation (`steps0`; 0 on the paths without annotation) and
for the terminator -/
def parseLetC (start : Nat) : ParseM (PResult × Nat) :=
  let variableRange := tokenRange toks start
  consumeIdentC toks start fun x next =>
  let rest (annotation : OptSrc) (next : Nat) (errors : List PErr)
      (equalsFound : Bool) (steps0 : Nat) : ParseM (PResult × Nat) := do
    let ⟨definition, next, definitionConfident⟩ ←
      if equalsFound then rec .term next
      else pure ⟨skippedTerm toks next, next, false⟩
    let steps2 := expectTokenSteps toks next PKind.isTerminator definitionConfident
    let (errs2, terminatorFound, next) :=
      expectToken toks next PKind.isTerminator definitionConfident
    let errors := errors ++ errs2
    let ⟨body, next, bodyConfident⟩ ←
      if terminatorFound then rec .term next
      else pure ⟨skippedTerm toks next, next, false⟩
    pure (⟨.mk (span variableRange body.range) false
            (.let_ ⟨variableRange, x⟩ annotation definition body) errors, next, bodyConfident⟩,
          steps0 + steps2)
  if h : next < toks.size then
    if toks[next].kind = .colon then
      consume0C toks next .colon fun next =>
      tryEvalC (rec .smallTerm next) fun annotation next annotationConfident =>
      let steps1 := expectTokenSteps toks next (· = .equals) annotationConfident
      let (errs1, equalsFound, next) :=
        expectToken toks next (· = .equals) annotationConfident
      rest (.some annotation) next errs1 equalsFound steps1
    else
      consume0C toks next .equals fun next => rest .none next [] true 0
  else
    consume0C toks next .equals fun next => rest .none next [] true 0

def parseLetRestC (variableRange : SourceRange) (x : Name) (annotation : OptSrc) (next : Nat)
    (errors : List PErr) (equalsFound : Bool) (steps0 : Nat) : ParseM (PResult × Nat) := do
  let ⟨definition, next, definitionConfident⟩ ←
    if equalsFound then rec .term next
    else pure ⟨skippedTerm toks next, next, false⟩
  let steps2 := expectTokenSteps toks next PKind.isTerminator definitionConfident
  let (errs2, terminatorFound, next) :=
    expectToken toks next PKind.isTerminator definitionConfident
  let errors := errors ++ errs2
  let ⟨body, next, bodyConfident⟩ ←
    if terminatorFound then rec .term next
    else pure ⟨skippedTerm toks next, next, false⟩
  pure (⟨.mk (span variableRange body.range) false
          (.let_ ⟨variableRange, x⟩ annotation definition body) errors, next, bodyConfident⟩,
        steps0 + steps2)

theorem parseLetC_eq (start : Nat) :
    parseLetC toks rec start =
      consumeIdentC toks start fun x next =>
        if h : next < toks.size then
          if toks[next].kind = .colon then
            consume0C toks next .colon fun next =>
            tryEvalC (rec .smallTerm next) fun annotation next annotationConfident =>
            parseLetRestC toks rec (tokenRange toks start) x (.some annotation)
              (expectToken toks next (· = .equals) annotationConfident).2.2
              (expectToken toks next (· = .equals) annotationConfident).1
              (expectToken toks next (· = .equals) annotationConfident).2.1
              (expectTokenSteps toks next (· = .equals) annotationConfident)
          else
            consume0C toks next .equals fun next =>
              parseLetRestC toks rec (tokenRange toks start) x .none next [] true 0
        else
          consume0C toks next .equals fun next =>
            parseLetRestC toks rec (tokenRange toks start) x .none next [] true 0 := rfl

theorem parseLetRestC_fst (vr : SourceRange) (x : Name) (ann : OptSrc) (next : Nat)
    (errors : List PErr) (ef : Bool) (steps0 : Nat) :
    Prod.fst <$> parseLetRestC toks rec vr x ann next errors ef steps0 =
      parseLetRest toks rec vr x ann next errors ef := by
  unfold parseLetRestC parseLetRest
  simp only [map_bind, map_pure, map_ite', pure_bind]

theorem parseLetC_fst (start : Nat) :
    Prod.fst <$> parseLetC toks rec start = parseLet toks rec start := by
  rw [parseLetC_eq, parseLet_eq, consumeIdentC_fst]
  congr 1
  funext x next
  split
  · split
    · rw [consume0C_fst]
      congr 1
      funext next
      rw [tryEvalC_fst]
      congr 1
      funext a b c
      exact parseLetRestC_fst ..
    · rw [consume0C_fst]
      congr 1
      funext next
      exact parseLetRestC_fst ..
  · rw [consume0C_fst]
    congr 1
    funext next
    exact parseLetRestC_fst ..

end Twins

/-- `CostLe m b`: whenever `m` succeeds, the count it returns is at most `b`. -/
def CostLe (m : ParseM (PResult × Nat)) (b : Nat) : Prop :=
  ∀ st r k st', m st = some ((r, k), st') → k ≤ b

theorem CostLe.pure {r : PResult} {k b : Nat} (h : k ≤ b) :
    CostLe (Pure.pure (r, k) : ParseM (PResult × Nat)) b := by
  intro st r' k' st' e
  cases e
  exact h

theorem CostLe.bind {α : Type} {m : ParseM α} {f : α → ParseM (PResult × Nat)} {b : Nat}
    (hf : ∀ a, CostLe (f a) b) : CostLe (m >>= f) b := by
  intro st r k st' e
  rw [ParseM_bind_eq] at e
  cases hm : m st with
  | none => simp [hm] at e
  | some p =>
    obtain ⟨a, s1⟩ := p
    simp only [hm] at e
    exact hf a s1 r k st' e

theorem CostLe.consume0C {toks : Array PTok} {next : Nat} {kind : PKind}
    {k : Nat → ParseM (PResult × Nat)} {b : Nat} (hk : ∀ n, CostLe (k n) b) :
    CostLe (consume0C toks next kind k) b := by
  unfold PModel.consume0C
  split
  · split
    · exact hk _
    · exact CostLe.pure (Nat.zero_le _)
  · exact CostLe.pure (Nat.zero_le _)

theorem CostLe.consumeIdentC {toks : Array PTok} {next : Nat}
    {k : Name → Nat → ParseM (PResult × Nat)} {b : Nat} (hk : ∀ x n, CostLe (k x n) b) :
    CostLe (consumeIdentC toks next k) b := by
  unfold PModel.consumeIdentC
  split
  · split
    · exact hk _ _
    · exact CostLe.pure (Nat.zero_le _)
  · exact CostLe.pure (Nat.zero_le _)

theorem CostLe.tryEvalC {p : ParseM PResult} {k : Src → Nat → Bool → ParseM (PResult × Nat)}
    {b : Nat} (hk : ∀ a n c, CostLe (k a n c) b) : CostLe (tryEvalC p k) b := by
  unfold PModel.tryEvalC
  refine CostLe.bind (fun r => ?_)
  split
  · exact CostLe.pure (Nat.zero_le _)
  · exact hk _ _ _

theorem CostLe.optTerm {rec : NT → Nat → ParseM PResult} {next : Nat} {found : Bool} {r0 : PResult}
    {jp : PResult → ParseM (PResult × Nat)} {b : Nat} (hk : ∀ r, CostLe (jp r) b) :
    CostLe (if found = true then rec .term next >>= jp
      else (Pure.pure r0 : ParseM PResult) >>= jp) b := by
  split <;> exact CostLe.bind hk

theorem CostLe.map0 {m : ParseM PResult} {b : Nat} :
    CostLe ((fun r => (r, 0)) <$> m) b := by
  rw [map_eq_pure_bind]
  exact CostLe.bind (fun r => CostLe.pure (Nat.zero_le _))

theorem CostLe.elim {m : ParseM (PResult × Nat)} {b : Nat} (h : CostLe m b) {st : PState}
    {r : PResult} {k : Nat} {st' : PState} (e : m st = some ((r, k), st')) : k ≤ b := h st r k st' e

theorem CostLe.mono {m : ParseM (PResult × Nat)} {b b' : Nat} (h : CostLe m b) (hb : b ≤ b') :
    CostLe m b' := fun st r k st' e => Nat.le_trans (h st r k st' e) hb

-- irreducible from here on, so that applying a rule never unfolds it
attribute [irreducible] CostLe

section
variable (toks : Array PTok) (rec : NT → Nat → ParseM PResult)

/-- one recovery scan -/
theorem parseGroupC_cost (start : Nat) : CostLe (parseGroupC toks rec start) (toks.size + 1) := by
  unfold parseGroupC
  refine CostLe.consume0C fun _ => CostLe.tryEvalC fun _ i c => ?_
  dsimp only
  have := expectTokenSteps_le' toks i (· = .rightParen) c
  generalize expectToken toks i (· = .rightParen) c = e
  obtain ⟨_, _, _⟩ := e
  exact CostLe.pure this

/-- at most two recovery scans -/
theorem parseIfC_cost (start : Nat) : CostLe (parseIfC toks rec start) (2 * (toks.size + 1)) := by
  unfold parseIfC
  refine CostLe.consume0C fun _ => CostLe.bind fun ⟨_, i, c⟩ => ?_
  dsimp only
  have h1 := expectTokenSteps_le' toks i (· = .then_) c
  generalize expectToken toks i (· = .then_) c = e
  obtain ⟨_, _, _⟩ := e
  refine CostLe.optTerm fun ⟨_, j, d⟩ => ?_
  dsimp only
  have h2 := expectTokenSteps_le' toks j (· = .else_) d
  generalize expectToken toks j (· = .else_) d = e
  obtain ⟨_, _, _⟩ := e
  exact CostLe.optTerm fun ⟨_, _, _⟩ => CostLe.pure (by omega)

theorem parseLetRestC_cost {vr : SourceRange} {x : Name} {ann : OptSrc} {next : Nat}
    {errors : List PErr} {ef : Bool} {steps0 : Nat} (h0 : steps0 ≤ toks.size + 1) :
    CostLe (parseLetRestC toks rec vr x ann next errors ef steps0) (2 * (toks.size + 1)) := by
  unfold parseLetRestC
  refine CostLe.optTerm fun ⟨_, i, c⟩ => ?_
  dsimp only
  have := expectTokenSteps_le' toks i PKind.isTerminator c
  generalize expectToken toks i PKind.isTerminator c = e
  obtain ⟨_, _, _⟩ := e
  exact CostLe.optTerm fun ⟨_, _, _⟩ => CostLe.pure (by omega)

/-- at most two recovery scans -/
theorem parseLetC_cost (start : Nat) : CostLe (parseLetC toks rec start) (2 * (toks.size + 1)) := by
  rw [parseLetC_eq]
  refine CostLe.consumeIdentC fun x next => ?_
  split
  · split
    · exact CostLe.consume0C fun _ => CostLe.tryEvalC fun _ _ _ =>
        parseLetRestC_cost toks rec (expectTokenSteps_le' ..)
    · exact CostLe.consume0C fun _ => parseLetRestC_cost toks rec (Nat.zero_le _)
  · exact CostLe.consume0C fun _ => parseLetRestC_cost toks rec (Nat.zero_le _)

/-- the twin of `parseBody`: only three bodies mention `expectToken` (`parseLet`, `parseIf`, `parseGroup`); the 33
others are straight-line code without any loop and get the count 0 -/
def parseBodyC (nt : NT) (start : Nat) : ParseM (PResult × Nat) :=
  match nt with
  | .let_ => parseLetC toks rec start
  | .if_ => parseIfC toks rec start
  | .group => parseGroupC toks rec start
  | nt => (fun r => (r, 0)) <$> parseBody toks rec nt start

theorem parseBodyC_eq_map {nt : NT} (start : Nat) (h1 : nt ≠ .let_) (h2 : nt ≠ .if_)
    (h3 : nt ≠ .group) :
    parseBodyC toks rec nt start = (fun r => (r, 0)) <$> parseBody toks rec nt start := by
  cases nt <;> first | contradiction | rfl

theorem parseBodyC_fst (nt : NT) (start : Nat) :
    Prod.fst <$> parseBodyC toks rec nt start = parseBody toks rec nt start := by
  by_cases h1 : nt = .let_
  · subst h1; exact parseLetC_fst toks rec start
  by_cases h2 : nt = .if_
  · subst h2; exact parseIfC_fst toks rec start
  by_cases h3 : nt = .group
  · subst h3; exact parseGroupC_fst toks rec start
  rw [parseBodyC_eq_map toks rec start h1 h2 h3, Functor.map_map]
  exact id_map _

theorem parseBodyC_cost (nt : NT) (start : Nat) :
    CostLe (parseBodyC toks rec nt start) (2 * (toks.size + 1)) := by
  by_cases h1 : nt = .let_
  · subst h1; exact parseLetC_cost toks rec start
  by_cases h2 : nt = .if_
  · subst h2; exact parseIfC_cost toks rec start
  by_cases h3 : nt = .group
  · subst h3; exact (parseGroupC_cost toks rec start).mono (by omega)
  rw [parseBodyC_eq_map toks rec start h1 h2 h3]
  exact CostLe.map0

end

/-! ### The whole run

The cost model of a run of the packrat phase: one unit for every call of a memoised function (hit
or miss), plus, for every *body execution*, the tokens inspected by its recovery scans.  Bodies are
executed exactly on the misses (`C17_miss_inserts_key`: a hit runs nothing, a miss runs the body
once), and one body execution inspects at most `2 · (n + 1)` tokens (`parseBodyC_cost`).  So the
scan work of a run is at most `misses · 2 · (n + 1)`. -/

/-- a bound, not a count: every miss is charged the `2 · (n + 1)` of `parseBodyC_cost`, though only three of the 36
bodies scan -/
def scanBudget (toks : Array PTok) (st' : PState) : Nat :=
  sumN st'.misses * (2 * (toks.size + 1))

/-- calls (hits + misses) plus the scans at their bound (`scanBudget`, not a count of what the scans of this
run inspected) -/
def runSteps (toks : Array PTok) (st' : PState) : Nat :=
  (sumN st'.hits + sumN st'.misses) + scanBudget toks st'

theorem runParser_steps_le (toks : Array PTok) (r : PResult) (st' : PState)
    (h : runParser toks = some (r, st')) :
    scanBudget toks st' ≤ 72 * ((toks.size + 1) * (toks.size + 1)) ∧
    runSteps toks st' ≤ 361 * (toks.size + 1) + 72 * ((toks.size + 1) * (toks.size + 1)) := by
  have h1 := runParser_misses_le toks r st' h
  have h2 := runParser_calls_le toks r st' h
  have h3 : scanBudget toks st' ≤ 72 * ((toks.size + 1) * (toks.size + 1)) := by
    unfold scanBudget
    calc sumN st'.misses * (2 * (toks.size + 1))
        ≤ (36 * (toks.size + 1)) * (2 * (toks.size + 1)) := Nat.mul_le_mul_right _ h1
      _ = 72 * ((toks.size + 1) * (toks.size + 1)) := by rw [Nat.mul_mul_mul_comm]
  refine ⟨h3, ?_⟩
  unfold runSteps
  omega

end PModel
