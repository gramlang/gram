import GramModel.Lemmas.ParserGood

/-! Soundness of the packrat functions w.r.t. a *parse-shaped derivation* `Seg` (one constructor
per production shape of `grammar.y`, stated over `NT` / `PKind`, no strings): whenever a parsing
function returns a tree without recorded error, the tokens between its start and its `next` are
derived by its nonterminal.  `Inv`, `CacheInv`, `SPres` are `InvD`, `CacheInvG`, `GPres` (`ParserGood.lean`) at `Seg`,
written out.  The translation of `Seg` into `Derives Generated.grammarProductions` is in `Props/C07.lean`. -/

namespace PModel

/-- `Seg toks A a b`: the tokens `a … b-1` are derived from the nonterminal `A`, by the productions
of `grammar.y` (in the shape the packrat functions follow). -/
inductive Seg (toks : Array PTok) : NT → Nat → Nat → Prop
  | unit {A B a b} : (A, B) ∈ unitProds → Seg toks B a b → Seg toks A a b
  | leaf {A k a} : (A, k) ∈ leafProds → KAt toks a k → Seg toks A a (a + 1)
  | var {x a} : KAt toks a (.identifier x) → Seg toks .variable a (a + 1)
  | lit {n a} : KAt toks a (.integerLiteral n) → Seg toks .integerLiteral a (a + 1)
  | lambda {x a b} : KAt toks a (.identifier x) → KAt toks (a + 1) .thickArrow →
      Seg toks .term (a + 1 + 1) b → Seg toks .lambda a b
  | lambdaImplicit {x a b} : KAt toks a .leftCurly → KAt toks (a + 1) (.identifier x) →
      KAt toks (a + 1 + 1) .rightCurly → KAt toks (a + 1 + 1 + 1) .thickArrow →
      Seg toks .term (a + 1 + 1 + 1 + 1) b → Seg toks .lambdaImplicit a b
  | binder {A o c ar x a b d} : (A, o, c, ar) ∈ binderProds → KAt toks a o →
      KAt toks (a + 1) (.identifier x) → KAt toks (a + 1 + 1) .colon →
      Seg toks .jumboTerm (a + 1 + 1 + 1) b → KAt toks b c → KAt toks (b + 1) ar →
      Seg toks .term (b + 1 + 1) d → Seg toks A a d
  | nonDependentPi {a b c} : Seg toks .smallTerm a b → KAt toks b .thinArrow →
      Seg toks .term (b + 1) c → Seg toks .nonDependentPi a c
  | application {a b c} : Seg toks .atom a b → Seg toks .smallTerm b c → Seg toks .application a c
  | letPlain {x t a b c} : KAt toks a (.identifier x) → KAt toks (a + 1) .equals →
      Seg toks .term (a + 1 + 1) b → KAt toks b (.terminator t) → Seg toks .term (b + 1) c →
      Seg toks .let_ a c
  | letAnn {x t a b c d} : KAt toks a (.identifier x) → KAt toks (a + 1) .colon →
      Seg toks .smallTerm (a + 1 + 1) b → KAt toks b .equals → Seg toks .term (b + 1) c →
      KAt toks c (.terminator t) → Seg toks .term (c + 1) d → Seg toks .let_ a d
  | negation {a b} : KAt toks a .minus → Seg toks .largeTerm (a + 1) b → Seg toks .negation a b
  | bin {A L op R a b c} : (A, L, op, R) ∈ binProds → Seg toks L a b → KAt toks b op →
      Seg toks R (b + 1) c → Seg toks A a c
  | ite {a b c d} : KAt toks a .if_ → Seg toks .term (a + 1) b → KAt toks b .then_ →
      Seg toks .term (b + 1) c → KAt toks c .else_ → Seg toks .term (c + 1) d → Seg toks .if_ a d
  | group {a b} : KAt toks a .leftParen → Seg toks .term (a + 1) b → KAt toks b .rightParen →
      Seg toks .group a (b + 1)

def Inv (toks : Array PTok) (nt : NT) (start : Nat) (r : PResult) : Prop :=
  Good r ∧ (collectErrors r.term = [] → Seg toks nt start r.next)

def CacheInv (toks : Array PTok) (st : PState) : Prop :=
  ∀ (nt : NT) (s : Nat) (r : PResult), st.cache[(nt.idx, s)]? = some r → Inv toks nt s r

def SPres (toks : Array PTok) {α : Type} (m : ParseM α) (post : α → Prop) : Prop :=
  ∀ st a st', CacheInv toks st → m st = some (a, st') → CacheInv toks st' ∧ post a

theorem Seg.closed (toks : Array PTok) : Closed toks (fun nt a b _ => Seg toks nt a b) where
  unit := .unit
  leaf := .leaf
  var := .var
  lit := .lit
  lambda := .lambda
  lambdaImplicit := .lambdaImplicit
  binder := .binder
  nonDependentPi := .nonDependentPi
  application := .application
  letPlain := .letPlain
  letAnn := .letAnn
  negation := .negation
  bin := .bin
  ite := .ite
  group := .group

theorem SPres.pure {toks : Array PTok} {α : Type} {a : α} {post : α → Prop} (h : post a) :
    SPres toks (Pure.pure a : ParseM α) post := Tri.pure h

theorem SPres.tryReturn {toks : Array PTok} {post : PResult → Prop} {p k : ParseM PResult}
    {pp : PResult → Prop} (hp : SPres toks p pp) (hpp : ∀ r, pp r → post r)
    (hk : SPres toks k post) : SPres toks (tryReturn p k) post := Tri.tryReturn hp hpp hk

theorem Inv.failAt (toks : Array PTok) (nt : NT) (start next : Nat) :
    Inv toks nt start (failAt toks next) :=
  InvD.failAt (D := fun nt a b _ => Seg toks nt a b) toks nt start next

theorem Inv.unit {toks : Array PTok} {A B : NT} {s : Nat} {r : PResult} (hm : (A, B) ∈ unitProds)
    (h : Inv toks B s r) : Inv toks A s r := InvD.unit (Seg.closed toks) hm h

-- `salt_tac hrec` closes `SPres toks (…) (Inv toks nt start)` for a choice function.
macro "salt_tac" hrec:ident : tactic => `(tactic|
  repeat (first
    | exact SPres.pure (Inv.failAt _ _ _ _)
    | refine SPres.tryReturn ($hrec _ _) (fun r hr => Inv.unit (by decide) hr) ?_))

theorem SPres.parseBody {toks : Array PTok} {rec : NT → Nat → ParseM PResult}
    (hrec : ∀ nt pos, SPres toks (rec nt pos) (Inv toks nt pos)) (nt : NT) (start : Nat) :
    SPres toks (parseBody toks rec nt start) (Inv toks nt start) :=
  Tri.parseBody (Seg.closed toks) hrec nt start

theorem SPres.parseNT (toks : Array PTok) : ∀ (fuel : Nat) (nt : NT) (start : Nat),
    SPres toks (parseNT toks fuel nt start) (Inv toks nt start) :=
  parseNT_ind toks (P := fun nt s m => SPres toks m (Inv toks nt s)) (fun _ _ => Tri.fail)
    fun _ h nt s => GPres.cacheCheck (SPres.parseBody h nt s)

theorem parseNT_sound {toks : Array PTok} {fuel : Nat} {nt : NT} {start : Nat} {r : PResult}
    {st : PState} (h : parseNT toks fuel nt start PState.init = some (r, st)) :
    Inv toks nt start r :=
  (SPres.parseNT toks fuel nt start PState.init r st (CacheInvG.init (Inv toks)) h).2

end PModel
