import GramModel.Store
import GramModel.Lemmas.Ans

/-!
# What an outcome of the store monad satisfies

`x.Sat Q E`: a value and the final state satisfy `Q`, a panic site satisfies `E`, out of fuel satisfies everything.  It
is stated at one start state, so `Q` and `E` may mention that state; partial correctness, panic freedom, "panics only at
these sites", "returns `v` and leaves the state alone" are all of this form, with one rule for `>>=` (`bind`) and one for
each shape the checker's functions are made of (`under`, `andThen`, `orReport`).

The rules are `R.Sat.*`; `Nev` is in the root namespace.  Declared into the namespaces of the files that use them most: the
class `StoreMono.RT`, `StoreTransparent.Ans.sat`, and at the end `UnifySound.G2` with `G2.len_le`, `.eq`, `.dctx`, `.tctx`,
`seq_ok`, `under_ok`.
-/

def R.Sat {α} (x : R α) (Q : α → St → Prop) (E : String → Prop) : Prop :=
  match x with
  | .ok a s' => Q a s'
  | .fuel => True
  | .panic p => E p

/-- no site -/
def Nev : String → Prop := fun _ => False

namespace StoreMono
/-- `P` is reflexive and transitive -/
class RT (P : St → St → Prop) : Prop where
  refl : ∀ s, P s s
  trans : ∀ {a b c}, P a b → P b c → P a c
end StoreMono

namespace R.Sat
open StoreMono (RT)
variable {α β : Type} {Q Q' : α → St → Prop} {E E' : String → Prop} {x : R α} {s : St}

theorem intro (hq : ∀ a s', x = .ok a s' → Q a s') (he : ∀ p, x = .panic p → E p) : x.Sat Q E := by
  cases x with
  | ok a s' => exact hq a s' rfl
  | fuel => trivial
  | panic p => exact he p rfl

theorem ok {a : α} {s' : St} (h : x.Sat Q E) (e : x = .ok a s') : Q a s' := by subst e; exact h
theorem panic {p : String} (h : x.Sat Q E) (e : x = .panic p) : E p := by subst e; exact h

theorem mono (h : x.Sat Q E) (hq : ∀ a s', Q a s' → Q' a s') (he : ∀ p, E p → E' p) : x.Sat Q' E' :=
  intro (fun a s' e => hq a s' (h.ok e)) (fun p e => he p (h.panic e))

theorem post (h : x.Sat Q E) (hq : ∀ a s', Q a s' → Q' a s') : x.Sat Q' E := h.mono hq fun _ h => h

theorem nev (h : x.Sat Q Nev) : x.Sat Q E := h.mono (fun _ _ h => h) nofun

theorem pure {a : α} (h : Q a s) : ((Pure.pure a : M α) s).Sat Q E := h
theorem outOfFuel : ((outOfFuel : M α) s).Sat Q E := trivial
theorem panicAt {site : String} (h : E site) : ((panicAt site : M α) s).Sat Q E := h

/-- the continuation may use the run of `m` it follows -/
theorem bind {m : M α} {f : α → M β} {Q1 : α → St → Prop} {Q2 : β → St → Prop} (hm : (m s).Sat Q1 E)
    (hf : ∀ a s', m s = .ok a s' → Q1 a s' → (f a s').Sat Q2 E) : ((m >>= f) s).Sat Q2 E := by
  show (M.bind m f s).Sat Q2 E
  unfold M.bind
  cases e : m s with
  | ok a s' => exact hf a s' e (hm.ok e)
  | fuel => trivial
  | panic p => exact hm.panic e

theorem andOk (h : x.Sat Q E) (hq : ∀ a s', x = .ok a s' → Q' a s') : x.Sat (fun a s' => Q a s' ∧ Q' a s') E :=
  intro (fun a s' e => ⟨h.ok e, hq a s' e⟩) fun _ e => h.panic e

theorem bind_ro {m : M α} {f : α → M β} {Q1 : α → Prop} {Q2 : β → St → Prop}
    (hm : (m s).Sat (fun a s' => s' = s ∧ Q1 a) E) (hf : ∀ a, Q1 a → (f a s).Sat Q2 E) :
    ((m >>= f) s).Sat Q2 E :=
  bind hm fun a _ _ h => h.1 ▸ hf a h.2

theorem _root_.StoreTransparent.Ans.sat {p : Prop} {v : α} (h : StoreTransparent.Ans s p x v) :
    x.Sat (fun a s' => s' = s ∧ a = v) E := by
  rcases h with e | ⟨_, e⟩ <;> rw [e]
  · exact ⟨rfl, rfl⟩
  · trivial

theorem bind_ans {p : Prop} {m : M α} {f : α → M β} {v : α} {Q2 : β → St → Prop}
    (hm : StoreTransparent.Ans s p (m s) v) (hf : (f v s).Sat Q2 E) : ((m >>= f) s).Sat Q2 E :=
  bind_ro hm.sat fun _ e => e ▸ hf

theorem bindR {P : St → St → Prop} [RT P] {m : M α} {f : α → M β} {Q1 : α → St → Prop}
    (hm : (m s).Sat (fun a s1 => P s s1 ∧ Q1 a s1) E)
    (hf : ∀ a s1, P s s1 → Q1 a s1 → (f a s1).Sat (fun _ s' => P s1 s') E) :
    ((m >>= f) s).Sat (fun _ s' => P s s') E :=
  bind hm fun a s1 _ h => (hf a s1 h.1 h.2).post fun _ _ h' => RT.trans h.1 h'

theorem under {m : M Bool} {Q : Bool → St → Prop}
    (h : (m { s with dctx := none :: s.dctx }).Sat (fun r s' => Q r { s' with dctx := s'.dctx.tail }) E) :
    ((do pushD none; let r ← m; popD; Pure.pure r) s).Sat Q E := by
  show (M.bind (pushD none) (fun _ => M.bind m (fun r => M.bind popD (fun _ => M.pure r))) s).Sat Q E
  simp only [M.bind, pushD, modifySt]
  generalize m { s with dctx := none :: s.dctx } = x at h
  cases x <;> exact h

theorem andThen {m1 m2 : M Bool} {Q1 Q : Bool → St → Prop} (h1 : (m1 s).Sat Q1 E)
    (h2 : ∀ s1, Q1 true s1 → (m2 s1).Sat Q E) (hf : ∀ s1, Q1 false s1 → Q false s1) :
    ((do if ← m1 then m2 else Pure.pure false) s).Sat Q E :=
  bind h1 fun r s1 _ q => by cases r; exact hf s1 q; exact h2 s1 q

theorem andThenR {P : St → St → Prop} [RT P] {m1 m2 : M Bool} (h1 : (m1 s).Sat (fun _ s1 => P s s1) E)
    (h2 : ∀ s1, P s s1 → (m2 s1).Sat (fun _ s' => P s1 s') E) :
    ((do if ← m1 then m2 else Pure.pure false) s).Sat (fun _ s' => P s s') E :=
  andThen h1 (fun s1 p => (h2 s1 p).post fun _ _ p' => RT.trans p p') fun _ p => p

theorem orReport {m : M Bool} {k : M β} {Q1 : Bool → St → Prop} {Q : β → St → Prop} (hm : (m s).Sat Q1 E)
    (hk : ∀ s1, Q1 true s1 → (k s1).Sat Q E)
    (hr : ∀ s1, Q1 false s1 → (k { s1 with nerrs := s1.nerrs + 1 }).Sat Q E) :
    ((do let r ← m
         if (!r) = true then (do reportError; k) else k) s).Sat Q E :=
  bind hm fun r s1 _ q => by cases r; exact hr s1 q; exact hk s1 q

/-- every outcome is its own strongest statement -/
theorem self (x : R α) : x.Sat (fun a s' => x = .ok a s') fun _ => True := intro (fun _ _ e => e) fun _ _ => trivial

end R.Sat

namespace UnifySound
open StoreMono (RT)

/-- `s'` is `s` with empty cells appended to the store: what every function defined before `solveS` (`Store.lean`, `Check.lean`) does to the state at most -/
def G2 (s s' : St) : Prop := ∃ k, s' = { s with store := s.store ++ List.replicate k none }

instance : RT G2 where
  refl s := ⟨0, by simp⟩
  trans := by
    rintro a b c ⟨k1, rfl⟩ ⟨k2, rfl⟩
    exact ⟨k1 + k2, by simp [List.append_assoc, List.replicate_append_replicate]⟩

theorem G2.len_le {s s' : St} (h : G2 s s') : s.store.length ≤ s'.store.length := by
  obtain ⟨k, rfl⟩ := h; simp

theorem G2.eq {s s' : St} (h : G2 s s') (hl : s'.store.length ≤ s.store.length) : s' = s := by
  obtain ⟨k, rfl⟩ := h
  have : k = 0 := by simp at hl; omega
  subst this
  simp

theorem G2.dctx {s s' : St} (h : G2 s s') : s'.dctx = s.dctx := by
  obtain ⟨k, rfl⟩ := h; rfl

theorem G2.tctx {s s' : St} (h : G2 s s') : s'.tctx = s.tctx := by
  obtain ⟨k, rfl⟩ := h; rfl

/-! `R.Sat.andThen` and `R.Sat.under` read backwards: what a successful run went through. -/

theorem seq_ok {m1 m2 : M Bool} {st st' : St}
    (h : (do if ← m1 then m2 else pure false) st = .ok true st') :
    ∃ st1, m1 st = .ok true st1 ∧ m2 st1 = .ok true st' :=
  (R.Sat.andThen (Q := fun r s' => r = true → ∃ st1, m1 st = .ok true st1 ∧ m2 st1 = .ok true s') (.self (m1 st))
    (fun st1 e1 => (R.Sat.self (m2 st1)).post fun _ _ e2 hr => ⟨st1, e1, hr ▸ e2⟩) (fun _ _ => nofun)).ok h rfl

theorem under_ok {m : M Bool} {s s' : St} {r : Bool}
    (h : (do pushD none; let r ← m; popD; pure r) s = .ok r s') :
    ∃ s1, m { s with dctx := none :: s.dctx } = .ok r s1 ∧ s' = { s1 with dctx := s1.dctx.tail } :=
  (R.Sat.under (Q := fun r s' => ∃ s1, m { s with dctx := none :: s.dctx } = .ok r s1 ∧
      s' = { s1 with dctx := s1.dctx.tail }) ((R.Sat.self _).post fun _ s1 e => ⟨s1, e, rfl⟩)).ok h

end UnifySound
