import GramModel.Lemmas.StoreMono
import GramModel.Lemmas.CtxWrap

/-!
# Checking under a context of parameters = checking the closed function — for gram's OWN checker `inferS`

`Lemmas/CtxWrap.lean` proves the whole-context form of C18 for the independent checker `inferX`; this file does the
same for the store-layer model of `type_check_rec`.  `inferS (f + n) (closeParams ps t)` **is** `pushParamsS f ps`, then
`inferS f t`, then `n` pops, then rebuild — an equation of computations (all outcomes and the final store); the domain
of parameter `i` of `n` is checked with fuel `f + (n - i)`, exactly the fuel `inferS (f + n)` gives it.
-/

namespace CtxWrapS
open CtxWrap
open StoreMono (RT Le CP inferS_le_ctx unifyS_le_ctx)

theorem pure_bind' {α β} (a : α) (f : α → M β) : (pure a : M α) >>= f = f a := rfl

theorem popN_zero : popN 0 = pure () := by unfold popN; rfl
theorem popN_succ (n : Nat) : popN (n+1) = (do popCtx; popN n) := by
  conv => lhs; unfold popN

theorem popN_succ' (n : Nat) : popN (n+1) = (do popN n; popCtx) := by
  funext s
  rw [CheckNoPanic.popN_eq, M.bind_of_ok (CheckNoPanic.popN_eq n s)]
  show _ = R.ok () _
  simp [← List.tail_drop]

theorem pi_wrap_S (f : Nat) (x : Name) (im : Bool) (A B : Tm) :
    inferS (f+1) (.pi x im A B) =
      (do
        let (d', dty) ← inferS f A
        if !(← unifyS f dty .type) then reportError
        pushCtx (d', 0) none
        let (c', cty) ← inferS f B
        if !(← unifyS f cty .type) then reportError
        popCtx
        pure (Tm.pi x im d' c', Tm.type)) := rfl

theorem let1_wrap_S (f : Nat) (x : Name) (A d b : Tm) :
    inferS (f+3) (.letg (.cons x A d .nil) b) =
      (do
        pushCtx (A, 1) (some (d, 1))
        let (_, annTy) ← inferS (f+1) A
        if !(← unifyS (f+1) annTy .type) then reportError
        let (d', dty) ← inferS (f+1) d
        if !(← unifyS (f+1) dty A) then reportError
        let (b', bty) ← inferS (f+2) b
        let ty ← letTypeS (f+2) (.cons x A d' .nil) 1 0 bty
        popCtx
        pure (Tm.letg (.cons x A d' .nil) b', ty)) := by
  have step : inferS (f+3) (.letg (.cons x A d .nil) b) =
      (do
        pushDefsS (.cons x A d .nil) 1
        let ds' ← inferDefsS (f+2) (.cons x A d .nil)
        let (b', bty) ← inferS (f+2) b
        let ty ← letTypeS (f+2) (Defs.setDefs (.cons x A d .nil) ds') 1 0 bty
        popN 1
        pure (Tm.letg (Defs.setDefs (.cons x A d .nil) ds') b', ty)) := rfl
  have step2 : inferDefsS (f+2) (.cons x A d .nil) =
      (do
        let (_, annTy) ← inferS (f+1) A
        if !(← unifyS (f+1) annTy .type) then reportError
        let (d', dty) ← inferS (f+1) d
        if !(← unifyS (f+1) dty A) then reportError
        pure [d']) := rfl
  have hpush : pushDefsS (.cons x A d .nil) 1 = pushCtx (A, 1) (some (d, 1)) := by
    unfold pushDefsS; unfold pushDefsS; rfl
  have hpop : popN 1 = popCtx := by
    rw [popN_succ, popN_zero]; rfl
  rw [step, step2, hpush, hpop]
  simp only [M.bind_assoc, pure_bind', M.ite_bind]
  rfl

/-- For each parameter in turn, outermost first: check its domain, require its type to be `type` (else report one
diagnostic and go on), push `(A', 0)` / `none`.  Returns the parameters with the elaborated domains.  The `i`-th of `n`
domains is checked with fuel `f + (n - i)`. -/
def pushParamsS (f : Nat) : Params → M Params
  | [] => pure []
  | (x, im, A) :: ps => do
      let (d', dty) ← inferS (f + ps.length) A
      if !(← unifyS (f + ps.length) dty .type) then reportError
      pushCtx (d', 0) none
      let ps' ← pushParamsS f ps
      pure ((x, im, d') :: ps')

theorem params_wrap_S (f : Nat) : ∀ (ps : Params) (t : Tm),
    inferS (f + ps.length) (closeParams ps t) =
      (do
        let ps' ← pushParamsS f ps
        let (t', T) ← inferS f t
        popN ps.length
        pure (closeParams ps' t', closePi ps' T))
  | [], t => by
      funext s
      show inferS f t s = M.bind (inferS f t) _ s
      simp only [M.bind]
      cases inferS f t s <;> rfl
  | (x, im, A) :: ps, t => by
      have step : inferS (f + (ps.length + 1)) (.lam x im A (closeParams ps t)) =
          (do
            let (d', dty) ← inferS (f + ps.length) A
            if !(← unifyS (f + ps.length) dty .type) then reportError
            pushCtx (d', 0) none
            let (b', cod) ← inferS (f + ps.length) (closeParams ps t)
            popCtx
            pure (Tm.lam x im d' b', Tm.pi x im d' cod)) := rfl
      simp only [closeParams_cons, List.length_cons]
      rw [step, params_wrap_S f ps t, popN_succ']
      simp only [pushParamsS, M.bind_assoc, pure_bind', M.ite_bind]
      refine M.bind_congr ?_
      rintro ⟨d', dty⟩
      refine M.bind_congr fun b => ?_
      cases b <;> rfl

theorem pushParamsS_spec (f : Nat) : ∀ (ps : Params) (s : St),
    (pushParamsS f ps s).Sat (fun ps' s1 => ps' = ps ∧
      (s1.tctx, s1.dctx) = pushParams ps (s.tctx, s.dctx) ∧ StoreMono.Le s s1) (CheckNoPanic.Live false)
  | [], s => ⟨rfl, rfl, RT.refl s⟩
  | (x, im, A) :: ps, s => by
      unfold pushParamsS
      refine .bind ((inferS_le_ctx false _).1 A s nofun nofun) fun p s1 _ h1 => ?_
      obtain ⟨d', dty⟩ := p
      obtain ⟨c1, rfl⟩ := h1
      have key : ∀ s3 : St, CP Le s s3 → ((pushCtx (d', 0) none >>= fun _ => pushParamsS f ps >>= fun ps' =>
          (pure ((x, im, d') :: ps') : M Params)) s3).Sat (fun ps' s1 => ps' = (x, im, d') :: ps ∧
            (s1.tctx, s1.dctx) = pushParams ((x, im, d') :: ps) (s.tctx, s.dctx) ∧ Le s s1)
            (CheckNoPanic.Live false) := by
        intro s3 c3
        rw [pushCtx_bind]
        refine .bind (pushParamsS_spec f ps _) fun ps' s4 _ h4 => ?_
        obtain ⟨rfl, e, l⟩ := h4
        exact ⟨rfl, by rw [e, pushParams_cons, c3.1, c3.2.1], RT.trans c3.2.2 l⟩
      exact .orReport (unifyS_le_ctx false _ dty .type s1 nofun) (fun _ c2 => key _ (RT.trans c1 c2))
        fun s2 c2 => key _ (RT.trans (RT.trans c1 c2) ⟨rfl, rfl, (RT.refl (P := Le) s2).1, Nat.le_succ _⟩)

theorem pushParamsS_ok (f : Nat) : ∀ (ps : Params) (s : St) (ps' : Params) (s1 : St),
    pushParamsS f ps s = .ok ps' s1 →
    ps' = ps ∧ (s1.tctx, s1.dctx) = pushParams ps (s.tctx, s.dctx) :=
  fun ps s _ _ h => let q := (pushParamsS_spec f ps s).ok h; ⟨q.1, q.2.1⟩

theorem closed_run {f : Nat} {ps ps' : Params} {t : Tm} {s s1 : St}
    (h : pushParamsS f ps s = .ok ps' s1) :
    inferS (f + ps.length) (closeParams ps t) s =
      match inferS f t s1 with
      | .ok (t', B) s2 =>
          .ok (closeParams ps t', closePi ps B) { s2 with tctx := s.tctx, dctx := s.dctx }
      | .fuel => .fuel
      | .panic p => .panic p := by
  obtain ⟨rfl, e⟩ := pushParamsS_ok f ps s ps' s1 h
  rw [params_wrap_S, M.bind_of_ok h]
  cases h2 : inferS f t s1 with
  | fuel => rw [M.bind_of_fuel h2]
  | panic p => rw [M.bind_of_panic h2]
  | ok r s2 =>
    obtain ⟨t', B⟩ := r
    rw [M.bind_of_ok h2]
    show (popN ps'.length >>= fun _ => pure (closeParams ps' t', closePi ps' B)) s2 = _
    rw [M.bind_of_ok (CheckNoPanic.popN_eq _ s2)]
    have c := CtxH.restores (inferS_ctx f t) h2
    rw [pushParams_eq] at e
    have e1 : s1.tctx = (ps'.reverse.map fun p => (p.2.2, 0)) ++ s.tctx := congrArg Prod.fst e
    have e2 : s1.dctx = List.replicate ps'.length none ++ s.dctx := congrArg Prod.snd e
    have d1 : s2.tctx.drop ps'.length = s.tctx := by
      rw [c.1, e1]; exact List.drop_left' (by simp)
    have d2 : s2.dctx.drop ps'.length = s.dctx := by
      rw [c.2, e2]; exact List.drop_left' (by simp)
    show R.ok _ _ = _
    rw [d1, d2]

/-- the statement of `params_verdict_S` (restated as `C18_params_verdict_S_stmt` in `Props/C18.lean`) -/
def ParamsVerdictS : Prop :=
  ∀ (f : Nat) (ps : Params) (t : Tm) (s s1 : St) (ps' : Params),
    pushParamsS f ps s = .ok ps' s1 → s1.nerrs = s.nerrs →
    -- the state with the parameters pushed: the domains as written, innermost first, over the caller's contexts
    (ps' = ps ∧ (s1.tctx, s1.dctx) = pushParams ps (s.tctx, s.dctx)) ∧
    -- same verdict
    ((∃ e T s', inferS (f + ps.length) (closeParams ps t) s = .ok (e, T) s' ∧ s'.nerrs = s.nerrs) ↔
     (∃ t' B s2, inferS f t s1 = .ok (t', B) s2 ∧ s2.nerrs = s1.nerrs)) ∧
    -- the reported types are related by `closePi` (the elaborated terms by `closeParams`); same number of
    -- diagnostics, same final store
    (∀ e T s', inferS (f + ps.length) (closeParams ps t) s = .ok (e, T) s' →
      ∃ t' B s2, inferS f t s1 = .ok (t', B) s2 ∧ e = closeParams ps t' ∧ T = closePi ps B ∧
        s'.nerrs = s2.nerrs ∧ s'.store = s2.store) ∧
    (∀ t' B s2, inferS f t s1 = .ok (t', B) s2 →
      ∃ s', inferS (f + ps.length) (closeParams ps t) s = .ok (closeParams ps t', closePi ps B) s' ∧
        s'.nerrs = s2.nerrs ∧ s'.store = s2.store) ∧
    -- the other outcomes coincide too
    ((inferS (f + ps.length) (closeParams ps t) s = .fuel ↔ inferS f t s1 = .fuel) ∧
     (∀ p, inferS (f + ps.length) (closeParams ps t) s = .panic p ↔ inferS f t s1 = .panic p)) ∧
    -- a run that answers leaves the caller's contexts exactly as they were — either run
    (∀ e T s', inferS (f + ps.length) (closeParams ps t) s = .ok (e, T) s' →
      s'.tctx = s.tctx ∧ s'.dctx = s.dctx) ∧
    (∀ t' B s2, inferS f t s1 = .ok (t', B) s2 → s2.tctx = s1.tctx ∧ s2.dctx = s1.dctx)

theorem params_verdict_S : ParamsVerdictS := by
  intro f ps t s s1 ps' h hn
  have hcr := closed_run (t := t) h
  refine ⟨pushParamsS_ok f ps s ps' s1 h, ?_⟩
  -- every clause compares the closed run, which `closed_run` computes from the open one, with the open run
  rw [hcr]
  have hctx := fun t' B s2 (ho : inferS f t s1 = .ok (t', B) s2) => CtxH.restores (inferS_ctx _ _) ho
  have hctx' := fun e T s' (hc : inferS (f + ps.length) (closeParams ps t) s = .ok (e, T) s') =>
    CtxH.restores (inferS_ctx _ _) hc
  rw [hcr] at hctx'
  clear hcr
  generalize inferS f t s1 = o at *
  rcases o with ⟨⟨t', B⟩, s2⟩ | _ | p
  · refine ⟨⟨fun ⟨_, _, _, e, h⟩ => ?_, fun ⟨_, _, _, e, h⟩ => ?_⟩, fun _ _ _ e => ?_, fun _ _ _ e => ?_,
      ⟨⟨nofun, nofun⟩, fun _ => ⟨nofun, nofun⟩⟩, hctx', hctx⟩
    · cases e; exact ⟨_, _, _, rfl, h.trans hn.symm⟩
    · cases e; exact ⟨_, _, _, rfl, h.trans hn⟩
    · cases e; exact ⟨_, _, _, rfl, rfl, rfl, rfl, rfl⟩
    · cases e; exact ⟨_, rfl, rfl, rfl⟩
  · exact ⟨⟨nofun, nofun⟩, nofun, nofun, ⟨⟨fun _ => rfl, fun _ => rfl⟩, fun _ => ⟨nofun, nofun⟩⟩, hctx', hctx⟩
  · exact ⟨⟨nofun, nofun⟩, nofun, nofun, ⟨⟨nofun, nofun⟩, fun _ => ⟨id, id⟩⟩, hctx', hctx⟩

def ParamsAcceptIffS : Prop :=
  ∀ (f : Nat) (ps : Params) (t : Tm) (s : St),
    (∃ e T s', inferS (f + ps.length) (closeParams ps t) s = .ok (e, T) s' ∧ s'.nerrs = s.nerrs) ↔
    (∃ s1, pushParamsS f ps s = .ok ps s1 ∧ s1.nerrs = s.nerrs ∧
      ∃ t' B s2, inferS f t s1 = .ok (t', B) s2 ∧ s2.nerrs = s1.nerrs)

theorem params_accept_iff_S : ParamsAcceptIffS := by
  intro f ps t s
  constructor
  · rintro ⟨e, T, s', hc, hs'⟩
    have hc' := hc
    rw [params_wrap_S] at hc'
    obtain ⟨ps', s1, hp, _⟩ := StoreMono.bind_ok hc'
    obtain ⟨rfl, _⟩ := pushParamsS_ok f ps s ps' s1 hp
    have hcr := closed_run (t := t) hp
    cases h2 : inferS f t s1 with
    | fuel => rw [hcr, h2] at hc; cases hc
    | panic p => rw [hcr, h2] at hc; cases hc
    | ok r s2 =>
      obtain ⟨t', B⟩ := r
      rw [hcr, h2] at hc
      cases hc
      have l1 : s.nerrs ≤ s1.nerrs := ((pushParamsS_spec f ps' s).ok hp).2.2.2
      have l2 : s1.nerrs ≤ s2.nerrs := (StoreMono.inferS_le h2).2
      have hs2 : s2.nerrs = s.nerrs := hs'
      exact ⟨s1, hp, by omega, t', B, s2, h2, by omega⟩
  · rintro ⟨s1, hp, hn, t', B, s2, ho, hs2⟩
    have hcr := closed_run (t := t) hp
    rw [ho] at hcr
    exact ⟨_, _, _, hcr, hs2.trans hn⟩

end CtxWrapS
