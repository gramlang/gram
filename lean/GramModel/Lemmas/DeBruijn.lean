import GramModel.Eval
import GramModel.Lemmas.Trav

/-!
# `ushift`, `openT` and `sshift` as traversals

`ushift` and `openT` are the traversals `Act.lift` and `Act.subst` (`ushift_eq_trav`, `openT_eq_trav`), so a
law about them reduces to what its two sides do to a single variable or hole, and that is a fact about the
index maps `liftIdx`, `lowerIdx`; these facts stand together at the head.  What the model asks about a
shifted or opened term is answered on the occurrences.  The partial `sshift` is the traversal that slides
the indices (`slideIdx`), guarded by a question about the occurrences (`sshift_eq`).  At the end: `holeFree` and
`wellScoped` are kept by shifting, opening and by `unfoldDef` of the evaluator; a downward shift that succeeds is
undone by the upward one (its `Defs` half, `ushiftDefs_of_sshiftDefs_neg`, is declared into `FuelLemmas`, the
namespace of `Lemmas/Fuel.lean`).  The six general facts about `List.any` and `==` at the head are declared
into `List` and `Nat`, beside the core lemmas they complement (none of them is in core).
-/

theorem List.any_eq_false_of {α : Type} {p : α → Bool} (h : ∀ a, p a = false) (l : List α) :
    l.any p = false :=
  List.any_eq_false.2 fun a _ => Bool.eq_false_iff.1 (h a)

theorem List.any_singleton {α : Type} (p : α → Bool) (a : α) : [a].any p = p a := Bool.or_false _

theorem List.any_ite {α : Type} (l : List α) (c : Prop) [Decidable c] (p q : α → Bool) :
    (l.any fun a => if c then p a else q a) = if c then l.any p else l.any q := by
  split <;> rfl

theorem List.any_or {α : Type} (p q : α → Bool) :
    ∀ l : List α, (l.any fun a => p a || q a) = (l.any p || l.any q)
  | [] => rfl
  | a :: l => by simp only [List.any_cons, List.any_or p q l, Bool.or_assoc, Bool.or_left_comm]

theorem List.any_and_const {α : Type} (p : α → Bool) (b : Bool) (l : List α) :
    (l.any fun a => p a && b) = (l.any p && b) := by
  cases b
  · simp only [Bool.and_false]; exact List.any_eq_false_of (fun _ => rfl) l
  · simp only [Bool.and_true]

theorem Nat.beq_congr {a b c d : Nat} (h : a = b ↔ c = d) : (a == b) = (c == d) := by
  rw [Bool.eq_iff_iff, beq_iff_eq, beq_iff_eq]; exact h

/-! Where an index met under `n` binders goes.  In the name of a law the outer map comes first. -/

/-- `a` is added from cutoff `c` on -/
def liftIdx (c a n i : Nat) : Nat := if c + n ≤ i then i + a else i

/-- the index `i` is opened: where an index other than `i + n` goes -/
def lowerIdx (i n j : Nat) : Nat := if i + n < j then j - 1 else j

/-- a signed amount is added from cutoff `c` on -/
def slideIdx (c : Nat) (amt : Int) (n i : Nat) : Nat := if c + n ≤ i then ((i : Int) + amt).toNat else i

theorem lift_of_le {c n i : Nat} (h : c + n ≤ i) (a : Nat) : liftIdx c a n i = i + a := if_pos h
theorem lift_of_lt {c n i : Nat} (h : i < c + n) (a : Nat) : liftIdx c a n i = i := if_neg (Nat.not_le.2 h)
theorem lower_of_le {i n j : Nat} (h : j ≤ i + n) : lowerIdx i n j = j := if_neg (Nat.not_lt.2 h)
theorem lower_of_lt {i n j : Nat} (h : i + n < j) : lowerIdx i n j = j - 1 := if_pos h

theorem lift_under (c a n p i : Nat) : liftIdx c a (n + p) (i + p) = liftIdx c a n i + p := by
  unfold liftIdx; split <;> split <;> omega
theorem lower_under (i n p j : Nat) : lowerIdx i (n + p) (j + p) = lowerIdx i n j + p := by
  unfold lowerIdx; split <;> split <;> omega

theorem lift_zero (c n i : Nat) : liftIdx c 0 n i = i := by
  unfold liftIdx; split <;> rfl

theorem lift_lift_comm {c d : Nat} (h : c ≤ d) (a b n i : Nat) :
    liftIdx c a n (liftIdx d b n i) = liftIdx (d + a) b n (liftIdx c a n i) := by
  simp only [liftIdx]; repeat' split
  all_goals omega

theorem lift_lift_mid {c d b : Nat} (h : d ≤ c) (h' : c ≤ d + b) (a n i : Nat) :
    liftIdx c a n (liftIdx d b n i) = liftIdx d (a + b) n i := by
  simp only [liftIdx]; repeat' split
  all_goals omega

theorem lift_eq_below {j c : Nat} (h : j < c) (a n k : Nat) : liftIdx c a n k = j + n ↔ k = j + n := by
  unfold liftIdx; split <;> omega

theorem lift_ne_between {c a j : Nat} (h : c ≤ j) (h' : j < c + a) (n k : Nat) : liftIdx c a n k ≠ j + n := by
  unfold liftIdx; split <;> omega

theorem lift_eq_above {c a j : Nat} (h : c + a ≤ j) (n k : Nat) :
    liftIdx c a n k = j + n ↔ k = j - a + n := by
  unfold liftIdx; split <;> omega

theorem lower_eq_below {j i : Nat} (h : j < i) (n k : Nat) : lowerIdx i n k = j + n ↔ k = j + n := by
  unfold lowerIdx; split <;> omega

theorem lower_eq_above {i j n k : Nat} (h : i ≤ j) (hk : k ≠ i + n) :
    lowerIdx i n k = j + n ↔ k = j + 1 + n := by
  unfold lowerIdx; split <;> omega

theorem lower_lift_cancel (i n k : Nat) :
    liftIdx i 1 n k ≠ i + n ∧ lowerIdx i n (liftIdx i 1 n k) = k := by
  simp only [liftIdx, lowerIdx]; repeat' split
  all_goals omega

theorem lift_lower_low {c i : Nat} (h : c ≤ i) (a n k : Nat) :
    liftIdx c a n (lowerIdx i n k) = lowerIdx (i + a) n (liftIdx c a n k) := by
  simp only [liftIdx, lowerIdx]; repeat' split
  all_goals omega

theorem lift_lower_high {i c n k : Nat} (h : i ≤ c) (hk : k ≠ i + n) (a : Nat) :
    liftIdx c a n (lowerIdx i n k) = lowerIdx i n (liftIdx (c + 1) a n k) := by
  simp only [liftIdx, lowerIdx]; repeat' split
  all_goals omega

theorem lower_lower {i j : Nat} (h : i ≤ j) (m k : Nat) :
    lowerIdx j m (lowerIdx i m k) = lowerIdx i m (lowerIdx (j + 1) m k) := by
  simp only [lowerIdx]; repeat' split
  all_goals omega

theorem slide_lift_mid {c d b m : Nat} {amt : Int} (h : d ≤ c) (h' : c ≤ d + b) (hm : (m : Int) = b + amt)
    (n i : Nat) : slideIdx c amt n (liftIdx d b n i) = liftIdx d m n i := by
  unfold slideIdx liftIdx; split <;> split <;> omega

theorem lift_slide_cancel {c k n i : Nat} (h : ¬ (c + n ≤ i ∧ i < c + n + k)) :
    liftIdx c k n (slideIdx c (-(k : Int)) n i) = i := by
  unfold liftIdx slideIdx; repeat' split
  all_goals omega

theorem slide_eq_lower {i n k : Nat} (h : ¬ (i + n ≤ k ∧ k < i + n + 1)) :
    slideIdx i (-1) n k = lowerIdx i n k := by
  unfold slideIdx lowerIdx; split <;> split <;> omega

/-- what `ushift c a` does -/
def Act.lift (c a : Nat) : Act := .ren (liftIdx c a)

/-- what `openT · i u s` does; under `n` binders the index is `i + n` and `u` is lifted by `s + n` -/
def Act.subst (i : Nat) (u : Tm) (s : Nat) : Act :=
  ⟨fun n x j => if j = i + n then ushift 0 (s + n) u else .var x (lowerIdx i n j),
   fun n id k => .hole id (lowerIdx i n k)⟩

theorem Act.subst_var_self (i : Nat) (u : Tm) (s n : Nat) (x : Name) :
    (Act.subst i u s).var n x (i + n) = ushift 0 (s + n) u := if_pos rfl
theorem Act.subst_var_ne {i n j : Nat} (h : j ≠ i + n) (u : Tm) (s : Nat) (x : Name) :
    (Act.subst i u s).var n x j = .var x (lowerIdx i n j) := if_neg h

theorem Act.subst_var_cases {P : Tm → Prop} (i : Nat) (u : Tm) (s n : Nat) (x : Name) (j : Nat)
    (hu : P (ushift 0 (s + n) u)) (hv : P (.var x (lowerIdx i n j))) :
    P ((Act.subst i u s).var n x j) := by
  show P (if j = i + n then _ else _); split <;> assumption

theorem ushift_add_eq_trav_both :
    (∀ (t : Tm) (c a n : Nat), ushift (c + n) a t = t.trav (.lift c a) n) ∧
    ∀ (ds : Defs) (c a n : Nat), ushiftDefs (c + n) a ds = ds.trav (.lift c a) n := by
  apply Tm.rec_both
  case var | hole => intros; simp only [ushift, Tm.trav, Act.lift, Act.ren, liftIdx, ge_iff_le]; split <;> rfl
  all_goals intros; first | rfl | simp only [ushift, ushiftDefs, Tm.trav, Defs.trav, Nat.add_assoc, *]

theorem ushift_add_eq_trav (t : Tm) (c a n : Nat) : ushift (c + n) a t = t.trav (.lift c a) n :=
  ushift_add_eq_trav_both.1 t c a n

theorem openT_add_eq_trav_both :
    (∀ (t : Tm) (i : Nat) (u : Tm) (s n : Nat), openT t (i + n) u (s + n) = t.trav (.subst i u s) n) ∧
    ∀ (ds : Defs) (i : Nat) (u : Tm) (s n : Nat), openDefs ds (i + n) u (s + n) = ds.trav (.subst i u s) n := by
  apply Tm.rec_both
  case var => intro x; intros; simp only [openT, Tm.trav, Act.subst, lowerIdx, gt_iff_lt, apply_ite (Tm.var x)]
  case hole => intro id; intros; simp only [openT, Tm.trav, Act.subst, lowerIdx, gt_iff_lt, apply_ite (Tm.hole id)]
  all_goals intros; first | rfl | simp only [openT, openDefs, Tm.trav, Defs.trav, Nat.add_assoc, *]

theorem openT_add_eq_trav (t : Tm) (i : Nat) (u : Tm) (s n : Nat) :
    openT t (i + n) u (s + n) = t.trav (.subst i u s) n :=
  openT_add_eq_trav_both.1 t i u s n
theorem openDefs_add_eq_trav (ds : Defs) (i : Nat) (u : Tm) (s n : Nat) :
    openDefs ds (i + n) u (s + n) = ds.trav (.subst i u s) n :=
  openT_add_eq_trav_both.2 ds i u s n

theorem ushift_eq_trav (t : Tm) (c a : Nat) : ushift c a t = t.trav (.lift c a) 0 :=
  ushift_add_eq_trav t c a 0
theorem ushiftDefs_eq_trav (ds : Defs) (c a : Nat) : ushiftDefs c a ds = ds.trav (.lift c a) 0 :=
  ushift_add_eq_trav_both.2 ds c a 0
theorem openT_eq_trav (t : Tm) (i : Nat) (u : Tm) (s : Nat) :
    openT t i u s = t.trav (.subst i u s) 0 :=
  openT_add_eq_trav t i u s 0
theorem openDefs_eq_trav (ds : Defs) (i : Nat) (u : Tm) (s : Nat) :
    openDefs ds i u s = ds.trav (.subst i u s) 0 :=
  openDefs_add_eq_trav ds i u s 0

theorem ushiftDefs_len (ds : Defs) (c a : Nat) : (ushiftDefs c a ds).len = ds.len := by
  rw [ushiftDefs_eq_trav, Defs.len_trav]

theorem openDefs_len (ds : Defs) (i : Nat) (u : Tm) (s : Nat) : (openDefs ds i u s).len = ds.len := by
  rw [openDefs_eq_trav, Defs.len_trav]

theorem ushift_zero : ∀ (t : Tm) (c : Nat), ushift c 0 t = t := fun t c => by
  rw [ushift_eq_trav]; exact ((trav_ren_congr (lift_zero c)).1 t 0).trans (t.trav_id 0)

theorem ushiftDefs_zero : ∀ (ds : Defs) (c : Nat), ushiftDefs c 0 ds = ds := fun ds c => by
  rw [ushiftDefs_eq_trav]; exact ((trav_ren_congr (lift_zero c)).2 ds 0).trans (ds.trav_id 0)

theorem ushift_ushift : ∀ (t : Tm) (c a b : Nat), ushift c a (ushift c b t) = ushift c (a + b) t :=
  fun t c a b => by
    simp only [ushift_eq_trav, Tm.trav_trav]; exact (trav_ren_congr (lift_lift_mid (Nat.le_refl c) (Nat.le_add_right c b) a)).1 t 0

theorem ushiftDefs_ushiftDefs : ∀ (ds : Defs) (c a b : Nat),
    ushiftDefs c a (ushiftDefs c b ds) = ushiftDefs c (a + b) ds := fun ds c a b => by
  simp only [ushiftDefs_eq_trav, Defs.trav_trav]; exact (trav_ren_congr (lift_lift_mid (Nat.le_refl c) (Nat.le_add_right c b) a)).2 ds 0

theorem ushift_comm : ∀ (t : Tm) (c d a b : Nat), c ≤ d →
    ushift c a (ushift d b t) = ushift (d + a) b (ushift c a t) := fun t c d a b h => by
  simp only [ushift_eq_trav, Tm.trav_trav]; exact (trav_ren_congr (lift_lift_comm h a b)).1 t 0

theorem ushiftDefs_comm : ∀ (ds : Defs) (c d a b : Nat), c ≤ d →
    ushiftDefs c a (ushiftDefs d b ds) = ushiftDefs (d + a) b (ushiftDefs c a ds) :=
  fun ds c d a b h => by
    simp only [ushiftDefs_eq_trav, Defs.trav_trav]
    exact (trav_ren_congr (lift_lift_comm h a b)).2 ds 0

theorem ushift_ushift_mid : ∀ (t : Tm) (c d a b : Nat), d ≤ c → c ≤ d + b →
    ushift c a (ushift d b t) = ushift d (a + b) t := fun t c d a b h h' => by
  simp only [ushift_eq_trav, Tm.trav_trav]; exact (trav_ren_congr (lift_lift_mid h h' a)).1 t 0

theorem ushiftDefs_ushiftDefs_mid : ∀ (ds : Defs) (c d a b : Nat), d ≤ c → c ≤ d + b →
    ushiftDefs c a (ushiftDefs d b ds) = ushiftDefs d (a + b) ds := fun ds c d a b h h' => by
  simp only [ushiftDefs_eq_trav, Defs.trav_trav]
  exact (trav_ren_congr (lift_lift_mid h h' a)).2 ds 0

theorem open_ushift_cancel_aux (i : Nat) (u : Tm) (s : Nat) :
    (∀ (t : Tm) n, t.trav ((Act.subst i u s).comp (.lift i 1)) n = t) ∧
    (∀ (ds : Defs) n, ds.trav ((Act.subst i u s).comp (.lift i 1)) n = ds) :=
  have h := trav_congr_both (F := (Act.subst i u s).comp (.lift i 1)) (G := .id)
    (fun n x k => (Act.subst_var_ne (lower_lift_cancel i n k).1 u s x).trans
      (congrArg _ (lower_lift_cancel i n k).2))
    (fun n id k => congrArg (Tm.hole id) (lower_lift_cancel i n k).2)
  ⟨fun t n => (h.1 t n).trans (t.trav_id n), fun ds n => (h.2 ds n).trans (ds.trav_id n)⟩

theorem open_ushift_cancel : ∀ (t : Tm) (i : Nat) (u : Tm) (s : Nat),
    openT (ushift i 1 t) i u s = t := fun t i u s => by
  rw [ushift_eq_trav, openT_eq_trav, Tm.trav_trav]; exact (open_ushift_cancel_aux i u s).1 t 0

theorem openDefs_ushiftDefs_cancel : ∀ (ds : Defs) (i : Nat) (u : Tm) (s : Nat),
    openDefs (ushiftDefs i 1 ds) i u s = ds := fun ds i u s => by
  rw [ushiftDefs_eq_trav, openDefs_eq_trav, Defs.trav_trav]
  exact (open_ushift_cancel_aux i u s).2 ds 0

theorem open_ushift_low_aux (u : Tm) {i c s : Nat} (a : Nat) (h : c ≤ i) (h' : c ≤ s) :
    (∀ (t : Tm) n, t.trav ((Act.lift c a).comp (.subst i u s)) n =
      t.trav ((Act.subst (i + a) u (s + a)).comp (.lift c a)) n) ∧
    (∀ (ds : Defs) n, ds.trav ((Act.lift c a).comp (.subst i u s)) n =
      ds.trav ((Act.subst (i + a) u (s + a)).comp (.lift c a)) n) := by
  refine trav_congr_both (fun n x k => ?_) (fun n id k => congrArg _ (lift_lower_low h a n k))
  show ((Act.subst i u s).var n x k).trav (.lift c a) n =
    (Act.subst (i + a) u (s + a)).var n x (liftIdx c a n k)
  have h2 := lift_eq_above (show c + a ≤ i + a by omega) n k
  rw [Nat.add_sub_cancel] at h2
  by_cases hk : k = i + n
  · rw [h2.mpr hk, hk, Act.subst_var_self, Act.subst_var_self, ← ushift_add_eq_trav,
      ushift_ushift_mid u (c + n) 0 a (s + n) (by omega) (by omega)]
    congr 1; omega
  · rw [Act.subst_var_ne hk, Act.subst_var_ne (mt h2.mp hk)]; exact congrArg _ (lift_lower_low h a n k)

theorem open_ushift_low : ∀ (t : Tm) (u : Tm) (i c a s : Nat), c ≤ i → c ≤ s →
    ushift c a (openT t i u s) = openT (ushift c a t) (i + a) u (s + a) :=
  fun t u i c a s h h' => by
    simp only [ushift_eq_trav, openT_eq_trav, Tm.trav_trav]
    exact (open_ushift_low_aux u a h h').1 t 0

theorem openDefs_ushiftDefs_low : ∀ (ds : Defs) (u : Tm) (i c a s : Nat), c ≤ i → c ≤ s →
    ushiftDefs c a (openDefs ds i u s) = openDefs (ushiftDefs c a ds) (i + a) u (s + a) :=
  fun ds u i c a s h h' => by
    simp only [ushiftDefs_eq_trav, openDefs_eq_trav, Defs.trav_trav]
    exact (open_ushift_low_aux u a h h').2 ds 0

-- lifting above the opened index commutes with opening; a hole whose shift is the opened index
-- is lifted on the left only, hence hole-free `t`
theorem open_ushift_high_aux (u : Tm) {i c : Nat} (a s : Nat) (h : i ≤ c) :
    (∀ (t : Tm) n, t.holeFree = true → t.trav ((Act.lift c a).comp (.subst i u s)) n =
      t.trav ((Act.subst i (ushift (c - s) a u) s).comp (.lift (c + 1) a)) n) ∧
    (∀ (ds : Defs) n, ds.holeFree = true → ds.trav ((Act.lift c a).comp (.subst i u s)) n =
      ds.trav ((Act.subst i (ushift (c - s) a u) s).comp (.lift (c + 1) a)) n) := by
  have hv : ∀ n x k, ((Act.lift c a).comp (.subst i u s)).var n x k =
      ((Act.subst i (ushift (c - s) a u) s).comp (.lift (c + 1) a)).var n x k := fun n x k => by
    show ((Act.subst i u s).var n x k).trav (.lift c a) n =
      (Act.subst i (ushift (c - s) a u) s).var n x (liftIdx (c + 1) a n k)
    have h1 := lift_eq_below (show i < c + 1 by omega) a n k
    by_cases hk : k = i + n
    · rw [h1.mpr hk, hk, Act.subst_var_self, Act.subst_var_self, ← ushift_add_eq_trav]
      by_cases hs : s ≤ c
      · rw [ushift_comm u 0 (c - s) (s + n) a (Nat.zero_le _)]; congr 1; omega
      · rw [show c - s = 0 by omega, ushift_ushift,
          ushift_ushift_mid u (c + n) 0 a (s + n) (by omega) (by omega), Nat.add_comm]
    · rw [Act.subst_var_ne hk, Act.subst_var_ne (mt h1.mp hk)]; exact congrArg _ (lift_lower_high h hk a)
  exact ⟨fun t n hf => t.trav_congr hv n (.inl hf), fun ds n hf => ds.trav_congr hv n (.inl hf)⟩

theorem open_ushift_high : ∀ (t : Tm) (u : Tm) (i c a s : Nat), t.holeFree = true → i ≤ c →
    ushift c a (openT t i u s) = openT (ushift (c + 1) a t) i (ushift (c - s) a u) s :=
  fun t u i c a s hf h => by
    rw [openT_eq_trav, openT_eq_trav, ushift_eq_trav _ c, ushift_eq_trav _ (c + 1), Tm.trav_trav,
      Tm.trav_trav]
    exact (open_ushift_high_aux u a s h).1 t 0 hf

theorem openDefs_ushiftDefs_high : ∀ (ds : Defs) (u : Tm) (i c a s : Nat), ds.holeFree = true →
    i ≤ c →
    ushiftDefs c a (openDefs ds i u s) = openDefs (ushiftDefs (c + 1) a ds) i (ushift (c - s) a u) s :=
  fun ds u i c a s hf h => by
    rw [openDefs_eq_trav, openDefs_eq_trav, ushiftDefs_eq_trav, ushiftDefs_eq_trav, Defs.trav_trav,
      Defs.trav_trav]
    exact (open_ushift_high_aux u a s h).2 ds 0 hf

theorem open_open_aux (u v : Tm) {i j : Nat} (h : i ≤ j) :
    (∀ (t : Tm) n, t.trav ((Act.subst j v 0).comp (.subst i u 0)) n =
      t.trav ((Act.subst i (openT u j v 0) 0).comp (.subst (j + 1) (ushift i 1 v) 0)) n) ∧
    (∀ (ds : Defs) n, ds.trav ((Act.subst j v 0).comp (.subst i u 0)) n =
      ds.trav ((Act.subst i (openT u j v 0) 0).comp (.subst (j + 1) (ushift i 1 v) 0)) n) := by
  refine trav_congr_both (fun m x k => ?_) (fun m id k => congrArg _ (lower_lower h m k))
  show ((Act.subst i u 0).var m x k).trav (.subst j v 0) m =
    ((Act.subst (j + 1) (ushift i 1 v) 0).var m x k).trav (.subst i (openT u j v 0) 0) m
  have hi' : i < j + 1 := by omega
  by_cases hi : k = i + m
  · -- the variable opened first
    rw [hi, Act.subst_var_self, Act.subst_var_ne (by omega), (lower_eq_below hi' m _).2 rfl]
    show _ = (Act.subst i (openT u j v 0) 0).var m x (i + m)
    have := open_ushift_low u v j 0 m 0 (Nat.zero_le _) (Nat.zero_le _)
    rw [Nat.zero_add] at this
    rw [Act.subst_var_self, ← openT_add_eq_trav, Nat.zero_add, this]
  · by_cases hj : k = j + 1 + m
    · -- the variable opened second
      rw [hj, Act.subst_var_self, Act.subst_var_ne (by omega), (lower_eq_above h (by omega)).2 rfl]
      show (Act.subst j v 0).var m x (j + m) = _
      rw [Act.subst_var_self, ← openT_add_eq_trav, Nat.zero_add,
        ushift_comm v 0 i m 1 (Nat.zero_le _), open_ushift_cancel]
    · -- any other variable is lowered twice, in either order
      rw [Act.subst_var_ne hi, Act.subst_var_ne hj]
      show (Act.subst j v 0).var m x (lowerIdx i m k) =
        (Act.subst i (openT u j v 0) 0).var m x (lowerIdx (j + 1) m k)
      rw [Act.subst_var_ne (mt (lower_eq_above h hi).1 hj), Act.subst_var_ne (mt (lower_eq_below hi' m k).1 hi),
        lower_lower h]

theorem open_open_gen : ∀ (t u v : Tm) (i j n : Nat), i ≤ j →
    openT (openT t (i + n) u n) (j + n) v n =
      openT (openT t (j + n + 1) (ushift i 1 v) n) (i + n) (openT u j v 0) n :=
  fun t u v i j n h => by
    have e : ∀ (t : Tm) i u, openT t (i + n) u n = t.trav (.subst i u 0) n := fun t i u => by
      rw [← openT_add_eq_trav, Nat.zero_add]
    rw [Nat.add_right_comm j n 1, e, e, e, e, Tm.trav_trav, Tm.trav_trav]
    exact (open_open_aux u v h).1 t n

theorem open_open (t u v : Tm) (i j : Nat) (h : i ≤ j) :
    openT (openT t i u 0) j v 0 = openT (openT t (j + 1) (ushift i 1 v) 0) i (openT u j v 0) 0 :=
  open_open_gen t u v i j 0 h

theorem holeFree_ushift (t : Tm) (c a : Nat) : (ushift c a t).holeFree = t.holeFree := by
  rw [ushift_eq_trav]; exact t.holeFree_trav (fun _ _ _ => rfl) (fun _ _ _ => rfl) 0

theorem holeFree_ushiftDefs (ds : Defs) (c a : Nat) : (ushiftDefs c a ds).holeFree = ds.holeFree := by
  rw [ushiftDefs_eq_trav]; exact ds.holeFree_trav (fun _ _ _ => rfl) (fun _ _ _ => rfl) 0

theorem Act.subst_var_holeFree (i : Nat) {u : Tm} (s : Nat) (hu : u.holeFree = true) (n : Nat) (x : Name)
    (k : Nat) : ((Act.subst i u s).var n x k).holeFree = true :=
  Act.subst_var_cases (P := (·.holeFree = true)) i u s n x k ((holeFree_ushift ..).trans hu) rfl

theorem openT_holeFree (t : Tm) (i : Nat) (u : Tm) (s : Nat) (ht : t.holeFree = true)
    (hu : u.holeFree = true) : (openT t i u s).holeFree = true := by
  rw [openT_eq_trav, t.holeFree_trav (Act.subst_var_holeFree i s hu) (fun _ _ _ => rfl) 0, ht]
theorem openDefs_holeFree (ds : Defs) (i : Nat) (u : Tm) (s : Nat) (h : ds.holeFree = true)
    (hu : u.holeFree = true) : (openDefs ds i u s).holeFree = true := by
  rw [openDefs_eq_trav, ds.holeFree_trav (Act.subst_var_holeFree i s hu) (fun _ _ _ => rfl) 0, h]

-- free variables of a lifted term: `j` comes from `j` (below `c`) or `j - a` (from `c + a` on); none in between
theorem occAt_lifted (c a j : Nat) (o : Nat × Occ) :
    (((Act.lift c a).at o.1 o.2).occs o.1).any (occAt j) =
      if j < c then occAt j o else if j < c + a then false else occAt (j - a) o := by
  rw [Act.lift, occs_ren_at, List.any_singleton]
  simp only [occAt, Occ.isVar_reidx, Occ.idx_reidx]
  by_cases h1 : j < c
  · rw [if_pos h1]; exact congrArg _ (Nat.beq_congr (lift_eq_below h1 ..))
  · by_cases h2 : j < c + a
    · rw [if_neg h1, if_pos h2, beq_eq_false_iff_ne.mpr (lift_ne_between (by omega) h2 _ _), Bool.and_false]
    · rw [if_neg h1, if_neg h2]; exact congrArg _ (Nat.beq_congr (lift_eq_above (by omega) ..))

theorem freeAt_ushift : ∀ (t : Tm) (c a j : Nat),
    freeAt (ushift c a t) j =
      if j < c then freeAt t j else if j < c + a then false else freeAt t (j - a) :=
  fun t c a j => by
    simp only [freeAt_eq_occs, ushift_eq_trav, Tm.occs_trav, List.any_flatMap, occAt_lifted, List.any_ite,
      List.any_eq_false_of (fun _ => rfl)]

theorem freeAtDefs_ushiftDefs : ∀ (ds : Defs) (c a j : Nat),
    freeAtDefs (ushiftDefs c a ds) j =
      if j < c then freeAtDefs ds j else if j < c + a then false else freeAtDefs ds (j - a) :=
  fun ds c a j => by
    simp only [freeAtDefs_eq_occs, ushiftDefs_eq_trav, Defs.occs_trav, List.any_flatMap, occAt_lifted,
      List.any_ite, List.any_eq_false_of (fun _ => rfl)]

-- free variables of an opened term: `j` comes from `j` (below `i`) or `j + 1` (above), or from a
-- free variable of `u` if `i` itself occurs
theorem occAt_opened (i : Nat) (u : Tm) (s j : Nat) (o : Nat × Occ) :
    (((Act.subst i u s).at o.1 o.2).occs o.1).any (occAt j) =
      (occAt (if j < i then j else j + 1) o || (occAt i o && (decide (s ≤ j) && freeAt u (j - s)))) := by
  cases o with | mk n l => cases l with
  | hole id k => simp only [Act.at, Act.subst, Tm.occs, List.any_cons, List.any_nil, occAt, Occ.isVar,
      Bool.false_and, Bool.or_false]
  | var x k =>
    simp only [Act.at, occAt, Occ.isVar, Occ.idx, Bool.true_and]
    by_cases hk : k = i + n
    · have e : (k == (if j < i then j else j + 1) + n) = false :=
        beq_eq_false_iff_ne.mpr (by split <;> omega)
      rw [e, hk, Act.subst_var_self, ← freeAt_add_eq_occs, freeAt_ushift, if_neg (Nat.not_lt_zero _),
        beq_self_eq_true, Bool.false_or, Bool.true_and]
      by_cases hs : s ≤ j
      · rw [if_neg (by omega), show j + n - (s + n) = j - s by omega, decide_eq_true hs, Bool.true_and]
      · rw [if_pos (by omega), decide_eq_false hs, Bool.false_and]
    · rw [Act.subst_var_ne hk, beq_eq_false_iff_ne.mpr hk, Bool.false_and, Bool.or_false]
      simp only [Tm.occs, List.any_cons, List.any_nil, Bool.or_false, occAt, Occ.isVar, Occ.idx,
        Bool.true_and]
      split
      · next h => exact Nat.beq_congr (lower_eq_below h n k)
      · next h => exact Nat.beq_congr (lower_eq_above (Nat.not_lt.1 h) hk)

theorem freeAt_openT : ∀ (t : Tm) (i : Nat) (u : Tm) (s j : Nat),
    freeAt (openT t i u s) j =
      ((decide (j < i) && freeAt t j) || (decide (i ≤ j) && freeAt t (j+1))
        || (freeAt t i && decide (s ≤ j) && freeAt u (j - s))) :=
  fun t i u s j => by
    rw [freeAt_eq_occs, openT_eq_trav, Tm.occs_trav, List.any_flatMap]
    simp only [occAt_opened, List.any_or, List.any_and_const, ← freeAt_eq_occs, Bool.and_assoc]
    by_cases hj : j < i
    · simp [hj, Nat.not_le.mpr hj]
    · simp [hj, Nat.not_lt.mp hj]

theorem freeAtDefs_openDefs : ∀ (ds : Defs) (i : Nat) (u : Tm) (s j : Nat),
    freeAtDefs (openDefs ds i u s) j =
      ((decide (j < i) && freeAtDefs ds j) || (decide (i ≤ j) && freeAtDefs ds (j+1))
        || (freeAtDefs ds i && decide (s ≤ j) && freeAt u (j - s))) :=
  fun ds i u s j => by
    rw [freeAtDefs_eq_occs, openDefs_eq_trav, Defs.occs_trav, List.any_flatMap]
    simp only [occAt_opened, List.any_or, List.any_and_const, ← freeAtDefs_eq_occs, Bool.and_assoc]
    by_cases hj : j < i
    · simp [hj, Nat.not_le.mpr hj]
    · simp [hj, Nat.not_lt.mp hj]

-- a signed shift fails exactly when an index in `[c, c + |amt|)` would fall below the cutoff
-- (only possible for negative `amt`); otherwise it is the traversal that slides the indices
mutual
theorem sshift_add_eq : ∀ (t : Tm) (c : Nat) (amt : Int) (n : Nat),
    sshift (c + n) amt t =
      bif (t.occs n).any (occIn c (-amt).toNat) then none
      else some (t.trav (.ren (slideIdx c amt)) n)
  | .var x i, c, amt, n | .hole x i, c, amt, n => by
      simp only [sshift, Tm.occs, List.any_cons, List.any_nil, Bool.or_false, Tm.trav, Act.ren, slideIdx,
        ge_iff_le]
      by_cases h : c + n ≤ i
      · by_cases h2 : ((c + n : Nat) : Int) ≤ (i : Int) + amt
        · rw [if_pos h, if_pos h2, occIn_false (by simp only [Occ.idx]; omega), if_pos h]; rfl
        · rw [if_pos h, if_neg h2, occIn_true (by simp only [Occ.idx]; omega)]; rfl
      · rw [if_neg h, occIn_false (by simp only [Occ.idx]; omega), if_neg h]; rfl
  | .type, _, _, _ | .int, _, _, _ | .bool, _, _, _ | .tt, _, _, _ | .ff, _, _, _
  | .lit _, _, _, _ => rfl
  | .lam _ _ d b, c, amt, n | .pi _ _ d b, c, amt, n => by
      simp only [sshift, Tm.occs, List.any_append, Tm.trav, Nat.add_assoc, sshift_add_eq d, sshift_add_eq b]
      cases (d.occs n).any (occIn c (-amt).toNat) <;>
        cases (b.occs (n + 1)).any (occIn c (-amt).toNat) <;> rfl
  | .app f a, c, amt, n | .bin _ f a, c, amt, n => by
      simp only [sshift, Tm.occs, List.any_append, Tm.trav, sshift_add_eq f, sshift_add_eq a]
      cases (f.occs n).any (occIn c (-amt).toNat) <;> cases (a.occs n).any (occIn c (-amt).toNat) <;> rfl
  | .letg ds b, c, amt, n => by
      simp only [sshift, Tm.occs, List.any_append, Tm.trav, Nat.add_assoc, sshiftDefs_add_eq ds,
        sshift_add_eq b]
      cases (ds.occs (n + ds.len)).any (occIn c (-amt).toNat) <;>
        cases (b.occs (n + ds.len)).any (occIn c (-amt).toNat) <;> rfl
  | .neg a, c, amt, n => by
      simp only [sshift, Tm.occs, Tm.trav, sshift_add_eq a]
      cases (a.occs n).any (occIn c (-amt).toNat) <;> rfl
  | .ite a b d, c, amt, n => by
      simp only [sshift, Tm.occs, List.any_append, Tm.trav, sshift_add_eq a, sshift_add_eq b,
        sshift_add_eq d]
      cases (a.occs n).any (occIn c (-amt).toNat) <;> cases (b.occs n).any (occIn c (-amt).toNat) <;>
        cases (d.occs n).any (occIn c (-amt).toNat) <;> rfl
theorem sshiftDefs_add_eq : ∀ (ds : Defs) (c : Nat) (amt : Int) (n : Nat),
    sshiftDefs (c + n) amt ds =
      bif (ds.occs n).any (occIn c (-amt).toNat) then none
      else some (ds.trav (.ren (slideIdx c amt)) n)
  | .nil, _, _, _ => rfl
  | .cons _ a d r, c, amt, n => by
      simp only [sshiftDefs, Defs.occs, List.any_append, Defs.trav, sshift_add_eq a, sshift_add_eq d,
        sshiftDefs_add_eq r]
      cases (a.occs n).any (occIn c (-amt).toNat) <;> cases (d.occs n).any (occIn c (-amt).toNat) <;>
        cases (r.occs n).any (occIn c (-amt).toNat) <;> rfl
end

theorem sshift_eq (t : Tm) (c : Nat) (amt : Int) :
    sshift c amt t =
      bif (t.occs 0).any (occIn c (-amt).toNat) then none else some (t.trav (.ren (slideIdx c amt)) 0) :=
  sshift_add_eq t c amt 0
theorem sshiftDefs_eq (ds : Defs) (c : Nat) (amt : Int) :
    sshiftDefs c amt ds =
      bif (ds.occs 0).any (occIn c (-amt).toNat) then none else some (ds.trav (.ren (slideIdx c amt)) 0) :=
  sshiftDefs_add_eq ds c amt 0

theorem sshift_some {t r : Tm} {c : Nat} {amt : Int} (h : sshift c amt t = some r) :
    (∀ o ∈ t.occs 0, occIn c (-amt).toNat o = false) ∧ r = t.trav (.ren (slideIdx c amt)) 0 := by
  rw [sshift_eq] at h
  cases hb : (t.occs 0).any (occIn c (-amt).toNat) <;> rw [hb] at h
  · exact ⟨fun o ho => Bool.eq_false_iff.2 (List.any_eq_false.1 hb o ho), (Option.some.inj h).symm⟩
  · cases h

theorem sshiftDefs_some {ds rs : Defs} {c : Nat} {amt : Int} (h : sshiftDefs c amt ds = some rs) :
    (∀ o ∈ ds.occs 0, occIn c (-amt).toNat o = false) ∧ rs = ds.trav (.ren (slideIdx c amt)) 0 := by
  rw [sshiftDefs_eq] at h
  cases hb : (ds.occs 0).any (occIn c (-amt).toNat) <;> rw [hb] at h
  · exact ⟨fun o ho => Bool.eq_false_iff.2 (List.any_eq_false.1 hb o ho), (Option.some.inj h).symm⟩
  · cases h

theorem sshiftDefs_len (ds ds' : Defs) (c : Nat) (amt : Int) (h : sshiftDefs c amt ds = some ds') :
    ds'.len = ds.len := by
  rw [(sshiftDefs_some h).2, Defs.len_trav]

theorem lifted_off_range {c d b m : Nat} {amt : Int} (h : d ≤ c) (h' : c ≤ d + m) (hm : (m : Int) = b + amt)
    (o : Nat × Occ) : (((Act.lift d b).at o.1 o.2).occs o.1).any (occIn c (-amt).toNat) = false := by
  rw [Act.lift, occs_ren_at, List.any_singleton]
  exact occIn_false (by rw [Occ.idx_reidx]; unfold liftIdx; split <;> omega)

theorem sshift_ushift_mid : ∀ (t : Tm) (c d b m : Nat) (amt : Int), d ≤ c → c ≤ d + b → c ≤ d + m →
    (m : Int) = b + amt → sshift c amt (ushift d b t) = some (ushift d m t) := fun t c d b m amt h h1 h2 hm => by
  rw [sshift_eq, ushift_eq_trav, ushift_eq_trav, Tm.occs_trav, List.any_flatMap,
    List.any_eq_false_of (lifted_off_range h h2 hm), Tm.trav_trav]
  exact congrArg some ((trav_ren_congr (slide_lift_mid h h1 hm)).1 t 0)

theorem sshiftDefs_ushiftDefs_mid : ∀ (ds : Defs) (c d b m : Nat) (amt : Int), d ≤ c → c ≤ d + b →
    c ≤ d + m → (m : Int) = b + amt → sshiftDefs c amt (ushiftDefs d b ds) = some (ushiftDefs d m ds) :=
  fun ds c d b m amt h h1 h2 hm => by
    rw [sshiftDefs_eq, ushiftDefs_eq_trav, ushiftDefs_eq_trav, Defs.occs_trav, List.any_flatMap,
      List.any_eq_false_of (lifted_off_range h h2 hm), Defs.trav_trav]
    exact congrArg some ((trav_ren_congr (slide_lift_mid h h1 hm)).2 ds 0)

theorem sshift_ushift : ∀ (t : Tm) (c a : Nat), sshift c (a : Int) t = some (ushift c a t) :=
  fun t c a => by
    have := sshift_ushift_mid t c c 0 a a (Nat.le_refl _) (Nat.le_add_right ..) (Nat.le_add_right ..) (by omega)
    rwa [ushift_zero] at this

theorem sshiftDefs_ushift : ∀ (ds : Defs) (c a : Nat),
    sshiftDefs c (a : Int) ds = some (ushiftDefs c a ds) := fun ds c a => by
  have := sshiftDefs_ushiftDefs_mid ds c c 0 a a (Nat.le_refl _) (Nat.le_add_right ..) (Nat.le_add_right ..)
    (by omega)
  rwa [ushiftDefs_zero] at this

theorem sshift_zero (t : Tm) (c : Nat) : sshift c 0 t = some t :=
  (sshift_ushift t c 0).trans (congrArg some (ushift_zero t c))

theorem sshift_neg_ushift : ∀ (t : Tm) (c a : Nat), sshift c (-(a : Int)) (ushift c a t) = some t :=
  fun t c a =>
    (sshift_ushift_mid t c c a 0 _ (Nat.le_refl _) (Nat.le_add_right ..) (Nat.le_refl _) (by omega)).trans
      (congrArg some (ushift_zero t c))

theorem sshiftDefs_neg_ushiftDefs : ∀ (ds : Defs) (c a : Nat),
    sshiftDefs c (-(a : Int)) (ushiftDefs c a ds) = some ds := fun ds c a =>
  (sshiftDefs_ushiftDefs_mid ds c c a 0 _ (Nat.le_refl _) (Nat.le_add_right ..) (Nat.le_refl _)
    (by omega)).trans (congrArg some (ushiftDefs_zero ds c))

theorem sshift_down_isSome : ∀ (t : Tm) (c k : Nat),
    (sshift c (-(k : Int)) t).isSome = !lowFree t c k := fun t c k => by
  rw [sshift_eq, Int.neg_neg, Int.toNat_natCast, ← lowFree_eq_occs]
  cases lowFree t c k <;> rfl

theorem sshiftDefs_down_isSome : ∀ (ds : Defs) (c k : Nat),
    (sshiftDefs c (-(k : Int)) ds).isSome = !lowFreeDefs ds c k := fun ds c k => by
  rw [sshiftDefs_eq, Int.neg_neg, Int.toNat_natCast, ← lowFreeDefs_eq_occs]
  cases lowFreeDefs ds c k <;> rfl

theorem subst_eq_slide (i : Nat) (u : Tm) (s : Nat) : ∀ o : Nat × Occ, occIn i 1 o = false →
    (Act.ren (slideIdx i (-1))).at o.1 o.2 = (Act.subst i u s).at o.1 o.2
  | (n, .var x k), h =>
      have h : ¬ (i + n ≤ k ∧ k < i + n + 1) := of_decide_eq_false h
      (congrArg (Tm.var x) (slide_eq_lower h)).trans (Act.subst_var_ne (by omega) u s x).symm
  | (n, .hole id k), h => congrArg (Tm.hole id) (slide_eq_lower (of_decide_eq_false h))

theorem open_not_free : ∀ (t : Tm) (i : Nat) (u : Tm) (s : Nat), lowFree t i 1 = false →
    sshift i (-1) t = some (openT t i u s) := fun t i u s h => by
  rw [lowFree_eq_occs] at h
  rw [sshift_eq, show (-(-1 : Int)).toNat = 1 from rfl, h, openT_eq_trav]
  exact congrArg some (t.trav_congr_occs 0 fun o ho =>
    subst_eq_slide i u s o (Bool.eq_false_iff.2 (List.any_eq_false.1 h o ho)))

theorem openDefs_not_free : ∀ (ds : Defs) (i : Nat) (u : Tm) (s : Nat),
    lowFreeDefs ds i 1 = false → sshiftDefs i (-1) ds = some (openDefs ds i u s) :=
  fun ds i u s h => by
    rw [lowFreeDefs_eq_occs] at h
    rw [sshiftDefs_eq, show (-(-1 : Int)).toNat = 1 from rfl, h, openDefs_eq_trav]
    exact congrArg some (ds.trav_congr_occs 0 fun o ho =>
      subst_eq_slide i u s o (Bool.eq_false_iff.2 (List.any_eq_false.1 h o ho)))

theorem unfoldDef_holeFree (x : Name) (ann d : Tm) (index : Nat) (ha : ann.holeFree = true)
    (hd : d.holeFree = true) : (unfoldDef x ann d index).holeFree = true := by
  unfold unfoldDef
  have hself : (Tm.var x 0).holeFree = true := rfl
  refine openT_holeFree _ _ _ _ hd ?_
  simp only [Tm.holeFree, Defs.holeFree, Bool.and_eq_true, Bool.and_true]
  exact ⟨openT_holeFree _ _ _ _ (by rw [holeFree_ushift]; exact ha) hself,
    openT_holeFree _ _ _ _ (by rw [holeFree_ushift]; exact hd) hself⟩

theorem ws_lift {n m c a : Nat} (hle : n + a ≤ m) :
    (∀ k x i, i < n + k → wellScoped (m + k) ((Act.lift c a).var k x i) = true) ∧
    (∀ k id s, s ≤ n + k → wellScoped (m + k) ((Act.lift c a).hole k id s) = true) :=
  ⟨fun k x i hi => decide_eq_true (by show liftIdx c a k i < m + k; unfold liftIdx; split <;> omega),
   fun k id s hs => decide_eq_true (by show liftIdx c a k s ≤ m + k; unfold liftIdx; split <;> omega)⟩

theorem ws_ushift (t : Tm) (n m c a : Nat) (h : wellScoped n t = true) (hle : n + a ≤ m) :
    wellScoped m (ushift c a t) = true := by
  rw [ushift_eq_trav]; exact t.wellScoped_trav (ws_lift hle).1 (ws_lift hle).2 0 h
theorem wsDefs_ushift (ds : Defs) (n m c a : Nat) (h : wellScopedDefs n ds = true) (hle : n + a ≤ m) :
    wellScopedDefs m (ushiftDefs c a ds) = true := by
  rw [ushiftDefs_eq_trav]; exact ds.wellScoped_trav (ws_lift hle).1 (ws_lift hle).2 0 h

theorem ws_subst {N n i m s : Nat} {u : Tm} (hN : N ≤ n + 1) (hi : i ≤ n) (hu : wellScoped m u = true)
    (hm : m + s ≤ n) :
    (∀ k x j, j < N + k → wellScoped (n + k) ((Act.subst i u s).var k x j) = true) ∧
    (∀ k id j, j ≤ N + k → wellScoped (n + k) ((Act.subst i u s).hole k id j) = true) := by
  refine ⟨fun k x j hj => ?_,
    fun k id j hj => decide_eq_true (by show lowerIdx i k j ≤ n + k; unfold lowerIdx; split <;> omega)⟩
  show wellScoped (n + k) (if j = i + k then ushift 0 (s + k) u else .var x (lowerIdx i k j)) = true
  split
  · exact ws_ushift u m (n + k) 0 (s + k) hu (by omega)
  · exact decide_eq_true (by show lowerIdx i k j < n + k; unfold lowerIdx; split <;> omega)

theorem ws_openT (t : Tm) (N n i : Nat) (u : Tm) (m s : Nat) (h : wellScoped N t = true)
    (hN : N ≤ n + 1) (hi : i ≤ n) (hu : wellScoped m u = true) (hm : m + s ≤ n) :
    wellScoped n (openT t i u s) = true := by
  rw [openT_eq_trav]
  exact t.wellScoped_trav (ws_subst hN hi hu hm).1 (ws_subst hN hi hu hm).2 0 h
theorem wsDefs_openDefs (ds : Defs) (N n i : Nat) (u : Tm) (m s : Nat) (h : wellScopedDefs N ds = true)
    (hN : N ≤ n + 1) (hi : i ≤ n) (hu : wellScoped m u = true) (hm : m + s ≤ n) :
    wellScopedDefs n (openDefs ds i u s) = true := by
  rw [openDefs_eq_trav]
  exact ds.wellScoped_trav (ws_subst hN hi hu hm).1 (ws_subst hN hi hu hm).2 0 h

theorem ws_unfoldDef (x : Name) (ann d : Tm) (index N : Nat) (ha : wellScoped (N+1) ann = true)
    (hd : wellScoped (N+1) d = true) (hi : index ≤ N) :
    wellScoped N (unfoldDef x ann d index) = true := by
  unfold unfoldDef
  have hself : wellScoped 1 (Tm.var x 0) = true := by simp [wellScoped]
  refine ws_openT d (N+1) N index _ N 0 hd (Nat.le_refl _) hi ?_ (by omega)
  simp only [wellScoped, wellScopedDefs, Bool.and_eq_true, Bool.and_true, Defs.len_cons,
    Defs.len_nil]
  refine ⟨⟨?_, ?_⟩, by simp⟩
  · exact ws_openT _ (N+2) (N+(0+1)) (index+1) _ 1 0 (ws_ushift ann (N+1) (N+2) 0 1 ha (by omega))
      (by omega) (by omega) hself (by omega)
  · exact ws_openT _ (N+2) (N+(0+1)) (index+1) _ 1 0 (ws_ushift d (N+1) (N+2) 0 1 hd (by omega))
      (by omega) (by omega) hself (by omega)

theorem lift_slide_at (c k : Nat) : ∀ o : Nat × Occ, occIn c k o = false →
    ((Act.lift c k).comp (.ren (slideIdx c (-(k : Int))))).at o.1 o.2 = Act.id.at o.1 o.2
  | (_, .var x _), h => congrArg (Tm.var x) (lift_slide_cancel (of_decide_eq_false h))
  | (_, .hole id _), h => congrArg (Tm.hole id) (lift_slide_cancel (of_decide_eq_false h))

theorem ushift_of_sshift_neg : ∀ (t r : Tm) (c k : Nat),
    sshift c (-(k : Int)) t = some r → ushift c k r = t := fun t r c k h => by
  obtain ⟨h0, rfl⟩ := sshift_some h
  rw [Int.neg_neg, Int.toNat_natCast] at h0
  rw [ushift_eq_trav, Tm.trav_trav]
  exact (t.trav_congr_occs 0 fun o ho => lift_slide_at c k o (h0 o ho)).trans (t.trav_id 0)

namespace FuelLemmas
theorem ushiftDefs_of_sshiftDefs_neg : ∀ (ds rs : Defs) (c k : Nat),
    sshiftDefs c (-(k : Int)) ds = some rs → ushiftDefs c k rs = ds := fun ds rs c k h => by
  obtain ⟨h0, rfl⟩ := sshiftDefs_some h
  rw [Int.neg_neg, Int.toNat_natCast] at h0
  rw [ushiftDefs_eq_trav, Defs.trav_trav]
  exact (ds.trav_congr_occs 0 fun o ho => lift_slide_at c k o (h0 o ho)).trans (ds.trav_id 0)
end FuelLemmas

/-- what a successful shift of a hole-free term down by `k` at cutoff 0 says of its free variables -/
theorem sshift_down_spec (t r : Tm) (k : Nat) (hf : t.holeFree = true)
    (h : sshift 0 (-(k : Int)) t = some r) :
    (∀ j, freeAt r j = true → freeAt t (j + k) = true) ∧
    (∀ j, j < k → freeAt t j = false) ∧ ushift 0 k r = t := by
  have hu := ushift_of_sshift_neg t r 0 k h
  refine ⟨?_, ?_, hu⟩
  · intro j hj
    have := freeAt_ushift r 0 k (j + k)
    rw [hu] at this
    rw [this]
    have h1 : ¬ (j + k < 0) := by omega
    have h2 : ¬ (j + k < 0 + k) := by omega
    simp only [h1, h2, if_false, Nat.add_sub_cancel]
    exact hj
  · intro j hj
    have h1 := sshift_down_isSome t 0 k
    rw [h] at h1
    have h2 : lowFree t 0 k = false := by
      cases hl : lowFree t 0 k
      · rfl
      · rw [hl] at h1; simp at h1
    cases hfa : freeAt t j
    · rfl
    · have := (lowFree_iff_freeAt t 0 k hf).2 ⟨j, by omega, by omega, hfa⟩
      rw [h2] at this; cases this
