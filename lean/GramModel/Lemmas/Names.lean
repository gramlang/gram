import GramModel.Parser

/-! The resolver's state monad (what a `bind` and a `pure` do to a run), the name→depth map `Ctx`, and
the parts of the resolver state that only grow: the hole counter and the error list (`RMono`, `Mono`).
Declares into `PModel`; the two facts about `StateT σ Option` in general (`StateT_bind_some`, `StateT_pure_some`)
into the root namespace.

There are six predicates on resolver computations `m : ResolveM α`, one per property of the resolver.  Each has
rules `pure` and `bind`, one lemma per primitive (`bindName`, `unbindName`, `freshHole`, `bindDefinitions`,
`unbindDefinitions`, `lamDomain`, `lookupVar`) and one walk over `resolveAux` by `Src.induction`:
* `Mono m` (here; prefix `mono_`): a run only adds diagnostics and hole identifiers; it is the field `grow` of
  `Exact`, and for the primitives without a `mono_` lemma and for the walk it is read off there;
* `EvSim B evs m` (ResolveRanges; `_evSim`): a run performs the scope events `evs`: which ranges are reported;
* `RnSim ρ P f m m'` (ResolveRename; `_rnSim`, `_rename`): `m'` on the renamed state does what `m` does: renaming;
* `LSim R m m'` (ResolveLayout; `_lsim`): `m'` does what `m` does up to ranges: layout;
* `ROk m P` (ParserResolve): `m` succeeds from every state: no panic.  For a primitive `X_ok` is the `ROk`
  statement and `X_total` the same with `ROk` unfolded; for the walk `resolveAux_rok` (`resolveOpt_rok_of`, …) is
  the `ROk` statement and `resolveAux_ok`, `resolveOpt_ok`, `resolveAnnotation_ok` the unfolded ones;
* `Exact p H Γ Γ' m spec R` (Props/C08; `_exact`): `m` against the specification `toDB`
  (`resolveAux_mono` there is the walk for `Mono`). -/

open PModel

theorem StateT_bind_some {σ α β : Type} (m : StateT σ Option α) (f : α → StateT σ Option β)
    (s : σ) (b : β) (s' : σ) :
    (m >>= f) s = some (b, s') ↔ ∃ a s1, m s = some (a, s1) ∧ f a s1 = some (b, s') := by
  show (m s).bind (fun p => f p.1 p.2) = _ ↔ _
  simp only [Option.bind_eq_some_iff, Prod.exists]

theorem StateT_pure_some {σ α : Type} (a : α) (s : σ) (b : α) (s' : σ) :
    (pure a : StateT σ Option α) s = some (b, s') ↔ a = b ∧ s = s' := by
  show some (a, s) = _ ↔ _
  rw [Option.some.injEq, Prod.mk.injEq]

namespace PModel

theorem StateT_run_bind {σ α β : Type} (m : StateT σ Option α) (k : α → StateT σ Option β) (s : σ) :
    (m >>= k) s = (m s).bind fun p => k p.1 p.2 := rfl

structure RMono (st st' : RState) : Prop where
  hole : st.nextHole ≤ st'.nextHole
  errs : ∃ es, st'.errors = st.errors ++ es

theorem RMono.refl (st : RState) : RMono st st := ⟨Nat.le_refl _, ⟨[], by simp⟩⟩

theorem RMono.trans {a b c : RState} (h1 : RMono a b) (h2 : RMono b c) : RMono a c := by
  obtain ⟨e1, he1⟩ := h1.errs
  obtain ⟨e2, he2⟩ := h2.errs
  exact ⟨Nat.le_trans h1.hole h2.hole, ⟨e1 ++ e2, by rw [he2, he1, List.append_assoc]⟩⟩

theorem Ctx.lookup_cons_ne (y k : Name) (v : Nat) (c : List (Name × Nat)) (h : y ≠ k) :
    List.lookup y ((k, v) :: c) = List.lookup y c := by
  rw [List.lookup_cons, beq_false_of_ne h]

theorem Ctx.lookup_cons_self (y : Name) (v : Nat) (c : List (Name × Nat)) :
    List.lookup y ((y, v) :: c) = some v := by
  exact List.lookup_cons_self

theorem Ctx.get_remove (c : Ctx) (x y : Name) :
    (c.remove x).get y = if y = x then none else c.get y := by
  induction c with
  | nil => exact (ite_self _).symm
  | cons p c ih =>
    obtain ⟨k, v⟩ := p
    unfold Ctx.remove Ctx.get at ih ⊢
    rw [List.filter_cons]
    by_cases hk : k = x
    · subst hk
      rw [if_neg (by simp), ih]
      split
      · rfl
      · rw [lookup_cons_ne _ _ _ _ ‹_›]
    · rw [if_pos (by simpa using hk)]
      by_cases hy : y = k
      · subst hy
        rw [lookup_cons_self, lookup_cons_self, if_neg hk]
      · rw [lookup_cons_ne _ _ _ _ hy, lookup_cons_ne _ _ _ _ hy, ih]

theorem Ctx.get_insert (c : Ctx) (x : Name) (d : Nat) (y : Name) :
    (c.insert x d).get y = if y = x then some d else c.get y := by
  show List.lookup y ((x, d) :: c.remove x) = _
  split
  · subst y; exact lookup_cons_self ..
  · rename_i hy
    rw [lookup_cons_ne _ _ _ _ hy]
    exact (get_remove c x y).trans (if_neg hy)

theorem Ctx.containsKey_eq (c : Ctx) (x : Name) : c.containsKey x = (c.get x).isSome := rfl

theorem RMono.len {a b : RState} (h : RMono a b) : a.errors.length ≤ b.errors.length := by
  obtain ⟨es, he⟩ := h.errs
  rw [he, List.length_append]; exact Nat.le_add_right ..

theorem RMono.eq_of_len {a b : RState} (h : RMono a b) (hl : b.errors.length ≤ a.errors.length) :
    b.errors = a.errors := by
  obtain ⟨es, he⟩ := h.errs
  rw [he, List.length_append] at hl
  rw [he, List.eq_nil_of_length_eq_zero (by omega : es.length = 0), List.append_nil]

def Mono {α : Type} (m : ResolveM α) : Prop :=
  ∀ st a st', m st = some (a, st') → RMono st st'

theorem Mono.pure {α : Type} (a : α) : Mono (pure a : ResolveM α) := fun st _ _ h =>
  ((StateT_pure_some ..).1 h).2 ▸ RMono.refl st

theorem Mono.bind {α β : Type} {m : ResolveM α} {f : α → ResolveM β}
    (hm : Mono m) (hf : ∀ a, Mono (f a)) : Mono (m >>= f) := fun _ _ _ h =>
  have ⟨a, _, h1, h2⟩ := (StateT_bind_some ..).1 h
  (hm _ _ _ h1).trans (hf a _ _ _ h2)

theorem errors_ite (c : Prop) [Decidable c] (l e : List PErr) :
    ∃ es, (if c then l ++ e else l) = l ++ es := by
  split
  · exact ⟨e, rfl⟩
  · exact ⟨[], (List.append_nil l).symm⟩

theorem mono_bindName (v : SrcVar) (d : Nat) : Mono (bindName v d) := by
  intro st u st' h
  unfold bindName at h
  split at h <;> cases h
  · exact ⟨Nat.le_refl _, errors_ite ..⟩
  · exact .refl st

theorem mono_unbindName (x : Name) : Mono (unbindName x) := by
  intro st u st' h
  cases h
  exact ⟨Nat.le_refl _, ⟨[], (List.append_nil _).symm⟩⟩

theorem mono_freshHole (r : Option SourceRange) (s : Nat) : Mono (freshHole r s) := by
  intro st t st' h
  cases h
  exact ⟨Nat.le_succ _, ⟨[], (List.append_nil _).symm⟩⟩

theorem mono_unbindDefinitions : ∀ ds : List (SrcVar × OptSrc × Src), Mono (unbindDefinitions ds)
  | [] => .pure _
  | (v, _, _) :: rest => by
    unfold unbindDefinitions
    split
    · exact .bind (mono_unbindName _) fun _ => mono_unbindDefinitions rest
    · exact mono_unbindDefinitions rest

theorem pure_inv {α : Type} {a b : α} {st st' : RState}
    (h : (pure a : ResolveM α) st = some (b, st')) : a = b ∧ st = st' :=
  (StateT_pure_some ..).1 h

theorem unbindName_inv {x : Name} {st st' : RState} {u : Unit}
    (h : unbindName x st = some (u, st')) : st' = { st with ctx := st.ctx.remove x } := by
  unfold unbindName at h
  simp only [Option.some.injEq, Prod.mk.injEq] at h
  exact h.2.symm

theorem freshHole_inv {r : Option SourceRange} {s : Nat} {st st' : RState} {t : RTm}
    (h : freshHole r s st = some (t, st')) :
    t = .mk r (.hole st.nextHole s) ∧ st' = { st with nextHole := st.nextHole + 1 } := by
  unfold freshHole at h
  simp only [Option.some.injEq, Prod.mk.injEq] at h
  exact ⟨h.1.symm, h.2.symm⟩

end PModel
