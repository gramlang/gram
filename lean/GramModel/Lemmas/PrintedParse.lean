import GramModel.Lemmas.PrintedSentence
import GramModel.Lemmas.ParseComplete

/-! # The parse phase reads every printed term back

Completeness of the parser on the sentence that the printed tokens form (`Lemmas/PrintedSentence.lean`).
Declares into `PModel`, the parser model's namespace. -/

namespace PModel
open PrintDerives Unamb

theorem parse_printed (toks : Array PTok) (I : List Char → Name) (nm : Name → List Char)
    (t : Tm) (h1 : noImplicitArrow t = true) (h2 : noNegLit t = true)
    (hk : toks.toList.map (·.kind) = (printKinds nm t).map (kindP I)) :
    ∃ r st, runParser toks = some (r, st) ∧ r.next = toks.size ∧ r.confident = true ∧
      collectErrors r.term = [] ∧ shape r.term = srcOf I nm t ∧
      SegT toks .term 0 toks.size r.term := by
  rw [← pk_eq] at hk
  obtain ⟨hsub, hsz⟩ := Sub_of_kinds hk
  obtain ⟨tr, hseg, hs⟩ := (sentence toks I nm t h1 h2 0 toks.size ⟨hsub, by rw [hsz, Nat.zero_add]⟩).term
  obtain ⟨r, st, hr, rfl, hn, hce, hc⟩ := parse_complete hseg
  exact ⟨r, st, hr, hn, hc, hce, hs, hseg⟩

mutual
/-- the printable terms without binders, arrows and definitions -/
def frag : Tm → Bool
  | .lit n => decide (0 ≤ n)
  | .pi _ _ _ _ => false
  | .lam _ _ _ _ => false
  | .app f a => frag f && frag a
  | .letg _ _ => false
  | .neg a => frag a
  | .bin _ a b => frag a && frag b
  | .ite c a b => frag c && frag a && frag b
  | _ => true
end

theorem frag_printable : ∀ t : Tm, frag t = true → noImplicitArrow t = true ∧ noNegLit t = true
  | .app f a, h => by
      simp only [frag, Bool.and_eq_true] at h
      simp [noImplicitArrow, noNegLit, frag_printable f h.1, frag_printable a h.2]
  | .neg a, h => by
      simp only [frag] at h
      simp [noImplicitArrow, noNegLit, frag_printable a h]
  | .bin _ a b, h => by
      simp only [frag, Bool.and_eq_true] at h
      simp [noImplicitArrow, noNegLit, frag_printable a h.1, frag_printable b h.2]
  | .ite c a b, h => by
      simp only [frag, Bool.and_eq_true] at h
      simp [noImplicitArrow, noNegLit, frag_printable c h.1.1, frag_printable a h.1.2,
        frag_printable b h.2]
  | .lit n, h => by simpa [noImplicitArrow, noNegLit, frag] using h
  | .hole _ _, _ | .var _ _, _ | .type, _ | .int, _ | .bool, _ | .tt, _ | .ff, _ => by
      simp [noImplicitArrow, noNegLit]
  | .pi _ _ _ _, h | .lam _ _ _ _, h | .letg _ _, h => by simp [frag] at h

end PModel
