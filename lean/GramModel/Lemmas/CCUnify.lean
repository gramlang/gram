import GramModel.Lemmas.CCJoin
import GramModel.Lemmas.CheckSound

/-!
# Completeness of the conversion checks for joinable hole-free terms (C05, C06)

The two normalizers return weak head normal forms (`Whnf` of the erasure); joinable weak head normal forms have
the same head and joinable components (`Join.heads_er`, `Lemmas/CCJoin.lean`); so on hole-free terms whose erasures are joinable `convX` never
answers `false` (`convX_complete`), nor does `unifyS`, which answers what `convX` answers.  `explicitT`: no implicit
binder (gram's application rule unifies the function's type with an *explicit* `Π`, so a function with an implicit
parameter can never be applied); `DEX Δ` / `TEX Γ`: every entry of the context is explicit; `WX Δ t r`: `r` is a
weak head normal form, explicit if `t` and `Δ` are.  The file is in namespace `CCPar`; `convX_complete` and the
two declarations before it declare into `ConvCoherence`, the namespace of their users in
`Lemmas/ConvCoherence.lean`; `WhR.explicit`, `WhR.whnf` into the root namespace `WhR` of `Lemmas/WhnfRel.lean`.
-/

namespace CCPar

open CCSubst WhnfLemmas UnifyAgree CheckNoPanic CheckSound TypingSound

mutual
def explicitT : Tm → Bool
  | .lam _ im d b => !im && explicitT d && explicitT b
  | .pi _ im d b => !im && explicitT d && explicitT b
  | .app f a => explicitT f && explicitT a
  | .letg ds b => explicitDefs ds && explicitT b
  | .neg a => explicitT a
  | .bin _ a b => explicitT a && explicitT b
  | .ite c t e => explicitT c && explicitT t && explicitT e
  | _ => true
def explicitDefs : Defs → Bool
  | .nil => true
  | .cons _ a d r => explicitT a && explicitT d && explicitDefs r
end

def DEX (Δ : DCtxX) : Prop := ∀ e ∈ Δ, ∀ d o, e = some (d, o) → explicitT d = true
def TEX (Γ : TCtxX) : Prop := ∀ e ∈ Γ, explicitT e.1 = true

theorem DEX.push {Δ : DCtxX} (h : DEX Δ) : DEX (none :: Δ) := by
  intro e he d o hd
  rcases List.mem_cons.1 he with e' | e'
  · subst e'; cases hd
  · exact h e e' d o hd

theorem explicit_trav_both {F : Act} (hv : ∀ n x i, explicitT (F.var n x i) = true)
    (hh : ∀ n id s, explicitT (F.hole n id s) = true) :
    (∀ (t : Tm) n, explicitT (t.trav F n) = explicitT t) ∧
    ∀ (ds : Defs) n, explicitDefs (ds.trav F n) = explicitDefs ds := by
  apply Tm.rec_both
  case var => exact fun x i n => hv n x i
  case hole => exact fun id s n => hh n id s
  all_goals intros; simp only [Tm.trav, Defs.trav, explicitT, explicitDefs, *]

theorem explicit_trav {F : Act} (hv : ∀ n x i, explicitT (F.var n x i) = true)
    (hh : ∀ n id s, explicitT (F.hole n id s) = true) (t : Tm) (n : Nat) :
    explicitT (t.trav F n) = explicitT t := (explicit_trav_both hv hh).1 t n
theorem explicitDefs_trav {F : Act} (hv : ∀ n x i, explicitT (F.var n x i) = true)
    (hh : ∀ n id s, explicitT (F.hole n id s) = true) (ds : Defs) (n : Nat) :
    explicitDefs (ds.trav F n) = explicitDefs ds := (explicit_trav_both hv hh).2 ds n

theorem explicit_ushift (t : Tm) (c a : Nat) : explicitT (ushift c a t) = explicitT t := by
  rw [ushift_eq_trav]; exact explicit_trav (fun _ _ _ => rfl) (fun _ _ _ => rfl) t 0

theorem explicitDefs_ushiftDefs (ds : Defs) (c a : Nat) :
    explicitDefs (ushiftDefs c a ds) = explicitDefs ds := by
  rw [ushiftDefs_eq_trav]; exact explicitDefs_trav (fun _ _ _ => rfl) (fun _ _ _ => rfl) ds 0

theorem subst_var_explicit (i : Nat) {u : Tm} (s : Nat) (hu : explicitT u = true) (n : Nat) (x : Name)
    (k : Nat) : explicitT ((Act.subst i u s).var n x k) = true :=
  Act.subst_var_cases (P := (explicitT · = true)) i u s n x k ((explicit_ushift ..).trans hu) rfl

theorem explicit_openT (t : Tm) (i : Nat) (u : Tm) (s : Nat) (ht : explicitT t = true)
    (hu : explicitT u = true) : explicitT (openT t i u s) = true := by
  rw [openT_eq_trav, explicit_trav (subst_var_explicit i s hu) (fun _ _ _ => rfl), ht]

theorem explicitDefs_openDefs (ds : Defs) (i : Nat) (u : Tm) (s : Nat) (h : explicitDefs ds = true)
    (hu : explicitT u = true) : explicitDefs (openDefs ds i u s) = true := by
  rw [openDefs_eq_trav, explicitDefs_trav (subst_var_explicit i s hu) (fun _ _ _ => rfl), h]

theorem explicit_unfoldDef (x : Name) (a d : Tm) (idx : Nat) (ha : explicitT a = true)
    (hd : explicitT d = true) : explicitT (unfoldDef x a d idx) = true := by
  unfold unfoldDef
  refine explicit_openT _ _ _ _ hd ?_
  simp only [explicitT, explicitDefs, Bool.and_eq_true, and_true]
  exact ⟨explicit_openT _ _ _ _ (by rw [explicit_ushift]; exact ha) rfl,
    explicit_openT _ _ _ _ (by rw [explicit_ushift]; exact hd) rfl⟩

theorem delta_explicit {op : BinOp} {x y : Int} {r : Tm} (h : delta op x y = some r) :
    explicitT r = true := by
  rcases delta_cases h with ⟨z, rfl⟩ | rfl | rfl <;> rfl

theorem delta_whnf {Δ : DCtxX} {n : Nat} {op : BinOp} {x y : Int} {r : Tm}
    (h : delta op x y = some r) : Whnf Δ n (er r) := by
  rcases delta_cases h with ⟨z, rfl⟩ | rfl | rfl
  · exact .lit z
  · exact .tt
  · exact .ff


theorem explicitDefs_substDefs : ∀ (r : Defs) (idx : Nat) (u : Tm), explicitDefs r = true →
    explicitT u = true → explicitDefs (openDefs r idx u 0) = true :=
  fun r idx u h hu => explicitDefs_openDefs r idx u 0 h hu

theorem er_lit_inv {t : Tm} {k : Int} (hf : t.holeFree = true) (e : er t = .lit k) : t = .lit k := by
  cases t <;> simp only [er] at e <;> first | (cases hf; done) | cases e | skip
  rfl

/-- what `whnfX f Δ t = some r` gives: `r` is a weak head normal form of `Par` (read through the erasure), and explicit
if `t` and `Δ` are -/
def WX (Δ : DCtxX) (t r : Tm) : Prop :=
  Whnf (erD Δ) 0 (er r) ∧ (explicitT t = true → DEX Δ → explicitT r = true)

theorem letAllX_explicit : ∀ (n : Nat) (ds : Defs) (body b : Tm), letAllX n ds body = some b →
    explicitDefs ds = true → explicitT body = true → explicitT b = true
  | 0, _, _, _, h, _, _ => by simp [letAllX] at h
  | _+1, .nil, body, b, h, _, hb => by simp only [letAllX] at h; cases h; exact hb
  | n+1, .cons x a d rest, body, b, h, hds, hb => by
      simp only [letAllX] at h
      simp only [explicitDefs, Bool.and_eq_true] at hds
      have hu := explicit_unfoldDef x a d rest.len hds.1.1 hds.1.2
      exact letAllX_explicit n _ _ b h (explicitDefs_openDefs _ _ _ _ hds.2 hu)
        (explicit_openT _ _ _ _ hb hu)

theorem er_lam_inv {t : Tm} {x : Name} {im : Bool} {d b : Tm} (e : er t = .lam x im d b) :
    ∃ y e c, t = .lam y im e c := by
  cases t <;> simp only [er] at e <;> first | cases e | skip
  exact ⟨_, _, _, rfl⟩

theorem er_const_inv {t c : Tm} (hc : c = .tt ∨ c = .ff) (e : er t = c) : t = c := by
  rcases hc with rfl | rfl <;> cases t <;> simp only [er] at e <;> first | rfl | cases e

theorem _root_.WhR.explicit {Δ : DCtxX} {t r : Tm} (hΔ : DEX Δ) (h : WhR Δ t r) :
    explicitT t = true → explicitT r = true := by
  induction h with
  | rigid | param => exact id
  | delta _ h1 _ _ ih =>
      exact fun _ => ih (by rw [explicit_ushift]; exact hΔ _ (List.mem_of_getElem? h1) _ _ rfl)
  | letg h _ ih =>
      intro ht; simp only [explicitT, Bool.and_eq_true] at ht
      exact ih (letAllX_explicit _ _ _ _ h ht.1 ht.2)
  | negLit => exact fun _ => rfl
  | arith _ _ h => exact fun _ => delta_explicit h
  | beta _ _ ih1 ih2 =>
      intro ht; simp only [explicitT, Bool.and_eq_true] at ht
      have := ih1 ht.1; simp only [explicitT, Bool.and_eq_true] at this
      exact ih2 (explicit_openT _ _ _ _ this.2 ht.2)
  | iteT _ _ _ ih => intro ht; simp only [explicitT, Bool.and_eq_true] at ht; exact ih ht.1.2
  | iteF _ _ _ ih => intro ht; simp only [explicitT, Bool.and_eq_true] at ht; exact ih ht.2
  | neg _ _ ih => exact ih
  | app _ _ _ ih =>
      intro ht; simp only [explicitT, Bool.and_eq_true] at ht ⊢; exact ⟨ih ht.1, ht.2⟩
  | bin _ _ _ ih1 ih2 =>
      intro ht; simp only [explicitT, Bool.and_eq_true] at ht ⊢; exact ⟨ih1 ht.1, ih2 ht.2⟩
  | ite _ _ _ _ _ ih =>
      intro ht; simp only [explicitT, Bool.and_eq_true] at ht ⊢; exact ⟨⟨ih ht.1.1, ht.1.2⟩, ht.2⟩

theorem _root_.WhR.whnf {Δ : DCtxX} {t r : Tm} (hD : DHF Δ) (h : WhR Δ t r) :
    t.holeFree = true → Whnf (erD Δ) 0 (er r) := by
  induction h with
  | @rigid t h1 h2 h3 h4 h5 h6 =>
      intro ht
      cases t <;> first | (cases ht; done) | (simp only [er]; constructor; done) | skip
      all_goals
        (first
          | exact (h1 _ _ rfl).elim | exact (h2 _ _ rfl).elim | exact (h3 _ _ rfl).elim
          | exact (h4 _ rfl).elim | exact (h5 _ _ _ rfl).elim | exact (h6 _ _ _ rfl).elim)
  | param x h1 =>
      refine fun _ => .var 0 _ fun d off _ e => ?_
      rw [Nat.sub_zero, erD_get, h1] at e; cases e
  | delta _ h1 _ _ ih =>
      exact fun _ => ih (by rw [holeFree_ushift]; exact hD.get h1)
  | beta h1 _ _ ih2 =>
      intro ht; simp only [Tm.holeFree, Bool.and_eq_true] at ht
      have := h1.holeFree hD ht.1; simp only [Tm.holeFree, Bool.and_eq_true] at this
      exact ih2 (openT_holeFree _ _ _ _ this.2 ht.2)
  | app _ _ hn ih =>
      intro ht; simp only [Tm.holeFree, Bool.and_eq_true] at ht
      exact .app (ih ht.1) fun x im d b e => have ⟨_, _, _, e'⟩ := er_lam_inv e; hn _ _ _ _ e'
  | letg h _ ih =>
      intro ht; simp only [Tm.holeFree, Bool.and_eq_true] at ht
      exact ih (letAllX_holeFree _ _ _ _ h ht.1 ht.2)
  | negLit => exact fun _ => .lit _
  | neg h1 hn ih => exact fun ht => .neg (ih ht) fun k e => hn k (er_lit_inv (h1.holeFree hD ht) e)
  | arith _ _ h => exact fun _ => delta_whnf h
  | bin h1 h2 hn ih1 ih2 =>
      intro ht; simp only [Tm.holeFree, Bool.and_eq_true] at ht
      exact .bin (ih1 ht.1) (ih2 ht.2) fun x y e1 e2 =>
        hn x y (er_lit_inv (h1.holeFree hD ht.1) e1) (er_lit_inv (h2.holeFree hD ht.2) e2)
  | iteT _ _ _ ih => intro ht; simp only [Tm.holeFree, Bool.and_eq_true] at ht; exact ih ht.1.2
  | iteF _ _ _ ih => intro ht; simp only [Tm.holeFree, Bool.and_eq_true] at ht; exact ih ht.2
  | ite _ _ _ h2 h3 ih =>
      intro ht; simp only [Tm.holeFree, Bool.and_eq_true] at ht
      exact .ite (ih ht.1.1) (fun e => h2 (er_const_inv (.inl rfl) e))
        (fun e => h3 (er_const_inv (.inr rfl) e))

theorem whnfX_wx : ∀ (f : Nat) (Δ : DCtxX) (t r : Tm), whnfX f Δ t = some r → DHF Δ →
    t.holeFree = true → WX Δ t r :=
  fun f Δ t r h hD hf =>
    ⟨(whnfX_rel f Δ t r h).whnf hD hf, fun hx hΔ => (whnfX_rel f Δ t r h).explicit hΔ hx⟩


end CCPar

namespace ConvCoherence
open CCSubst CCPar WhnfLemmas UnifyAgree TypingSound
open OracleLemmas (convHead convX_succ seq_ne_false)

/-- the statement proved by induction on the fuel -/
def ConvIH (f : Nat) : Prop := ∀ (Δ : DCtxX) (a b : Tm), a.holeFree = true → b.holeFree = true →
  DHF Δ → DWF Δ → Join (erD Δ) 0 (er a) (er b) → convX f Δ a b ≠ some false

theorem convHead_complete (f : Nat) (ih : ConvIH f) (Δ : DCtxX) (w1 w2 : Tm)
    (h1 : w1.holeFree = true) (h2 : w2.holeFree = true) (hD : DHF Δ) (hW : DWF Δ)
    (hj : HeadsJ (erD Δ) 0 w1 w2) : convHead f Δ w1 w2 ≠ some false := by
  cases hj <;> simp only [Tm.holeFree, Bool.and_eq_true] at h1 h2 <;> simp only [convHead]
  case type | int | bool | tt | ff | lit | var => simp
  case lam j =>
    rw [if_pos (by simp)]
    exact ih (none :: Δ) _ _ h1.2 h2.2 (DHF.push hD) hW.push j.pop1
  case pi j1 j2 =>
    rw [if_pos (by simp)]
    exact seq_ne_false (ih Δ _ _ h1.1 h2.1 hD hW j1)
      (ih (none :: Δ) _ _ h1.2 h2.2 (DHF.push hD) hW.push j2.pop1)
  case app j1 j2 => exact seq_ne_false (ih Δ _ _ h1.1 h2.1 hD hW j1) (ih Δ _ _ h1.2 h2.2 hD hW j2)
  case neg j => exact ih Δ _ _ h1 h2 hD hW j
  case bin j1 j2 =>
    rw [if_pos (by simp)]
    exact seq_ne_false (ih Δ _ _ h1.1 h2.1 hD hW j1) (ih Δ _ _ h1.2 h2.2 hD hW j2)
  case ite j0 j1 j2 =>
    exact seq_ne_false (ih Δ _ _ h1.1.1 h2.1.1 hD hW j0)
      (seq_ne_false (ih Δ _ _ h1.1.2 h2.1.2 hD hW j1) (ih Δ _ _ h1.2 h2.2 hD hW j2))

/-- **Completeness of `convX` up to fuel**: on hole-free terms whose erasures are joinable, the
independent conversion check never answers `false`. -/
theorem convX_complete : ∀ (f : Nat), ConvIH f := by
  intro f
  induction f with
  | zero => intro Δ a b _ _ _ _ _; simp [convX]
  | succ f ih =>
    intro Δ a b ha hb hD hW hj
    rw [convX_succ]
    cases hs : sameX a b
    · simp only [Bool.false_eq_true, if_false]
      cases e1 : whnfX f Δ a with
      | none => simp
      | some wa =>
        cases e2 : whnfX f Δ b with
        | none => simp
        | some wb =>
          simp only
          have j1 := Conv.join (whnfX_conv e1) hW
          have j2 := Conv.join (whnfX_conv e2) hW
          have fa := whnfX_holeFree e1 hD ha
          have fb := whnfX_holeFree e2 hD hb
          exact convHead_complete f ih Δ wa wb fa fb hD hW
            (Join.heads_er fa fb (whnfX_wx f Δ a wa e1 hD ha).1 (whnfX_wx f Δ b wb e2 hD hb).1
              (Join.trans (DWF_erD hW) (DHF_erD _) (Join.trans (DWF_erD hW) (DHF_erD _) j1.symm hj) j2))
    · simp

end ConvCoherence

namespace CCPar
open CCSubst WhnfLemmas UnifyAgree CheckNoPanic CheckSound TypingSound

theorem unifyS_ok_true {f : Nat} {a b : Tm} {s s' : St} {r : Bool} (ha : a.holeFree = true)
    (hb : b.holeFree = true) (hD : DHF s.dctx) (hW : DWF s.dctx)
    (hj : Join (erD s.dctx) 0 (er a) (er b)) (h : unifyS f a b s = .ok r s') :
    s' = s ∧ r = true := by
  obtain ⟨e, hx⟩ := (unifyS_sim false f a b s ⟨ha, nofun⟩ ⟨hb, nofun⟩ hD nofun).ok h
  refine ⟨e, ?_⟩
  cases r
  · exact (ConvCoherence.convX_complete f s.dctx a b ha hb hD hW hj hx).elim
  · rfl

open StoreMono (bind_ok pure_ok)

theorem whnfS_ok_all {f : Nat} {t : Tm} {s s' : St} {r : Tm} (ht : t.holeFree = true)
    (hD : DHF s.dctx) (h : whnfS f t s = .ok r s') :
    s' = s ∧ r.holeFree = true ∧ NotLet r ∧ Conv s.dctx t r ∧ WX s.dctx t r := by
  obtain ⟨e, hr, hx⟩ := whnfS_sim f t s r s' ht hD h
  exact ⟨e, hr, whnfS_notLet' h, whnfX_conv hx, whnfX_wx _ _ _ _ hx hD ht⟩

/-- `CheckSound.unify_pi_fresh` for a function type that is only JOINABLE with a `Π` (there: syntactically
one) and explicit: the first unification of the application rule succeeds, the two cells are solved by the
components of the weak head normal form, and these are explicit. -/
theorem unify_pi_fresh_x {f i j : Nat} {x0 : Name} {g : Tm} {s s' : St} {r : Bool}
    (hi : cellVal s.store i = none) (hj : cellVal s.store j = none) (hij : j ≠ i)
    (hg : g.holeFree = true) (hD : DHF s.dctx) (hW : DWF s.dctx) (hx : explicitT g = true)
    (hΔx : DEX s.dctx)
    {P : Tm} (hP : P.holeFree = true) (hPpi : ∃ y im D C, P = .pi y im D C)
    (hjn : Join (erD s.dctx) 0 (er g) (er P))
    (h : unifyS f (.pi x0 false (.hole i 0) (.hole j 0)) g s = .ok r s') :
    r = true ∧ ∃ y A B, s' = { s with store := (s.store.set i (some A)).set j (some B) } ∧
      A.holeFree = true ∧ B.holeFree = true ∧ explicitT A = true ∧ explicitT B = true ∧
      Conv s.dctx g (.pi y false A B) := by
  obtain ⟨f', w2, _, hw, _, hrun⟩ := unify_pi_fresh_run hi hj hij hg hD h
  obtain ⟨_, hw2, nl2, c2, wx2⟩ := whnfS_ok_all hg hD hw
  obtain ⟨y0, im0, D, C, rfl⟩ := hPpi
  have jw : Join (erD s.dctx) 0 (er w2) (er (.pi y0 im0 D C)) :=
    Join.trans (DWF_erD hW) (DHF_erD _) (Conv.join c2 hW).symm hjn
  cases Join.heads_er hw2 hP wx2.1 (.pi _ _ _ _) jw with | @pi y _ jm d2 _ c2' _ _ _ =>
  have hx2 := wx2.2 hx hΔx
  simp only [explicitT, Bool.and_eq_true, Bool.not_eq_true'] at hx2
  obtain ⟨⟨rfl, xd2⟩, xc2⟩ := hx2
  simp only [Tm.holeFree, Bool.and_eq_true] at hw2
  obtain ⟨hr, f1, f2, A, B, hA, hB, e⟩ := hrun y d2 c2' rfl
  obtain ⟨_, hfA, _, cA, wxA⟩ := whnfS_ok_all hw2.1 hD hA
  obtain ⟨_, hfB, _, cB, wxB⟩ := whnfS_ok_all hw2.2 (DHF.push hD) hB
  exact ⟨hr, y, A, B, e, hfA, hfB, wxA.2 xd2 hΔx, wxB.2 xc2 hΔx.push, .trans c2 (.pi _ _ _ cA cB)⟩

theorem unify_solved_true {f i : Nat} {A b : Tm} {s s' : St} {r : Bool}
    (hc : cellVal s.store i = some A) (hA : A.holeFree = true) (hb : b.holeFree = true)
    (hD : DHF s.dctx) (hW : DWF s.dctx) (hj : Join (erD s.dctx) 0 (er A) (er b))
    (h : unifyS f (.hole i 0) b s = .ok r s') : s' = s ∧ r = true := by
  obtain ⟨f, x, s1, rfl, h1, h2⟩ := unifyS_ok_inv h
  obtain ⟨rfl, rfl⟩ := synEqS_solved hc hA hb h1
  cases hs : sameX A b
  · rw [hs] at h2
    obtain ⟨w1, s2, w2, s3, h3, h5, h6⟩ := h2
    obtain ⟨f', _, h3'⟩ := whnfS_solved_lt hc hA h3
    obtain ⟨rfl, hw1, n1, c1, wx1⟩ := whnfS_ok_all hA hD h3'
    obtain ⟨rfl, hw2, n2, c2, wx2⟩ := whnfS_ok_all hb hD h5
    have jw : Join (erD s3.dctx) 0 (er w1) (er w2) :=
      Join.trans (DWF_erD hW) (DHF_erD _)
        (Join.trans (DWF_erD hW) (DHF_erD _) (Conv.join c1 hW).symm hj) (Conv.join c2 hW)
    obtain ⟨e, hx⟩ := (head_sim false f (unifyS_sim false f) w1 w2 s3 ⟨hw1, nofun⟩ ⟨hw2, nofun⟩
      n1 n2 hD nofun).ok h6
    refine ⟨e, ?_⟩
    cases r
    · exact (ConvCoherence.convHead_complete f (ConvCoherence.convX_complete f) _ w1 w2 hw1 hw2 hD hW
        (Join.heads_er hw1 hw2 wx1.1 wx2.1 jw) hx).elim
    · rfl
  · rw [hs] at h2
    exact ⟨h2.2, h2.1⟩

end CCPar
