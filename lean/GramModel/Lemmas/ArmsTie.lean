import GramModel.Print
import GramModel.Generated.Arms

/-!
# The model functions are the interpretation of the arm tables regenerated from the Rust sources

`Generated/Arms.lean` is rewritten on every run by `extract/arms.py` from `de_bruijn.rs`, `term.rs`,
`evaluator.rs`, `normalizer.rs`, `type_checker.rs`, `unifier.rs`, `equality.rs`: for every match arm of
`signed_shift`, `open` and `free_variables` it records which children are traversed, in which order
they are put back and how the varying parameters change on the way down.

Here the tables are *interpreted* (`gshift`, `gopen`, `gfv` take every cutoff / index / shift amount
from the table, per Rust variant — nine rows for the nine binary operators that the model collapses
into one constructor; only the `Variable` and `Unifier` arms, the ones with arithmetic on indices, are written
out as in the model, and the tables hold a checksum of their source text) and the interpretation is **proved
equal** to the hand-written model functions `sshift`, `openT`, `freeVars` for every term, cutoff and amount.  A Rust arm that is changed (a
`cutoff + 1` dropped, the `Let` arm using the outer cutoff for annotations, the operands of `Quotient`
put back in the other order, a child no longer traversed) changes its row, and the theorem — hence
every theorem of C11 that is stated about `sshift`/`openT`/`freeVars` — no longer speaks about the
code: the build of this file fails.
The second half does the same for the other regenerated tables: the primitive of each binary arm of
`step` and `normalize_weak_head` computes `delta`, and Boolean checks compare the shape of the binary arms of
`step` and `type_check_rec`, the pairing of children in the comparison functions, the subterm each type
diagnostic points at and the printer's operator arms with the one shape the model implements (decided in
`Props/C02`, `C03`, `C06`, `C12`, `C15`, `C16`).
-/

open Generated

def BinOp.toV : BinOp → V
  | .sum => .Sum | .diff => .Difference | .prod => .Product | .quot => .Quotient
  | .lt => .LessThan | .le => .LessThanOrEqualTo | .eq => .EqualTo | .gt => .GreaterThan
  | .ge => .GreaterThanOrEqualTo

def Generated.D.app : D → Nat → Nat → Nat
  | .same, c, _ => c
  | .plus1, c, _ => c + 1
  | .plusLen, c, n => c + n

def armOf (arms : List Arm) (v : V) : Option Arm := arms.find? (fun a => a.variant == v)

/-- the children a congruence arm must traverse, by position in the Rust variant's fields (`Lambda(variable,
implicit, domain, body)`: 2, 3; 10/11/12 = variable / annotation / definition of a `Let` definition) -/
def expectedChildren : V → List Nat
  | .Lambda | .Pi => [2, 3]
  | .Application => [0, 1]
  | .Let => [11, 12, 1]
  | .Negation => [0]
  | .If => [0, 1, 2]
  | .Sum | .Difference | .Product | .Quotient | .LessThan | .LessThanOrEqualTo | .EqualTo
  | .GreaterThan | .GreaterThanOrEqualTo => [0, 1]
  | _ => []

/-- a row is well formed: it rebuilds the variant it matched and traverses exactly the children of
that variant, putting them back in their own places (a variant without children has no row) -/
def Generated.Arm.wf (a : Arm) : Bool :=
  a.rebuilt == a.variant && a.calls.map (·.1) == expectedChildren a.variant && !(expectedChildren a.variant).isEmpty

/-- the delta of the `p`-th varying parameter at the `k`-th traversed child of variant `v` -/
def dl (arms : List Arm) (v : V) (k p : Nat) : Option D :=
  match armOf arms v with
  | none => none
  | some a => if a.wf then (a.calls[k]?).bind (fun c => c.2[p]?) else none

mutual
def gshift (arms : List Arm) (leaves : List V) (c : Nat) (amt : Int) : Tm → Option Tm
  | .var x i =>
      if i ≥ c then
        if (i : Int) + amt ≥ (c : Int) then some (.var x ((i : Int) + amt).toNat) else none
      else some (.var x i)
  | .hole id s =>
      if s ≥ c then
        if (s : Int) + amt ≥ (c : Int) then some (.hole id ((s : Int) + amt).toNat) else none
      else some (.hole id s)
  | .lam x im d b =>
      match dl arms .Lambda 0 0, dl arms .Lambda 1 0 with
      | some e0, some e1 =>
        (match gshift arms leaves (e0.app c 0) amt d with
        | none => none
        | some d' => match gshift arms leaves (e1.app c 0) amt b with
          | none => none
          | some b' => some (.lam x im d' b'))
      | _, _ => none
  | .pi x im d b =>
      match dl arms .Pi 0 0, dl arms .Pi 1 0 with
      | some e0, some e1 =>
        (match gshift arms leaves (e0.app c 0) amt d with
        | none => none
        | some d' => match gshift arms leaves (e1.app c 0) amt b with
          | none => none
          | some b' => some (.pi x im d' b'))
      | _, _ => none
  | .app f a =>
      match dl arms .Application 0 0, dl arms .Application 1 0 with
      | some e0, some e1 =>
        (match gshift arms leaves (e0.app c 0) amt f with
        | none => none
        | some f' => match gshift arms leaves (e1.app c 0) amt a with
          | none => none
          | some a' => some (.app f' a'))
      | _, _ => none
  | .letg ds b =>
      match dl arms .Let 0 0, dl arms .Let 1 0, dl arms .Let 2 0 with
      | some e0, some e1, some e2 =>
        (match gshiftDefs arms leaves (e0.app c ds.len) (e1.app c ds.len) amt ds with
        | none => none
        | some ds' => match gshift arms leaves (e2.app c ds.len) amt b with
          | none => none
          | some b' => some (.letg ds' b'))
      | _, _, _ => none
  | .neg a =>
      match dl arms .Negation 0 0 with
      | some e0 =>
        (match gshift arms leaves (e0.app c 0) amt a with
        | none => none
        | some a' => some (.neg a'))
      | none => none
  | .bin op a b =>
      match dl arms op.toV 0 0, dl arms op.toV 1 0 with
      | some e0, some e1 =>
        (match gshift arms leaves (e0.app c 0) amt a with
        | none => none
        | some a' => match gshift arms leaves (e1.app c 0) amt b with
          | none => none
          | some b' => some (.bin op a' b'))
      | _, _ => none
  | .ite a b d =>
      match dl arms .If 0 0, dl arms .If 1 0, dl arms .If 2 0 with
      | some e0, some e1, some e2 =>
        (match gshift arms leaves (e0.app c 0) amt a with
        | none => none
        | some a' => match gshift arms leaves (e1.app c 0) amt b with
          | none => none
          | some b' => match gshift arms leaves (e2.app c 0) amt d with
            | none => none
            | some d' => some (.ite a' b' d'))
      | _, _, _ => none
  | .type => if leaves.contains .Type then some .type else none
  | .int => if leaves.contains .Integer then some .int else none
  | .bool => if leaves.contains .Boolean then some .bool else none
  | .tt => if leaves.contains .True then some .tt else none
  | .ff => if leaves.contains .False then some .ff else none
  | .lit n => if leaves.contains .IntegerLiteral then some (.lit n) else none
def gshiftDefs (arms : List Arm) (leaves : List V) (ca cd : Nat) (amt : Int) : Defs → Option Defs
  | .nil => some .nil
  | .cons x a d r =>
      match gshift arms leaves ca amt a with
      | none => none
      | some a' => match gshift arms leaves cd amt d with
        | none => none
        | some d' => match gshiftDefs arms leaves ca cd amt r with
          | none => none
          | some r' => some (.cons x a' d' r')
end

/-! the rows of the current tables, as rewriting rules (each is decided by evaluation of the
regenerated table, so each fails when its row changes) -/

theorem shift_lam : dl shiftArms .Lambda 0 0 = some .same ∧ dl shiftArms .Lambda 1 0 = some .plus1 := by
  decide
theorem shift_pi : dl shiftArms .Pi 0 0 = some .same ∧ dl shiftArms .Pi 1 0 = some .plus1 := by decide
theorem shift_app : dl shiftArms .Application 0 0 = some .same ∧
    dl shiftArms .Application 1 0 = some .same := by decide
theorem shift_let : dl shiftArms .Let 0 0 = some .plusLen ∧ dl shiftArms .Let 1 0 = some .plusLen ∧
    dl shiftArms .Let 2 0 = some .plusLen := by decide
theorem shift_neg : dl shiftArms .Negation 0 0 = some .same := by decide
theorem shift_if : dl shiftArms .If 0 0 = some .same ∧ dl shiftArms .If 1 0 = some .same ∧
    dl shiftArms .If 2 0 = some .same := by decide
theorem shift_bin (op : BinOp) : dl shiftArms op.toV 0 0 = some .same ∧
    dl shiftArms op.toV 1 0 = some .same := by cases op <;> decide
theorem shift_leaves : V.Type ∈ shiftLeaves ∧ V.Integer ∈ shiftLeaves ∧ V.Boolean ∈ shiftLeaves ∧ V.True ∈ shiftLeaves ∧
    V.False ∈ shiftLeaves ∧ V.IntegerLiteral ∈ shiftLeaves := by decide

-- after the rows and the induction hypotheses are rewritten, the two sides differ only in the
-- name of the auxiliary `match` function, hence `rfl`
mutual
theorem gshift_eq : ∀ (t : Tm) (c : Nat) (amt : Int), gshift shiftArms shiftLeaves c amt t = sshift c amt t
  | .var .., _, _ | .hole .., _, _ => by simp only [gshift, sshift]
  | .lam x im d b, c, amt => by
      simp only [gshift, sshift, shift_lam, D.app, gshift_eq d, gshift_eq b]; rfl
  | .pi x im d b, c, amt => by
      simp only [gshift, sshift, shift_pi, D.app, gshift_eq d, gshift_eq b]; rfl
  | .app f a, c, amt => by
      simp only [gshift, sshift, shift_app, D.app, gshift_eq f, gshift_eq a]; rfl
  | .letg ds b, c, amt => by
      simp only [gshift, sshift, shift_let, D.app, gshiftDefs_eq ds,
        gshift_eq b]; rfl
  | .neg a, c, amt => by simp only [gshift, sshift, shift_neg, D.app, gshift_eq a]; rfl
  | .bin op a b, c, amt => by
      simp only [gshift, sshift, shift_bin op, D.app, gshift_eq a, gshift_eq b]; rfl
  | .ite a b d, c, amt => by
      simp only [gshift, sshift, shift_if, D.app, gshift_eq a, gshift_eq b,
        gshift_eq d]; rfl
  | .type, _, _ => by simp [gshift, sshift, shift_leaves.1]
  | .int, _, _ => by simp [gshift, sshift, shift_leaves.2.1]
  | .bool, _, _ => by simp [gshift, sshift, shift_leaves.2.2.1]
  | .tt, _, _ => by simp [gshift, sshift, shift_leaves.2.2.2.1]
  | .ff, _, _ => by simp [gshift, sshift, shift_leaves.2.2.2.2.1]
  | .lit n, _, _ => by simp [gshift, sshift, shift_leaves.2.2.2.2.2]
theorem gshiftDefs_eq : ∀ (ds : Defs) (c : Nat) (amt : Int),
    gshiftDefs shiftArms shiftLeaves c c amt ds = sshiftDefs c amt ds
  | .nil, _, _ => by simp only [gshiftDefs, sshiftDefs]
  | .cons x a d r, c, amt => by
      simp only [gshiftDefs, sshiftDefs, gshift_eq a, gshift_eq d, gshiftDefs_eq r]; rfl
end

mutual
def gopen (arms : List Arm) (leaves : List V) (t : Tm) (i : Nat) (u : Tm) (s : Nat) : Option Tm :=
  match t with
  | .var x j => some (if j = i then ushift 0 s u else if j > i then .var x (j - 1) else .var x j)
  | .hole id k => some (if k > i then .hole id (k - 1) else .hole id k)
  | .lam x im d b =>
      match dl arms .Lambda 0 0, dl arms .Lambda 0 1, dl arms .Lambda 1 0, dl arms .Lambda 1 1 with
      | some i0, some s0, some i1, some s1 =>
        (match gopen arms leaves d (i0.app i 0) u (s0.app s 0), gopen arms leaves b (i1.app i 0) u (s1.app s 0) with
        | some d', some b' => some (.lam x im d' b')
        | _, _ => none)
      | _, _, _, _ => none
  | .pi x im d b =>
      match dl arms .Pi 0 0, dl arms .Pi 0 1, dl arms .Pi 1 0, dl arms .Pi 1 1 with
      | some i0, some s0, some i1, some s1 =>
        (match gopen arms leaves d (i0.app i 0) u (s0.app s 0), gopen arms leaves b (i1.app i 0) u (s1.app s 0) with
        | some d', some b' => some (.pi x im d' b')
        | _, _ => none)
      | _, _, _, _ => none
  | .app f a =>
      match dl arms .Application 0 0, dl arms .Application 0 1, dl arms .Application 1 0, dl arms .Application 1 1 with
      | some i0, some s0, some i1, some s1 =>
        (match gopen arms leaves f (i0.app i 0) u (s0.app s 0), gopen arms leaves a (i1.app i 0) u (s1.app s 0) with
        | some f', some a' => some (.app f' a')
        | _, _ => none)
      | _, _, _, _ => none
  | .letg ds b =>
      match dl arms .Let 0 0, dl arms .Let 0 1, dl arms .Let 1 0, dl arms .Let 1 1, dl arms .Let 2 0, dl arms .Let 2 1 with
      | some i0, some s0, some i1, some s1, some i2, some s2 =>
        (match gopenDefs arms leaves ds (i0.app i ds.len) (s0.app s ds.len) (i1.app i ds.len) (s1.app s ds.len) u,
               gopen arms leaves b (i2.app i ds.len) u (s2.app s ds.len) with
        | some ds', some b' => some (.letg ds' b')
        | _, _ => none)
      | _, _, _, _, _, _ => none
  | .neg a =>
      match dl arms .Negation 0 0, dl arms .Negation 0 1 with
      | some i0, some s0 =>
        (match gopen arms leaves a (i0.app i 0) u (s0.app s 0) with
        | some a' => some (.neg a')
        | none => none)
      | _, _ => none
  | .bin op a b =>
      match dl arms op.toV 0 0, dl arms op.toV 0 1, dl arms op.toV 1 0, dl arms op.toV 1 1 with
      | some i0, some s0, some i1, some s1 =>
        (match gopen arms leaves a (i0.app i 0) u (s0.app s 0), gopen arms leaves b (i1.app i 0) u (s1.app s 0) with
        | some a', some b' => some (.bin op a' b')
        | _, _ => none)
      | _, _, _, _ => none
  | .ite a b d =>
      match dl arms .If 0 0, dl arms .If 0 1, dl arms .If 1 0, dl arms .If 1 1, dl arms .If 2 0, dl arms .If 2 1 with
      | some i0, some s0, some i1, some s1, some i2, some s2 =>
        (match gopen arms leaves a (i0.app i 0) u (s0.app s 0), gopen arms leaves b (i1.app i 0) u (s1.app s 0),
               gopen arms leaves d (i2.app i 0) u (s2.app s 0) with
        | some a', some b', some d' => some (.ite a' b' d')
        | _, _, _ => none)
      | _, _, _, _, _, _ => none
  | .type => if leaves.contains .Type then some .type else none
  | .int => if leaves.contains .Integer then some .int else none
  | .bool => if leaves.contains .Boolean then some .bool else none
  | .tt => if leaves.contains .True then some .tt else none
  | .ff => if leaves.contains .False then some .ff else none
  | .lit n => if leaves.contains .IntegerLiteral then some (.lit n) else none
def gopenDefs (arms : List Arm) (leaves : List V) (ds : Defs) (ia sa id sd : Nat) (u : Tm) : Option Defs :=
  match ds with
  | .nil => some .nil
  | .cons x a d r =>
      match gopen arms leaves a ia u sa, gopen arms leaves d id u sd, gopenDefs arms leaves r ia sa id sd u with
      | some a', some d', some r' => some (.cons x a' d' r')
      | _, _, _ => none
end

theorem open_lam : dl openArms .Lambda 0 0 = some .same ∧ dl openArms .Lambda 0 1 = some .same ∧
    dl openArms .Lambda 1 0 = some .plus1 ∧ dl openArms .Lambda 1 1 = some .plus1 := by decide
theorem open_pi : dl openArms .Pi 0 0 = some .same ∧ dl openArms .Pi 0 1 = some .same ∧
    dl openArms .Pi 1 0 = some .plus1 ∧ dl openArms .Pi 1 1 = some .plus1 := by decide
theorem open_app : dl openArms .Application 0 0 = some .same ∧ dl openArms .Application 0 1 = some .same ∧
    dl openArms .Application 1 0 = some .same ∧ dl openArms .Application 1 1 = some .same := by decide
theorem open_let : dl openArms .Let 0 0 = some .plusLen ∧ dl openArms .Let 0 1 = some .plusLen ∧
    dl openArms .Let 1 0 = some .plusLen ∧ dl openArms .Let 1 1 = some .plusLen ∧
    dl openArms .Let 2 0 = some .plusLen ∧ dl openArms .Let 2 1 = some .plusLen := by decide
theorem open_neg : dl openArms .Negation 0 0 = some .same ∧ dl openArms .Negation 0 1 = some .same := by decide
theorem open_if : dl openArms .If 0 0 = some .same ∧ dl openArms .If 0 1 = some .same ∧
    dl openArms .If 1 0 = some .same ∧ dl openArms .If 1 1 = some .same ∧
    dl openArms .If 2 0 = some .same ∧ dl openArms .If 2 1 = some .same := by decide
theorem open_bin (op : BinOp) : dl openArms op.toV 0 0 = some .same ∧ dl openArms op.toV 0 1 = some .same ∧
    dl openArms op.toV 1 0 = some .same ∧ dl openArms op.toV 1 1 = some .same := by cases op <;> decide
theorem open_leaves : V.Type ∈ openLeaves ∧ V.Integer ∈ openLeaves ∧ V.Boolean ∈ openLeaves ∧ V.True ∈ openLeaves ∧
    V.False ∈ openLeaves ∧ V.IntegerLiteral ∈ openLeaves := by decide

mutual
theorem gopen_eq : ∀ (t : Tm) (i : Nat) (u : Tm) (s : Nat),
    gopen openArms openLeaves t i u s = some (openT t i u s)
  | .var .., _, _, _ => by simp [gopen, openT]
  | .hole .., _, _, _ => by simp [gopen, openT]
  | .lam x im d b, i, u, s => by
      simp [gopen, openT, open_lam, D.app, gopen_eq d, gopen_eq b]
  | .pi x im d b, i, u, s => by
      simp [gopen, openT, open_pi, D.app, gopen_eq d, gopen_eq b]
  | .app f a, i, u, s => by
      simp [gopen, openT, open_app, D.app, gopen_eq f, gopen_eq a]
  | .letg ds b, i, u, s => by
      simp [gopen, openT, open_let, D.app, gopenDefs_eq ds, gopen_eq b]
  | .neg a, i, u, s => by simp [gopen, openT, open_neg, D.app, gopen_eq a]
  | .bin op a b, i, u, s => by
      simp [gopen, openT, open_bin op, D.app, gopen_eq a, gopen_eq b]
  | .ite a b d, i, u, s => by
      simp [gopen, openT, open_if, D.app, gopen_eq a, gopen_eq b, gopen_eq d]
  | .type, _, _, _ => by simp [gopen, openT, open_leaves.1]
  | .int, _, _, _ => by simp [gopen, openT, open_leaves.2.1]
  | .bool, _, _, _ => by simp [gopen, openT, open_leaves.2.2.1]
  | .tt, _, _, _ => by simp [gopen, openT, open_leaves.2.2.2.1]
  | .ff, _, _, _ => by simp [gopen, openT, open_leaves.2.2.2.2.1]
  | .lit n, _, _, _ => by simp [gopen, openT, open_leaves.2.2.2.2.2]
theorem gopenDefs_eq : ∀ (ds : Defs) (i : Nat) (u : Tm) (s : Nat),
    gopenDefs openArms openLeaves ds i s i s u = some (openDefs ds i u s)
  | .nil, _, _, _ => by simp [gopenDefs, openDefs]
  | .cons x a d r, i, u, s => by
      simp [gopenDefs, openDefs, gopen_eq a, gopen_eq d, gopenDefs_eq r]
end

mutual
def gfv (arms : List Arm) (leaves : List V) (t : Tm) (c : Nat) : Option (List Nat) :=
  match t with
  | .var _ i => some (if i ≥ c then [i - c] else [])
  | .hole _ _ => some []
  | .lam _ _ d b =>
      match dl arms .Lambda 0 0, dl arms .Lambda 1 0 with
      | some e0, some e1 =>
        (match gfv arms leaves d (e0.app c 0), gfv arms leaves b (e1.app c 0) with
        | some x, some y => some (x ++ y)
        | _, _ => none)
      | _, _ => none
  | .pi _ _ d b =>
      match dl arms .Pi 0 0, dl arms .Pi 1 0 with
      | some e0, some e1 =>
        (match gfv arms leaves d (e0.app c 0), gfv arms leaves b (e1.app c 0) with
        | some x, some y => some (x ++ y)
        | _, _ => none)
      | _, _ => none
  | .app f a =>
      match dl arms .Application 0 0, dl arms .Application 1 0 with
      | some e0, some e1 =>
        (match gfv arms leaves f (e0.app c 0), gfv arms leaves a (e1.app c 0) with
        | some x, some y => some (x ++ y)
        | _, _ => none)
      | _, _ => none
  | .letg ds b =>
      match dl arms .Let 0 0, dl arms .Let 1 0, dl arms .Let 2 0 with
      | some e0, some e1, some e2 =>
        (match gfvDefs arms leaves ds (e0.app c ds.len) (e1.app c ds.len), gfv arms leaves b (e2.app c ds.len) with
        | some x, some y => some (x ++ y)
        | _, _ => none)
      | _, _, _ => none
  | .neg a =>
      match dl arms .Negation 0 0 with
      | some e0 => gfv arms leaves a (e0.app c 0)
      | none => none
  | .bin op a b =>
      match dl arms op.toV 0 0, dl arms op.toV 1 0 with
      | some e0, some e1 =>
        (match gfv arms leaves a (e0.app c 0), gfv arms leaves b (e1.app c 0) with
        | some x, some y => some (x ++ y)
        | _, _ => none)
      | _, _ => none
  | .ite a b d =>
      match dl arms .If 0 0, dl arms .If 1 0, dl arms .If 2 0 with
      | some e0, some e1, some e2 =>
        (match gfv arms leaves a (e0.app c 0), gfv arms leaves b (e1.app c 0), gfv arms leaves d (e2.app c 0) with
        | some x, some y, some z => some (x ++ y ++ z)
        | _, _, _ => none)
      | _, _, _ => none
  | .type => if leaves.contains .Type then some [] else none
  | .int => if leaves.contains .Integer then some [] else none
  | .bool => if leaves.contains .Boolean then some [] else none
  | .tt => if leaves.contains .True then some [] else none
  | .ff => if leaves.contains .False then some [] else none
  | .lit _ => if leaves.contains .IntegerLiteral then some [] else none
def gfvDefs (arms : List Arm) (leaves : List V) (ds : Defs) (ca cd : Nat) : Option (List Nat) :=
  match ds with
  | .nil => some []
  | .cons _ a d r =>
      match gfv arms leaves a ca, gfv arms leaves d cd, gfvDefs arms leaves r ca cd with
      | some x, some y, some z => some (x ++ y ++ z)
      | _, _, _ => none
end

theorem fv_lam : dl fvArms .Lambda 0 0 = some .same ∧ dl fvArms .Lambda 1 0 = some .plus1 := by decide
theorem fv_pi : dl fvArms .Pi 0 0 = some .same ∧ dl fvArms .Pi 1 0 = some .plus1 := by decide
theorem fv_app : dl fvArms .Application 0 0 = some .same ∧ dl fvArms .Application 1 0 = some .same := by decide
theorem fv_let : dl fvArms .Let 0 0 = some .plusLen ∧ dl fvArms .Let 1 0 = some .plusLen ∧
    dl fvArms .Let 2 0 = some .plusLen := by decide
theorem fv_neg : dl fvArms .Negation 0 0 = some .same := by decide
theorem fv_if : dl fvArms .If 0 0 = some .same ∧ dl fvArms .If 1 0 = some .same ∧
    dl fvArms .If 2 0 = some .same := by decide
theorem fv_bin (op : BinOp) : dl fvArms op.toV 0 0 = some .same ∧ dl fvArms op.toV 1 0 = some .same := by
  cases op <;> decide
theorem fv_leaves : V.Type ∈ fvLeaves ∧ V.Integer ∈ fvLeaves ∧ V.Boolean ∈ fvLeaves ∧ V.True ∈ fvLeaves ∧
    V.False ∈ fvLeaves ∧ V.IntegerLiteral ∈ fvLeaves := by decide

mutual
theorem gfv_eq : ∀ (t : Tm) (c : Nat), gfv fvArms fvLeaves t c = some (freeVars t c)
  | .var .., _ => by simp [gfv, freeVars]
  | .hole .., _ => by simp [gfv, freeVars]
  | .lam _ _ d b, c => by simp [gfv, freeVars, fv_lam, D.app, gfv_eq d, gfv_eq b]
  | .pi _ _ d b, c => by simp [gfv, freeVars, fv_pi, D.app, gfv_eq d, gfv_eq b]
  | .app f a, c => by simp [gfv, freeVars, fv_app, D.app, gfv_eq f, gfv_eq a]
  | .letg ds b, c => by simp [gfv, freeVars, fv_let, D.app, gfvDefs_eq ds, gfv_eq b]
  | .neg a, c => by simp [gfv, freeVars, fv_neg, D.app, gfv_eq a]
  | .bin op a b, c => by simp [gfv, freeVars, fv_bin op, D.app, gfv_eq a, gfv_eq b]
  | .ite a b d, c => by simp [gfv, freeVars, fv_if, D.app, gfv_eq a, gfv_eq b, gfv_eq d]
  | .type, _ => by simp [gfv, freeVars, fv_leaves.1]
  | .int, _ => by simp [gfv, freeVars, fv_leaves.2.1]
  | .bool, _ => by simp [gfv, freeVars, fv_leaves.2.2.1]
  | .tt, _ => by simp [gfv, freeVars, fv_leaves.2.2.2.1]
  | .ff, _ => by simp [gfv, freeVars, fv_leaves.2.2.2.2.1]
  | .lit _, _ => by simp [gfv, freeVars, fv_leaves.2.2.2.2.2]
theorem gfvDefs_eq : ∀ (ds : Defs) (c : Nat), gfvDefs fvArms fvLeaves ds c c = some (freeVarsDefs ds c)
  | .nil, _ => by simp [gfvDefs, freeVarsDefs]
  | .cons _ a d r, c => by simp [gfvDefs, freeVarsDefs, gfv_eq a, gfv_eq d, gfvDefs_eq r]
end

/-- what a primitive does to two integer literals (`none` = no step / `checked_div` by zero;
the panicking `/` is rendered as `none` as well, so it can never be proved equal to `delta`) -/
def Generated.Prim.sem : Prim → Int → Int → Option Tm
  | .add, a, b => some (.lit (a + b))
  | .addSwap, a, b => some (.lit (b + a))
  | .sub, a, b => some (.lit (a - b))
  | .subSwap, a, b => some (.lit (b - a))
  | .mul, a, b => some (.lit (a * b))
  | .mulSwap, a, b => some (.lit (b * a))
  | .tdiv, a, b => if b = 0 then none else some (.lit (Int.tdiv a b))
  | .tdivSwap, a, b => if a = 0 then none else some (.lit (Int.tdiv b a))
  | .divPanicking, _, _ => none
  | .lt, a, b => some (if a < b then .tt else .ff)
  | .ltNeg, a, b => some (if a < b then .ff else .tt)
  | .ltSwap, a, b => some (if b < a then .tt else .ff)
  | .ltSwapNeg, a, b => some (if b < a then .ff else .tt)
  | .le, a, b => some (if a ≤ b then .tt else .ff)
  | .leNeg, a, b => some (if a ≤ b then .ff else .tt)
  | .leSwap, a, b => some (if b ≤ a then .tt else .ff)
  | .leSwapNeg, a, b => some (if b ≤ a then .ff else .tt)
  | .eq, a, b => some (if a = b then .tt else .ff)
  | .eqNeg, a, b => some (if a = b then .ff else .tt)
  | .eqSwap, a, b => some (if b = a then .tt else .ff)
  | .eqSwapNeg, a, b => some (if b = a then .ff else .tt)
  | .gt, a, b => some (if a > b then .tt else .ff)
  | .gtNeg, a, b => some (if a > b then .ff else .tt)
  | .gtSwap, a, b => some (if b > a then .tt else .ff)
  | .gtSwapNeg, a, b => some (if b > a then .ff else .tt)
  | .ge, a, b => some (if a ≥ b then .tt else .ff)
  | .geNeg, a, b => some (if a ≥ b then .ff else .tt)
  | .geSwap, a, b => some (if b ≥ a then .tt else .ff)
  | .geSwapNeg, a, b => some (if b ≥ a then .ff else .tt)
  | .ne, a, b => some (if a ≠ b then .tt else .ff)
  | .neNeg, a, b => some (if a ≠ b then .ff else .tt)
  | .neSwap, a, b => some (if b ≠ a then .tt else .ff)
  | .neSwapNeg, a, b => some (if b ≠ a then .ff else .tt)

def primOf (tbl : List (V × Prim)) (v : V) : Option Prim := (tbl.find? (fun p => p.1 == v)).map (·.2)

def BinOp.prim : BinOp → Prim
  | .sum => .add | .diff => .sub | .prod => .mul | .quot => .tdiv
  | .lt => .lt | .le => .le | .eq => .eq | .gt => .gt | .ge => .ge

theorem BinOp.prim_sem (op : BinOp) (a b : Int) : op.prim.sem a b = delta op a b := by
  cases op <;> rfl

theorem primOf_delta {tbl : List (V × Prim)} (h : ∀ op : BinOp, primOf tbl op.toV = some op.prim)
    (op : BinOp) (a b : Int) : (primOf tbl op.toV).bind (fun p => p.sem a b) = delta op a b := by
  rw [h op]; exact op.prim_sem a b

/-- the primitive of each binary arm of `evaluator.rs::step`, read as a function on literals, is the
model's `delta` — for every operator and all operands -/
theorem stepPrims_delta (op : BinOp) (a b : Int) :
    (primOf stepPrims op.toV).bind (fun p => p.sem a b) = delta op a b :=
  primOf_delta (fun op => by cases op <;> rfl) op a b

/-- the same for `normalizer.rs::normalize_weak_head` (the checker computes what the evaluator computes) -/
theorem whnfPrims_delta (op : BinOp) (a b : Int) :
    (primOf whnfPrims op.toV).bind (fun p => p.sem a b) = delta op a b :=
  primOf_delta (fun op => by cases op <;> rfl) op a b

def allBinary : List V := [.Sum, .Difference, .Product, .Quotient, .LessThan, .LessThanOrEqualTo, .EqualTo,
  .GreaterThan, .GreaterThanOrEqualTo]

/-- every binary arm of `step`: left operand steps first, must then be a value, then the right one
steps, must then be a value; the congruence nodes keep the operator and the operand places -/
def stepShapeOK : Bool :=
  stepShape.map (·.1) == allBinary &&
  stepShape.all (fun r => r.2.1 == [.st1, .nv1, .st2, .nv2] && r.2.2 == [(r.1, [.s1, .t2]), (r.1, [.t1, .s2])])

def resultTy : V → Ty
  | .Sum | .Difference | .Product | .Quotient => .int
  | _ => .bool

/-- every binary arm of `type_check_rec`: infer the left operand, require `int` (error at the left
operand), infer the right operand, require `int` (error at the right operand), rebuild the same
operator with the operands in place, return `int` for arithmetic and `bool` for comparisons -/
def checkShapeOK : Bool :=
  checkShape.map (·.1) == allBinary &&
  checkShape.all (fun r =>
    r.2.1 == [.inf 1, .uni 1 .int 1, .inf 2, .uni 2 .int 2] && r.2.2.1 == r.1 && r.2.2.2.1 == 1 && r.2.2.2.2.1 == 2 &&
    r.2.2.2.2.2 == resultTy r.1)

def pairChildren : V → List (Nat × Nat)
  | .Lambda => [(3, 3)]
  | .Pi => [(2, 2), (3, 3)]
  | .Application => [(0, 0), (1, 1)]
  | .Negation => [(0, 0)]
  | .If => [(0, 0), (1, 1), (2, 2)]
  | _ => [(0, 0), (1, 1)]

/-- every structural arm of a comparison relates like with like: the same variant on both sides, the
i-th child with the i-th child, all of them, joined by `&&` -/
def pairsOK (tbl : List (V × V × List (Nat × Nat) × Bool)) : Bool :=
  tbl.map (·.1) == [.Lambda, .Pi, .Application, .Negation] ++ allBinary ++ [.If] &&
  tbl.all (fun r => r.2.1 == r.1 && r.2.2.1 == pairChildren r.1 && r.2.2.2)

/-- Every type diagnostic of `type_check_rec` is reported when a `unify` fails, and carries the source range of
the subterm **whose inferred type** was one of the two sides (`unify(&x_type, …)` ⇒ the range of `x`); the one
exception is the comparison of the two branches of a conditional, reported at the whole conditional.  And the
arms report what they are known to report: one site for `Lambda` (domain) and `Negation`, two for `Pi`
(domain, codomain), `Application` (applicand, argument), `Let` (annotation, definition), each binary
operator (left, right) and `If` (condition, branches). -/
def errSitesOK (sites : List (V × List String × List Bool × String)) : Bool :=
  sites.map (·.1) == [.Lambda, .Pi, .Pi, .Application, .Application, .Let, .Let, .Negation] ++
      allBinary.flatMap (fun v => [v, v]) ++ [.If, .If] &&
  sites.all (fun s =>
    match s.2.1, s.2.2.1 with
    | [a, b], [ta, tb] =>
        (ta && a == s.2.2.2) || (tb && b == s.2.2.2) ||
        (s.1 == .If && ta && tb && a == "then_branch" && b == "else_branch" && s.2.2.2 == "term")
    | _, _ => false)

def vToBinOp : V → Option BinOp
  | .Sum => some .sum | .Difference => some .diff | .Product => some .prod | .Quotient => some .quot
  | .LessThan => some .lt | .LessThanOrEqualTo => some .le | .EqualTo => some .eq | .GreaterThan => some .gt
  | .GreaterThanOrEqualTo => some .ge | _ => none

/-- every binary arm of `Display` prints `group(left) OP group(right)` with single spaces and the operator text the
model prints (`opChars`), operands in place; negation prints `-group(operand)` -/
def printOpsOK : Bool :=
  printOps.map (·.1) == allBinary ++ [.Negation] &&
  printOps.all (fun r =>
    match vToBinOp r.1 with
    | some op => r.2.1.toList == "{} ".toList ++ opChars op ++ " {}".toList && r.2.2 == [("group", 0), ("group", 1)]
    | none => r.2.1 == "-{}" && r.2.2 == [("group", 0)])
