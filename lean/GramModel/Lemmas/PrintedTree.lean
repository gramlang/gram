import GramModel.Lemmas.ParserSpan
import GramModel.Lemmas.PrintItems

/-! # Printed terms as parser input

The tree the parser is expected to build (`srcOf`, as a shape: a surface tree without its ranges) and the
token kinds of the printed term (`pk`).  Also here: the front end's conversion `kindP` of a tokenizer kind to
a parser kind, and `Sub`/`KSeg`, "the tokens at these places have these kinds".  Declares into `PModel`, the
parser model's namespace.  Suffixes: `…S` = as a `Src` (`grpS`, `annS`: what the printer's `group`,
`annotation` print, as a tree), `…K` = as parser kinds (`groupK`, `headK`, `annotK`). -/

namespace PModel
open PrintDerives

mutual
/-- forget every source range (node ranges and binder ranges); keep `group` flags and error lists -/
def shape : Src → Src
  | .mk _ g v es => .mk ⟨0, 0⟩ g (shapeV v) es
def shapeV : SrcV → SrcV
  | .parseError => .parseError
  | .type => .type
  | .var x => .var x
  | .lam v imp dom body => .lam ⟨⟨0, 0⟩, v.name⟩ imp (shapeO dom) (shape body)
  | .pi v imp dom cod => .pi ⟨⟨0, 0⟩, v.name⟩ imp (shape dom) (shape cod)
  | .app f a => .app (shape f) (shape a)
  | .let_ v ann d b => .let_ ⟨⟨0, 0⟩, v.name⟩ (shapeO ann) (shape d) (shape b)
  | .int => .int
  | .lit n => .lit n
  | .neg a => .neg (shape a)
  | .bin o a b => .bin o (shape a) (shape b)
  | .bool => .bool
  | .tt => .tt
  | .ff => .ff
  | .ite c t e => .ite (shape c) (shape t) (shape e)
def shapeO : OptSrc → OptSrc
  | .none => .none
  | .some t => .some (shape t)
end

/-- a node without range and errors -/
def mk0 (g : Bool) (v : SrcV) : Src := .mk ⟨0, 0⟩ g v []

/-- set the `group` flag, as `parse_group` does to the tree between the parentheses -/
def setG : Src → Src
  | .mk r _ v es => .mk r true v es

/-- the right-nested application `e₀ (e₁ (… eₙ))` of a non-empty list (`[]`: a `ParseError` node, never used) -/
def nestL : List Src → Src
  | [] => mk0 false .parseError
  | [e] => e
  | e :: e' :: l => mk0 false (.app e (nestL (e' :: l)))

section Expected
variable (I : List Char → Name) (nm : Name → List Char)

mutual
/-- the tree (as a shape) of the printed term: names are the printed names, λ domains the printed
annotations, parenthesised operands are flagged `group`, application chains are right-nested (as the
packrat functions build them, before re-association).  Off the printable class it is total, not meaningful:
an implicit non-dependent function type gets the tree of the explicit arrow, a negative literal one `lit` node. -/
def srcOf : Tm → Src
  | .hole _ _ => mk0 false (.var (I holeText))
  | .type => mk0 false .type
  | .int => mk0 false .int
  | .bool => mk0 false .bool
  | .tt => mk0 false .tt
  | .ff => mk0 false .ff
  | .lit n => mk0 false (.lit n)
  | .var x _ => mk0 false (.var (I (nm x)))
  | .lam x imp d b =>
      mk0 false (.lam ⟨⟨0, 0⟩, I (nm x)⟩ imp
        (.some (if isLet d then setG (srcOf d) else srcOf d)) (srcOf b))
  | .pi x imp d c =>
      if freeAt c 0 then
        mk0 false (.pi ⟨⟨0, 0⟩, I (nm x)⟩ imp (if isLet d then setG (srcOf d) else srcOf d) (srcOf c))
      else
        mk0 false (.pi ⟨⟨0, 0⟩, placeholder⟩ false
          (nestL (if isApp d then atomsOf d else [if atomic d then srcOf d else setG (srcOf d)]))
          (srcOf c))
  | .app f a =>
      nestL ((if isApp f then atomsOf f else [if atomic f then srcOf f else setG (srcOf f)]) ++
        [if atomic a then srcOf a else setG (srcOf a)])
  | .letg ds b => srcDefs ds (srcOf b)
  | .neg a => mk0 false (.neg (if atomic a then srcOf a else setG (srcOf a)))
  | .bin op a b =>
      mk0 false (.bin op (if atomic a then srcOf a else setG (srcOf a))
        (if atomic b then srcOf b else setG (srcOf b)))
  | .ite c a b => mk0 false (.ite (srcOf c) (srcOf a) (srcOf b))
def atomsOf : Tm → List Src
  | .app f a =>
      (if isApp f then atomsOf f else [if atomic f then srcOf f else setG (srcOf f)]) ++
        [if atomic a then srcOf a else setG (srcOf a)]
  | _ => []
/-- nested `let`s, one per definition of the group -/
def srcDefs : Defs → Src → Src
  | .nil, body => body
  | .cons x a d r, body =>
      mk0 false (.let_ ⟨⟨0, 0⟩, I (nm x)⟩ (.some (if atomic a then srcOf a else setG (srcOf a)))
        (if atomic d then srcOf d else setG (srcOf d)) (srcDefs r body))
end

/-- the tree of an operand printed by `group` (`srcOf`, a structural recursion, spells these three out) -/
def grpS (t : Tm) : Src := if atomic t then srcOf I nm t else setG (srcOf I nm t)
/-- the atoms of an application head / arrow domain -/
def headAtoms (t : Tm) : List Src := if isApp t then atomsOf I nm t else [grpS I nm t]
/-- the tree of a binder annotation -/
def annS (t : Tm) : Src := if isLet t then setG (srcOf I nm t) else srcOf I nm t

theorem srcOf_app (f a : Tm) :
    srcOf I nm (.app f a) = nestL (headAtoms I nm f ++ [grpS I nm a]) := by
  rw [srcOf]; rfl
theorem atomsOf_app (f a : Tm) :
    atomsOf I nm (.app f a) = headAtoms I nm f ++ [grpS I nm a] := by
  rw [atomsOf]; rfl
theorem srcOf_isApp {t : Tm} (h : isApp t = true) : srcOf I nm t = nestL (atomsOf I nm t) := by
  cases t <;> simp [isApp] at h
  rw [srcOf_app, atomsOf_app]

theorem srcOf_neg (a) : srcOf I nm (.neg a) = mk0 false (.neg (grpS I nm a)) := by
  rw [srcOf]; rfl
theorem srcOf_bin (op a b) :
    srcOf I nm (.bin op a b) = mk0 false (.bin op (grpS I nm a) (grpS I nm b)) := by
  rw [srcOf]; rfl
theorem srcOf_ite (c a b) :
    srcOf I nm (.ite c a b) = mk0 false (.ite (srcOf I nm c) (srcOf I nm a) (srcOf I nm b)) := by
  rw [srcOf]
theorem srcOf_lam (x imp d b) :
    srcOf I nm (.lam x imp d b) =
      mk0 false (.lam ⟨⟨0, 0⟩, I (nm x)⟩ imp (.some (annS I nm d)) (srcOf I nm b)) := by
  rw [srcOf]; rfl
theorem srcOf_pi_dep (x imp d c) (h : freeAt c 0 = true) :
    srcOf I nm (.pi x imp d c) =
      mk0 false (.pi ⟨⟨0, 0⟩, I (nm x)⟩ imp (annS I nm d) (srcOf I nm c)) := by
  rw [srcOf]; simp only [h, if_true]; rfl
theorem srcOf_arrow (x imp d c) (h : freeAt c 0 = false) :
    srcOf I nm (.pi x imp d c) =
      mk0 false (.pi ⟨⟨0, 0⟩, placeholder⟩ false (nestL (headAtoms I nm d)) (srcOf I nm c)) := by
  rw [srcOf]; simp only [h, Bool.false_eq_true, if_false]; rfl
theorem srcOf_letg (ds b) : srcOf I nm (.letg ds b) = srcDefs I nm ds (srcOf I nm b) := by
  rw [srcOf]
theorem srcDefs_nil (e) : srcDefs I nm .nil e = e := by rw [srcDefs]
theorem srcDefs_cons (x a d r e) :
    srcDefs I nm (.cons x a d r) e =
      mk0 false (.let_ ⟨⟨0, 0⟩, I (nm x)⟩ (.some (grpS I nm a)) (grpS I nm d)
        (srcDefs I nm r e)) := by
  rw [srcDefs]; rfl

theorem atomsOf_ne_nil : ∀ t : Tm, isApp t = true → atomsOf I nm t ≠ []
  | .app f a, _ => by rw [atomsOf_app]; simp

theorem headAtoms_ne_nil (t : Tm) : headAtoms I nm t ≠ [] := by
  unfold headAtoms; split
  · exact atomsOf_ne_nil I nm t ‹_›
  · simp

end Expected

/-- a tokenizer kind as a parser kind, as the front end converts it (`C10_toPTok`); `I` interns identifier spellings -/
def kindP (I : List Char → Name) : TokKind → PKind
  | .asterisk => .asterisk | .boolean => .boolean | .colon => .colon | .doubleEquals => .doubleEquals
  | .else_ => .else_ | .equals => .equals | .false_ => .false_ | .greaterThan => .greaterThan
  | .greaterThanOrEqualTo => .greaterThanOrEqualTo | .identifier s => .identifier (I s)
  | .if_ => .if_ | .integer => .integer | .integerLiteral n => .integerLiteral n
  | .leftCurly => .leftCurly | .leftParen => .leftParen | .lessThan => .lessThan
  | .lessThanOrEqualTo => .lessThanOrEqualTo | .minus => .minus | .plus => .plus
  | .rightCurly => .rightCurly | .rightParen => .rightParen | .slash => .slash
  | .terminatorLineBreak => .terminator .lineBreak | .terminatorSemicolon => .terminator .semicolon
  | .then_ => .then_ | .thickArrow => .thickArrow | .thinArrow => .thinArrow | .true_ => .true_
  | .type_ => .type_

section Kinds
variable (I : List Char → Name) (nm : Name → List Char)

def kP (l : List Item) : List PKind := l.map (fun i => kindP I i.2.1)

@[simp] theorem kP_nil : kP I [] = [] := rfl
@[simp] theorem kP_tk (s k r) : kP I (tk s k :: r) = kindP I k :: kP I r := rfl
@[simp] theorem kP_tkS (s k r) : kP I (tkS s k :: r) = kindP I k :: kP I r := rfl
@[simp] theorem kP_append (l r : List Item) : kP I (l ++ r) = kP I l ++ kP I r := by simp [kP]
@[simp] theorem kP_spaced (l : List Item) : kP I (spaced l) = kP I l :=
  map_spaced _ (fun _ _ _ _ => rfl) l

def pk (t : Tm) : List PKind := kP I (printItems nm t)
def pkDefs (ds : Defs) : List PKind := kP I (printDefsItems nm ds)
def groupK (t : Tm) : List PKind := kP I (wrapGroupI t (printItems nm t))
def headK (t : Tm) : List PKind := kP I (wrapHeadI t (printItems nm t))
def annotK (t : Tm) : List PKind := kP I (wrapAnnotI t (printItems nm t))

theorem pk_eq (t : Tm) : pk I nm t = (printKinds nm t).map (kindP I) := by
  simp [pk, kP, printKinds, kindsOf]

theorem kP_parenI (l : List Item) : kP I (parenI l) = .leftParen :: (kP I l ++ [.rightParen]) := by
  simp [parenI, kindP]

theorem groupK_eq (t : Tm) :
    groupK I nm t = if atomic t then pk I nm t else .leftParen :: (pk I nm t ++ [.rightParen]) := by
  unfold groupK wrapGroupI pk
  split <;> simp [kP_parenI]

theorem headK_eq (t : Tm) : headK I nm t = if isApp t then pk I nm t else groupK I nm t := by
  cases t <;> simp [headK, wrapHeadI, isApp, pk, groupK]

theorem annotK_eq (t : Tm) :
    annotK I nm t = if isLet t then .leftParen :: (pk I nm t ++ [.rightParen]) else pk I nm t := by
  cases t <;> simp [annotK, wrapAnnotI, isLet, pk, kP_parenI]

def opKindP (op : BinOp) : PKind := kindP I (opKind op)

theorem pk_hole (i s) : pk I nm (.hole i s) = [.identifier (I holeText)] := rfl
theorem pk_type : pk I nm .type = [.type_] := rfl
theorem pk_int : pk I nm .int = [.integer] := rfl
theorem pk_bool : pk I nm .bool = [.boolean] := rfl
theorem pk_tt : pk I nm .tt = [.true_] := rfl
theorem pk_ff : pk I nm .ff = [.false_] := rfl
theorem pk_var (x i) : pk I nm (.var x i) = [.identifier (I (nm x))] := rfl
theorem pk_lit (n : Nat) : pk I nm (.lit (.ofNat n)) = [.integerLiteral n] := rfl

theorem pk_lam (x d b) (imp : Bool) :
    pk I nm (.lam x imp d b) =
      (if imp then .leftCurly else .leftParen) :: .identifier (I (nm x)) :: .colon ::
        (annotK I nm d ++ (if imp then .rightCurly else .rightParen) :: .thickArrow :: pk I nm b) := by
  cases imp <;> simp [pk, printItems, lamItems, annotK, kindP]

theorem pk_pi_dep (x d c) (imp : Bool) (h : freeAt c 0 = true) :
    pk I nm (.pi x imp d c) =
      (if imp then .leftCurly else .leftParen) :: .identifier (I (nm x)) :: .colon ::
        (annotK I nm d ++ (if imp then .rightCurly else .rightParen) :: .thinArrow :: pk I nm c) := by
  cases imp <;> simp [pk, printItems, h, piDepItems, annotK, kindP]

theorem pk_arrow (x d c) (h : freeAt c 0 = false) :
    pk I nm (.pi x false d c) = headK I nm d ++ .thinArrow :: pk I nm c := by
  simp [pk, printItems, h, arrowItems, headK, kindP]

theorem pk_app (f a) : pk I nm (.app f a) = headK I nm f ++ groupK I nm a := by
  simp [pk, printItems, appItems, headK, groupK]

theorem pk_neg (a) : pk I nm (.neg a) = .minus :: groupK I nm a := by
  simp [pk, printItems, negItems, groupK, kindP]

theorem pk_bin (op a b) :
    pk I nm (.bin op a b) = groupK I nm a ++ opKindP I op :: groupK I nm b := by
  simp [pk, printItems, binItems, groupK, opKindP]

theorem pk_ite (c a b) :
    pk I nm (.ite c a b) = .if_ :: (pk I nm c ++ .then_ :: (pk I nm a ++ .else_ :: pk I nm b)) := by
  simp [pk, printItems, iteItems, kindP]

theorem pk_letg (ds b) : pk I nm (.letg ds b) = pkDefs I nm ds ++ pk I nm b := by
  simp [pk, printItems, pkDefs]

theorem pkDefs_nil : pkDefs I nm .nil = [] := rfl

theorem pkDefs_cons (x a d r) :
    pkDefs I nm (.cons x a d r) = .identifier (I (nm x)) :: .colon :: (groupK I nm a ++ .equals ::
      (groupK I nm d ++ .terminator .semicolon :: pkDefs I nm r)) := by
  simp [pkDefs, printDefsItems, defItems, groupK, kindP]

end Kinds

/-- the tokens from position `a` on have the kinds `ks` -/
def Sub (toks : Array PTok) : Nat → List PKind → Prop
  | _, [] => True
  | a, k :: ks => KAt toks a k ∧ Sub toks (a + 1) ks

theorem Sub_append {toks : Array PTok} : ∀ (k1 k2 : List PKind) (a : Nat),
    Sub toks a (k1 ++ k2) ↔ Sub toks a k1 ∧ Sub toks (a + k1.length) k2
  | [], k2, a => by simp [Sub]
  | k :: k1, k2, a => by
    simp only [List.cons_append, Sub, List.length_cons, Sub_append k1 k2 (a + 1)]
    rw [show a + 1 + k1.length = a + (k1.length + 1) by omega]
    exact and_assoc.symm

/-- the tokens `a … b-1` have the kinds `ks` -/
def KSeg (toks : Array PTok) (a b : Nat) (ks : List PKind) : Prop := Sub toks a ks ∧ b = a + ks.length

theorem KSeg.of_sub {toks : Array PTok} {a : Nat} {ks : List PKind} (h : Sub toks a ks) :
    KSeg toks a (a + ks.length) ks := ⟨h, rfl⟩

theorem KSeg.cons {toks : Array PTok} {a b : Nat} {k : PKind} {ks : List PKind} :
    KSeg toks a b (k :: ks) ↔ KAt toks a k ∧ KSeg toks (a + 1) b ks := by
  simp only [KSeg, Sub, List.length_cons]
  constructor
  · rintro ⟨⟨h1, h2⟩, rfl⟩; exact ⟨h1, h2, by omega⟩
  · rintro ⟨h1, h2, rfl⟩; exact ⟨⟨h1, h2⟩, by omega⟩

theorem KSeg.append {toks : Array PTok} {a c : Nat} {k1 k2 : List PKind} :
    KSeg toks a c (k1 ++ k2) ↔ ∃ b, KSeg toks a b k1 ∧ KSeg toks b c k2 := by
  simp only [KSeg, Sub_append, List.length_append]
  constructor
  · rintro ⟨⟨h1, h2⟩, rfl⟩; exact ⟨_, ⟨h1, rfl⟩, h2, by omega⟩
  · rintro ⟨b, ⟨h1, rfl⟩, h2, rfl⟩; exact ⟨⟨h1, h2⟩, by omega⟩

theorem KSeg.nil {toks : Array PTok} {a b : Nat} : KSeg toks a b [] ↔ b = a := by simp [KSeg, Sub]

theorem Sub_of_kinds {toks : Array PTok} {ks : List PKind} (h : toks.toList.map (·.kind) = ks) :
    Sub toks 0 ks ∧ toks.size = ks.length := by
  have hlen : toks.size = ks.length := by rw [← h]; simp
  refine ⟨?_, hlen⟩
  have : ∀ (l : List PKind) (a : Nat), (∀ i (hi : i < l.length), KAt toks (a + i) l[i]) →
      Sub toks a l := by
    intro l
    induction l with
    | nil => intro a _; trivial
    | cons k l ih =>
      intro a hl
      refine ⟨hl 0 (by simp), ih (a + 1) (fun i hi => ?_)⟩
      have := hl (i + 1) (by simp; omega)
      simpa [Nat.add_assoc, Nat.add_comm 1 i] using this
  refine this ks 0 (fun i hi => ?_)
  subst h
  simp only [List.length_map, Array.length_toList] at hi
  exact ⟨by simpa using hi, by simp⟩

end PModel
