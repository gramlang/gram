import GramModel.Lemmas.ParserSound
import GramModel.Lemmas.ResolveSteps

/-! Span exactness of the packrat functions (property C15, parser side): whenever a parsing function
returns a tree without recorded error, the tree is a *parse tree* of the consumed segment
(`SegT`, the refinement of `Seg` that carries the tree) — in particular every node's range is
`span(first token of its segment, last token of its segment)`, children sit on sub-segments in
source order, and binder variables carry the range of their identifier token.

This is the tree as the 36 `parse_*` functions return it, *before* the re-association passes.

The second half (its inductions are `Src.induction` of `Lemmas/ResolveSteps.lean`) is what C15 states with: `Spanned`/`Kids` (the range discipline at the level of tokens, `SegT.spanned`),
`TokensOrdered` and `Nested` (the same at the level of bytes, `Spanned.nested`), and the lists `Src.nodes`, `Src.binders`
with the Boolean `tokensOrderedB` for the worked examples. -/

namespace PModel

/-- The byte range of the token segment `a … b-1`: from the start of token `a` to the end of token
`b - 1` (`span(token_source_range(a), token_source_range(b - 1))`). -/
def rng (toks : Array PTok) (a b : Nat) : SourceRange :=
  span (tokenRange toks a) (tokenRange toks (b - 1))

theorem tokenRange_lt {toks : Array PTok} {i : Nat} (h : i < toks.size) :
    tokenRange toks i = toks[i].range := by
  simp [tokenRange, h]

theorem rng_single (toks : Array PTok) (a : Nat) : tokenRange toks a = rng toks a (a + 1) := rfl

theorem span_tok_tok (toks : Array PTok) (a b : Nat) :
    span (tokenRange toks a) (tokenRange toks (b + 1 - 1)) = rng toks a (b + 1) := rfl

theorem rng_eq {toks : Array PTok} {a b : Nat} (h1 : a < b) (h2 : b ≤ toks.size) :
    rng toks a b = ⟨(toks[a]'(by omega)).range.start, (toks[b - 1]'(by omega)).range.stop⟩ := by
  have ha : a < toks.size := by omega
  have hb : b - 1 < toks.size := by omega
  simp [rng, span, tokenRange, ha, hb]

/-- `SegT toks A a b t`: the tokens `a … b-1` are derived from `A` (as in `Seg`) *and* `t` is the
tree the parser builds for that derivation: every node carries `rng` of its own segment, no errors,
`group = false` except for the root of a parenthesised group — which is the inner term itself with
`group = true` and the range extended to the parentheses; binder variables carry the range of their
identifier token (the anonymous binder of `a -> b`: the empty range at the start of `a`). -/
inductive SegT (toks : Array PTok) : NT → Nat → Nat → Src → Prop
  | unit {A B a b t} : (A, B) ∈ unitProds → SegT toks B a b t → SegT toks A a b t
  | leaf {A k a} : (A, k) ∈ leafProds → KAt toks a k →
      SegT toks A a (a + 1) (.mk (rng toks a (a + 1)) false (leafV A) [])
  | var {x a} : KAt toks a (.identifier x) →
      SegT toks .variable a (a + 1) (.mk (rng toks a (a + 1)) false (.var x) [])
  | lit {n a} : KAt toks a (.integerLiteral n) →
      SegT toks .integerLiteral a (a + 1) (.mk (rng toks a (a + 1)) false (.lit (Int.ofNat n)) [])
  | lambda {x a b body} : KAt toks a (.identifier x) → KAt toks (a + 1) .thickArrow →
      SegT toks .term (a + 1 + 1) b body →
      SegT toks .lambda a b
        (.mk (rng toks a b) false (.lam ⟨tokenRange toks a, x⟩ false .none body) [])
  | lambdaImplicit {x a b body} : KAt toks a .leftCurly → KAt toks (a + 1) (.identifier x) →
      KAt toks (a + 1 + 1) .rightCurly → KAt toks (a + 1 + 1 + 1) .thickArrow →
      SegT toks .term (a + 1 + 1 + 1 + 1) b body →
      SegT toks .lambdaImplicit a b
        (.mk (rng toks a b) false (.lam ⟨tokenRange toks (a + 1), x⟩ true .none body) [])
  | binder {A o c ar x a b d dom body} : (A, o, c, ar) ∈ binderProds → KAt toks a o →
      KAt toks (a + 1) (.identifier x) → KAt toks (a + 1 + 1) .colon →
      SegT toks .jumboTerm (a + 1 + 1 + 1) b dom → KAt toks b c → KAt toks (b + 1) ar →
      SegT toks .term (b + 1 + 1) d body →
      SegT toks A a d
        (.mk (rng toks a d) false (binderV A ⟨tokenRange toks (a + 1), x⟩ dom body) [])
  | nonDependentPi {a b c dom cod} : SegT toks .smallTerm a b dom → KAt toks b .thinArrow →
      SegT toks .term (b + 1) c cod →
      SegT toks .nonDependentPi a c
        (.mk (rng toks a c) false (.pi ⟨emptyRange toks a, placeholder⟩ false dom cod) [])
  | application {a b c f x} : SegT toks .atom a b f → SegT toks .smallTerm b c x →
      SegT toks .application a c (.mk (rng toks a c) false (.app f x) [])
  | letPlain {x t a b c defn body} : KAt toks a (.identifier x) → KAt toks (a + 1) .equals →
      SegT toks .term (a + 1 + 1) b defn → KAt toks b (.terminator t) →
      SegT toks .term (b + 1) c body →
      SegT toks .let_ a c
        (.mk (rng toks a c) false (.let_ ⟨tokenRange toks a, x⟩ .none defn body) [])
  | letAnn {x t a b c d ann defn body} : KAt toks a (.identifier x) → KAt toks (a + 1) .colon →
      SegT toks .smallTerm (a + 1 + 1) b ann → KAt toks b .equals →
      SegT toks .term (b + 1) c defn → KAt toks c (.terminator t) →
      SegT toks .term (c + 1) d body →
      SegT toks .let_ a d
        (.mk (rng toks a d) false (.let_ ⟨tokenRange toks a, x⟩ (.some ann) defn body) [])
  | negation {a b x} : KAt toks a .minus → SegT toks .largeTerm (a + 1) b x →
      SegT toks .negation a b (.mk (rng toks a b) false (.neg x) [])
  | bin {A L op R a b c x y} : (A, L, op, R) ∈ binProds → SegT toks L a b x → KAt toks b op →
      SegT toks R (b + 1) c y →
      SegT toks A a c (.mk (rng toks a c) false (.bin (binOpOf A) x y) [])
  | ite {a b c d x y z} : KAt toks a .if_ → SegT toks .term (a + 1) b x → KAt toks b .then_ →
      SegT toks .term (b + 1) c y → KAt toks c .else_ → SegT toks .term (c + 1) d z →
      SegT toks .if_ a d (.mk (rng toks a d) false (.ite x y z) [])
  | group {a b inner} : KAt toks a .leftParen → SegT toks .term (a + 1) b inner →
      KAt toks b .rightParen →
      SegT toks .group a (b + 1) (.mk (rng toks a (b + 1)) true inner.variant [])

theorem SegT.toSeg {toks : Array PTok} {A : NT} {a b : Nat} {t : Src} (h : SegT toks A a b t) :
    Seg toks A a b := by
  induction h with
  | unit hm _ ih => exact Seg.unit hm ih
  | leaf hm hk => exact Seg.leaf hm hk
  | var hk => exact Seg.var hk
  | lit hk => exact Seg.lit hk
  | lambda h1 h2 _ ih => exact Seg.lambda h1 h2 ih
  | lambdaImplicit h1 h2 h3 h4 _ ih => exact Seg.lambdaImplicit h1 h2 h3 h4 ih
  | binder hm h1 h2 h3 _ h4 h5 _ ih1 ih2 => exact Seg.binder hm h1 h2 h3 ih1 h4 h5 ih2
  | nonDependentPi _ hk _ ih1 ih2 => exact Seg.nonDependentPi ih1 hk ih2
  | application _ _ ih1 ih2 => exact Seg.application ih1 ih2
  | letPlain h1 h2 _ h3 _ ih1 ih2 => exact Seg.letPlain h1 h2 ih1 h3 ih2
  | letAnn h1 h2 _ h3 _ h4 _ ih1 ih2 ih3 => exact Seg.letAnn h1 h2 ih1 h3 ih2 h4 ih3
  | negation h1 _ ih => exact Seg.negation h1 ih
  | bin hm _ hk _ ih1 ih2 => exact Seg.bin hm ih1 hk ih2
  | ite h1 _ h2 _ h3 _ ih1 ih2 ih3 => exact Seg.ite h1 ih1 h2 ih2 h3 ih3
  | group h1 _ h2 ih => exact Seg.group h1 ih h2

def IdentAt (toks : Array PTok) (i : Nat) (x : SrcVar) : Prop :=
  KAt toks i (.identifier x.name) ∧ x.range = tokenRange toks i

mutual
/-- `Spanned toks a b t`: `a < b ≤ toks.size`, the range of `t` is exactly that of the token segment
`[a, b)`, and the children of `t` are `Spanned` on sub-segments of `[a, b)` that follow each other in
source order (field order); binder variables are identifier tokens of the segment, in front of the
children. -/
def Spanned (toks : Array PTok) (a b : Nat) (t : Src) : Prop :=
  match t with
  | .mk r _ v _ => a < b ∧ b ≤ toks.size ∧ r = rng toks a b ∧ Kids toks a b v
termination_by structural t
def Kids (toks : Array PTok) (a b : Nat) (v : SrcV) : Prop :=
  match v with
  | .parseError => False
  | .type | .var _ | .int | .lit _ | .bool | .tt | .ff => True
  | .lam x _ dom body => ∃ i m a2 b2, a ≤ i ∧ i < m ∧ m ≤ a2 ∧ b2 ≤ b ∧ IdentAt toks i x ∧
      SpannedOpt toks (i + 1) m dom ∧ Spanned toks a2 b2 body
  | .pi x _ dom cod => ∃ a1 b1 a2 b2, a ≤ a1 ∧ b1 ≤ a2 ∧ b2 ≤ b ∧
      Spanned toks a1 b1 dom ∧ Spanned toks a2 b2 cod ∧
      ((∃ i, a ≤ i ∧ i < a1 ∧ IdentAt toks i x) ∨ x = ⟨emptyRange toks a1, placeholder⟩)
  | .app f x => ∃ a1 b1 a2 b2, a ≤ a1 ∧ b1 ≤ a2 ∧ b2 ≤ b ∧
      Spanned toks a1 b1 f ∧ Spanned toks a2 b2 x
  | .let_ x ann defn body => ∃ i m a2 b2 a3 b3, a ≤ i ∧ i < m ∧ m ≤ a2 ∧ b2 ≤ a3 ∧ b3 ≤ b ∧
      IdentAt toks i x ∧ SpannedOpt toks (i + 1) m ann ∧ Spanned toks a2 b2 defn ∧
      Spanned toks a3 b3 body
  | .neg x => ∃ a1 b1, a < a1 ∧ b1 ≤ b ∧ Spanned toks a1 b1 x
  | .bin _ x y => ∃ a1 b1 a2 b2, a ≤ a1 ∧ b1 < a2 ∧ b2 ≤ b ∧
      Spanned toks a1 b1 x ∧ Spanned toks a2 b2 y
  | .ite c x y => ∃ a1 b1 a2 b2 a3 b3, a < a1 ∧ b1 < a2 ∧ b2 < a3 ∧ b3 ≤ b ∧
      Spanned toks a1 b1 c ∧ Spanned toks a2 b2 x ∧ Spanned toks a3 b3 y
termination_by structural v
/-- An optional child (lambda domain, let annotation) inside `[lo, hi)`. -/
def SpannedOpt (toks : Array PTok) (lo hi : Nat) (o : OptSrc) : Prop :=
  match o with
  | .none => True
  | .some t => ∃ a' b', lo ≤ a' ∧ b' ≤ hi ∧ Spanned toks a' b' t
termination_by structural o
end

theorem Spanned.bounds {toks : Array PTok} {a b : Nat} {t : Src} (h : Spanned toks a b t) :
    a < b ∧ b ≤ toks.size := by
  obtain ⟨r, g, v, es⟩ := t
  unfold Spanned at h
  exact ⟨h.1, h.2.1⟩

theorem Spanned.range {toks : Array PTok} {a b : Nat} {t : Src} (h : Spanned toks a b t) :
    t.range = rng toks a b := by
  obtain ⟨r, g, v, es⟩ := t
  unfold Spanned at h
  exact h.2.2.1

theorem Spanned.kids {toks : Array PTok} {a b : Nat} {t : Src} (h : Spanned toks a b t) :
    Kids toks a b t.variant := by
  obtain ⟨r, g, v, es⟩ := t
  unfold Spanned at h
  exact h.2.2.2

theorem Spanned.mk {toks : Array PTok} {a b : Nat} {g : Bool} {v : SrcV} {es : List PErr}
    (h1 : a < b) (h2 : b ≤ toks.size) (h3 : Kids toks a b v) :
    Spanned toks a b (.mk (rng toks a b) g v es) := by
  unfold Spanned
  exact ⟨h1, h2, rfl, h3⟩

theorem Kids.mono {toks : Array PTok} {a b a' b' : Nat} {v : SrcV} (ha : a' ≤ a) (hb : b ≤ b')
    (h : Kids toks a b v) : Kids toks a' b' v := by
  cases v <;> unfold Kids at h ⊢ <;> try exact h
  case lam x imp dom body =>
    obtain ⟨i, m, a2, b2, h1, h2, h3, h4, h5⟩ := h
    exact ⟨i, m, a2, b2, by omega, h2, h3, by omega, h5⟩
  case pi x imp dom cod =>
    obtain ⟨a1, b1, a2, b2, h1, h2, h3, h4, h5, h6⟩ := h
    refine ⟨a1, b1, a2, b2, by omega, h2, by omega, h4, h5, ?_⟩
    rcases h6 with ⟨i, h7, h8⟩ | h6
    · exact Or.inl ⟨i, by omega, h8⟩
    · exact Or.inr h6
  case app f x =>
    obtain ⟨a1, b1, a2, b2, h1, h2, h3, h4⟩ := h
    exact ⟨a1, b1, a2, b2, by omega, h2, by omega, h4⟩
  case let_ x ann defn body =>
    obtain ⟨i, m, a2, b2, a3, b3, h1, h2, h3, h4, h5, h6⟩ := h
    exact ⟨i, m, a2, b2, a3, b3, by omega, h2, h3, h4, by omega, h6⟩
  case neg x =>
    obtain ⟨a1, b1, h1, h2, h3⟩ := h
    exact ⟨a1, b1, by omega, by omega, h3⟩
  case bin o x y =>
    obtain ⟨a1, b1, a2, b2, h1, h2, h3, h4⟩ := h
    exact ⟨a1, b1, a2, b2, by omega, h2, by omega, h4⟩
  case ite c x y =>
    obtain ⟨a1, b1, a2, b2, a3, b3, h1, h2, h3, h4, h5⟩ := h
    exact ⟨a1, b1, a2, b2, a3, b3, by omega, h2, h3, by omega, h5⟩

theorem SegT.spanned {toks : Array PTok} {A : NT} {a b : Nat} {t : Src} (h : SegT toks A a b t) :
    Spanned toks a b t := by
  induction h with
  | unit _ _ ih => exact ih
  | @leaf A k a hm hk =>
    refine Spanned.mk (by omega) hk.lt ?_
    simp only [leafProds, List.mem_cons, Prod.mk.injEq, List.not_mem_nil, or_false] at hm
    rcases hm with ⟨rfl, _⟩ | ⟨rfl, _⟩ | ⟨rfl, _⟩ | ⟨rfl, _⟩ | ⟨rfl, _⟩ <;> simp [leafV, Kids]
  | var hk => exact Spanned.mk (by omega) hk.lt (by simp [Kids])
  | lit hk => exact Spanned.mk (by omega) hk.lt (by simp [Kids])
  | @lambda x a b body h1 h2 _ ih =>
    have hb := ih.bounds
    refine Spanned.mk (by omega) hb.2 ?_
    unfold Kids
    exact ⟨a, a + 1, _, _, Nat.le_refl _, by omega, by omega, Nat.le_refl _, ⟨h1, rfl⟩,
      by simp [SpannedOpt], ih⟩
  | @lambdaImplicit x a b body h1 h2 h3 h4 _ ih =>
    have hb := ih.bounds
    refine Spanned.mk (by omega) hb.2 ?_
    unfold Kids
    exact ⟨a + 1, a + 1 + 1, _, _, by omega, by omega, by omega, Nat.le_refl _, ⟨h2, rfl⟩,
      by simp [SpannedOpt], ih⟩
  | @binder A o c ar x a b d dom body hm h1 h2 h3 _ h4 h5 _ ih1 ih2 =>
    have hb1 := ih1.bounds
    have hb2 := ih2.bounds
    refine Spanned.mk (by omega) hb2.2 ?_
    simp only [binderProds, List.mem_cons, Prod.mk.injEq, List.not_mem_nil, or_false] at hm
    rcases hm with ⟨rfl, _⟩ | ⟨rfl, _⟩ | ⟨rfl, _⟩ | ⟨rfl, _⟩ <;> simp only [binderV] <;> unfold Kids
    · exact ⟨a + 1, b, _, _, by omega, by omega, by omega, Nat.le_refl _, ⟨h2, rfl⟩,
        by unfold SpannedOpt; exact ⟨_, _, by omega, Nat.le_refl _, ih1⟩, ih2⟩
    · exact ⟨a + 1, b, _, _, by omega, by omega, by omega, Nat.le_refl _, ⟨h2, rfl⟩,
        by unfold SpannedOpt; exact ⟨_, _, by omega, Nat.le_refl _, ih1⟩, ih2⟩
    · exact ⟨_, _, _, _, by omega, by omega, Nat.le_refl _, ih1, ih2,
        Or.inl ⟨a + 1, by omega, by omega, ⟨h2, rfl⟩⟩⟩
    · exact ⟨_, _, _, _, by omega, by omega, Nat.le_refl _, ih1, ih2,
        Or.inl ⟨a + 1, by omega, by omega, ⟨h2, rfl⟩⟩⟩
  | nonDependentPi _ hk _ ih1 ih2 =>
    have hb1 := ih1.bounds
    have hb2 := ih2.bounds
    refine Spanned.mk (by omega) hb2.2 ?_
    unfold Kids
    exact ⟨_, _, _, _, Nat.le_refl _, by omega, Nat.le_refl _, ih1, ih2, Or.inr rfl⟩
  | application _ _ ih1 ih2 =>
    have hb1 := ih1.bounds
    have hb2 := ih2.bounds
    refine Spanned.mk (by omega) hb2.2 ?_
    unfold Kids
    exact ⟨_, _, _, _, Nat.le_refl _, Nat.le_refl _, Nat.le_refl _, ih1, ih2⟩
  | @letPlain x t a b c defn body h1 h2 _ h3 _ ih1 ih2 =>
    have hb1 := ih1.bounds
    have hb2 := ih2.bounds
    refine Spanned.mk (by omega) hb2.2 ?_
    unfold Kids
    exact ⟨a, a + 1, _, _, _, _, Nat.le_refl _, by omega, by omega, by omega, Nat.le_refl _,
      ⟨h1, rfl⟩, by simp [SpannedOpt], ih1, ih2⟩
  | @letAnn x t a b c d ann defn body h1 h2 _ h3 _ h4 _ ih1 ih2 ih3 =>
    have hb1 := ih1.bounds
    have hb2 := ih2.bounds
    have hb3 := ih3.bounds
    refine Spanned.mk (by omega) hb3.2 ?_
    unfold Kids
    exact ⟨a, b, _, _, _, _, Nat.le_refl _, by omega, by omega, by omega, Nat.le_refl _,
      ⟨h1, rfl⟩, by unfold SpannedOpt; exact ⟨_, _, by omega, Nat.le_refl _, ih1⟩, ih2, ih3⟩
  | negation h1 _ ih =>
    have hb := ih.bounds
    refine Spanned.mk (by omega) hb.2 ?_
    unfold Kids
    exact ⟨_, _, by omega, Nat.le_refl _, ih⟩
  | bin hm _ hk _ ih1 ih2 =>
    have hb1 := ih1.bounds
    have hb2 := ih2.bounds
    refine Spanned.mk (by omega) hb2.2 ?_
    unfold Kids
    exact ⟨_, _, _, _, Nat.le_refl _, by omega, Nat.le_refl _, ih1, ih2⟩
  | ite h1 _ h2 _ h3 _ ih1 ih2 ih3 =>
    have hb1 := ih1.bounds
    have hb2 := ih2.bounds
    have hb3 := ih3.bounds
    refine Spanned.mk (by omega) hb3.2 ?_
    unfold Kids
    exact ⟨_, _, _, _, _, _, by omega, by omega, by omega, Nat.le_refl _, ih1, ih2, ih3⟩
  | group h1 _ h2 ih =>
    have hb := ih.bounds
    refine Spanned.mk (by omega) h2.lt ?_
    exact ih.kids.mono (by omega) (by omega)

theorem SegT.range {toks : Array PTok} {A : NT} {a b : Nat} {t : Src} (h : SegT toks A a b t) :
    t.range = rng toks a b := h.spanned.range

/-- the range a packrat function computes for a node (first token, or first operand, to last operand) is that of its segment -/
theorem SegT.span_tok {toks : Array PTok} {A : NT} {a a' b : Nat} {t : Src} (h : SegT toks A a' b t) :
    span (tokenRange toks a) t.range = rng toks a b := by rw [h.range]; rfl

theorem SegT.span_seg {toks : Array PTok} {A B : NT} {a m m' b : Nat} {x y : Src}
    (h1 : SegT toks A a m x) (h2 : SegT toks B m' b y) : span x.range y.range = rng toks a b := by
  rw [h1.range, h2.range]; rfl

def InvT (toks : Array PTok) (nt : NT) (start : Nat) (r : PResult) : Prop :=
  Good r ∧ (collectErrors r.term = [] → SegT toks nt start r.next r.term)

abbrev CacheInvT (toks : Array PTok) (st : PState) : Prop := CacheInvG (InvT toks) st

abbrev TPres (toks : Array PTok) {α : Type} (m : ParseM α) (post : α → Prop) : Prop :=
  GPres (InvT toks) m post

theorem InvT.toInv {toks : Array PTok} {nt : NT} {start : Nat} {r : PResult}
    (h : InvT toks nt start r) : Inv toks nt start r := ⟨h.1, fun hc => (h.2 hc).toSeg⟩

/-- the ranges the parsing functions compute are the ranges of the segments -/
theorem SegT.closed (toks : Array PTok) : Closed toks (SegT toks) where
  unit := .unit
  leaf := .leaf
  var := .var
  lit := .lit
  lambda h1 h2 hb := by rw [hb.span_tok]; exact .lambda h1 h2 hb
  lambdaImplicit h1 h2 h3 h4 hb := by rw [hb.span_tok]; exact .lambdaImplicit h1 h2 h3 h4 hb
  binder hm h1 h2 h3 hd h4 h5 hb := by rw [hb.span_tok]; exact .binder hm h1 h2 h3 hd h4 h5 hb
  nonDependentPi hd hk hc := by rw [hd.span_seg hc]; exact .nonDependentPi hd hk hc
  application hf hx := by rw [hf.span_seg hx]; exact .application hf hx
  letPlain h1 h2 hd h3 hb := by rw [hb.span_tok]; exact .letPlain h1 h2 hd h3 hb
  letAnn h1 h2 ha h3 hd h4 hb := by rw [hb.span_tok]; exact .letAnn h1 h2 ha h3 hd h4 hb
  negation h1 hx := by rw [hx.span_tok]; exact .negation h1 hx
  bin hm hx hk hy := by rw [hx.span_seg hy]; exact .bin hm hx hk hy
  ite h1 hx h2 hy h3 hz := by rw [hz.span_tok]; exact .ite h1 hx h2 hy h3 hz
  group h1 hi h2 := by rw [span_tok_tok]; exact .group h1 hi h2

theorem GPres.pure {I : NT → Nat → PResult → Prop} {α : Type} {a : α} {post : α → Prop}
    (h : post a) : GPres I (Pure.pure a : ParseM α) post := Tri.pure h

theorem GPres.tryReturn {I : NT → Nat → PResult → Prop} {post : PResult → Prop}
    {p k : ParseM PResult} {pp : PResult → Prop} (hp : GPres I p pp) (hpp : ∀ r, pp r → post r)
    (hk : GPres I k post) : GPres I (tryReturn p k) post := Tri.tryReturn hp hpp hk

theorem InvT.failAt (toks : Array PTok) (nt : NT) (start next : Nat) :
    InvT toks nt start (failAt toks next) := InvD.failAt (D := SegT toks) toks nt start next

theorem InvT.unit {toks : Array PTok} {A B : NT} {s : Nat} {r : PResult} (hm : (A, B) ∈ unitProds)
    (h : InvT toks B s r) : InvT toks A s r := InvD.unit (SegT.closed toks) hm h

-- `talt_tac hrec` closes `TPres toks (…) (InvT toks nt start)` for a choice function
macro "talt_tac" hrec:ident : tactic => `(tactic|
  repeat (first
    | exact GPres.pure (InvT.failAt _ _ _ _)
    | refine GPres.tryReturn ($hrec _ _) (fun r hr => InvT.unit (by decide) hr) ?_))

theorem TPres.parseBody {toks : Array PTok} {rec : NT → Nat → ParseM PResult}
    (hrec : ∀ nt pos, TPres toks (rec nt pos) (InvT toks nt pos)) (nt : NT) (start : Nat) :
    TPres toks (parseBody toks rec nt start) (InvT toks nt start) :=
  Tri.parseBody (SegT.closed toks) hrec nt start

theorem TPres.parseNT (toks : Array PTok) : ∀ (fuel : Nat) (nt : NT) (start : Nat),
    TPres toks (parseNT toks fuel nt start) (InvT toks nt start) :=
  parseNT_ind toks (P := fun nt s m => TPres toks m (InvT toks nt s)) (fun _ _ => Tri.fail)
    fun _ h nt s => GPres.cacheCheck (TPres.parseBody h nt s)

theorem CacheInvT.init (toks : Array PTok) : CacheInvT toks PState.init := CacheInvG.init _

theorem parse_spans {toks : Array PTok} {fuel : Nat} {nt : NT} {start : Nat} {r : PResult}
    {st st' : PState} (hI : CacheInvT toks st) (h : parseNT toks fuel nt start st = some (r, st'))
    (hce : collectErrors r.term = []) :
    SegT toks nt start r.next r.term ∧ CacheInvT toks st' := by
  obtain ⟨h1, h2⟩ := TPres.parseNT toks fuel nt start st r st' hI h
  exact ⟨h2.2 hce, h1⟩

/-- From the empty memo table (`parse` calls `parse_term(&mut cache, tokens, 0)`). -/
theorem runParser_spans {toks : Array PTok} {r : PResult} {st : PState}
    (h : runParser toks = some (r, st)) (hce : collectErrors r.term = []) :
    SegT toks .term 0 r.next r.term :=
  (parse_spans (CacheInvT.init toks) h hce).1

theorem parse_root_range {toks : Array PTok} {fuel : Nat} {nt : NT} {start : Nat} {r : PResult}
    {st st' : PState} (hI : CacheInvT toks st) (h : parseNT toks fuel nt start st = some (r, st'))
    (hce : collectErrors r.term = []) :
    ∃ (h1 : start < toks.size) (h2 : r.next - 1 < toks.size), start < r.next ∧ r.next ≤ toks.size ∧
      r.term.range.start = toks[start].range.start ∧
      r.term.range.stop = toks[r.next - 1].range.stop := by
  have hs := (parse_spans hI h hce).1.spanned
  obtain ⟨hb1, hb2⟩ := hs.bounds
  refine ⟨by omega, by omega, hb1, hb2, ?_, ?_⟩
  · rw [hs.range, rng_eq hb1 hb2]
  · rw [hs.range, rng_eq hb1 hb2]

/-- Token ranges are non-empty and in source order (what the tokenizer guarantees:
`C09_ordered_disjoint`). -/
def TokensOrdered (toks : Array PTok) : Prop :=
  (∀ i (h : i < toks.size), toks[i].range.start < toks[i].range.stop) ∧
  (∀ i (h : i + 1 < toks.size), toks[i].range.stop ≤ toks[i + 1].range.start)

mutual
/-- Byte-level discipline of the ranges in a tree: every node's range is non-empty; the binder
variable (if any) and the children lie inside the node's range, pairwise disjoint and in source
(= field) order; recursively. -/
def Nested (t : Src) : Prop :=
  match t with
  | .mk r _ v _ => r.start < r.stop ∧ NestedV r v
termination_by structural t
def NestedV (r : SourceRange) (v : SrcV) : Prop :=
  match v with
  | .parseError => False
  | .type | .var _ | .int | .lit _ | .bool | .tt | .ff => True
  | .lam x _ dom body => r.start ≤ x.range.start ∧ x.range.start < x.range.stop ∧
      NestedOpt x.range.stop body.range.start dom ∧ x.range.stop ≤ body.range.start ∧
      body.range.stop ≤ r.stop ∧ Nested body
  | .pi x _ dom cod => r.start ≤ x.range.start ∧ x.range.start ≤ x.range.stop ∧
      x.range.stop ≤ dom.range.start ∧ dom.range.stop ≤ cod.range.start ∧
      cod.range.stop ≤ r.stop ∧ Nested dom ∧ Nested cod
  | .app f x => r.start ≤ f.range.start ∧ f.range.stop ≤ x.range.start ∧ x.range.stop ≤ r.stop ∧
      Nested f ∧ Nested x
  | .let_ x ann defn body => r.start ≤ x.range.start ∧ x.range.start < x.range.stop ∧
      NestedOpt x.range.stop defn.range.start ann ∧ x.range.stop ≤ defn.range.start ∧
      defn.range.stop ≤ body.range.start ∧ body.range.stop ≤ r.stop ∧ Nested defn ∧ Nested body
  | .neg x => r.start < x.range.start ∧ x.range.stop ≤ r.stop ∧ Nested x
  | .bin _ x y => r.start ≤ x.range.start ∧ x.range.stop < y.range.start ∧ y.range.stop ≤ r.stop ∧
      Nested x ∧ Nested y
  | .ite c x y => r.start < c.range.start ∧ c.range.stop < x.range.start ∧
      x.range.stop < y.range.start ∧ y.range.stop ≤ r.stop ∧ Nested c ∧ Nested x ∧ Nested y
termination_by structural v
def NestedOpt (lo hi : Nat) (o : OptSrc) : Prop :=
  match o with
  | .none => True
  | .some t => lo ≤ t.range.start ∧ t.range.stop ≤ hi ∧ Nested t
termination_by structural o
end

section Ordered
variable {toks : Array PTok} (ho : TokensOrdered toks)
include ho

theorem TokensOrdered.lt {i : Nat} (hi : i < toks.size) :
    (tokenRange toks i).start < (tokenRange toks i).stop := by
  rw [tokenRange_lt hi]; exact ho.1 i hi

theorem TokensOrdered.stop_le_start : ∀ {i j : Nat}, i < j → j < toks.size →
    (tokenRange toks i).stop ≤ (tokenRange toks j).start
  | i, 0, h, _ => by omega
  | i, j + 1, h, hj => by
    have hstep : (tokenRange toks j).stop ≤ (tokenRange toks (j + 1)).start := by
      rw [tokenRange_lt hj, tokenRange_lt (show j < toks.size by omega)]; exact ho.2 j hj
    by_cases hij : i = j
    · subst hij; exact hstep
    · have ih := TokensOrdered.stop_le_start (i := i) (j := j) (by omega) (by omega)
      have := ho.lt (show j < toks.size by omega)
      omega

theorem TokensOrdered.start_mono {i j : Nat} (h : i ≤ j) (hj : j < toks.size) :
    (tokenRange toks i).start ≤ (tokenRange toks j).start := by
  by_cases hij : i = j
  · subst hij; exact Nat.le_refl _
  · have := ho.stop_le_start (show i < j by omega) hj
    have := ho.lt (show i < toks.size by omega)
    omega

theorem TokensOrdered.stop_mono {i j : Nat} (h : i ≤ j) (hj : j < toks.size) :
    (tokenRange toks i).stop ≤ (tokenRange toks j).stop := by
  by_cases hij : i = j
  · subst hij; exact Nat.le_refl _
  · have := ho.stop_le_start (show i < j by omega) hj
    have := ho.lt hj
    omega

theorem TokensOrdered.rng_lt {a b : Nat} (h1 : a < b) (h2 : b ≤ toks.size) :
    (rng toks a b).start < (rng toks a b).stop := by
  have h3 := ho.start_mono (show a ≤ b - 1 by omega) (by omega)
  have h4 := ho.lt (show b - 1 < toks.size by omega)
  show (tokenRange toks a).start < (tokenRange toks (b - 1)).stop
  omega

theorem TokensOrdered.rng_start_le {a a' : Nat} (b b' : Nat) (h1 : a ≤ a') (h2 : a' < toks.size) :
    (rng toks a b).start ≤ (rng toks a' b').start := ho.start_mono h1 h2

theorem TokensOrdered.rng_start_lt {a a' : Nat} (b b' : Nat) (h1 : a < a') (h2 : a' < toks.size) :
    (rng toks a b).start < (rng toks a' b').start := by
  have h3 := ho.stop_le_start h1 h2
  have h4 := ho.lt (show a < toks.size by omega)
  show (tokenRange toks a).start < (tokenRange toks a').start
  omega

theorem TokensOrdered.rng_stop_le (a a' : Nat) {b b' : Nat} (h1 : b' ≤ b) (h0 : 0 < b')
    (h2 : b ≤ toks.size) : (rng toks a' b').stop ≤ (rng toks a b).stop :=
  ho.stop_mono (show b' - 1 ≤ b - 1 by omega) (by omega)

theorem TokensOrdered.rng_before (a b' : Nat) {b a' : Nat} (h1 : b ≤ a') (h0 : 0 < b)
    (h2 : a' < toks.size) : (rng toks a b).stop ≤ (rng toks a' b').start :=
  ho.stop_le_start (show b - 1 < a' by omega) h2

theorem TokensOrdered.rng_before_lt (a b' : Nat) {b a' : Nat} (h1 : b < a') (h0 : 0 < b)
    (h2 : a' < toks.size) : (rng toks a b).stop < (rng toks a' b').start := by
  have h3 := ho.stop_le_start (show b - 1 < b by omega) (show b < toks.size by omega)
  have h4 := ho.rng_start_lt (b + 1) b' h1 h2
  have h5 : (rng toks b (b + 1)).start = (tokenRange toks b).start := rfl
  show (tokenRange toks (b - 1)).stop < (rng toks a' b').start
  omega

omit ho in
theorem SpannedOpt.nested_of (ho : TokensOrdered toks) {o : OptSrc}
    (ih : o.all fun t => ∀ a b, Spanned toks a b t → Nested t) {lo hi : Nat}
    (h : SpannedOpt toks lo hi o) {i j : Nat} (h1 : i < lo) (h2 : hi ≤ j) (h3 : j < toks.size) :
    NestedOpt (rng toks i (i + 1)).stop (rng toks j (j + 1)).start o := by
  cases o with
  | none => unfold NestedOpt; trivial
  | some t =>
    unfold SpannedOpt at h
    obtain ⟨a', b', h4, h5, ht⟩ := h
    have hb := ht.bounds
    unfold NestedOpt
    rw [ht.range]
    exact ⟨ho.rng_before _ _ (by omega) (by omega) (by omega),
      ho.rng_before _ _ (by omega) (by omega) h3, ih _ _ ht⟩

theorem Spanned.nested : ∀ (t : Src) (a b : Nat), Spanned toks a b t → Nested t := by
  intro t
  induction t using Src.induction with
  | parseError r g es => intro a b h; unfold Spanned Kids at h; exact h.2.2.2.elim
  | type _ _ _ | int _ _ _ | bool _ _ _ | tt _ _ _ | ff _ _ _ | lit _ _ _ _ | var _ _ _ _ =>
    intro a b h; unfold Spanned at h; obtain ⟨h1, h2, rfl, _⟩ := h
    unfold Nested NestedV; exact ⟨ho.rng_lt h1 h2, trivial⟩
  | lam r g x imp dom body es ihd ihb =>
    intro a b h; unfold Spanned Kids at h
    obtain ⟨hab, hb, rfl, i, m, a2, b2, h1, h2, h3, h4, ⟨hk, hx⟩, hd, hbody⟩ := h
    have hbb := hbody.bounds
    have hxr : x.range = rng toks i (i + 1) := hx
    unfold Nested NestedV
    rw [hxr, hbody.range]
    exact ⟨ho.rng_lt hab hb, ho.rng_start_le _ _ h1 (by omega), ho.rng_lt (by omega) (by omega),
      SpannedOpt.nested_of ho ihd hd (by omega) h3 (by omega),
      ho.rng_before _ _ (by omega) (by omega) (by omega),
      ho.rng_stop_le _ _ h4 (by omega) hb, ihb _ _ hbody⟩
  | pi r g x imp dom cod es ihd ihc =>
    intro a b h; unfold Spanned Kids at h
    obtain ⟨hab, hb, rfl, a1, b1, a2, b2, h1, h2, h3, hdom, hcod, hx⟩ := h
    have hb1 := hdom.bounds
    have hb2 := hcod.bounds
    unfold Nested NestedV
    rw [hdom.range, hcod.range]
    refine ⟨ho.rng_lt hab hb, ?_, ?_, ?_, ho.rng_before _ _ h2 (by omega) (by omega),
      ho.rng_stop_le _ _ h3 (by omega) hb, ihd _ _ hdom, ihc _ _ hcod⟩
    · rcases hx with ⟨i, h4, h5, _, hx⟩ | hx
      · rw [show x.range = rng toks i (i + 1) from hx]
        exact ho.rng_start_le _ _ h4 (by omega)
      · rw [hx]; exact ho.rng_start_le _ (a1 + 1) h1 (by omega)
    · rcases hx with ⟨i, h4, h5, _, hx⟩ | hx
      · rw [show x.range = rng toks i (i + 1) from hx]
        exact Nat.le_of_lt (ho.rng_lt (by omega) (by omega))
      · rw [hx]; exact Nat.le_refl _
    · rcases hx with ⟨i, h4, h5, _, hx⟩ | hx
      · rw [show x.range = rng toks i (i + 1) from hx]
        exact ho.rng_before _ _ (by omega) (by omega) (by omega)
      · rw [hx]; exact Nat.le_refl _
  | app r g f x es ihf ihx =>
    intro a b h; unfold Spanned Kids at h
    obtain ⟨hab, hb, rfl, a1, b1, a2, b2, h1, h2, h3, hf, hx⟩ := h
    have hb1 := hf.bounds
    have hb2 := hx.bounds
    unfold Nested NestedV
    rw [hf.range, hx.range]
    exact ⟨ho.rng_lt hab hb, ho.rng_start_le _ _ h1 (by omega),
      ho.rng_before _ _ h2 (by omega) (by omega),
      ho.rng_stop_le _ _ h3 (by omega) hb, ihf _ _ hf, ihx _ _ hx⟩
  | let_ r g x ann defn body es iha ihd ihb =>
    intro a b h; unfold Spanned Kids at h
    obtain ⟨hab, hb, rfl, i, m, a2, b2, a3, b3, h1, h2, h3, h4, h5, ⟨hk, hx⟩, hann, hdefn, hbody⟩ := h
    have hb2 := hdefn.bounds
    have hb3 := hbody.bounds
    have hxr : x.range = rng toks i (i + 1) := hx
    unfold Nested NestedV
    rw [hxr, hdefn.range, hbody.range]
    exact ⟨ho.rng_lt hab hb, ho.rng_start_le _ _ h1 (by omega), ho.rng_lt (by omega) (by omega),
      SpannedOpt.nested_of ho iha hann (by omega) h3 (by omega),
      ho.rng_before _ _ (by omega) (by omega) (by omega),
      ho.rng_before _ _ h4 (by omega) (by omega),
      ho.rng_stop_le _ _ h5 (by omega) hb, ihd _ _ hdefn, ihb _ _ hbody⟩
  | neg r g x es ih =>
    intro a b h; unfold Spanned Kids at h
    obtain ⟨hab, hb, rfl, a1, b1, h1, h2, hx⟩ := h
    have hb1 := hx.bounds
    unfold Nested NestedV
    rw [hx.range]
    exact ⟨ho.rng_lt hab hb, ho.rng_start_lt _ _ h1 (by omega),
      ho.rng_stop_le _ _ h2 (by omega) hb, ih _ _ hx⟩
  | bin r g o x y es ihx ihy =>
    intro a b h; unfold Spanned Kids at h
    obtain ⟨hab, hb, rfl, a1, b1, a2, b2, h1, h2, h3, hx, hy⟩ := h
    have hb1 := hx.bounds
    have hb2 := hy.bounds
    unfold Nested NestedV
    rw [hx.range, hy.range]
    exact ⟨ho.rng_lt hab hb, ho.rng_start_le _ _ h1 (by omega),
      ho.rng_before_lt _ _ h2 (by omega) (by omega),
      ho.rng_stop_le _ _ h3 (by omega) hb, ihx _ _ hx, ihy _ _ hy⟩
  | ite r g c x y es ihc ihx ihy =>
    intro a b h; unfold Spanned Kids at h
    obtain ⟨hab, hb, rfl, a1, b1, a2, b2, a3, b3, h1, h2, h3, h4, hc, hx, hy⟩ := h
    have hb1 := hc.bounds
    have hb2 := hx.bounds
    have hb3 := hy.bounds
    unfold Nested NestedV
    rw [hc.range, hx.range, hy.range]
    exact ⟨ho.rng_lt hab hb, ho.rng_start_lt _ _ h1 (by omega),
      ho.rng_before_lt _ _ h2 (by omega) (by omega),
      ho.rng_before_lt _ _ h3 (by omega) (by omega), ho.rng_stop_le _ _ h4 (by omega) hb,
      ihc _ _ hc, ihx _ _ hx, ihy _ _ hy⟩

theorem Kids.nested : ∀ (v : SrcV) (a b : Nat), a < b → b ≤ toks.size → Kids toks a b v →
    NestedV (rng toks a b) v := by
  intro v a b h1 h2 hk
  have h := Spanned.nested ho (.mk (rng toks a b) false v []) a b (Spanned.mk h1 h2 hk)
  unfold Nested at h
  exact h.2

theorem SpannedOpt.nested : ∀ (o : OptSrc) (lo hi : Nat), SpannedOpt toks lo hi o →
    ∀ i j, i < lo → hi ≤ j → j < toks.size →
      NestedOpt (rng toks i (i + 1)).stop (rng toks j (j + 1)).start o :=
  fun o _ _ h _ _ h1 h2 h3 =>
    SpannedOpt.nested_of ho (OptSrc.all_of_forall (fun t => Spanned.nested ho t) o) h h1 h2 h3

end Ordered

theorem parse_ranges_nested {toks : Array PTok} {fuel : Nat} {nt : NT} {start : Nat} {r : PResult}
    {st st' : PState} (hI : CacheInvT toks st) (h : parseNT toks fuel nt start st = some (r, st'))
    (hce : collectErrors r.term = []) :
    Spanned toks start r.next r.term ∧ (TokensOrdered toks → Nested r.term) := by
  have hs := (parse_spans hI h hce).1.spanned
  exact ⟨hs, fun ho => Spanned.nested ho _ _ _ hs⟩

mutual
/-- All nodes of a tree in preorder (children in field order): range and `group` flag. -/
def Src.nodes (t : Src) : List (SourceRange × Bool) :=
  match t with
  | .mk r g v _ => (r, g) :: SrcV.nodes v
termination_by structural t
def SrcV.nodes (v : SrcV) : List (SourceRange × Bool) :=
  match v with
  | .parseError | .type | .var _ | .int | .lit _ | .bool | .tt | .ff => []
  | .lam _ _ dom body => OptSrc.nodes dom ++ Src.nodes body
  | .pi _ _ dom cod => Src.nodes dom ++ Src.nodes cod
  | .app f a => Src.nodes f ++ Src.nodes a
  | .let_ _ ann defn body => OptSrc.nodes ann ++ Src.nodes defn ++ Src.nodes body
  | .neg a => Src.nodes a
  | .bin _ a b => Src.nodes a ++ Src.nodes b
  | .ite c a b => Src.nodes c ++ Src.nodes a ++ Src.nodes b
termination_by structural v
def OptSrc.nodes (o : OptSrc) : List (SourceRange × Bool) :=
  match o with
  | .none => []
  | .some t => Src.nodes t
termination_by structural o
end

mutual
/-- The ranges of all binder variables of a tree, in preorder. -/
def Src.binders (t : Src) : List SourceRange :=
  match t with
  | .mk _ _ v _ => SrcV.binders v
termination_by structural t
def SrcV.binders (v : SrcV) : List SourceRange :=
  match v with
  | .parseError | .type | .var _ | .int | .lit _ | .bool | .tt | .ff => []
  | .lam x _ dom body => x.range :: (OptSrc.binders dom ++ Src.binders body)
  | .pi x _ dom cod => x.range :: (Src.binders dom ++ Src.binders cod)
  | .app f a => Src.binders f ++ Src.binders a
  | .let_ x ann defn body => x.range :: (OptSrc.binders ann ++ Src.binders defn ++ Src.binders body)
  | .neg a => Src.binders a
  | .bin _ a b => Src.binders a ++ Src.binders b
  | .ite c a b => Src.binders c ++ Src.binders a ++ Src.binders b
termination_by structural v
def OptSrc.binders (o : OptSrc) : List SourceRange :=
  match o with
  | .none => []
  | .some t => Src.binders t
termination_by structural o
end

def tokensOrderedB (toks : Array PTok) : Bool :=
  (List.range toks.size).all fun i =>
    decide ((tokenRange toks i).start < (tokenRange toks i).stop) &&
    (decide (toks.size ≤ i + 1) ||
      decide ((tokenRange toks i).stop ≤ (tokenRange toks (i + 1)).start))

theorem tokensOrderedB_sound {toks : Array PTok} (h : tokensOrderedB toks = true) :
    TokensOrdered toks := by
  simp only [tokensOrderedB, List.all_eq_true, List.mem_range, Bool.and_eq_true, Bool.or_eq_true,
    decide_eq_true_eq] at h
  constructor
  · intro i hi
    have := (h i hi).1
    rwa [tokenRange_lt hi] at this
  · intro i hi
    rcases (h i (by omega)).2 with h' | h'
    · omega
    · rwa [tokenRange_lt hi, tokenRange_lt (show i < toks.size by omega)] at h'

end PModel
