import GramModel.Lemmas.CCJoin
import GramModel.Lemmas.CheckRules
import GramModel.Lemmas.TypingSound

/-!
# Groups: joinability under the (transparent) definitions of a group transfers to the closed groups
(C05)

A group `ds; b` reduces by substituting its definitions one after the other: `opsU m ds` is that list of
substitutions (index, unfolded definition; `m` is fuel, `ds.len ≤ m` everywhere) and `applyOps k ops t` applies a
list under `k` binders, as one traversal (`Act.ofOps`, `applyOps_eq_trav`); both are defined in
`Lemmas/CheckRules.lean`.  `group_par`: a `Par` step under the context in which the group's variables have their
definitions (`pushedD ds ds.len Δ`) is a `Join` under `Δ` after `applyOps (opsU ds.len ds)`; hence `group_transfer`.
-/

namespace CCPar

open CCSubst WhnfLemmas CheckSound

/-- every substituted term is hole-free: then `Act.ofOps ops` is natural -/
def OpsHF (ops : List (Nat × Tm)) : Prop := ∀ p ∈ ops, p.2.holeFree = true

theorem OpsHF.natural : ∀ {ops : List (Nat × Tm)}, OpsHF ops → (Act.ofOps ops).Natural
  | [], _ => Act.id_natural
  | (i, u) :: _, h =>
      (OpsHF.natural fun p hp => h p (List.mem_cons_of_mem _ hp)).comp
        (Act.subst_natural i (h (i, u) List.mem_cons_self))

section
variable {ops : List (Nat × Tm)} (ho : OpsHF ops)
include ho

theorem applyOps_open (k : Nat) {t u : Tm} (ht : t.holeFree = true) (hu : u.holeFree = true) (i : Nat)
    (h : i ≤ k) :
    applyOps k ops (openT t i u 0) = openT (applyOps (k+1) ops t) i (applyOps k ops u) 0 := by
  simp only [applyOps_eq_trav]
  have := ho.natural.trav_open ht hu (k - i) i
  rwa [Nat.sub_add_cancel h] at this

theorem applyOpsDefs_open (k : Nat) {ds : Defs} {u : Tm} (hd : ds.holeFree = true)
    (hu : u.holeFree = true) (i : Nat) (h : i ≤ k) :
    applyOpsDefs k ops (openDefs ds i u 0) =
      openDefs (applyOpsDefs (k+1) ops ds) i (applyOps k ops u) 0 := by
  simp only [applyOps_eq_trav, applyOpsDefs_eq_trav]
  have := ho.natural.travDefs_open hd hu (k - i) i
  rwa [Nat.sub_add_cancel h] at this

theorem applyOps_unfoldDef (x : Name) (k : Nat) {a d : Tm} (ha : a.holeFree = true)
    (hd : d.holeFree = true) (idx : Nat) (h : idx ≤ k) :
    applyOps k ops (unfoldDef x a d idx) =
      unfoldDef x (applyOps (k+1) ops a) (applyOps (k+1) ops d) idx := by
  simp only [applyOps_eq_trav]
  have := ho.natural.unfoldDef_trav x ha hd (k - idx) idx
  rwa [Nat.sub_add_cancel h] at this

theorem applyOps_holeFree (k : Nat) {t : Tm} (ht : t.holeFree = true) :
    (applyOps k ops t).holeFree = true := by
  rw [applyOps_eq_trav]; exact ho.natural.trav_hf ht k

theorem applyOpsDefs_holeFree (k : Nat) {ds : Defs} (hd : ds.holeFree = true) :
    (applyOpsDefs k ops ds).holeFree = true := by
  rw [applyOpsDefs_eq_trav]; exact ho.natural.travDefs_hf hd k

end

theorem opsU_HF : ∀ (m : Nat) (ds : Defs), ds.holeFree = true → OpsHF (opsU m ds)
  | 0, _, _ => by intro p hp; simp [opsU] at hp
  | _+1, .nil, _ => by intro p hp; simp [opsU] at hp
  | m+1, .cons x a d r, h => by
      simp only [Defs.holeFree, Bool.and_eq_true] at h
      have hu := unfoldDef_holeFree x a d r.len h.1.1 h.1.2
      intro p hp
      simp only [opsU, List.mem_cons] at hp
      rcases hp with rfl | hp
      · exact hu
      · exact opsU_HF m _ (openDefs_holeFree _ _ _ _ h.2 hu) p hp

theorem opsU_ushift_past (d : Tm) : ∀ (m : Nat) (ds : Defs) (k c : Nat), ds.len ≤ m →
    applyOps k (opsU m ds) (ushift 0 (k + ds.len + c) d) = ushift 0 (k + c) d
  | 0, .nil, k, c, _ => by simp [opsU, applyOps, Defs.len]
  | 0, .cons .., _, _, h => by simp at h
  | m+1, .nil, k, c, _ => by simp [opsU, applyOps, Defs.len]
  | m+1, .cons x a dd r, k, c, h => by
      simp only [Defs.len_cons] at h
      simp only [opsU, applyOps, Defs.len_cons]
      rw [show k + (r.len + 1) + c = (k + r.len + c) + 1 by omega]
      rw [open_ushift_past d (k + r.len + c) (r.len + k) _ k (by omega)]
      have := opsU_ushift_past d m (openDefs r r.len (unfoldDef x a dd r.len) 0) k c
        (by rw [openDefs_len]; omega)
      rw [openDefs_len] at this
      exact this


theorem unfoldDef_er (dd : Tm) (v : Nat) :
    unfoldDef 0 .type dd v =
      openT dd v (.letg (.cons 0 .type (openT (ushift 0 1 dd) (v + 1) (Tm.var 0 0) 0) .nil) (Tm.var 0 0)) 0 := by
  unfold unfoldDef
  simp only [ushift, openT]

/-- `let x = d; x` (as built by `unfoldDef`) reduces to `d` with `x` unfolded.  Stated on an erased `dd`
(`er dd = dd`, names `0`): re-binding the self reference is the identity only up to names (`swap_id`). -/
theorem letSelf_pars {Δ : DCtxX} (v N : Nat) (dd : Tm) (hdd : dd.holeFree = true) (hed : er dd = dd) :
    Pars Δ N (.letg (.cons 0 .type (openT (ushift 0 1 dd) (v + 1) (Tm.var 0 0) 0) .nil) (Tm.var 0 0))
      (unfoldDef 0 .type dd v) := by
  have hDf : (openT (ushift 0 1 dd) (v + 1) (Tm.var 0 0) 0).holeFree = true :=
    openT_holeFree _ _ _ _ (by rw [holeFree_ushift]; exact hdd) rfl
  have eD : er (openT (ushift 0 1 dd) (v + 1) (Tm.var 0 0) 0) =
      openT (ushift 0 1 dd) (v + 1) (Tm.var 0 0) 0 := by
    rw [er_openT, er_ushift, hed]; rfl
  generalize hDdef : openT (ushift 0 1 dd) (v + 1) (Tm.var 0 0) 0 = D at hDf eD
  have e0 : unfoldDef 0 .type D 0 = unfoldDef 0 .type dd v := by
    rw [unfoldDef_er D 0, unfoldDef_er dd v, hDdef]
    have s1 := swap_id D 0
    rw [eD, Nat.zero_add] at s1
    rw [s1]
    have s2 := open_self_ref 0 (.letg (.cons 0 .type D .nil) (Tm.var 0 0)) dd 0 v (Nat.zero_le _)
    rw [hDdef] at s2
    exact s2
  have st1 : Par Δ N (.letg (.cons 0 .type D .nil) (Tm.var 0 0))
      (.letg (openDefs .nil 0 (unfoldDef 0 .type D 0) 0) (openT (Tm.var 0 0) 0 (unfoldDef 0 .type D 0) 0)) :=
    Par.letStep (Δ := Δ) (n := N) 0 (r := .nil) (.type _) (Par.refl _ _ hDf) (.nil _) (.var _ _ _)
  simp only [openDefs, openT, if_true, ushift_zero] at st1
  rw [e0] at st1
  have hU : (unfoldDef 0 .type dd v).holeFree = true := unfoldDef_holeFree _ _ _ _ rfl hdd
  exact .tail (.single st1) (.letNil (Par.refl _ _ hU))

section Closure
variable {Δ : DCtxX} (hW : DWF Δ) (hD : DHF Δ)
include hW hD

theorem closure_opsU : ∀ (m : Nat) (ds : Defs) (X Y : Tm), ds.len ≤ m → ds.holeFree = true →
    X.holeFree = true → Y.holeFree = true → Join Δ ds.len X Y →
    Join Δ 0 (applyOps 0 (opsU m ds) X) (applyOps 0 (opsU m ds) Y)
  | 0, .nil, X, Y, _, _, _, _, h => by simpa [opsU, applyOps, Defs.len] using h
  | 0, .cons .., _, _, h, _, _, _, _ => by simp at h
  | m+1, .nil, X, Y, _, _, _, _, h => by simpa [opsU, applyOps, Defs.len] using h
  | m+1, .cons x a d r, X, Y, hm, hds, hX, hY, h => by
      simp only [Defs.len_cons] at hm h
      simp only [Defs.holeFree, Bool.and_eq_true] at hds
      have hu := unfoldDef_holeFree x a d r.len hds.1.1 hds.1.2
      simp only [opsU, applyOps, Nat.add_zero]
      have hs := Join.subst hW hD (Join.refl r.len (unfoldDef x a d r.len)) hu hu r.len
        (Nat.le_refl _) (m := 0) (t := X) (t' := Y) (by simpa using h) hX hY
      simp only [Nat.zero_add, Nat.add_zero] at hs
      have := closure_opsU m (openDefs r r.len (unfoldDef x a d r.len) 0) _ _
        (by rw [openDefs_len]; omega) (openDefs_holeFree _ _ _ _ hds.2 hu)
        (openT_holeFree _ _ _ _ hX hu) (openT_holeFree _ _ _ _ hY hu)
        (by rw [openDefs_len]; exact hs)
      exact this

/-- **unfolding property of a closed group**: after the group's substitutions, a group variable and
its definition are joinable -/
theorem group_unfold : ∀ (m : Nat) (ds : Defs) (x : Name) (v : Nat) (d : Tm), ds.len ≤ m →
    ds.holeFree = true → erDefs ds = ds → defAt ds v = some d →
    Join Δ 0 (applyOps 0 (opsU m ds) (.var x v)) (applyOps 0 (opsU m ds) d)
  | 0, .nil, _, _, _, _, _, _, h => by simp [defAt] at h
  | 0, .cons .., _, _, _, h, _, _, _ => by simp at h
  | m+1, .nil, _, _, _, _, _, _, h => by simp [defAt] at h
  | m+1, .cons y a dd r, x, v, d, hm, hds, he, h => by
      simp only [Defs.len_cons] at hm
      simp only [Defs.holeFree, Bool.and_eq_true] at hds
      simp only [erDefs, Defs.cons.injEq] at he
      obtain ⟨rfl, rfl, hed, her⟩ := he
      have hu := unfoldDef_holeFree 0 .type dd r.len rfl hds.1.2
      have hr' : (openDefs r r.len (unfoldDef 0 .type dd r.len) 0).holeFree = true :=
        openDefs_holeFree _ _ _ _ hds.2 hu
      have her' : erDefs (openDefs r r.len (unfoldDef 0 .type dd r.len) 0) =
          openDefs r r.len (unfoldDef 0 .type dd r.len) 0 := by
        rw [erDefs_openDefs, her, er_unfoldDef, hed]
      simp only [defAt] at h
      simp only [opsU, applyOps, Nat.add_zero]
      split at h
      · next hv =>
        cases h
        subst hv
        simp only [openT, if_true, ushift_zero]
        -- `U ⇒* d[x := U]`
        have hLf : (Tm.letg (.cons 0 .type (openT (ushift 0 1 dd) (r.len + 1) (Tm.var 0 0) 0) .nil)
            (Tm.var 0 0)).holeFree = true := by
          have := openT_holeFree (ushift 0 1 dd) (r.len + 1) (Tm.var 0 0) 0
            (by rw [holeFree_ushift]; exact hds.1.2) rfl
          simp [Tm.holeFree, Defs.holeFree, this]
        have hp : Pars Δ r.len (unfoldDef 0 .type dd r.len)
            (openT dd r.len (unfoldDef 0 .type dd r.len) 0) := by
          have hL := letSelf_pars (Δ := Δ) r.len r.len dd hds.1.2 hed
          have := Pars.subst hW hD hL hLf r.len (Nat.le_refl _) (m := 0) (t := dd) (t' := dd)
            (.refl _) hds.1.2
          simp only [Nat.zero_add, Nat.add_zero] at this
          rw [← unfoldDef_er dd r.len] at this
          exact this
        have := closure_opsU hW hD m (openDefs r r.len (unfoldDef 0 .type dd r.len) 0) _ _
          (by rw [openDefs_len]; omega) hr' hu (openT_holeFree _ _ _ _ hds.1.2 hu)
          (by rw [openDefs_len]; exact Join.of_pars hp)
        exact this
      · next hv =>
        have hlt := defAt_lt r v d h
        have e1 : openT (Tm.var x v) r.len (unfoldDef 0 .type dd r.len) 0 = Tm.var x v := by
          simp only [openT]
          rw [if_neg (by omega), if_neg (by omega)]
        rw [e1]
        exact group_unfold m _ x v _ (by rw [openDefs_len]; omega) hr' her'
          (by rw [defAt_openDefs, h]; rfl)

end Closure


theorem applyOps_delta {op : BinOp} {x y : Int} {r : Tm} (h : delta op x y = some r)
    (ops : List (Nat × Tm)) (k : Nat) : applyOps k ops r = r := by
  rw [applyOps_eq_trav]; exact delta_trav h _ _

theorem applyOps_par_hf {Δ : DCtxX} {ds : Defs} (hds : ds.holeFree = true) (hD : DHF Δ) {m k : Nat}
    {B C : Tm} (h : Par Δ m B C) :
    (applyOps k (opsU ds.len ds) B).holeFree = true ∧ (applyOps k (opsU ds.len ds) C).holeFree = true :=
  ⟨applyOps_holeFree (opsU_HF _ ds hds) _ h.hfL, applyOps_holeFree (opsU_HF _ ds hds) _ (h.hfR hD)⟩

theorem applyOpsDefs_par_hf {Δ : DCtxX} {ds : Defs} (hds : ds.holeFree = true) (hD : DHF Δ) {m k : Nat}
    {B C : Defs} (h : ParDefs Δ m B C) :
    (applyOpsDefs k (opsU ds.len ds) B).holeFree = true ∧
      (applyOpsDefs k (opsU ds.len ds) C).holeFree = true :=
  ⟨applyOpsDefs_holeFree (opsU_HF _ ds hds) _ h.hfL,
    applyOpsDefs_holeFree (opsU_HF _ ds hds) _ (h.hfR hD)⟩

section Transfer
variable {Δ : DCtxX} (hW : DWF Δ) (hD : DHF Δ) (ds : Defs) (hds : ds.holeFree = true)
  (he : erDefs ds = ds)
include hW hD hds he

/-- Under the group's substitutions a step in the group's context becomes a `Join` outside it.  The congruence
rules commute with `applyOps`; a redex is contracted outside after `applyOps` has been pushed through its
substitution (`applyOps_open`, `applyOps_unfoldDef`); a δ-step on a group variable is `group_unfold`, on a variable
of `Δ` the same δ-step (`opsU` does not touch it). -/
theorem group_par {m : Nat} {B C : Tm} (h : Par (pushedD ds ds.len Δ) m B C) :
    Join Δ m (applyOps m (opsU ds.len ds) B) (applyOps m (opsU ds.len ds) C) := by
  have hD' := TypingSound.DHF_pushed hD ds hds
  have hf (k : Nat) {m : Nat} {B C : Tm} (h : Par (pushedD ds ds.len Δ) m B C) :=
    applyOps_par_hf (k := k) hds hD' h
  have hfD (k : Nat) {m : Nat} {B C : Defs} (h : ParDefs (pushedD ds ds.len Δ) m B C) :=
    applyOpsDefs_par_hf (k := k) hds hD' h
  induction h using Par.rec (motive_2 := fun m B C _ =>
    JoinDefs Δ m (applyOpsDefs m (opsU ds.len ds) B) (applyOpsDefs m (opsU ds.len ds) C)) with
  | type | int | bool | tt | ff | lit | var => exact Join.refl _ _
  | delta m x j d off hmj hΔ =>
      rw [applyOps_var_ge x _ m j hmj]
      rcases pushedD_get ds Δ (j - m) d off hΔ with ⟨h1, h2, h3⟩ | ⟨h1, h2⟩
      · -- a variable of the group
        subst h3
        rw [show j + 1 - (j - m + 1) = m by omega, applyOps_ushift]
        have k := group_unfold hW hD ds.len ds x (j - m) d (Nat.le_refl _) hds he h2
        have := Join.shift hW hD m k 0 (Nat.le_refl _)
        rw [Nat.zero_add] at this
        exact this
      · -- a variable of `Δ`
        have hoff := hW _ _ _ h2
        rw [opsU_var_miss x ds.len ds (j - m) (Nat.le_refl _) h1]
        have e1 : j + 1 - off = m + ds.len + (j + 1 - off - m - ds.len) := by omega
        rw [e1, opsU_ushift_past d ds.len ds m _ (Nat.le_refl _)]
        simp only [ushift]
        rw [if_pos (Nat.zero_le _)]
        have := Par.delta (Δ := Δ) m x (j - m - ds.len + m) d off (by omega)
          (by rw [show j - m - ds.len + m - m = j - m - ds.len by omega]; exact h2)
        rw [show j - m - ds.len + m + 1 - off = m + (j + 1 - off - m - ds.len) by omega] at this
        exact Join.of_par this
  | lam x im h1 h2 ih1 ih2 =>
      rw [applyOps_lam, applyOps_lam]
      exact Join.map2 hD (.lam x im) (.lam x im) (hf _ h1).1 (hf _ h1).2 (hf _ h2).1 (hf _ h2).2 ih1 ih2
  | pi x im h1 h2 ih1 ih2 =>
      rw [applyOps_pi, applyOps_pi]
      exact Join.map2 hD (.pi x im) (.pi x im) (hf _ h1).1 (hf _ h1).2 (hf _ h2).1 (hf _ h2).2 ih1 ih2
  | app h1 h2 ih1 ih2 =>
      rw [applyOps_app, applyOps_app]
      exact Join.map2 hD .app .app (hf _ h1).1 (hf _ h1).2 (hf _ h2).1 (hf _ h2).2 ih1 ih2
  | @beta m x im _ _ _ b' _ a' h1 h2 h3 _ ih2 ih3 =>
      rw [applyOps_app, applyOps_lam,
        applyOps_open (opsU_HF ds.len ds hds) m (h2.hfR hD') (h3.hfR hD') 0 (Nat.zero_le _)]
      -- one β step on the left, then the substitution lemma for `Join`
      have st := Par.beta (Δ := Δ) x im (Par.refl _ m (hf m h1).1) (Par.refl _ (m+1) (hf (m+1) h2).1)
        (Par.refl _ m (hf m h3).1)
      have js := Join.subst hW hD ih3 (hf _ h3).1 (hf _ h3).2 0 (Nat.zero_le _) (m := 0) (by
        rw [Nat.zero_add]; exact ih2) (hf _ h2).1 (hf _ h2).2
      rw [Nat.zero_add] at js
      exact Join.trans hW hD (Join.of_par st) js
  | letg h1 h2 ih1 ih2 =>
      rw [applyOps_letg, applyOps_letg]
      have hl := ParDefs.len h1
      refine Join.letg hD (hfD _ h1).1 (hfD _ h1).2 (hf _ h2).1 (hf _ h2).2 ?_ ?_
      · rw [applyOpsDefs_len, hl]
        exact ih1
      · rw [applyOpsDefs_len, hl]
        exact ih2
  | @letStep m x a a' d d' r r' b b' h1 h2 h3 h4 j1 j2 j3 j4 =>
      have hl := ParDefs.len h3
      have ⟨fa, fa'⟩ := hf (m + r.len + 1) h1
      have ⟨fd, fd'⟩ := hf (m + r.len + 1) h2
      have ⟨fr, fr'⟩ := hfD (m + r.len + 1) h3
      have ⟨fb, fb'⟩ := hf (m + r.len + 1) h4
      rw [applyOps_letg, applyOps_letg, applyOpsDefs_cons, openDefs_len, hl]
      simp only [Defs.len_cons, ← Nat.add_assoc]
      have hO := opsU_HF ds.len ds hds
      have hu' := unfoldDef_holeFree x _ _ r.len (h1.hfR hD') (h2.hfR hD')
      rw [applyOps_open hO (m + r.len) (h4.hfR hD') hu' r.len (by omega),
        applyOpsDefs_open hO (m + r.len) (h3.hfR hD') hu' r.len (by omega),
        applyOps_unfoldDef hO x (m + r.len) (h1.hfR hD') (h2.hfR hD') r.len (by omega)]
      -- one group step on the left, then the substitution lemma for `Join` at the joined unfoldings
      have st := Par.letStep_at (Δ := Δ) (n := m) x (applyOpsDefs_len ..) rfl (Par.refl _ _ fa) (Par.refl _ _ fd)
        (ParDefs.refl _ _ fr) (Par.refl _ _ fb)
      refine Join.trans hW hD (Join.of_par st) ?_
      have jU := Join.map2 hD (fun a d => unfoldDef x a d r.len) (Par.unfoldDef_congr hW hD x (N := m)) fa fa' fd fd' j1 j2
      have hU := unfoldDef_holeFree x _ _ r.len fa fd
      have hU' := unfoldDef_holeFree x _ _ r.len fa' fd'
      have jr := JoinDefs.subst hW hD jU hU hU' r.len (by omega) (m := 0) (by
        rw [Nat.zero_add]; exact j3) fr fr'
      have jb := Join.subst hW hD jU hU hU' r.len (by omega) (m := 0) (by
        rw [Nat.zero_add]; exact j4) fb fb'
      simp only [Nat.zero_add, Nat.add_zero] at jr jb
      refine Join.letg hD (openDefs_holeFree _ _ _ _ fr hU) (openDefs_holeFree _ _ _ _ fr' hU')
        (openT_holeFree _ _ _ _ fb hU) (openT_holeFree _ _ _ _ fb' hU') ?_ ?_
      · rw [openDefs_len, applyOpsDefs_len]; exact jr
      · rw [openDefs_len, applyOpsDefs_len]; exact jb
  | @letNil m _ _ h ih =>
      rw [applyOps_letg, applyOpsDefs_nil]
      simp only [Defs.len, Nat.add_zero]
      exact Join.trans hW hD (Join.of_par (.letNil (Par.refl _ m (hf m h).1))) ih
  | neg _ ih =>
      rw [applyOps_neg, applyOps_neg]
      exact Join.neg ih
  | negLit m k =>
      simp only [applyOps_eq_trav, Tm.trav]
      exact Join.of_par (.negLit _ _)
  | bin op h1 h2 ih1 ih2 =>
      rw [applyOps_bin, applyOps_bin]
      exact Join.map2 hD (.bin op) (.bin op) (hf _ h1).1 (hf _ h1).2 (hf _ h2).1 (hf _ h2).2 ih1 ih2
  | arith m op x y r h =>
      rw [applyOps_delta h]
      simp only [applyOps_eq_trav, Tm.trav]
      exact Join.of_par (.arith _ op x y r h)
  | ite h0 h1 h2 ih0 ih1 ih2 =>
      rw [applyOps_ite, applyOps_ite]
      exact Join.ite hD (hf _ h0).1 (hf _ h0).2 (hf _ h1).1 (hf _ h1).2 (hf _ h2).1 (hf _ h2).2 ih0 ih1 ih2
  | @iteT m _ _ _ _ h1 h2 ih1 _ =>
      rw [applyOps_ite, applyOps_eq_trav _ _ .tt, Tm.trav]
      exact Join.trans hW hD
        (Join.of_par (.iteT (Par.refl _ m (hf m h1).1) (Par.refl _ m (hf m h2).1))) ih1
  | @iteF m _ _ _ _ h1 h2 _ ih2 =>
      rw [applyOps_ite, applyOps_eq_trav _ _ .ff, Tm.trav]
      exact Join.trans hW hD
        (Join.of_par (.iteF (Par.refl _ m (hf m h1).1) (Par.refl _ m (hf m h2).1))) ih2
  | nil => rw [applyOpsDefs_nil]; exact JoinDefs.refl _ _
  | cons x h1 h2 h3 ih1 ih2 ih3 =>
      rw [applyOpsDefs_cons, applyOpsDefs_cons]
      exact JoinDefs.cons hD x (hf _ h1).1 (hf _ h1).2 (hf _ h2).1 (hf _ h2).2 (hfD _ h3).1 (hfD _ h3).2 ih1 ih2 ih3

variable (hD' : DHF (pushedD ds ds.len Δ))
include hD'

theorem group_parDefs : ∀ {m : Nat} {B C : Defs}, ParDefs (pushedD ds ds.len Δ) m B C →
    JoinDefs Δ m (applyOpsDefs m (opsU ds.len ds) B) (applyOpsDefs m (opsU ds.len ds) C)
  | _, _, _, .nil _ => by rw [applyOpsDefs_nil]; exact JoinDefs.refl _ _
  | _, _, _, .cons x h1 h2 h3 => by
      rw [applyOpsDefs_cons, applyOpsDefs_cons]
      exact JoinDefs.cons hD x (applyOps_par_hf hds hD' h1).1 (applyOps_par_hf hds hD' h1).2
        (applyOps_par_hf hds hD' h2).1 (applyOps_par_hf hds hD' h2).2
        (applyOpsDefs_par_hf hds hD' h3).1 (applyOpsDefs_par_hf hds hD' h3).2
        (group_par hW hD ds hds he h1) (group_par hW hD ds hds he h2) (group_parDefs h3)

end Transfer


theorem erD_pushedD : ∀ (ds : Defs) (k : Nat) (Δ : DCtxX),
    erD (pushedD ds k Δ) = pushedD (erDefs ds) k (erD Δ)
  | .nil, _, _ => rfl
  | .cons x a d r, k, Δ => by
      simp only [pushedD, erDefs]
      rw [erD_pushedD r (k - 1) _]
      rfl

theorem letg_pars_opsU {Δ : DCtxX} : ∀ (m : Nat) (ds : Defs) (t : Tm), ds.len ≤ m →
    ds.holeFree = true → t.holeFree = true → Pars Δ 0 (.letg ds t) (applyOps 0 (opsU m ds) t)
  | 0, .nil, t, _, _, ht => .single (.letNil (Par.refl _ _ ht))
  | 0, .cons .., t, h, _, _ => by simp at h
  | m+1, .nil, t, _, _, ht => .single (.letNil (Par.refl _ _ ht))
  | m+1, .cons x a d r, t, h, hds, ht => by
      simp only [Defs.len_cons] at h
      simp only [Defs.holeFree, Bool.and_eq_true] at hds
      have hu := unfoldDef_holeFree x a d r.len hds.1.1 hds.1.2
      simp only [opsU, applyOps, Nat.add_zero]
      have st := Par.letStep (Δ := Δ) (n := 0) x (Par.refl a _ hds.1.1) (Par.refl d _ hds.1.2)
        (ParDefs.refl r _ hds.2) (Par.refl t _ ht)
      refine Pars.trans (.single st) ?_
      exact letg_pars_opsU m _ _ (by rw [openDefs_len]; omega) (openDefs_holeFree _ _ _ _ hds.2 hu)
        (openT_holeFree _ _ _ _ ht hu)

theorem pars_transfer {Δ : DCtxX} (hW : DWF Δ) (hD : DHF Δ) (ds : Defs) (hds : ds.holeFree = true)
    (he : erDefs ds = ds) {B C : Tm} (h : Pars (pushedD ds ds.len Δ) 0 B C) :
    Join Δ 0 (applyOps 0 (opsU ds.len ds) B) (applyOps 0 (opsU ds.len ds) C) := by
  induction h with
  | refl => exact Join.refl _ _
  | tail _ hp ih => exact Join.trans hW hD ih (group_par hW hD ds hds he hp)

/-- **Group transfer**: two types joinable under the (transparent) definitions of a group give
joinable closed groups. -/
theorem group_transfer (Δ : DCtxX) (ds : Defs) (b b' : Tm) (hW : DWF Δ) (hj : Join (erD (pushedD ds ds.len Δ)) 0 (er b) (er b')) :
    Join (erD Δ) 0 (er (.letg ds b)) (er (.letg ds b')) := by
  have hWe := DWF_erD hW
  have hDe := DHF_erD Δ
  rw [erD_pushedD, ← erDefs_len ds] at hj
  obtain ⟨c, p1, p2⟩ := hj
  have j1 := pars_transfer hWe hDe (erDefs ds) (erDefs_holeFree ds) (erDefs_erDefs ds) p1
  have j2 := pars_transfer hWe hDe (erDefs ds) (erDefs_holeFree ds) (erDefs_erDefs ds) p2
  have l1 := letg_pars_opsU (Δ := erD Δ) (erDefs ds).len (erDefs ds) (er b) (Nat.le_refl _)
    (erDefs_holeFree ds) (er_holeFree b)
  have l2 := letg_pars_opsU (Δ := erD Δ) (erDefs ds).len (erDefs ds) (er b') (Nat.le_refl _)
    (erDefs_holeFree ds) (er_holeFree b')
  simp only [er]
  exact Join.trans hWe hDe (Join.of_pars l1)
    (Join.trans hWe hDe (Join.trans hWe hDe j1 j2.symm) (Join.of_pars l2).symm)

end CCPar
