import GramModel.Parser

/-!
# `sortDedup` (the model of `HashSet → Vec → sort_unstable` in `check_definition`) depends on its
argument only as a *set*: any iteration order of the hash set, with any multiplicity, gives the same
visiting order.
-/

namespace PModel

theorem mem_insertSorted (x y : Nat) : ∀ (l : List Nat), y ∈ insertSorted x l ↔ y = x ∨ y ∈ l
  | [] => by rw [insertSorted, List.mem_singleton, or_iff_left List.not_mem_nil]
  | z :: zs => by
      unfold insertSorted
      split
      · exact List.mem_cons
      · split
        · subst x; rw [List.mem_cons, or_self_left]
        · rw [List.mem_cons, List.mem_cons, mem_insertSorted x y zs, or_left_comm]

theorem mem_sortDedup (y : Nat) : ∀ (l : List Nat), y ∈ sortDedup l ↔ y ∈ l
  | [] => by simp [sortDedup]
  | x :: xs => by
      have ih := mem_sortDedup y xs
      simp only [sortDedup, List.foldr_cons] at ih ⊢
      rw [mem_insertSorted, ih]; simp

theorem pairwise_insertSorted (x : Nat) : ∀ (l : List Nat), l.Pairwise (· < ·) → (insertSorted x l).Pairwise (· < ·)
  | [], _ => List.pairwise_singleton _ x
  | z :: zs, h => by
      unfold insertSorted
      have hz := List.pairwise_cons.mp h
      split
      · rename_i h1
        refine List.pairwise_cons.mpr ⟨?_, h⟩
        intro a ha
        rcases List.mem_cons.mp ha with rfl | ha
        · exact h1
        · exact Nat.lt_trans h1 (hz.1 a ha)
      · split
        · exact h
        · rename_i h1 h2
          refine List.pairwise_cons.mpr ⟨?_, pairwise_insertSorted x zs hz.2⟩
          intro a ha
          rcases (mem_insertSorted x a zs).mp ha with rfl | ha
          · omega
          · exact hz.1 a ha

theorem pairwise_sortDedup : ∀ (l : List Nat), (sortDedup l).Pairwise (· < ·)
  | [] => by simp [sortDedup]
  | x :: xs => by
      have ih := pairwise_sortDedup xs
      simp only [sortDedup, List.foldr_cons] at ih ⊢
      exact pairwise_insertSorted x _ ih

/-- Strictly ascending lists have no duplicates, so equal sets make them permutations of each
other, and a sorted permutation is unique. -/
theorem strictSorted_ext (a b : List Nat) (ha : a.Pairwise (· < ·)) (hb : b.Pairwise (· < ·))
    (h : ∀ x, x ∈ a ↔ x ∈ b) : a = b :=
  List.Perm.eq_of_pairwise (fun _ _ _ _ h1 h2 => absurd h2 (Nat.lt_asymm h1)) ha hb
    ((List.perm_ext_iff_of_nodup (ha.imp Nat.ne_of_lt) (hb.imp Nat.ne_of_lt)).2 h)

theorem sortDedup_set (xs ys : List Nat) (h : ∀ x, x ∈ xs ↔ x ∈ ys) : sortDedup xs = sortDedup ys :=
  strictSorted_ext _ _ (pairwise_sortDedup xs) (pairwise_sortDedup ys)
    (fun x => by rw [mem_sortDedup, mem_sortDedup, h])

end PModel
