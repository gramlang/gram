import GramModel.Lemmas.PrintedSentence
import GramModel.Lemmas.GrammarSentences
import GramModel.Props.C07

/-!
# What the printer prints is a sentence of `grammar.y` (printer side of C16)

`print_derives`: a term without an implicit non-dependent function type and without a negative
literal prints to a sentence of `term`.  It is `PModel.sentence` (the printed kinds are a `SegT`
sentence, `Lemmas/PrintedSentence.lean`) read through `PModel.Seg.derives` on the token array made of
the printed kinds (`Par.derives`, on the token array `toksOfKinds`; declared into `PModel`).  `defs_derive`, a definition
group in front of any sentence, is derived in the grammar itself, production by production (`rule`, `d_let`).  Both
exclusions are necessary (`{int} -> int`, `-1 -> B` are no sentences; `f -1` and `f - 1` are the same tokens).
The rest declares into `PrintDerives`.
-/

namespace PModel
open PrintDerives

theorem terminalOf_kindP (I : List Char → Name) (k : TokKind) :
    terminalOf (kindP I k) = kindTerminal k := by cases k <;> rfl

def toksOfKinds (ks : List PKind) : Array PTok := (ks.map fun k => ⟨k, ⟨0, 0⟩⟩).toArray

theorem toksOfKinds_kinds (ks : List PKind) : (toksOfKinds ks).toList.map (·.kind) = ks := by
  simp [toksOfKinds, Function.comp_def]

theorem toksOfKinds_kseg (ks : List PKind) : KSeg (toksOfKinds ks) 0 (toksOfKinds ks).size ks := by
  obtain ⟨h, hn⟩ := Sub_of_kinds (toksOfKinds_kinds ks)
  exact ⟨h, by rw [hn, Nat.zero_add]⟩

theorem Par.derives {I : List Char → Name} {l : List Item} {A : NT} {e : Src}
    (h : Par (toksOfKinds (kP I l)) A 0 (toksOfKinds (kP I l)).size e) :
    Derives Generated.grammarProductions (nonterminalOf A) (toksOf l) := by
  obtain ⟨tr, hs, _⟩ := h
  have := hs.toSeg.derives.2
  rw [terminalsBetween_all] at this
  simpa [toksOfKinds, kP, toksOf, Function.comp_def, terminalOf_kindP] using this

end PModel

namespace PrintDerives
open PModel (Par.derives toksOfKinds_kseg sentence group_par annot_par head_par)

theorem print_derives (nm : Name → List Char) (t : Tm) (h1 : noImplicitArrow t = true)
    (h2 : noNegLit t = true) : Derives Generated.grammarProductions "term" (printToks nm t) :=
  -- any interning of names will do: a terminal forgets the name (`terminalOf_kindP`)
  Par.derives (I := fun _ => 0) (sentence _ _ nm t h1 h2 _ _ (toksOfKinds_kseg _)).term

theorem group_derives (nm : Name → List Char) (t : Tm) (h1 : noImplicitArrow t = true)
    (h2 : noNegLit t = true) : Derives Generated.grammarProductions "atom" (groupToks nm t) :=
  Par.derives (I := fun _ => 0) (group_par (toksOfKinds_kseg _) (sentence _ _ nm t h1 h2))

theorem annot_derives (nm : Name → List Char) (t : Tm) (h1 : noImplicitArrow t = true)
    (h2 : noNegLit t = true) : Derives Generated.grammarProductions "jumbo_term" (annotToks nm t) :=
  Par.derives (I := fun _ => 0) (annot_par (toksOfKinds_kseg _) (sentence _ _ nm t h1 h2))

theorem head_derives (nm : Name → List Char) (t : Tm) (h1 : noImplicitArrow t = true)
    (h2 : noNegLit t = true) : Derives Generated.grammarProductions "small_term" (headToks nm t) :=
  Par.derives (I := fun _ => 0) (head_par (toksOfKinds_kseg _) (sentence _ _ nm t h1 h2)).small

/-! A definition group: stated for an arbitrary sentence `w` behind the definitions, so in the grammar itself. -/

/-- Production number `n` of `grammar.y` (the rows of `Generated.grammarProductions`, counted from 0).
Membership by position: checking `G[n]? = some (A, rhs)` compares the literals of one row, where
deciding `(A, rhs) ∈ G` decides string equality down the whole list.  The numbers used below are positions in
`Generated/Grammar.lean`, which is regenerated from `/repo/grammar.y`: when the grammar changes, the `rfl` for `hn` fails at
the call whose row has moved, and the new position is read off that file. -/
theorem rule (n : Nat) {A : String} {rhs w : List String} (hs : DerivesSeq G rhs w)
    (hn : G[n]? = some (A, rhs) := by rfl) : Derives G A w :=
  .prod (List.mem_of_getElem? hn) hs

theorem termK (k : TokKind) {rest w : List String} (hs : DerivesSeq G rest w) :
    DerivesSeq G (kindTerminal k :: rest) (kindTerminal k :: w) :=
  .term (kindTerminal_mem k) hs

/-- a nonterminal in last position (`.nonterm h .nil` derives `w ++ []`) -/
theorem lastSym {A : String} {w : List String} (h : Derives G A w) : DerivesSeq G [A] w := by
  simpa using DerivesSeq.nonterm h .nil

theorem d_unit (n : Nat) {A B : String} {w : List String} (h : Derives G B w)
    (hn : G[n]? = some (A, [B]) := by rfl) : Derives G A w :=
  rule n (lastSym h) hn

/-- the unit productions `small_term → atom` (41) and, above it, 44, 46, 49, 55, 64, 1 up to `term` -/
theorem up_small {w : List String} (h : Derives G "atom" w) : Derives G "small_term" w := d_unit 41 h

theorem atom_term {w : List String} (h : Derives G "atom" w) : Derives G "term" w :=
  d_unit 1 (d_unit 64 (d_unit 55 (d_unit 49 (d_unit 46 (d_unit 44 (up_small h))))))

/-- productions 0 (`term → let`), 12 (`let`) and 14 (`let_annotation`) -/
theorem d_let {A D B : List String} (hA : Derives G "small_term" A) (hD : Derives G "term" D)
    (hB : Derives G "term" B) :
    Derives G "term" ("IDENTIFIER" :: "COLON" :: (A ++ "EQUALS" :: (D ++ "TERMINATOR" :: B))) :=
  d_unit 0 (rule 12 (termK (.identifier []) (.nonterm (rule 14 (termK .colon (lastSym hA)))
    (termK .equals (.nonterm hD (termK .terminatorSemicolon (lastSym hB)))))))

theorem defs_derive (nm : Name → List Char) :
    ∀ ds : Defs, noImplicitArrowDefs ds = true → noNegLitDefs ds = true →
      ∀ w, Derives G "term" w → Derives G "term" (defsToks nm ds ++ w)
  | .nil, _, _, w, hw => by simpa [defsToks_nil] using hw
  | .cons x a d r, h1, h2, w, hw => by
      simp only [noImplicitArrowDefs, noNegLitDefs, Bool.and_eq_true] at h1 h2
      have := d_let (up_small (group_derives nm a h1.1.1 h2.1.1))
        (atom_term (group_derives nm d h1.1.2 h2.1.2)) (defs_derive nm r h1.2 h2.2 w hw)
      rw [defsToks_cons]
      simpa using this

/-- **KF-print-implicit**: the implicit non-dependent function type `{int} -> int` is printed as
`LEFT_CURLY INTEGER RIGHT_CURLY THIN_ARROW INTEGER`, which no nonterminal of `grammar.y` derives. -/
theorem implicit_arrow_not_derivable (nm : Name → List Char) (x : Name) (A : String) :
    ¬ Derives Generated.grammarProductions A (printToks nm (.pi x true .int .int)) := by
  intro h
  have := derives_lcOk h
  rw [printToks_pi_imp nm x .int .int (by decide), printToks_int] at this
  exact absurd this (by decide)

theorem implicit_arrow_lcOk_false (nm : Name → List Char) (x : Name) (d c : Tm)
    (hf : freeAt c 0 = false) (hd : ∀ r, printToks nm d ≠ "IDENTIFIER" :: r) :
    lcOk (printToks nm (.pi x true d c)) = false := by
  rw [printToks_pi_imp nm x d c hf]
  cases h : printToks nm d with
  | nil => simp [lcOk]
  | cons b r =>
    have hb : b ≠ "IDENTIFIER" := fun e => hd r (by rw [h, e])
    simp [lcOk, hb]

/-! `group` treats every integer literal as atomic, but a negative one is printed with a leading `-`:
two tokens, `MINUS INTEGER_LITERAL`.  As an argument it is read back as a subtraction. -/

theorem negative_literal_ambiguous (nm : Name → List Char) (f : Tm) (n : Nat) (hf : atomic f = true) :
    printKinds nm (.app f (.lit (.negSucc n))) = printKinds nm (.bin .diff f (.lit (.ofNat (n + 1)))) := by
  have hh : wrapHeadI f (printItems nm f) = wrapGroupI f (printItems nm f) := by
    cases f <;> first
      | rfl
      | simp [atomic, Tm.former, Former.bare] at hf
  simp [printKinds, printItems, appItems, binItems, hh, wrapGroupI, atomic, Tm.former, Former.bare,
    intItems, kindsOf, tk, tkS, opKind]

theorem negative_literal_domain_not_derivable (nm : Name → List Char) (x : Name) (n : Nat) (c : Tm)
    (hf : freeAt c 0 = false) :
    ¬ Derives Generated.grammarProductions "term" (printToks nm (.pi x false (.lit (.negSucc n)) c)) := by
  rw [printToks_arrow nm x _ c hf]
  exact minus_literal_arrow_not_derivable _

end PrintDerives

