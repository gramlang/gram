import GramModel.Parser

/-! # Three laws of `check_definitions`

It only appends to the error vector (`checkDefinitions_app`), it never reads the range of the root node
(`checkDefinitions_top`), and the NUMBER of diagnostics it appends only depends on the de Bruijn term
(`checkDefinitions_cnt`).  The first and the last are shown level by level: `checkVariables`,
`checkDefinition`, `checkEachDefinition`, `checkDefinitions`.  Declares into namespace `ParenTokens`. -/

namespace ParenTokens
open PModel

def appSt (es : List PErr) (p : CheckSt) : CheckSt := (p.1, es ++ p.2)

theorem checkVariables_app (defs : Array (Name × RTm × RTm)) (start : Nat)
    (rec : Nat → CheckSt → Option CheckSt)
    (hrec : ∀ i v es, rec i (v, es) = (rec i (v, [])).map (appSt es)) :
    ∀ (vars : List Nat) (v : List Nat) (es : List PErr),
      checkVariables defs start rec vars (v, es) =
        (checkVariables defs start rec vars (v, [])).map (appSt es)
  | [], v, es => by simp [checkVariables, appSt]
  | var :: rest, v, es => by
      have ih := checkVariables_app defs start rec hrec rest
      simp only [checkVariables]
      split
      · split
        · exact ih v es
        · split
          · rw [hrec]
            cases rec (defs.size - 1 - var) ((defs.size - 1 - var) :: v, []) with
            | none => rfl
            | some st =>
              obtain ⟨v', e'⟩ := st
              simp only [Option.map_some, appSt]
              rw [ih v' (es ++ e'), ih v' e', Option.map_map]
              congr 1; funext p; simp [appSt, List.append_assoc]
          · split
            · rw [ih _ (es ++ _), ih _ ([] ++ _), Option.map_map]
              congr 1; funext p; simp [appSt, List.append_assoc]
            · exact ih _ es
      · exact ih v es

theorem checkDefinition_app (defs : Array (Name × RTm × RTm)) (start : Nat) :
    ∀ (fuel cur : Nat) (v : List Nat) (es : List PErr),
      checkDefinition defs start fuel cur (v, es) =
        (checkDefinition defs start fuel cur (v, [])).map (appSt es)
  | 0, _, _, _ => by simp [checkDefinition]
  | fuel + 1, cur, v, es => by
      simp only [checkDefinition]
      exact checkVariables_app defs start _ (fun i v es => checkDefinition_app defs start fuel i v es)
        _ v es

theorem checkEachDefinition_app (defs : Array (Name × RTm × RTm)) :
    ∀ (is : List Nat) (es : List PErr),
      checkEachDefinition defs is es = (checkEachDefinition defs is []).map (es ++ ·)
  | [], es => by simp [checkEachDefinition, Except.map]
  | i :: rest, es => by
      have ih := checkEachDefinition_app defs rest
      simp only [checkEachDefinition]
      split
      · rw [checkDefinition_app]
        cases checkDefinition defs i (defs.size + 1) i ([], []) with
        | none => rfl
        | some st =>
          obtain ⟨v', e'⟩ := st
          simp only [Option.map_some, appSt]
          rw [ih (es ++ e'), ih e']
          cases checkEachDefinition defs rest [] <;> simp only [Except.map, List.append_assoc]
      · exact ih es

theorem except_map_map {ε α β γ : Type} (f : α → β) (g : β → γ) (x : Except ε α) :
    (x.map f).map g = x.map (g ∘ f) := by cases x <;> rfl

theorem seq_app {f g : List PErr → Except Fail (List PErr)}
    (hf : ∀ es, f es = (f []).map (es ++ ·)) (hg : ∀ es, g es = (g []).map (es ++ ·)) (es : List PErr) :
    (match f es with | .ok e => g e | .error x => .error x) =
      (match f [] with | .ok e => g e | .error x => .error x).map (es ++ ·) := by
  rw [hf es]
  cases f [] with
  | error x => rfl
  | ok e1 =>
    simp only [Except.map]
    rw [hg (es ++ e1), hg e1]
    cases g [] <;> simp only [Except.map, List.append_assoc]

theorem seq_app' {f g : List PErr → Except Fail (List PErr)}
    (hf : ∀ es, f es = (f []).map (es ++ ·)) (hg : ∀ es, g es = (g []).map (es ++ ·)) (es : List PErr) :
    (match f es with | .error x => Except.error x | .ok e => g e) =
      (match f [] with | .error x => Except.error x | .ok e => g e).map (es ++ ·) := by
  have sw : ∀ x : Except Fail (List PErr),
      (match x with | .error y => Except.error y | .ok e => g e) =
        (match x with | .ok e => g e | .error y => Except.error y) := fun x => by cases x <;> rfl
  rw [sw, sw]
  exact seq_app hf hg es

theorem checkDefinitions_app (t : RTm) : ∀ (depth : Nat) (es : List PErr),
    checkDefinitions t depth es = (checkDefinitions t depth []).map (es ++ ·) := by
  induction t using RTm.rec
    (motive_2 := fun v => ∀ (r : Option SourceRange) (depth : Nat) (es : List PErr),
      checkDefinitions (.mk r v) depth es = (checkDefinitions (.mk r v) depth []).map (es ++ ·))
    (motive_3 := fun ds => ∀ (depth : Nat) (es : List PErr),
      checkDefinitionsDefs ds depth es = (checkDefinitionsDefs ds depth []).map (es ++ ·)) with
  | mk r v ih => exact ih r
  | hole => simp only [checkDefinitions]; split <;> simp [Except.map]
  | type | int | bool | tt | ff | lit | var => simp [checkDefinitions, Except.map]
  | lam x imp d b ihd ihb | pi x imp d b ihd ihb =>
      rename_i r depth es
      simp only [checkDefinitions]
      exact seq_app (ihd depth) (ihb (depth + 1)) es
  | app f a ihf iha | bin o f a ihf iha =>
      rename_i r depth es
      simp only [checkDefinitions]
      exact seq_app (ihf depth) (iha depth) es
  | letg ds b ihd ihb =>
      rename_i r depth es
      simp only [checkDefinitions]
      exact seq_app' (checkEachDefinition_app _ _) (seq_app (ihd _) (ihb _)) es
  | neg a ih => rename_i r depth es; simp only [checkDefinitions]; exact ih depth es
  | ite c a b ihc iha ihb =>
      rename_i r depth es
      simp only [checkDefinitions]
      exact seq_app (ihc depth) (seq_app (iha depth) (ihb depth)) es
  | nil => simp [checkDefinitionsDefs, Except.map]
  | cons x a d r iha ihd ihr =>
      rename_i depth es
      simp only [checkDefinitionsDefs]
      exact seq_app (ihd depth) (ihr depth) es

theorem checkDefinitionsDefs_app : ∀ (ds : RDefs) (depth : Nat) (es : List PErr),
    checkDefinitionsDefs ds depth es = (checkDefinitionsDefs ds depth []).map (es ++ ·)
  | .nil, _, _ => by simp [checkDefinitionsDefs, Except.map]
  | .cons x a d r, depth, es => by
      simp only [checkDefinitionsDefs]
      exact seq_app (checkDefinitions_app d depth) (checkDefinitionsDefs_app r depth) es

theorem checkDefinitions_top {t t' : RTm} (h : t'.variant = t.variant) (depth : Nat)
    (es : List PErr) : checkDefinitions t' depth es = checkDefinitions t depth es := by
  obtain ⟨r, v⟩ := t
  obtain ⟨r', v'⟩ := t'
  simp only [RTm.variant] at h
  subst h
  cases v' <;> simp only [checkDefinitions]

/-! `check_definitions` reads of the resolved term: its shape, `isValue` / `freeVars` of the erased
definitions, and source ranges only to put them into diagnostics. -/

/-- two definition vectors `check_definition` cannot tell apart as far as counting goes -/
structure ArrC (A B : Array (Name × RTm × RTm)) : Prop where
  size : A.size = B.size
  val : ∀ i : Nat, isValue (A[i]!).2.2.erase = isValue (B[i]!).2.2.erase
  fv : ∀ i : Nat, freeVars (A[i]!).2.2.erase 0 = freeVars (B[i]!).2.2.erase 0

def cnt (p : CheckSt) : List Nat × Nat := (p.1, p.2.length)

theorem map_cnt_cases {x y : Option CheckSt} (h : x.map cnt = y.map cnt) :
    (x = none ∧ y = none) ∨ ∃ v e1 e2, x = some (v, e1) ∧ y = some (v, e2) ∧ e1.length = e2.length := by
  cases x with
  | none => cases y with
    | none => exact .inl ⟨rfl, rfl⟩
    | some _ => cases h
  | some p => cases y with
    | none => cases h
    | some q =>
      obtain ⟨v, e1⟩ := p
      obtain ⟨w, e2⟩ := q
      simp only [Option.map_some, cnt, Option.some.injEq, Prod.mk.injEq] at h
      obtain ⟨rfl, hl⟩ := h
      exact .inr ⟨v, e1, e2, rfl, rfl, hl⟩

theorem checkVariables_cnt {A B : Array (Name × RTm × RTm)} (h : ArrC A B) (start : Nat)
    (recA recB : Nat → CheckSt → Option CheckSt)
    (hrec : ∀ i v e1 e2, e1.length = e2.length →
      (recA i (v, e1)).map cnt = (recB i (v, e2)).map cnt) :
    ∀ (vars : List Nat) (v : List Nat) (e1 e2 : List PErr), e1.length = e2.length →
      (checkVariables A start recA vars (v, e1)).map cnt =
        (checkVariables B start recB vars (v, e2)).map cnt
  | [], v, e1, e2, hl => by simp [checkVariables, cnt, hl]
  | var :: rest, v, e1, e2, hl => by
      have ih := checkVariables_cnt h start recA recB hrec rest
      simp only [checkVariables, h.size, h.val]
      split
      · split
        · exact ih v e1 e2 hl
        · split
          · rcases map_cnt_cases (hrec (B.size - 1 - var) ((B.size - 1 - var) :: v) e1 e2 hl) with
              ⟨ha, hb⟩ | ⟨v', f1, f2, ha, hb, hl'⟩
            · rw [ha, hb]
            · rw [ha, hb]; exact ih v' f1 f2 hl'
          · split
            · exact ih _ _ _ (by simp [hl])
            · exact ih _ e1 e2 hl
      · exact ih v e1 e2 hl

theorem checkDefinition_cnt {A B : Array (Name × RTm × RTm)} (h : ArrC A B) (start : Nat) :
    ∀ (fuel cur : Nat) (v : List Nat) (e1 e2 : List PErr), e1.length = e2.length →
      (checkDefinition A start fuel cur (v, e1)).map cnt =
        (checkDefinition B start fuel cur (v, e2)).map cnt
  | 0, _, _, _, _, _ => by simp [checkDefinition]
  | fuel + 1, cur, v, e1, e2, hl => by
      simp only [checkDefinition, h.fv]
      exact checkVariables_cnt h start _ _
        (fun i v e1 e2 hl => checkDefinition_cnt h start fuel i v e1 e2 hl) _ v e1 e2 hl

theorem checkEachDefinition_cnt {A B : Array (Name × RTm × RTm)} (h : ArrC A B) :
    ∀ (is : List Nat) (e1 e2 : List PErr), e1.length = e2.length →
      (checkEachDefinition A is e1).map List.length = (checkEachDefinition B is e2).map List.length
  | [], e1, e2, hl => by simp [checkEachDefinition, Except.map, hl]
  | i :: rest, e1, e2, hl => by
      have ih := checkEachDefinition_cnt h rest
      simp only [checkEachDefinition, h.val, h.size]
      split
      · rcases map_cnt_cases (checkDefinition_cnt h i (B.size + 1) i [] e1 e2 hl) with
          ⟨ha, hb⟩ | ⟨v', f1, f2, ha, hb, hl'⟩
        · rw [ha, hb]
        · rw [ha, hb]; exact ih f1 f2 hl'
      · exact ih e1 e2 hl

theorem getElem!_cons_toArray {α : Type} [Inhabited α] (x : α) (l : List α) :
    ((x :: l).toArray[0]! = x) ∧ ∀ i, (x :: l).toArray[i + 1]! = l.toArray[i]! := by
  constructor
  · simp
  · intro i; simp [List.getElem!_eq_getElem?_getD]

theorem arrC_of_erase : ∀ (ds ds' : RDefs), ds.erase = ds'.erase →
    ds.len = ds'.len ∧ ds.toList.length = ds'.toList.length ∧
      ∀ i : Nat, (ds.toList.toArray[i]!).2.2.erase = (ds'.toList.toArray[i]!).2.2.erase
  | .nil, .nil, _ => ⟨rfl, rfl, fun _ => rfl⟩
  | .nil, .cons _ _ _ _, h => by simp [RDefs.erase] at h
  | .cons _ _ _ _, .nil, h => by simp [RDefs.erase] at h
  | .cons x a d r, .cons x' a' d' r', h => by
      simp only [RDefs.erase, Defs.cons.injEq] at h
      obtain ⟨_, _, hd, hr⟩ := h
      obtain ⟨h1, h2, h3⟩ := arrC_of_erase r r' hr
      refine ⟨by simp [RDefs.len, h1], by simp [RDefs.toList, h2], ?_⟩
      intro i
      simp only [RDefs.toList]
      cases i with
      | zero => rw [(getElem!_cons_toArray _ _).1, (getElem!_cons_toArray _ _).1]; exact hd
      | succ i => rw [(getElem!_cons_toArray _ _).2, (getElem!_cons_toArray _ _).2]; exact h3 i

theorem arrC_of_erase' {ds ds' : RDefs} (h : ds.erase = ds'.erase) :
    ArrC ds.toList.toArray ds'.toList.toArray := by
  obtain ⟨_, h2, h3⟩ := arrC_of_erase ds ds' h
  exact ⟨by simpa using h2, fun i => by rw [h3 i], fun i => by rw [h3 i]⟩

theorem except_len_cases {x y : Except Fail (List PErr)}
    (h : x.map List.length = y.map List.length) :
    (∃ f, x = .error f ∧ y = .error f) ∨ ∃ e1 e2, x = .ok e1 ∧ y = .ok e2 ∧ e1.length = e2.length := by
  cases x with
  | error f => cases y with
    | error g => simp only [Except.map, Except.error.injEq] at h; subst h; exact .inl ⟨f, rfl, rfl⟩
    | ok _ => simp [Except.map] at h
  | ok e1 => cases y with
    | error g => simp [Except.map] at h
    | ok e2 => simp only [Except.map, Except.ok.injEq] at h; exact .inr ⟨e1, e2, rfl, rfl, h⟩

theorem seq_cnt {f f' g g' : List PErr → Except Fail (List PErr)}
    (hf : ∀ e1 e2, e1.length = e2.length → (f e1).map List.length = (f' e2).map List.length)
    (hg : ∀ e1 e2, e1.length = e2.length → (g e1).map List.length = (g' e2).map List.length)
    (e1 e2 : List PErr) (hl : e1.length = e2.length) :
    (match f e1 with | .ok e => g e | .error x => .error x).map List.length =
      (match f' e2 with | .ok e => g' e | .error x => .error x).map List.length := by
  rcases except_len_cases (hf e1 e2 hl) with ⟨x, ha, hb⟩ | ⟨f1, f2, ha, hb, hl'⟩
  · rw [ha, hb]
  · rw [ha, hb]; exact hg f1 f2 hl'

/-- equal erasures have the same constructor at every node; the arms are then sequenced by `seq_cnt` -/
theorem checkDefinitions_cnt (t : RTm) : ∀ (u : RTm) (depth : Nat) (e1 e2 : List PErr),
    t.erase = u.erase → e1.length = e2.length →
    (checkDefinitions t depth e1).map List.length = (checkDefinitions u depth e2).map List.length := by
  induction t using RTm.rec
    (motive_2 := fun v => ∀ (r : Option SourceRange) (u : RTm) (depth : Nat) (e1 e2 : List PErr),
      (RTm.mk r v).erase = u.erase → e1.length = e2.length →
      (checkDefinitions (.mk r v) depth e1).map List.length =
        (checkDefinitions u depth e2).map List.length)
    (motive_3 := fun ds => ∀ (ds' : RDefs) (depth : Nat) (e1 e2 : List PErr),
      ds.erase = ds'.erase → e1.length = e2.length →
      (checkDefinitionsDefs ds depth e1).map List.length =
        (checkDefinitionsDefs ds' depth e2).map List.length) with
  | mk r v ih => exact ih r
  | hole =>
      rename_i r u depth e1 e2 he hl
      obtain ⟨_, v'⟩ := u
      cases v' <;> simp only [RTm.erase, reduceCtorEq, Tm.hole.injEq] at he
      obtain ⟨_, rfl⟩ := he
      simp only [checkDefinitions]; split <;> simp [Except.map, hl]
  | type | int | bool | tt | ff | lit | var =>
      rename_i r u depth e1 e2 he hl
      obtain ⟨_, v'⟩ := u
      cases v' <;> simp only [RTm.erase, reduceCtorEq] at he <;>
        simp [checkDefinitions, Except.map, hl]
  | lam x imp d b ihd ihb | pi x imp d b ihd ihb =>
      rename_i r u depth e1 e2 he hl
      obtain ⟨_, v'⟩ := u
      cases v' <;> simp only [RTm.erase, reduceCtorEq, Tm.lam.injEq, Tm.pi.injEq] at he
      obtain ⟨_, _, hd, hb⟩ := he
      simp only [checkDefinitions]
      exact seq_cnt (fun e1 e2 => ihd _ depth e1 e2 hd) (fun e1 e2 => ihb _ (depth + 1) e1 e2 hb) e1 e2 hl
  | app f a ihf iha =>
      rename_i r u depth e1 e2 he hl
      obtain ⟨_, v'⟩ := u
      cases v' <;> simp only [RTm.erase, reduceCtorEq, Tm.app.injEq] at he
      simp only [checkDefinitions]
      exact seq_cnt (fun e1 e2 => ihf _ depth e1 e2 he.1) (fun e1 e2 => iha _ depth e1 e2 he.2) e1 e2 hl
  | letg ds b ihd ihb =>
      rename_i r u depth e1 e2 he hl
      obtain ⟨_, v'⟩ := u
      cases v' <;> simp only [RTm.erase, reduceCtorEq, Tm.letg.injEq] at he
      obtain ⟨hds, hb⟩ := he
      have hA := arrC_of_erase' hds
      have hlen := (arrC_of_erase _ _ hds).1
      simp only [checkDefinitions, hA.size, hlen]
      rcases except_len_cases (checkEachDefinition_cnt hA (List.range _) e1 e2 hl) with
        ⟨x, ha, hb'⟩ | ⟨f1, f2, ha, hb', hl'⟩
      · rw [ha, hb']
      · rw [ha, hb']
        exact seq_cnt (fun e1 e2 => ihd _ _ e1 e2 hds) (fun e1 e2 => ihb _ _ e1 e2 hb) f1 f2 hl'
  | neg a ih =>
      rename_i r u depth e1 e2 he hl
      obtain ⟨_, v'⟩ := u
      cases v' <;> simp only [RTm.erase, reduceCtorEq, Tm.neg.injEq] at he
      simp only [checkDefinitions]
      exact ih _ depth e1 e2 he hl
  | bin o a b iha ihb =>
      rename_i r u depth e1 e2 he hl
      obtain ⟨_, v'⟩ := u
      cases v' <;> simp only [RTm.erase, reduceCtorEq, Tm.bin.injEq] at he
      simp only [checkDefinitions]
      exact seq_cnt (fun e1 e2 => iha _ depth e1 e2 he.2.1) (fun e1 e2 => ihb _ depth e1 e2 he.2.2) e1 e2 hl
  | ite c a b ihc iha ihb =>
      rename_i r u depth e1 e2 he hl
      obtain ⟨_, v'⟩ := u
      cases v' <;> simp only [RTm.erase, reduceCtorEq, Tm.ite.injEq] at he
      simp only [checkDefinitions]
      exact seq_cnt (fun e1 e2 => ihc _ depth e1 e2 he.1)
        (seq_cnt (fun e1 e2 => iha _ depth e1 e2 he.2.1) (fun e1 e2 => ihb _ depth e1 e2 he.2.2)) e1 e2 hl
  | nil =>
      rename_i ds' depth e1 e2 h hl
      cases ds' with
      | nil => simp [checkDefinitionsDefs, Except.map, hl]
      | cons => simp [RDefs.erase] at h
  | cons x a d r iha ihd ihr =>
      rename_i ds' depth e1 e2 h hl
      cases ds' with
      | nil => simp [RDefs.erase] at h
      | cons x' a' d' r' =>
        simp only [RDefs.erase, Defs.cons.injEq] at h
        simp only [checkDefinitionsDefs]
        exact seq_cnt (fun e1 e2 => ihd _ depth e1 e2 h.2.2.1) (fun e1 e2 => ihr _ depth e1 e2 h.2.2.2)
          e1 e2 hl

theorem checkDefinitionsDefs_cnt : ∀ (ds ds' : RDefs) (depth : Nat) (e1 e2 : List PErr),
    ds.erase = ds'.erase → e1.length = e2.length →
    (checkDefinitionsDefs ds depth e1).map List.length =
      (checkDefinitionsDefs ds' depth e2).map List.length
  | .nil, .nil, _, _, _, _, hl => by simp [checkDefinitionsDefs, Except.map, hl]
  | .nil, .cons _ _ _ _, _, _, _, h, _ => by simp [RDefs.erase] at h
  | .cons _ _ _ _, .nil, _, _, _, h, _ => by simp [RDefs.erase] at h
  | .cons x a d r, .cons x' a' d' r', depth, e1, e2, h, hl => by
      simp only [RDefs.erase, Defs.cons.injEq] at h
      simp only [checkDefinitionsDefs]
      exact seq_cnt (fun e1 e2 => checkDefinitions_cnt d _ depth e1 e2 h.2.2.1)
        (fun e1 e2 => checkDefinitionsDefs_cnt r r' depth e1 e2 h.2.2.2) e1 e2 hl

end ParenTokens
