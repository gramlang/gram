import GramModel.Lemmas.RewriteTyping
import GramModel.Lemmas.ConvCoherence
import GramModel.Lemmas.CCGroup

/-!
# Checking under a whole context = checking the closed program (C18, whole-context form)

A context is a list of *layers*, outermost first: a parameter `x : A` (entries `(A, 0)` / `none`) or a
definition group `ds` (entries pushed by `pushGroupX`).  `closeCtx ls t` binds the layers around `t`
(`λ` for a parameter, `letg` for a group), `closeTy ls B` does the same for the type (`Π` / `letg`).
`InfersX Γ Δ t r` is the fuel-free judgement "`inferX` answers `r`, and `r` is not *out of fuel*", a partial function.
For an accepted context, `InfersX (ctx) t r ↔ InfersX base (closeCtx ls t) (r.map (closeTy ls))` (`ctx_wrap`): the
same verdict, the same error, the type closed by the same layers.  Then the same for conversion under parameters,
for gram's own unifier, and for groups (δ-unfolding from the context against unfolding the closed group).
-/

namespace CtxWrap
open FuelLemmas OracleLemmas

theorem map_eq_error {ε α β} {g : α → β} {r : Except ε α} {e : ε} :
    r.map g = .error e ↔ r = .error e := by
  cases r with
  | error e' => simp [Except.map]
  | ok v => simp [Except.map]

theorem inferX_det {f g : Nat} {Γ : TCtxX} {Δ : DCtxX} {t : Tm} {r₁ r₂ : Except XErr Tm}
    (h1 : inferX f Γ Δ t = r₁) (h2 : inferX g Γ Δ t = r₂)
    (n1 : r₁ ≠ .error .fuel) (n2 : r₂ ≠ .error .fuel) : r₁ = r₂ :=
  FuelLemmas.inferX_det h1 h2 n1 n2

/-- the independent checker answers `r` (a type, or a genuine type error) at some fuel -/
def InfersX (Γ : TCtxX) (Δ : DCtxX) (t : Tm) (r : Except XErr Tm) : Prop :=
  r ≠ .error .fuel ∧ ∃ f, inferX f Γ Δ t = r

theorem InfersX.det {Γ : TCtxX} {Δ : DCtxX} {t : Tm} {r₁ r₂ : Except XErr Tm}
    (h1 : InfersX Γ Δ t r₁) (h2 : InfersX Γ Δ t r₂) : r₁ = r₂ := by
  obtain ⟨n1, f, h1⟩ := h1
  obtain ⟨n2, g, h2⟩ := h2
  exact inferX_det h1 h2 n1 n2

/-- `A` is accepted as a type (at some fuel) -/
def IsTypeAcc (Γ : TCtxX) (Δ : DCtxX) (A : Tm) : Prop :=
  ∃ f K, inferX f Γ Δ A = .ok K ∧ isTypeX f Δ K = .ok ()

/-- every definition of the group is accepted: its annotation as a type, the definition at it -/
def DefsAcc (Γ : TCtxX) (Δ : DCtxX) : Defs → Prop
  | .nil => True
  | .cons _ a d r =>
      IsTypeAcc Γ Δ a ∧
      (∃ f D, inferX f Γ Δ d = .ok D ∧ expectX f Δ D a .defMismatch = .ok ()) ∧
      DefsAcc Γ Δ r

theorem inferDefsX_cons_ok (f : Nat) (Γ : TCtxX) (Δ : DCtxX) (x : Name) (a d : Tm) (r : Defs) :
    inferDefsX (f+1) Γ Δ (.cons x a d r) = .ok () ↔
    (∃ K, inferX f Γ Δ a = .ok K ∧ isTypeX f Δ K = .ok ()) ∧
    (∃ D, inferX f Γ Δ d = .ok D ∧ expectX f Δ D a .defMismatch = .ok ()) ∧
    inferDefsX f Γ Δ r = .ok () := by
  simp only [inferDefsX_cons, bind_eq_ok]
  exact ⟨fun ⟨K, h1, _, h2, D, h3, _, h4, h5⟩ => ⟨⟨K, h1, h2⟩, ⟨D, h3, h4⟩, h5⟩,
    fun ⟨⟨K, h1, h2⟩, ⟨D, h3, h4⟩, h5⟩ => ⟨K, h1, _, h2, D, h3, _, h4, h5⟩⟩

theorem defsAcc_iff (Γ : TCtxX) (Δ : DCtxX) : ∀ (ds : Defs),
    DefsAcc Γ Δ ds ↔ ∃ f, inferDefsX f Γ Δ ds = .ok ()
  | .nil => by
      simp only [DefsAcc, true_iff]
      exact ⟨1, rfl⟩
  | .cons x a d r => by
      simp only [DefsAcc, defsAcc_iff Γ Δ r]
      constructor
      · rintro ⟨⟨f1, K, h1, h2⟩, ⟨f2, D, h3, h4⟩, f3, h5⟩
        refine ⟨max f1 (max f2 f3) + 1, (inferDefsX_cons_ok _ _ _ _ _ _ _).2 ⟨⟨K, ?_, ?_⟩, ⟨D, ?_, ?_⟩, ?_⟩⟩
        · exact inferX_mono_le (by omega) h1 (ne_fuel_of_ok rfl)
        · exact isTypeX_mono_le (by omega) h2 (ne_fuel_of_ok rfl)
        · exact inferX_mono_le (by omega) h3 (ne_fuel_of_ok rfl)
        · exact expectX_mono_le (by omega) h4 (ne_fuel_of_ok rfl)
        · exact inferDefsX_mono_le (by omega) h5 (ne_fuel_of_ok rfl)
      · rintro ⟨f, h⟩
        cases f with
        | zero => cases h
        | succ f =>
          obtain ⟨⟨K, h1, h2⟩, ⟨D, h3, h4⟩, h5⟩ := (inferDefsX_cons_ok _ _ _ _ _ _ _).1 h
          exact ⟨⟨f, K, h1, h2⟩, ⟨f, D, h3, h4⟩, f, h5⟩

theorem wrap_infers {Γ Γ' : TCtxX} {Δ Δ' : DCtxX} {t u : Tm} {c : Tm → Tm}
    (hc : ∀ a b, c a = c b → a = b) (g : Nat)
    (hs : ∀ f, g ≤ f → inferX (f+1) Γ Δ u = (inferX f Γ' Δ' t).map c) (r : Except XErr Tm) :
    InfersX Γ' Δ' t r ↔ InfersX Γ Δ u (r.map c) := by
  constructor
  · rintro ⟨hr, f, hf⟩
    refine ⟨map_ne_fuel.2 hr, max f g + 1, ?_⟩
    rw [hs _ (Nat.le_max_right f g), inferX_mono_le (Nat.le_max_left f g) hf hr]
  · rintro ⟨hr, f, hf⟩
    refine ⟨map_ne_fuel.1 hr, max f g, ?_⟩
    have h := inferX_mono_le (show f ≤ max f g + 1 by omega) hf hr
    rw [hs _ (Nat.le_max_right f g)] at h
    exact map_inj hc h

theorem lam_wrap_X (f : Nat) (Γ : TCtxX) (Δ : DCtxX) (x : Name) (im : Bool) (A t T : Tm) :
    inferX (f+1) Γ Δ (.lam x im A t) = .ok T ↔
    (∃ K, inferX f Γ Δ A = .ok K ∧ isTypeX f Δ K = .ok ()) ∧
    ∃ B, T = .pi x im A B ∧ inferX f ((A, 0) :: Γ) (none :: Δ) t = .ok B := by
  simp only [inferX_lam, bind_eq_ok, Except.ok.injEq]
  exact ⟨fun ⟨K, h1, _, h2, B, h3, e⟩ => ⟨⟨K, h1, h2⟩, B, e.symm, h3⟩,
    fun ⟨⟨K, h1, h2⟩, B, e, h3⟩ => ⟨K, h1, _, h2, B, h3, e.symm⟩⟩

theorem lam_step_ok {f : Nat} {Γ : TCtxX} {Δ : DCtxX} {A K : Tm} (x : Name) (im : Bool) (t : Tm)
    (h1 : inferX f Γ Δ A = .ok K) (h2 : isTypeX f Δ K = .ok ()) :
    inferX (f+1) Γ Δ (.lam x im A t) = (inferX f ((A, 0) :: Γ) (none :: Δ) t).map (.pi x im A) := by
  rw [inferX_lam, h1, Except.bind, h2]; exact bind_ok _ _

theorem pi_inj (x : Name) (im : Bool) (A : Tm) : ∀ a b : Tm, Tm.pi x im A a = Tm.pi x im A b → a = b := by
  intro a b h; injection h

theorem letg_inj (ds : Defs) : ∀ a b : Tm, Tm.letg ds a = Tm.letg ds b → a = b := by
  intro a b h; injection h

theorem lam_infers {Γ : TCtxX} {Δ : DCtxX} {A : Tm} (x : Name) (im : Bool) (t : Tm)
    (hA : IsTypeAcc Γ Δ A) (r : Except XErr Tm) :
    InfersX ((A, 0) :: Γ) (none :: Δ) t r ↔ InfersX Γ Δ (.lam x im A t) (r.map (.pi x im A)) := by
  obtain ⟨g, K, h1, h2⟩ := hA
  exact wrap_infers (pi_inj x im A) g (fun f hf =>
    lam_step_ok x im t (inferX_mono_le hf h1 (ne_fuel_of_ok rfl)) (isTypeX_mono_le hf h2 (ne_fuel_of_ok rfl))) r

theorem group_wrap_X (f : Nat) (Γ : TCtxX) (Δ : DCtxX) (ds : Defs) (b T : Tm) :
    inferX (f+1) Γ Δ (.letg ds b) = .ok T ↔
    inferDefsX f (pushGroupX ds 0 (Γ, Δ)).1 (pushGroupX ds 0 (Γ, Δ)).2 ds = .ok () ∧
    ∃ B, T = .letg ds B ∧ inferX f (pushGroupX ds 0 (Γ, Δ)).1 (pushGroupX ds 0 (Γ, Δ)).2 b = .ok B := by
  simp only [inferX_letg, bind_eq_ok, Except.ok.injEq]
  exact ⟨fun ⟨_, h1, B, h2, e⟩ => ⟨h1, B, e.symm, h2⟩, fun ⟨h1, B, e, h2⟩ => ⟨_, h1, B, h2, e.symm⟩⟩

theorem letg_step_ok {f : Nat} {Γ : TCtxX} {Δ : DCtxX} {ds : Defs} (b : Tm)
    (h1 : inferDefsX f (pushGroupX ds 0 (Γ, Δ)).1 (pushGroupX ds 0 (Γ, Δ)).2 ds = .ok ()) :
    inferX (f+1) Γ Δ (.letg ds b) =
      (inferX f (pushGroupX ds 0 (Γ, Δ)).1 (pushGroupX ds 0 (Γ, Δ)).2 b).map (.letg ds) := by
  rw [inferX_letg, h1]; exact bind_ok _ _

theorem letg_infers {Γ : TCtxX} {Δ : DCtxX} {ds : Defs} (b : Tm)
    (hds : DefsAcc (pushGroupX ds 0 (Γ, Δ)).1 (pushGroupX ds 0 (Γ, Δ)).2 ds) (r : Except XErr Tm) :
    InfersX (pushGroupX ds 0 (Γ, Δ)).1 (pushGroupX ds 0 (Γ, Δ)).2 b r ↔
    InfersX Γ Δ (.letg ds b) (r.map (.letg ds)) := by
  obtain ⟨g, h1⟩ := (defsAcc_iff _ _ _).1 hds
  exact wrap_infers (letg_inj ds) g (fun f hf => letg_step_ok b (inferDefsX_mono_le hf h1 (ne_fuel_of_ok rfl))) r

inductive Layer
  | param (x : Name) (im : Bool) (A : Tm)
  | group (ds : Defs)

def Layer.push : Layer → TCtxX × DCtxX → TCtxX × DCtxX
  | .param _ _ A, c => ((A, 0) :: c.1, none :: c.2)
  | .group ds, c => pushGroupX ds 0 (c.1, c.2)

def Layer.close : Layer → Tm → Tm
  | .param x im A, t => .lam x im A t
  | .group ds, t => .letg ds t

def Layer.closeTy : Layer → Tm → Tm
  | .param x im A, B => .pi x im A B
  | .group ds, B => .letg ds B

def Layer.OK : Layer → TCtxX × DCtxX → Prop
  | .param _ _ A, c => IsTypeAcc c.1 c.2 A
  | .group ds, c => DefsAcc (pushGroupX ds 0 (c.1, c.2)).1 (pushGroupX ds 0 (c.1, c.2)).2 ds

def pushCtxs : List Layer → TCtxX × DCtxX → TCtxX × DCtxX
  | [], c => c
  | l :: ls, c => pushCtxs ls (l.push c)

def closeCtx : List Layer → Tm → Tm
  | [], t => t
  | l :: ls, t => l.close (closeCtx ls t)

def closeTy : List Layer → Tm → Tm
  | [], B => B
  | l :: ls, B => l.closeTy (closeTy ls B)

def CtxOK : List Layer → TCtxX × DCtxX → Prop
  | [], _ => True
  | l :: ls, c => l.OK c ∧ CtxOK ls (l.push c)

theorem Layer.closeTy_inj (l : Layer) : ∀ a b : Tm, l.closeTy a = l.closeTy b → a = b := by
  cases l with
  | param x im A => exact pi_inj x im A
  | group ds => exact letg_inj ds

theorem closeTy_inj : ∀ (ls : List Layer) (a b : Tm), closeTy ls a = closeTy ls b → a = b
  | [], _, _, h => h
  | l :: ls, a, b, h => closeTy_inj ls a b (l.closeTy_inj _ _ h)

theorem layer_infers (l : Layer) (c : TCtxX × DCtxX) (t : Tm) (h : l.OK c) (r : Except XErr Tm) :
    InfersX (l.push c).1 (l.push c).2 t r ↔ InfersX c.1 c.2 (l.close t) (r.map l.closeTy) := by
  cases l with
  | param x im A => exact lam_infers x im t h r
  | group ds => exact letg_infers t h r

theorem ctx_wrap : ∀ (ls : List Layer) (c : TCtxX × DCtxX) (t : Tm), CtxOK ls c → ∀ (r : Except XErr Tm),
    (InfersX (pushCtxs ls c).1 (pushCtxs ls c).2 t r ↔
     InfersX c.1 c.2 (closeCtx ls t) (r.map (closeTy ls)))
  | [], c, t, _, r => by
      simp only [pushCtxs, closeCtx]
      rw [show r.map (closeTy []) = r from map_id' r]
  | l :: ls, c, t, h, r => by
      simp only [pushCtxs, closeCtx]
      rw [ctx_wrap ls (l.push c) t h.2 r, layer_infers l c _ h.1, map_map']
      rfl

theorem closed_ok_inv : ∀ (ls : List Layer) (c : TCtxX × DCtxX) (t T : Tm) (f : Nat),
    inferX f c.1 c.2 (closeCtx ls t) = .ok T →
    CtxOK ls c ∧ ∃ B, T = closeTy ls B
  | [], _, _, T, _, _ => ⟨trivial, T, rfl⟩
  | l :: ls, c, t, T, 0, h => by cases l <;> cases h
  | .param x im A :: ls, c, t, T, f+1, h => by
      obtain ⟨⟨K, h1, h2⟩, B, rfl, hB⟩ := (lam_wrap_X f c.1 c.2 x im A _ T).1 h
      obtain ⟨ok, B', rfl⟩ := closed_ok_inv ls (((A, 0) :: c.1, none :: c.2)) t B f hB
      exact ⟨⟨⟨f, K, h1, h2⟩, ok⟩, B', rfl⟩
  | .group ds :: ls, c, t, T, f+1, h => by
      obtain ⟨h1, B, rfl, hB⟩ := (group_wrap_X f c.1 c.2 ds _ T).1 h
      obtain ⟨ok, B', rfl⟩ := closed_ok_inv ls (pushGroupX ds 0 (c.1, c.2)) t B f hB
      exact ⟨⟨(defsAcc_iff _ _ _).2 ⟨f, h1⟩, ok⟩, B', rfl⟩

theorem closed_ok_iff (ls : List Layer) (c : TCtxX × DCtxX) (t T : Tm) :
    (∃ f, inferX f c.1 c.2 (closeCtx ls t) = .ok T) ↔
    CtxOK ls c ∧ ∃ B, T = closeTy ls B ∧ ∃ f, inferX f (pushCtxs ls c).1 (pushCtxs ls c).2 t = .ok B := by
  constructor
  · rintro ⟨f, h⟩
    obtain ⟨ok, B, rfl⟩ := closed_ok_inv ls c t T f h
    refine ⟨ok, B, rfl, ?_⟩
    exact ((ctx_wrap ls c t ok (.ok B)).2 ⟨ne_fuel_of_ok rfl, f, h⟩).2
  · rintro ⟨ok, B, rfl, f, h⟩
    exact ((ctx_wrap ls c t ok (.ok B)).1 ⟨ne_fuel_of_ok rfl, f, h⟩).2

theorem ctx_accept (ls : List Layer) (c : TCtxX × DCtxX) (t B : Tm) (h : CtxOK ls c) :
    (∃ f, inferX f (pushCtxs ls c).1 (pushCtxs ls c).2 t = .ok B) ↔
    (∃ f, inferX f c.1 c.2 (closeCtx ls t) = .ok (closeTy ls B)) := by
  have := ctx_wrap ls c t h (.ok B)
  simp only [InfersX, Except.map] at this
  exact ⟨fun hx => (this.1 ⟨ne_fuel_of_ok rfl, hx⟩).2, fun hx => (this.2 ⟨ne_fuel_of_ok rfl, hx⟩).2⟩

theorem ctx_reject (ls : List Layer) (c : TCtxX × DCtxX) (t : Tm) (h : CtxOK ls c) (e : XErr)
    (he : e ≠ .fuel) :
    (∃ f, inferX f (pushCtxs ls c).1 (pushCtxs ls c).2 t = .error e) ↔
    (∃ f, inferX f c.1 c.2 (closeCtx ls t) = .error e) := by
  have := ctx_wrap ls c t h (.error e)
  simp only [InfersX, Except.map] at this
  have ne : (Except.error e : Except XErr Tm) ≠ .error .fuel := fun c => he (by injection c)
  exact ⟨fun hx => (this.1 ⟨ne, hx⟩).2, fun hx => (this.2 ⟨ne, hx⟩).2⟩

theorem ctx_verdict (ls : List Layer) (c : TCtxX × DCtxX) (t : Tm) (h : CtxOK ls c) :
    ((∃ f e, e ≠ .fuel ∧ inferX f (pushCtxs ls c).1 (pushCtxs ls c).2 t = .error e) →
      ∀ g T, inferX g c.1 c.2 (closeCtx ls t) ≠ .ok T) ∧
    ((∃ f e, e ≠ .fuel ∧ inferX f c.1 c.2 (closeCtx ls t) = .error e) →
      ∀ g B, inferX g (pushCtxs ls c).1 (pushCtxs ls c).2 t ≠ .ok B) := by
  constructor
  · rintro ⟨f, e, he, hf⟩ g T hg
    obtain ⟨f', hf'⟩ := (ctx_reject ls c t h e he).1 ⟨f, hf⟩
    have := inferX_det hf' hg (fun c => he (by injection c)) (ne_fuel_of_ok rfl)
    cases this
  · rintro ⟨f, e, he, hf⟩ g B hg
    obtain ⟨f', hf'⟩ := (ctx_reject ls c t h e he).2 ⟨f, hf⟩
    have := inferX_det hf' hg (fun c => he (by injection c)) (ne_fuel_of_ok rfl)
    cases this

/-- a parameter context, outermost parameter first: `(name, implicit, domain)` -/
abbrev Params := List (Name × Bool × Tm)

def paramLayers (ps : Params) : List Layer := ps.map fun p => .param p.1 p.2.1 p.2.2

def closeParams (ps : Params) (t : Tm) : Tm := closeCtx (paramLayers ps) t
def closePi (ps : Params) (B : Tm) : Tm := closeTy (paramLayers ps) B
def pushParams (ps : Params) (c : TCtxX × DCtxX) : TCtxX × DCtxX := pushCtxs (paramLayers ps) c
def ParamsOK (ps : Params) (c : TCtxX × DCtxX) : Prop := CtxOK (paramLayers ps) c

@[simp] theorem closeParams_nil (t : Tm) : closeParams [] t = t := rfl
@[simp] theorem closeParams_cons (x : Name) (im : Bool) (A : Tm) (ps : Params) (t : Tm) :
    closeParams ((x, im, A) :: ps) t = .lam x im A (closeParams ps t) := rfl
@[simp] theorem closePi_nil (t : Tm) : closePi [] t = t := rfl
@[simp] theorem closePi_cons (x : Name) (im : Bool) (A : Tm) (ps : Params) (t : Tm) :
    closePi ((x, im, A) :: ps) t = .pi x im A (closePi ps t) := rfl
@[simp] theorem pushParams_nil (c : TCtxX × DCtxX) : pushParams [] c = c := rfl
@[simp] theorem pushParams_cons (x : Name) (im : Bool) (A : Tm) (ps : Params) (c : TCtxX × DCtxX) :
    pushParams ((x, im, A) :: ps) c = pushParams ps ((A, 0) :: c.1, none :: c.2) := rfl
@[simp] theorem ParamsOK_nil (c : TCtxX × DCtxX) : ParamsOK [] c = True := rfl
@[simp] theorem ParamsOK_cons (x : Name) (im : Bool) (A : Tm) (ps : Params) (c : TCtxX × DCtxX) :
    ParamsOK ((x, im, A) :: ps) c =
      (IsTypeAcc c.1 c.2 A ∧ ParamsOK ps ((A, 0) :: c.1, none :: c.2)) := rfl

theorem pushParams_eq : ∀ (ps : Params) (c : TCtxX × DCtxX),
    pushParams ps c = ((ps.reverse.map fun p => (p.2.2, 0)) ++ c.1, List.replicate ps.length none ++ c.2)
  | [], c => rfl
  | (x, im, A) :: ps, c => by
      rw [pushParams_cons, pushParams_eq ps]
      simp [List.replicate_succ']


theorem pushed_get (x : Name) (a d : Tm) : ∀ (ds : Defs) (k : Nat) (Γ : TCtxX) (Δ : DCtxX) (i : Nat),
    ds.toList[i]? = some (x, a, d) →
    (pushedT ds k Γ)[ds.len - 1 - i]? = some (a, k - i) ∧
    (pushedD ds k Δ)[ds.len - 1 - i]? = some (some (d, k - i))
  | .nil, k, Γ, Δ, i, h => by simp [Defs.toList] at h
  | .cons y b e r, k, Γ, Δ, 0, h => by
      have hT := pushedT_drop r (k - 1) ((b, k) :: Γ)
      have hD := pushedD_drop r (k - 1) (some (e, k) :: Δ)
      simp only [Defs.toList, List.getElem?_cons_zero, Option.some.injEq, Prod.mk.injEq] at h
      obtain ⟨rfl, rfl, rfl⟩ := h
      simp only [pushedT, pushedD, Defs.len, Nat.add_sub_cancel, Nat.sub_zero]
      constructor
      · have := congrArg (fun l => l[0]?) hT
        simpa [List.getElem?_drop] using this
      · have := congrArg (fun l => l[0]?) hD
        simpa [List.getElem?_drop] using this
  | .cons y b e r, k, Γ, Δ, i+1, h => by
      simp only [Defs.toList, List.getElem?_cons_succ] at h
      have := pushed_get x a d r (k - 1) ((b, k) :: Γ) (some (e, k) :: Δ) i h
      simp only [pushedT, pushedD, Defs.len]
      rw [show r.len + 1 - 1 - (i + 1) = r.len - 1 - i by omega, show k - (i + 1) = k - 1 - i by omega]
      exact this

/-- a pushed group of `n` definitions: definition `i` (0-based, in source order) sits at position `n - 1 - i`
with offset `n - i`, so that every stored annotation / definition is read in the scope of the whole group -/
theorem pushGroupX_get (ds : Defs) (Γ : TCtxX) (Δ : DCtxX) (i : Nat) (x : Name) (a d : Tm)
    (h : ds.toList[i]? = some (x, a, d)) :
    (pushGroupX ds 0 (Γ, Δ)).1[ds.len - 1 - i]? = some (a, ds.len - i) ∧
    (pushGroupX ds 0 (Γ, Δ)).2[ds.len - 1 - i]? = some (some (d, ds.len - i)) := by
  rw [CheckSound.pushGroupX_eq]
  exact pushed_get x a d ds ds.len Γ Δ i h

theorem whnfX_param (f : Nat) (Δ : DCtxX) (x : Name) : whnfX (f+1) (none :: Δ) (.var x 0) = some (.var x 0) := by
  unfold whnfX; rfl

theorem whnfX_lam (f : Nat) (Δ : DCtxX) (x : Name) (im : Bool) (A t : Tm) :
    whnfX (f+1) Δ (.lam x im A t) = some (.lam x im A t) := by
  unfold whnfX; rfl
theorem whnfX_pi (f : Nat) (Δ : DCtxX) (x : Name) (im : Bool) (A t : Tm) :
    whnfX (f+1) Δ (.pi x im A t) = some (.pi x im A t) := by
  unfold whnfX; rfl

theorem convX_lam (f : Nat) (Δ : DCtxX) (x y : Name) (im jm : Bool) (A A' t u : Tm) :
    convX (f+2) Δ (.lam x im A t) (.lam y jm A' u) =
      if im == jm then convX (f+1) (none :: Δ) t u else some false := by
  rw [convX_succ, whnfX_lam, whnfX_lam]
  simp only [convHead, sameX]
  by_cases hi : (im == jm) = true
  · by_cases hs : sameX t u = true
    · simp [hi, hs, RewriteTyping.convX_same hs]
    · simp [hi, hs]
  · simp [hi]

theorem convX_pi (f : Nat) (Δ : DCtxX) (x y : Name) (im jm : Bool) (A A' t u : Tm) :
    convX (f+2) Δ (.pi x im A t) (.pi y jm A' u) =
      if im == jm then
        match convX (f+1) Δ A A' with
        | some true => convX (f+1) (none :: Δ) t u
        | r => r
      else some false := by
  rw [convX_succ, whnfX_pi, whnfX_pi]
  simp only [convHead, sameX]
  by_cases hi : (im == jm) = true
  · by_cases hA : sameX A A' = true
    · by_cases hs : sameX t u = true
      · simp [hi, hs, hA, RewriteTyping.convX_same hs, RewriteTyping.convX_same hA]
      · simp [hi, hs, hA] <;> rfl
    · simp [hi, hA] <;> rfl
  · simp [hi]

/-- one unit of fuel per binder -/
theorem convX_closeParams : ∀ (ps : Params) (f : Nat) (Δ : DCtxX) (t u : Tm),
    convX (f + 1 + ps.length) Δ (closeParams ps t) (closeParams ps u) =
      convX (f + 1) (pushParams ps ([], Δ)).2 t u
  | [], f, Δ, t, u => rfl
  | (x, im, A) :: ps, f, Δ, t, u => by
      simp only [closeParams_cons, pushParams_cons, List.length_cons]
      rw [show f + 1 + (ps.length + 1) = (f + ps.length) + 2 by omega, convX_lam]
      simp only [BEq.rfl, if_true]
      rw [show f + ps.length + 1 = f + 1 + ps.length by omega, convX_closeParams ps f (none :: Δ) t u]
      rw [pushParams_eq, pushParams_eq]

theorem convX_closePi : ∀ (ps : Params) (f : Nat) (Δ : DCtxX) (t u : Tm),
    convX (f + 1 + ps.length) Δ (closePi ps t) (closePi ps u) =
      convX (f + 1) (pushParams ps ([], Δ)).2 t u
  | [], f, Δ, t, u => rfl
  | (x, im, A) :: ps, f, Δ, t, u => by
      simp only [closePi_cons, pushParams_cons, List.length_cons]
      rw [show f + 1 + (ps.length + 1) = (f + ps.length) + 2 by omega, convX_pi]
      simp only [BEq.rfl, if_true, RewriteTyping.convX_same (OracleLemmas.sameX_refl A)]
      rw [show f + ps.length + 1 = f + 1 + ps.length by omega, convX_closePi ps f (none :: Δ) t u]
      rw [pushParams_eq, pushParams_eq]

theorem Conv_closeParams : ∀ (ps : Params) (Δ : DCtxX) (t u : Tm),
    Conv (pushParams ps ([], Δ)).2 t u → Conv Δ (closeParams ps t) (closeParams ps u)
  | [], _, _, _, h => h
  | (x, im, A) :: ps, Δ, t, u, h => by
      simp only [closeParams_cons]
      refine Conv.lam x x im A A (Conv_closeParams ps (none :: Δ) t u ?_)
      rw [pushParams_cons, pushParams_eq] at h
      rw [pushParams_eq]; exact h

theorem Conv_closePi : ∀ (ps : Params) (Δ : DCtxX) (t u : Tm),
    Conv (pushParams ps ([], Δ)).2 t u → Conv Δ (closePi ps t) (closePi ps u)
  | [], _, _, _, h => h
  | (x, im, A) :: ps, Δ, t, u, h => by
      simp only [closePi_cons]
      refine Conv.pi x x im (Conv.refl _ A) (Conv_closePi ps (none :: Δ) t u ?_)
      rw [pushParams_cons, pushParams_eq] at h
      rw [pushParams_eq]; exact h


theorem whnfS_lam (f : Nat) (x : Name) (im : Bool) (A t : Tm) :
    whnfS (f+1) (.lam x im A t) = pure (.lam x im A t) := by
  unfold whnfS; rfl
theorem whnfS_pi (f : Nat) (x : Name) (im : Bool) (A t : Tm) :
    whnfS (f+1) (.pi x im A t) = pure (.pi x im A t) := by
  unfold whnfS; rfl

/-- the head comparison of two λs in `unify`: push `None`, unify the bodies, pop -/
theorem unifyHead_lam (f : Nat) (x y : Name) (im jm : Bool) (A A' t u : Tm) :
    UnifyAgree.unifyHead f (.lam x im A t) (.lam y jm A' u) =
      (if im == jm then do
        pushD none
        let r ← unifyS f t u
        popD
        pure r
      else pure false) := rfl

/-- the head comparison of two Πs in `unify`: the domains in the current context, then push `None`, unify the
codomains, pop -/
theorem unifyHead_pi (f : Nat) (x y : Name) (im jm : Bool) (A A' t u : Tm) :
    UnifyAgree.unifyHead f (.pi x im A t) (.pi y jm A' u) =
      (if im == jm then do
        if ← unifyS f A A' then do
          pushD none
          let r ← unifyS f t u
          popD
          pure r
        else pure false
      else pure false) := rfl


section Group
open CCSubst CCPar WhnfLemmas

theorem erD_replicate (n : Nat) (Δ : DCtxX) :
    erD (List.replicate n none ++ Δ) = List.replicate n none ++ erD Δ := by
  simp [erD, List.map_append, List.map_replicate]

theorem red_unerase {Δ : DCtxX} (hD : DHF Δ) {a b : Tm} (h : Red1 (erD Δ) a b) : Conv Δ a b := by
  cases h with
  | beta x im d body a => exact .red (.beta _ _ _ _ _)
  | delta x i d off hi ho =>
    obtain ⟨d0, h0, rfl⟩ := erD_some_inv hi
    have hf : d0.holeFree = true := hD.get h0
    exact .trans (.red (.delta x i d0 off h0 ho))
      (.same (RewriteTyping.sameX_ushift 0 _ (CheckComplete.sameX_er d0 hf)))
  | letStep x a d rest body => exact .red (.letStep _ _ _ _ _)
  | letNil => exact .red (.letNil _)
  | neg n => exact .red (.neg _)
  | arith op x y r hr => exact .red (.arith _ _ _ _ hr)
  | iteTrue => exact .red (.iteTrue _ _)
  | iteFalse => exact .red (.iteFalse _ _)

theorem conv_unerase {Δ' : DCtxX} {a b : Tm} (h : Conv Δ' a b) :
    ∀ (Δ : DCtxX), Δ' = erD Δ → DHF Δ → Conv Δ a b := by
  induction h using Conv.rec (motive_2 := fun Δ' a b _ =>
    ∀ (Δ : DCtxX), Δ' = erD Δ → DHF Δ → ConvDefs Δ a b) with
  | refl _ a => exact fun _ _ _ => .refl _ a
  | symm _ ih => exact fun Δ e hD => .symm (ih Δ e hD)
  | trans _ _ ih1 ih2 => exact fun Δ e hD => .trans (ih1 Δ e hD) (ih2 Δ e hD)
  | red h => intro Δ e hD; subst e; exact red_unerase hD h
  | same h => exact fun _ _ _ => .same h
  | lam x y im d1 d2 _ ih =>
      exact fun Δ e hD => .lam x y im d1 d2 (ih (none :: Δ) (by subst e; rfl) (WhnfLemmas.DHF.push hD))
  | pi x y im _ _ ih1 ih2 =>
      exact fun Δ e hD =>
        .pi x y im (ih1 Δ e hD) (ih2 (none :: Δ) (by subst e; rfl) (WhnfLemmas.DHF.push hD))
  | app _ _ ih1 ih2 => exact fun Δ e hD => .app (ih1 Δ e hD) (ih2 Δ e hD)
  | neg _ ih => exact fun Δ e hD => .neg (ih Δ e hD)
  | bin op _ _ ih1 ih2 => exact fun Δ e hD => .bin op (ih1 Δ e hD) (ih2 Δ e hD)
  | ite _ _ _ ih1 ih2 ih3 => exact fun Δ e hD => .ite (ih1 Δ e hD) (ih2 Δ e hD) (ih3 Δ e hD)
  | @letg Δ' ds1 _ _ _ _ _ ih1 ih2 =>
      intro Δ e hD
      have e' : List.replicate ds1.len none ++ Δ' = erD (List.replicate ds1.len none ++ Δ) := by
        subst e; rw [erD_replicate]
      exact .letg (ih1 _ e' (DHF_nones hD _)) (ih2 _ e' (DHF_nones hD _))
  | nil => exact .nil _
  | cons x y _ _ _ ih1 ih2 ih3 =>
      rename_i Δ e hD
      exact .cons x y (ih1 Δ e hD) (ih2 Δ e hD) (ih3 Δ e hD)

theorem convDefs_unerase : ∀ {Δ' : DCtxX} {a b : Defs}, ConvDefs Δ' a b → ∀ (Δ : DCtxX), Δ' = erD Δ → DHF Δ →
    ConvDefs Δ a b
  | _, _, _, .nil _, _, _, _ => .nil _
  | _, _, _, .cons x y h1 h2 h3, Δ, e, hD =>
      .cons x y (conv_unerase h1 Δ e hD) (conv_unerase h2 Δ e hD) (convDefs_unerase h3 Δ e hD)

/-- **Transparent group congruence.**  Two terms convertible under the context of a group (where the group's
variables unfold to their definitions by δ) give convertible closed groups (where the group unfolds by
substitution).  `Conv.letg` only has this for *opaque* group variables. -/
theorem Conv_group {Δ : DCtxX} {ds : Defs} {b b' : Tm} (hW : DWF Δ) (hD : DHF Δ)
    (hds : ds.holeFree = true) (hb : b.holeFree = true) (hb' : b'.holeFree = true)
    (h : Conv (pushedD ds ds.len Δ) b b') : Conv Δ (.letg ds b) (.letg ds b') := by
  have g := CCPar.group_transfer Δ ds b b' hW (CCPar.Conv.join h (CCPar.DWF_pushed hW ds))
  have c := conv_unerase (CheckComplete.join_conv (DWF_erD hW) g) Δ rfl hD
  have h1 : (Tm.letg ds b).holeFree = true := by simp [Tm.holeFree, hds, hb]
  have h2 : (Tm.letg ds b').holeFree = true := by simp [Tm.holeFree, hds, hb']
  exact .trans (.same (CheckComplete.sameX_er _ h1)) (.trans c (.symm (.same (CheckComplete.sameX_er _ h2))))

theorem whnfX_group {Δ : DCtxX} {ds : Defs} {t w w' : Tm} {f g : Nat} (hW : DWF Δ) (hD : DHF Δ)
    (hds : ds.holeFree = true) (ht : t.holeFree = true)
    (h : whnfX f (pushedD ds ds.len Δ) t = some w) (h' : whnfX g Δ (.letg ds t) = some w') :
    Conv Δ (.letg ds t) (.letg ds w) ∧ Conv Δ w' (.letg ds w) := by
  have hw : w.holeFree = true := TypingSound.whnfX_holeFree h (TypingSound.DHF_pushed hD ds hds) ht
  have c1 : Conv Δ (.letg ds t) (.letg ds w) := Conv_group hW hD hds ht hw (TypingSound.whnfX_conv h)
  exact ⟨c1, .trans (.symm (TypingSound.whnfX_conv h')) c1⟩

theorem convX_group {Δ : DCtxX} {ds : Defs} {t u : Tm} {f : Nat} (hW : DWF Δ) (hD : DHF Δ)
    (hds : ds.holeFree = true) (ht : t.holeFree = true) (hu : u.holeFree = true)
    (h : convX f (pushedD ds ds.len Δ) t u = some true) :
    Conv Δ (.letg ds t) (.letg ds u) ∧ ∀ g, convX g Δ (.letg ds t) (.letg ds u) ≠ some false := by
  have c : Conv Δ (.letg ds t) (.letg ds u) :=
    Conv_group hW hD hds ht hu (TypingSound.convX_sound f _ t u ht hu (TypingSound.DHF_pushed hD ds hds) h)
  have h1 : (Tm.letg ds t).holeFree = true := by simp [Tm.holeFree, hds, ht]
  have h2 : (Tm.letg ds u).holeFree = true := by simp [Tm.holeFree, hds, hu]
  exact ⟨c, fun g => ConvCoherence.convX_of_conv h1 h2 hD hW c⟩

end Group

end CtxWrap
