import GramModel.Lemmas.PushedCtx
import GramModel.Lemmas.Eval
import GramModel.Lemmas.Oracle
import GramModel.Lemmas.WhnfRel

/-!
# Soundness of the independent checker (`Oracle.lean`) for the declarative rules (`Typing.lean`)

* `whnfX_conv` — the normalizer rewrites a term into a convertible one (and keeps it hole-free): an answer of `whnfX`
  is a `WhR` derivation (`whnfX_rel`), and `WhR.conv`, `WhR.holeFree` (declared here, into `WhR`'s root namespace) are
  inductions on it;
* `convX_sound` — a positive answer of `convX` on hole-free terms is a `Conv` derivation;
* `inferX_sound` / `inferDefsX_sound` — an accepted hole-free term has the computed type;
* `oracleAccepts_sound`.

The side conditions on contexts: `THF` (here) and `WhnfLemmas.DHF` for hole-free entries, `CheckSound.pushGroupX_eq` for
the context of a group; the last two are pure facts that stand in `Lemmas/PushedCtx.lean`.
-/

namespace TypingSound
open WhnfLemmas
open OracleLemmas (isTypeX_ok expectX_ok)

/-- every type in the typing context is hole-free (`DHF` is the same for the definitions context) -/
def THF (Γ : TCtxX) : Prop := ∀ e ∈ Γ, e.1.holeFree = true

theorem THF.get {Γ : TCtxX} (h : THF Γ) {i : Nat} {ty : Tm} {off : Nat} (e : Γ[i]? = some (ty, off)) :
    ty.holeFree = true := h _ (List.mem_of_getElem? e)

theorem THF_nil : THF [] := fun e he => by cases he

theorem DHF_some {Δ : DCtxX} {d : Tm} {k : Nat} (hd : d.holeFree = true) (h : DHF Δ) :
    DHF (some (d, k) :: Δ) := by
  intro e he d' o heq
  rcases List.mem_cons.1 he with rfl | he
  · cases heq; exact hd
  · exact h e he d' o heq

theorem THF_cons {Γ : TCtxX} {d : Tm} {k : Nat} (hd : d.holeFree = true) (h : THF Γ) :
    THF ((d, k) :: Γ) := by
  intro e he
  rcases List.mem_cons.1 he with rfl | he
  · exact hd
  · exact h e he

theorem letAllX_conv (Δ : DCtxX) : ∀ (n : Nat) (ds : Defs) (body b : Tm),
    letAllX n ds body = some b → Conv Δ (.letg ds body) b
  | 0, _, _, _, h => by simp [letAllX] at h
  | _+1, .nil, body, b, h => by
      simp only [letAllX] at h
      cases h
      exact .red (.letNil _)
  | n+1, .cons x a d rest, body, b, h => by
      simp only [letAllX] at h
      exact .trans (.red (.letStep x a d rest body)) (letAllX_conv Δ n _ _ b h)

theorem letAllX_holeFree : ∀ (n : Nat) (ds : Defs) (body b : Tm),
    letAllX n ds body = some b → ds.holeFree = true → body.holeFree = true → b.holeFree = true
  | 0, _, _, _, h, _, _ => by simp [letAllX] at h
  | _+1, .nil, body, b, h, _, hb => by
      simp only [letAllX] at h
      cases h
      exact hb
  | n+1, .cons x a d rest, body, b, h, hds, hb => by
      simp only [letAllX] at h
      simp only [Defs.holeFree, Bool.and_eq_true] at hds
      have hu := unfoldDef_holeFree x a d rest.len hds.1.1 hds.1.2
      exact letAllX_holeFree n _ _ b h (openDefs_holeFree _ _ _ _ hds.2 hu)
        (openT_holeFree _ _ _ _ hb hu)

theorem _root_.WhR.conv {Δ : DCtxX} {t r : Tm} (h : WhR Δ t r) : Conv Δ t r := by
  induction h with
  | rigid | param => exact .refl _ _
  | delta x h1 h2 _ ih => exact .trans (.red (.delta x _ _ _ h1 (by omega))) ih
  | beta _ _ ih1 ih2 => exact .trans (.app ih1 (.refl _ _)) (.trans (.red (.beta ..)) ih2)
  | app _ _ _ ih => exact .app ih (.refl _ _)
  | letg h _ ih => exact .trans (letAllX_conv Δ _ _ _ _ h) ih
  | negLit _ ih => exact .trans (.neg ih) (.red (.neg _))
  | neg _ _ ih => exact .neg ih
  | arith _ _ h ih1 ih2 => exact .trans (.bin _ ih1 ih2) (.red (.arith _ _ _ _ h))
  | bin _ _ _ ih1 ih2 => exact .bin _ ih1 ih2
  | iteT _ _ ih1 ih2 => exact .trans (.ite ih1 (.refl _ _) (.refl _ _)) (.trans (.red (.iteTrue ..)) ih2)
  | iteF _ _ ih1 ih2 => exact .trans (.ite ih1 (.refl _ _) (.refl _ _)) (.trans (.red (.iteFalse ..)) ih2)
  | ite _ _ _ _ _ ih => exact .ite ih (.refl _ _) (.refl _ _)

theorem _root_.WhR.holeFree {Δ : DCtxX} {t r : Tm} (hD : DHF Δ) (h : WhR Δ t r) :
    t.holeFree = true → r.holeFree = true := by
  induction h with
  | rigid | param => exact id
  | delta _ h1 _ _ ih =>
      exact fun _ => ih (by rw [holeFree_ushift]; exact hD.get h1)
  | letg h _ ih =>
      intro ht; simp only [Tm.holeFree, Bool.and_eq_true] at ht
      exact ih (letAllX_holeFree _ _ _ _ h ht.1 ht.2)
  | negLit => exact fun _ => rfl
  | arith _ _ h => exact fun _ => delta_holeFree h
  | beta _ _ ih1 ih2 =>
      intro ht; simp only [Tm.holeFree, Bool.and_eq_true] at ht
      have := ih1 ht.1; simp only [Tm.holeFree, Bool.and_eq_true] at this
      exact ih2 (openT_holeFree _ _ _ _ this.2 ht.2)
  | iteT _ _ _ ih => intro ht; simp only [Tm.holeFree, Bool.and_eq_true] at ht; exact ih ht.1.2
  | iteF _ _ _ ih => intro ht; simp only [Tm.holeFree, Bool.and_eq_true] at ht; exact ih ht.2
  | neg _ _ ih => exact ih
  | app _ _ _ ih =>
      intro ht; simp only [Tm.holeFree, Bool.and_eq_true] at ht ⊢; exact ⟨ih ht.1, ht.2⟩
  | bin _ _ _ ih1 ih2 =>
      intro ht; simp only [Tm.holeFree, Bool.and_eq_true] at ht ⊢; exact ⟨ih1 ht.1, ih2 ht.2⟩
  | ite _ _ _ _ _ ih =>
      intro ht; simp only [Tm.holeFree, Bool.and_eq_true] at ht ⊢; exact ⟨⟨ih ht.1.1, ht.1.2⟩, ht.2⟩

theorem whnfX_conv {f : Nat} {Δ : DCtxX} {t r : Tm} (h : whnfX f Δ t = some r) : Conv Δ t r :=
  (whnfX_rel f Δ t r h).conv

theorem whnfX_holeFree {f : Nat} {Δ : DCtxX} {t r : Tm} (h : whnfX f Δ t = some r) (hD : DHF Δ)
    (ht : t.holeFree = true) : r.holeFree = true :=
  (whnfX_rel f Δ t r h).holeFree hD ht

theorem convX_sound : ∀ (f : Nat) (Δ : DCtxX) (a b : Tm), a.holeFree = true → b.holeFree = true →
    DHF Δ → convX f Δ a b = some true → Conv Δ a b := by
  intro f
  induction f with
  | zero => intro Δ a b _ _ _ h; simp [convX] at h
  | succ f ih =>
    intro Δ a b ha hb hD h
    rcases OracleLemmas.convX_some.1 h with ⟨hs, -⟩ | ⟨-, wa, wb, hwa, hwb, h⟩
    · exact .same hs
    · have ca := whnfX_conv hwa
      have cb := whnfX_conv hwb
      have hfa := whnfX_holeFree hwa hD ha
      have hfb := whnfX_holeFree hwb hD hb
      refine .trans ca (.trans ?_ (.symm cb))
      clear ca cb hwa hwb ha hb
      simp only [OracleLemmas.convHead] at h
      split at h
      · cases hfa  -- a hole on the left
      · cases hfb  -- a hole on the right
      · exact .refl _ _  -- `type`
      · exact .refl _ _  -- `int`
      · exact .refl _ _  -- `bool`
      · exact .refl _ _  -- `true`
      · exact .refl _ _  -- `false`
      · -- literals
        simp only [Option.some.injEq, beq_iff_eq] at h
        subst h; exact .refl _ _
      · -- variables
        simp only [Option.some.injEq, beq_iff_eq] at h
        subst h; exact .same (by simp [sameX])
      · -- lam
        obtain ⟨him, hc⟩ := OracleLemmas.guard_eq_true.1 h
        have := eq_of_beq him; subst this
        simp only [Tm.holeFree, Bool.and_eq_true] at hfa hfb
        exact .lam _ _ _ _ _ (ih _ _ _ hfa.2 hfb.2 (DHF.push hD) hc)
      · -- pi
        obtain ⟨him, hc⟩ := OracleLemmas.guard_eq_true.1 h
        obtain ⟨h1, h2⟩ := OracleLemmas.seq_eq_true.1 hc
        have := eq_of_beq him; subst this
        simp only [Tm.holeFree, Bool.and_eq_true] at hfa hfb
        exact .pi _ _ _ (ih _ _ _ hfa.1 hfb.1 hD h1) (ih _ _ _ hfa.2 hfb.2 (DHF.push hD) h2)
      · -- app
        obtain ⟨h1, h2⟩ := OracleLemmas.seq_eq_true.1 h
        simp only [Tm.holeFree, Bool.and_eq_true] at hfa hfb
        exact .app (ih _ _ _ hfa.1 hfb.1 hD h1) (ih _ _ _ hfa.2 hfb.2 hD h2)
      · -- neg
        simp only [Tm.holeFree] at hfa hfb
        exact .neg (ih _ _ _ hfa hfb hD h)
      · -- bin
        obtain ⟨hop, hc⟩ := OracleLemmas.guard_eq_true.1 h
        obtain ⟨h1, h2⟩ := OracleLemmas.seq_eq_true.1 hc
        have := eq_of_beq hop; subst this
        simp only [Tm.holeFree, Bool.and_eq_true] at hfa hfb
        exact .bin _ (ih _ _ _ hfa.1 hfb.1 hD h1) (ih _ _ _ hfa.2 hfb.2 hD h2)
      · -- ite
        obtain ⟨h1, hc⟩ := OracleLemmas.seq_eq_true.1 h
        obtain ⟨h2, h3⟩ := OracleLemmas.seq_eq_true.1 hc
        simp only [Tm.holeFree, Bool.and_eq_true] at hfa hfb
        exact .ite (ih _ _ _ hfa.1.1 hfb.1.1 hD h1) (ih _ _ _ hfa.1.2 hfb.1.2 hD h2)
          (ih _ _ _ hfa.2 hfb.2 hD h3)
      · cases h

theorem pushGroupX_go_HF : ∀ (ds : Defs) (k : Nat) (Γ : TCtxX) (Δ : DCtxX), ds.holeFree = true →
    THF Γ → DHF Δ → THF (pushGroupX.go ds k (Γ, Δ)).1 ∧ DHF (pushGroupX.go ds k (Γ, Δ)).2
  | .nil, _, _, _, _, hΓ, hD => by simp only [pushGroupX.go]; exact ⟨hΓ, hD⟩
  | .cons x a d r, k, Γ, Δ, h, hΓ, hD => by
      simp only [pushGroupX.go]
      simp only [Defs.holeFree, Bool.and_eq_true] at h
      exact pushGroupX_go_HF r (k - 1) _ _ h.2 (THF_cons h.1.1 hΓ) (DHF_some h.1.2 hD)

theorem pushGroupX_HF (ds : Defs) (n : Nat) (Γ : TCtxX) (Δ : DCtxX) (h : ds.holeFree = true)
    (hΓ : THF Γ) (hD : DHF Δ) :
    THF (pushGroupX ds n (Γ, Δ)).1 ∧ DHF (pushGroupX ds n (Γ, Δ)).2 := by
  unfold pushGroupX
  exact pushGroupX_go_HF ds _ Γ Δ h hΓ hD

theorem DHF_pushed {Δ : DCtxX} (hD : DHF Δ) (ds : Defs) (hds : ds.holeFree = true) :
    DHF (pushedD ds ds.len Δ) := by
  have := pushGroupX_HF ds 0 [] Δ hds (fun _ h => by cases h) hD
  rw [CheckSound.pushGroupX_eq] at this
  exact this.2

theorem THF_pushed {Γ : TCtxX} (hT : THF Γ) (ds : Defs) (hds : ds.holeFree = true) :
    THF (pushedT ds ds.len Γ) := by
  have := pushGroupX_HF ds 0 Γ [] hds hT (fun _ h => by cases h)
  rw [CheckSound.pushGroupX_eq] at this
  exact this.1

theorem inferX_sound_aux : ∀ (f : Nat),
    (∀ (Γ : TCtxX) (Δ : DCtxX) (t T : Tm), t.holeFree = true → THF Γ → DHF Δ →
      inferX f Γ Δ t = .ok T → HasType Γ Δ t T ∧ T.holeFree = true) ∧
    (∀ (Γ : TCtxX) (Δ : DCtxX) (ds : Defs), ds.holeFree = true → THF Γ → DHF Δ →
      inferDefsX f Γ Δ ds = .ok () → DefsOK Γ Δ ds) := by
  intro f
  induction f with
  | zero =>
    exact ⟨fun _ _ _ _ _ _ _ h => by simp [inferX] at h, fun _ _ _ _ _ _ h => by simp [inferDefsX] at h⟩
  | succ f ih =>
    obtain ⟨ih1, ih2⟩ := ih
    constructor
    · intro Γ Δ t T ht hΓ hD h
      cases t
      case hole => cases ht
      case type | int | bool | tt | ff | lit =>
        simp only [inferX] at h
        cases h
        exact ⟨by constructor, rfl⟩
      case var x i =>
        obtain ⟨ty, off, heq, hlt, rfl⟩ := OracleLemmas.inferX_var_inv h
        refine ⟨.var Δ x i ty off heq (by omega), ?_⟩
        rw [holeFree_ushift]
        exact hΓ.get heq
      case lam x im d b =>
        simp only [Tm.holeFree, Bool.and_eq_true] at ht
        obtain ⟨dty, cod, h1, h2, h3, rfl⟩ := OracleLemmas.inferX_lam_inv h
        obtain ⟨td, hdty⟩ := ih1 _ _ _ _ ht.1 hΓ hD h1
        have cd := convX_sound _ _ _ _ hdty rfl hD (isTypeX_ok h2)
        obtain ⟨tb, hcod⟩ := ih1 _ _ _ _ ht.2 (THF_cons ht.1 hΓ) (DHF.push hD) h3
        refine ⟨.lam x im (.conv td cd) tb, ?_⟩
        simp only [Tm.holeFree, Bool.and_eq_true]
        exact ⟨ht.1, hcod⟩
      case pi x im d c =>
        simp only [Tm.holeFree, Bool.and_eq_true] at ht
        obtain ⟨dty, cty, h1, h2, h3, h4, rfl⟩ := OracleLemmas.inferX_pi_inv h
        obtain ⟨td, hdty⟩ := ih1 _ _ _ _ ht.1 hΓ hD h1
        have cd := convX_sound _ _ _ _ hdty rfl hD (isTypeX_ok h2)
        obtain ⟨tc, hcty⟩ := ih1 _ _ _ _ ht.2 (THF_cons ht.1 hΓ) (DHF.push hD) h3
        have cc := convX_sound _ _ _ _ hcty rfl (DHF.push hD) (isTypeX_ok h4)
        exact ⟨.pi x im (.conv td cd) (.conv tc cc), rfl⟩
      case app g a =>
        simp only [Tm.holeFree, Bool.and_eq_true] at ht
        obtain ⟨gty, W, aty, h1, hw, h2, hW⟩ := OracleLemmas.inferX_app_inv h
        obtain ⟨tg, hgty⟩ := ih1 _ _ _ _ ht.1 hΓ hD h1
        have hpi := whnfX_holeFree hw hD hgty
        -- the head normal form of a hole-free type is not a hole
        rcases hW with ⟨x, im, dom, cod, rfl, h3, rfl⟩ | ⟨id, sh, rfl, _⟩
        · simp only [Tm.holeFree, Bool.and_eq_true] at hpi
          obtain ⟨ta, haty⟩ := ih1 _ _ _ _ ht.2 hΓ hD h2
          have ca := convX_sound _ _ _ _ haty hpi.1 hD (expectX_ok h3)
          exact ⟨.app x im (.conv tg (whnfX_conv hw)) (.conv ta ca), openT_holeFree _ _ _ _ hpi.2 ht.2⟩
        · cases hpi
      case letg ds body =>
        simp only [Tm.holeFree, Bool.and_eq_true] at ht
        obtain ⟨hΓ', hD'⟩ := pushGroupX_HF ds 0 Γ Δ ht.1 hΓ hD
        obtain ⟨bty, h1, h2, rfl⟩ := OracleLemmas.inferX_letg_inv h
        obtain ⟨tb, hbty⟩ := ih1 _ _ _ _ ht.2 hΓ' hD' h2
        refine ⟨.letg (ih2 _ _ _ ht.1 hΓ' hD' h1) tb, ?_⟩
        simp only [Tm.holeFree, Bool.and_eq_true]
        exact ⟨ht.1, hbty⟩
      case neg a =>
        simp only [Tm.holeFree] at ht
        obtain ⟨aty, h1, h2, rfl⟩ := OracleLemmas.inferX_neg_inv h
        obtain ⟨ta, haty⟩ := ih1 _ _ _ _ ht hΓ hD h1
        exact ⟨.neg (.conv ta (convX_sound _ _ _ _ haty rfl hD (expectX_ok h2))), rfl⟩
      case bin op a b =>
        simp only [Tm.holeFree, Bool.and_eq_true] at ht
        obtain ⟨aty, bty, h1, h2, h3, h4, rfl⟩ := OracleLemmas.inferX_bin_inv h
        obtain ⟨ta, haty⟩ := ih1 _ _ _ _ ht.1 hΓ hD h1
        have ca := convX_sound _ _ _ _ haty rfl hD (expectX_ok h2)
        obtain ⟨tb, hbty⟩ := ih1 _ _ _ _ ht.2 hΓ hD h3
        have cb := convX_sound _ _ _ _ hbty rfl hD (expectX_ok h4)
        cases op <;> exact ⟨.bin _ (.conv ta ca) (.conv tb cb), rfl⟩
      case ite c a b =>
        simp only [Tm.holeFree, Bool.and_eq_true] at ht
        obtain ⟨cty, bty, h1, h2, h3, h4, h5⟩ := OracleLemmas.inferX_ite_inv h
        obtain ⟨tc, hcty⟩ := ih1 _ _ _ _ ht.1.1 hΓ hD h1
        have cc := convX_sound _ _ _ _ hcty rfl hD (expectX_ok h2)
        obtain ⟨ta, haty⟩ := ih1 _ _ _ _ ht.1.2 hΓ hD h3
        obtain ⟨tb, hbty⟩ := ih1 _ _ _ _ ht.2 hΓ hD h4
        have cab := convX_sound _ _ _ _ haty hbty hD (expectX_ok h5)
        exact ⟨.ite (.conv tc cc) ta (.conv tb (.symm cab)), haty⟩
    · intro Γ Δ ds hds hΓ hD h
      cases ds
      case nil => exact .nil _ _
      case cons x ann d r =>
        simp only [Defs.holeFree, Bool.and_eq_true] at hds
        obtain ⟨annTy, dty, h1, h2, h3, h4, h5⟩ := OracleLemmas.inferDefsX_cons_inv h
        obtain ⟨tann, hannTy⟩ := ih1 _ _ _ _ hds.1.1 hΓ hD h1
        have cann := convX_sound _ _ _ _ hannTy rfl hD (isTypeX_ok h2)
        obtain ⟨td, hdty⟩ := ih1 _ _ _ _ hds.1.2 hΓ hD h3
        have cd := convX_sound _ _ _ _ hdty hds.1.1 hD (expectX_ok h4)
        exact .cons x (.conv tann cann) (.conv td cd) (ih2 _ _ _ hds.2 hΓ hD h5)

theorem inferX_sound {f : Nat} {Γ : TCtxX} {Δ : DCtxX} {t T : Tm} (ht : t.holeFree = true)
    (hΓ : THF Γ) (hD : DHF Δ) (h : inferX f Γ Δ t = .ok T) : HasType Γ Δ t T :=
  ((inferX_sound_aux f).1 Γ Δ t T ht hΓ hD h).1

theorem inferX_type_holeFree {f : Nat} {Γ : TCtxX} {Δ : DCtxX} {t T : Tm} (ht : t.holeFree = true)
    (hΓ : THF Γ) (hD : DHF Δ) (h : inferX f Γ Δ t = .ok T) : T.holeFree = true :=
  ((inferX_sound_aux f).1 Γ Δ t T ht hΓ hD h).2

theorem inferDefsX_sound {f : Nat} {Γ : TCtxX} {Δ : DCtxX} {ds : Defs} (hds : ds.holeFree = true)
    (hΓ : THF Γ) (hD : DHF Δ) (h : inferDefsX f Γ Δ ds = .ok ()) : DefsOK Γ Δ ds :=
  (inferX_sound_aux f).2 Γ Δ ds hds hΓ hD h

theorem oracleAccepts_sound {fuel : Nat} {e ty : Tm} (he : e.holeFree = true)
    (hty : ty.holeFree = true) (h : oracleAccepts fuel e ty = .ok true) : HasType [] [] e ty := by
  unfold oracleAccepts at h
  split at h
  · cases h
  · rename_i T h1
    split at h
    · rename_i b h2
      cases h
      exact .conv (inferX_sound he THF_nil DHF.nil h1)
        (convX_sound _ _ _ _ (inferX_type_holeFree he THF_nil DHF.nil h1) hty DHF.nil h2)
    · cases h

end TypingSound
