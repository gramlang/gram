import GramModel.Lemmas.Oracle

/-!
# The graph of `whnfX`

`WhR Δ t r`: an answer `whnfX f Δ t = some r`, with the fuel of `whnfX` forgotten (the group rule keeps
`letAllX`'s own), as a derivation whose rules are the arms of `whnfX` (head position of an application, operand(s)
of an operator, condition).  `whnfX_rel`: every answer is a derivation; the converse is not needed.  What an answer
implies, without another run being produced, is proved by induction on the derivation.
-/

inductive WhR (Δ : DCtxX) : Tm → Tm → Prop
  | rigid {t : Tm} : (∀ x i, t ≠ .var x i) → (∀ g a, t ≠ .app g a) → (∀ ds b, t ≠ .letg ds b) →
      (∀ a, t ≠ .neg a) → (∀ op a b, t ≠ .bin op a b) → (∀ c a b, t ≠ .ite c a b) → WhR Δ t t
  | param (x : Name) {i : Nat} : Δ[i]? = some none → WhR Δ (.var x i) (.var x i)
  | delta (x : Name) {i : Nat} {d : Tm} {off : Nat} {r : Tm} : Δ[i]? = some (some (d, off)) →
      ¬ i + 1 < off → WhR Δ (ushift 0 (i + 1 - off) d) r → WhR Δ (.var x i) r
  | beta {g a r : Tm} {x : Name} {im : Bool} {d body : Tm} : WhR Δ g (.lam x im d body) →
      WhR Δ (openT body 0 a 0) r → WhR Δ (.app g a) r
  | app {g g' : Tm} (a : Tm) : WhR Δ g g' → (∀ x im d b, g' ≠ .lam x im d b) → WhR Δ (.app g a) (.app g' a)
  | letg {n : Nat} {ds : Defs} {b b' r : Tm} : letAllX n ds b = some b' → WhR Δ b' r → WhR Δ (.letg ds b) r
  | negLit {a : Tm} {n : Int} : WhR Δ a (.lit n) → WhR Δ (.neg a) (.lit (-n))
  | neg {a a' : Tm} : WhR Δ a a' → (∀ n, a' ≠ .lit n) → WhR Δ (.neg a) (.neg a')
  | arith {op : BinOp} {a b : Tm} {x y : Int} {r : Tm} : WhR Δ a (.lit x) → WhR Δ b (.lit y) →
      delta op x y = some r → WhR Δ (.bin op a b) r
  | bin {op : BinOp} {a b a' b' : Tm} : WhR Δ a a' → WhR Δ b b' →
      (∀ x y, a' = .lit x → b' = .lit y → delta op x y = none) → WhR Δ (.bin op a b) (.bin op a' b')
  | iteT {c a b r : Tm} : WhR Δ c .tt → WhR Δ a r → WhR Δ (.ite c a b) r
  | iteF {c a b r : Tm} : WhR Δ c .ff → WhR Δ b r → WhR Δ (.ite c a b) r
  | ite {c c' : Tm} (a b : Tm) : WhR Δ c c' → c' ≠ .tt → c' ≠ .ff → WhR Δ (.ite c a b) (.ite c' a b)

open OracleLemmas in
theorem whnfX_rel : ∀ (f : Nat) (Δ : DCtxX) (t r : Tm), whnfX f Δ t = some r → WhR Δ t r := by
  intro f
  induction f with
  | zero => intro Δ t r h; cases h
  | succ f ih =>
    intro Δ t r h
    cases t
    case var x i =>
      rcases whnfX_var_some.1 h with ⟨hg, rfl⟩ | ⟨d, off, hg, hlt, h⟩
      · exact .param x hg
      · exact .delta x hg hlt (ih _ _ _ h)
    case app g a =>
      obtain ⟨g', hg, ⟨x, im, d, body, rfl, h⟩ | ⟨hn, rfl⟩⟩ := whnfX_app_some.1 h
      · exact .beta (ih _ _ _ hg) (ih _ _ _ h)
      · exact .app a (ih _ _ _ hg) hn
    case letg ds b =>
      obtain ⟨b', hg, h⟩ := whnfX_letg_some.1 h
      exact .letg hg (ih _ _ _ h)
    case neg a =>
      obtain ⟨a', hg, ⟨n, rfl, rfl⟩ | ⟨hn, rfl⟩⟩ := whnfX_neg_some.1 h
      · exact .negLit (ih _ _ _ hg)
      · exact .neg (ih _ _ _ hg) hn
    case bin op a b =>
      obtain ⟨a', b', ha, hb, ⟨x, y, rfl, rfl, hd⟩ | ⟨hn, rfl⟩⟩ := whnfX_bin_some.1 h
      · exact .arith (ih _ _ _ ha) (ih _ _ _ hb) hd
      · exact .bin (ih _ _ _ ha) (ih _ _ _ hb) hn
    case ite c a b =>
      obtain ⟨c', hg, ⟨rfl, h⟩ | ⟨rfl, h⟩ | ⟨h1, h2, rfl⟩⟩ := whnfX_ite_some.1 h
      · exact .iteT (ih _ _ _ hg) (ih _ _ _ h)
      · exact .iteF (ih _ _ _ hg) (ih _ _ _ h)
      · exact .ite a b (ih _ _ _ hg) h1 h2
    all_goals cases h; exact .rigid nofun nofun nofun nofun nofun nofun
