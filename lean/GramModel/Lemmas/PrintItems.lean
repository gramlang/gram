import GramModel.Print
import GramModel.Token
import GramModel.Generated.Grammar

/-!
# The printer, lexeme by lexeme

`printItems` is `printTm` lexeme by lexeme, each lexeme with its token kind and a flag "a space
follows" (`printTm = flatten ∘ printItems`); `printKinds` are the kinds, `printToks` the kinds as
terminals of `grammar.y`.  The printable class: no implicit non-dependent function type
(`noImplicitArrow`), no negative literal (`noNegLit`).
Declares into namespace `PrintDerives`.
-/

namespace PrintDerives

/-- a lexeme: its characters, its token kind, and whether a single space follows it -/
abbrev Item := List Char × TokKind × Bool

def tk (s : List Char) (k : TokKind) : Item := (s, k, false)
def tkS (s : List Char) (k : TokKind) : Item := (s, k, true)

def flatten : List Item → List Char
  | [] => []
  | (s, _, sp) :: r => s ++ (if sp then ' ' :: flatten r else flatten r)

/-- give the last lexeme a following space -/
def spaced : List Item → List Item
  | [] => []
  | [(s, k, _)] => [(s, k, true)]
  | x :: y :: r => x :: spaced (y :: r)

/-- the list is not empty and its last lexeme has no following space: what every wrapper asks of the list it wraps in order to
commute with `flatten` (`spaced` touches the last lexeme only; `flatten_spaced`, `wrapGroupI_spec`) -/
def tight : List Item → Bool
  | [] => false
  | [(_, _, b)] => !b
  | _ :: y :: r => tight (y :: r)

@[simp] theorem flatten_nil : flatten [] = [] := rfl
@[simp] theorem flatten_tk (s k r) : flatten (tk s k :: r) = s ++ flatten r := by simp [flatten, tk]
@[simp] theorem flatten_tkS (s k r) : flatten (tkS s k :: r) = s ++ ' ' :: flatten r := by
  simp [flatten, tkS]

@[simp] theorem flatten_append (l r : List Item) : flatten (l ++ r) = flatten l ++ flatten r := by
  induction l with
  | nil => rfl
  | cons x l ih =>
    obtain ⟨s, k, sp⟩ := x
    cases sp <;> simp [flatten, ih]

theorem flatten_spaced : ∀ (l : List Item), tight l = true → flatten (spaced l) = flatten l ++ [' ']
  | [], h => by simp [tight] at h
  | [(s, k, b)], h => by
      simp [tight] at h
      simp [spaced, flatten, h]
  | x :: y :: r, h => by
      have ih := flatten_spaced (y :: r) (by simpa [tight] using h)
      obtain ⟨s, k, sp⟩ := x
      cases sp <;> simp [spaced, flatten, ih]

theorem tight_append : ∀ (l r : List Item), tight r = true → tight (l ++ r) = true
  | [], r, h => by simpa using h
  | [x], r, h => by
      cases r with
      | nil => simp [tight] at h
      | cons y r => simpa [tight] using h
  | x :: y :: l, r, h => by
      have ih := tight_append (y :: l) r h
      simpa [tight] using ih

theorem tight_cons (x : Item) (r : List Item) (h : tight r = true) : tight (x :: r) = true :=
  tight_append [x] r h

@[simp] theorem tight_tk (s k) : tight [tk s k] = true := rfl

def opKind : BinOp → TokKind
  | .sum => .plus | .diff => .minus | .prod => .asterisk | .quot => .slash
  | .lt => .lessThan | .le => .lessThanOrEqualTo | .eq => .doubleEquals | .gt => .greaterThan
  | .ge => .greaterThanOrEqualTo

/-- an integer literal: a negative one is a `-` directly followed by the digits (two tokens) -/
def intItems : Int → List Item
  | .ofNat n => [tk (Nat.toDigits 10 n) (.integerLiteral n)]
  | .negSucc n => [tk ['-'] .minus, tk (Nat.toDigits 10 (n + 1)) (.integerLiteral (n + 1))]

def parenI (l : List Item) : List Item := tk ['('] .leftParen :: l ++ [tk [')'] .rightParen]

def wrapGroupI (t : Tm) (l : List Item) : List Item := if atomic t then l else parenI l

def wrapHeadI (t : Tm) (l : List Item) : List Item :=
  match t with
  | .app _ _ => l
  | _ => wrapGroupI t l

def wrapAnnotI (t : Tm) (l : List Item) : List Item :=
  match t with
  | .letg _ _ => parenI l
  | _ => l

def lamItems (imp : Bool) (x : List Char) (ann body : List Item) : List Item :=
  if imp then
    tk ['{'] .leftCurly :: tkS x (.identifier x) :: tkS [':'] .colon :: ann ++
      tkS ['}'] .rightCurly :: tkS ['=', '>'] .thickArrow :: body
  else
    tk ['('] .leftParen :: tkS x (.identifier x) :: tkS [':'] .colon :: ann ++
      tkS [')'] .rightParen :: tkS ['=', '>'] .thickArrow :: body

def piDepItems (imp : Bool) (x : List Char) (ann cod : List Item) : List Item :=
  if imp then
    tk ['{'] .leftCurly :: tkS x (.identifier x) :: tkS [':'] .colon :: ann ++
      tkS ['}'] .rightCurly :: tkS ['-', '>'] .thinArrow :: cod
  else
    tk ['('] .leftParen :: tkS x (.identifier x) :: tkS [':'] .colon :: ann ++
      tkS [')'] .rightParen :: tkS ['-', '>'] .thinArrow :: cod

def piImpItems (dom cod : List Item) : List Item :=
  tk ['{'] .leftCurly :: dom ++ tkS ['}'] .rightCurly :: tkS ['-', '>'] .thinArrow :: cod

def arrowItems (dom cod : List Item) : List Item :=
  spaced dom ++ tkS ['-', '>'] .thinArrow :: cod

def appItems (f a : List Item) : List Item := spaced f ++ a
def negItems (a : List Item) : List Item := tk ['-'] .minus :: a
def binItems (op : BinOp) (a b : List Item) : List Item :=
  spaced a ++ tkS (opChars op) (opKind op) :: b
def iteItems (c a b : List Item) : List Item :=
  tkS ['i', 'f'] .if_ :: spaced c ++ tkS ['t', 'h', 'e', 'n'] .then_ :: spaced a ++
    tkS ['e', 'l', 's', 'e'] .else_ :: b
def defItems (x : List Char) (ann d : List Item) : List Item :=
  tkS x (.identifier x) :: tkS [':'] .colon :: spaced ann ++ tkS ['='] .equals :: d ++
    [tkS [';'] .terminatorSemicolon]

mutual
/-- `printTm`, lexeme by lexeme (same case analysis, same wrap functions) -/
def printItems (nm : Name → List Char) : Tm → List Item
  | .hole _ _ => [tk holeText (.identifier holeText)]
  | .type => [tk kwType .type_]
  | .int => [tk kwInt .integer]
  | .bool => [tk kwBool .boolean]
  | .tt => [tk kwTrue .true_]
  | .ff => [tk kwFalse .false_]
  | .lit n => intItems n
  | .var x _ => [tk (nm x) (.identifier (nm x))]
  | .lam x imp d b => lamItems imp (nm x) (wrapAnnotI d (printItems nm d)) (printItems nm b)
  | .pi x imp d c =>
      if freeAt c 0 then piDepItems imp (nm x) (wrapAnnotI d (printItems nm d)) (printItems nm c)
      else if imp then piImpItems (printItems nm d) (printItems nm c)
      else arrowItems (wrapHeadI d (printItems nm d)) (printItems nm c)
  | .app f a => appItems (wrapHeadI f (printItems nm f)) (wrapGroupI a (printItems nm a))
  | .letg ds b => printDefsItems nm ds ++ printItems nm b
  | .neg a => negItems (wrapGroupI a (printItems nm a))
  | .bin op a b => binItems op (wrapGroupI a (printItems nm a)) (wrapGroupI b (printItems nm b))
  | .ite c a b => iteItems (printItems nm c) (printItems nm a) (printItems nm b)
def printDefsItems (nm : Name → List Char) : Defs → List Item
  | .nil => []
  | .cons x a d r =>
      defItems (nm x) (wrapGroupI a (printItems nm a)) (wrapGroupI d (printItems nm d))
        ++ printDefsItems nm r
end

def isApp : Tm → Bool
  | .app _ _ => true
  | _ => false

def isLet : Tm → Bool
  | .letg _ _ => true
  | _ => false

theorem wrapHeadI_eq (t : Tm) (l : List Item) :
    wrapHeadI t l = if isApp t then l else wrapGroupI t l := by cases t <;> rfl

theorem wrapAnnotI_eq (t : Tm) (l : List Item) :
    wrapAnnotI t l = if isLet t then parenI l else l := by cases t <;> rfl

theorem wrapHead_eq (t : Tm) (s : List Char) :
    wrapHead t s = if isApp t then s else wrapGroup t s := by cases t <;> rfl

theorem wrapAnnot_eq (t : Tm) (s : List Char) :
    wrapAnnot t s = if isLet t then parenC s else s := by cases t <;> rfl

theorem tight_parenI (l : List Item) : tight (parenI l) = true := by
  unfold parenI
  exact tight_cons _ _ (tight_append _ _ rfl)

theorem flatten_parenI (l : List Item) : flatten (parenI l) = parenC (flatten l) := by
  simp [parenI, parenC]

theorem wrapGroupI_spec (t : Tm) (l : List Item) (h : tight l = true) :
    flatten (wrapGroupI t l) = wrapGroup t (flatten l) ∧ tight (wrapGroupI t l) = true := by
  unfold wrapGroupI wrapGroup
  split
  · exact ⟨rfl, h⟩
  · exact ⟨flatten_parenI l, tight_parenI l⟩

theorem wrapHeadI_spec (t : Tm) (l : List Item) (h : tight l = true) :
    flatten (wrapHeadI t l) = wrapHead t (flatten l) ∧ tight (wrapHeadI t l) = true := by
  rw [wrapHeadI_eq, wrapHead_eq]
  split
  · exact ⟨rfl, h⟩
  · exact wrapGroupI_spec t l h

theorem wrapAnnotI_spec (t : Tm) (l : List Item) (h : tight l = true) :
    flatten (wrapAnnotI t l) = wrapAnnot t (flatten l) ∧ tight (wrapAnnotI t l) = true := by
  rw [wrapAnnotI_eq, wrapAnnot_eq]
  split
  · exact ⟨flatten_parenI l, tight_parenI l⟩
  · exact ⟨rfl, h⟩

theorem tight_printItems (nm : Name → List Char) : ∀ t : Tm, tight (printItems nm t) = true
  | .hole _ _ | .type | .int | .bool | .tt | .ff | .var _ _ | .lit (.ofNat _) | .lit (.negSucc _) => rfl
  | .lam _ imp _ b => by
      rw [printItems, lamItems]
      split <;> exact tight_append _ _ (tight_cons _ _ (tight_cons _ _ (tight_printItems nm b)))
  | .pi _ imp _ c => by
      have hc := tight_cons (tkS ['-', '>'] .thinArrow) _ (tight_printItems nm c)
      rw [printItems, piDepItems, piImpItems, arrowItems]
      split
      · split <;> exact tight_append _ _ (tight_cons _ _ hc)
      · split
        · exact tight_append _ _ (tight_cons _ _ hc)
        · exact tight_append _ _ hc
  | .app _ a => tight_append _ _ (wrapGroupI_spec a _ (tight_printItems nm a)).2
  | .letg _ b => tight_append _ _ (tight_printItems nm b)
  | .neg a => tight_cons _ _ (wrapGroupI_spec a _ (tight_printItems nm a)).2
  | .bin _ _ b => tight_append _ _ (tight_cons _ _ (wrapGroupI_spec b _ (tight_printItems nm b)).2)
  | .ite _ _ b => by
      rw [printItems, iteItems]
      exact tight_append _ _ (tight_cons _ _ (tight_printItems nm b))

mutual
theorem flatten_printItems (nm : Name → List Char) :
    ∀ t : Tm, flatten (printItems nm t) = printTm nm t
  | .hole _ _ | .type | .int | .bool | .tt | .ff | .var _ _ => by simp [printItems, printTm]
  | .lit n => by cases n <;> simp [printItems, printTm, intItems, intChars]
  | .lam x imp d b => by
      cases imp <;> simp [printItems, printTm, lamItems, lamText, flatten_printItems nm d,
        flatten_printItems nm b, wrapAnnotI_spec d _ (tight_printItems nm d)]
  | .pi x imp d c => by
      have hd := tight_printItems nm d
      rw [printItems, printTm]
      split
      · cases imp <;> simp [piDepItems, piDepText, flatten_printItems nm d, flatten_printItems nm c,
          wrapAnnotI_spec d _ hd]
      · split
        · simp [piImpItems, piImpText, flatten_printItems nm d, flatten_printItems nm c]
        · simp [arrowItems, arrowText, flatten_spaced, flatten_printItems nm d,
            flatten_printItems nm c, wrapHeadI_spec d _ hd]
  | .app f a => by
      simp [printItems, printTm, appItems, appText, flatten_spaced, flatten_printItems nm f,
        flatten_printItems nm a, wrapHeadI_spec f _ (tight_printItems nm f),
        wrapGroupI_spec a _ (tight_printItems nm a)]
  | .letg ds b => by
      simp [printItems, printTm, flatten_printDefsItems nm ds, flatten_printItems nm b]
  | .neg a => by
      simp [printItems, printTm, negItems, negText, flatten_printItems nm a,
        wrapGroupI_spec a _ (tight_printItems nm a)]
  | .bin op a b => by
      simp [printItems, printTm, binItems, binText, flatten_spaced, flatten_printItems nm a,
        flatten_printItems nm b, wrapGroupI_spec a _ (tight_printItems nm a),
        wrapGroupI_spec b _ (tight_printItems nm b)]
  | .ite c a b => by
      simp [printItems, printTm, iteItems, iteText, flatten_spaced, tight_printItems,
        flatten_printItems nm c, flatten_printItems nm a, flatten_printItems nm b]
theorem flatten_printDefsItems (nm : Name → List Char) :
    ∀ ds : Defs, flatten (printDefsItems nm ds) = printDefs nm ds
  | .nil => by simp [printDefsItems, printDefs]
  | .cons x a d r => by
      simp [printDefsItems, printDefs, defItems, defText, flatten_spaced, flatten_printItems nm a,
        flatten_printItems nm d, flatten_printDefsItems nm r,
        wrapGroupI_spec a _ (tight_printItems nm a), wrapGroupI_spec d _ (tight_printItems nm d)]
end

theorem printTm_eq_flatten (nm : Name → List Char) (t : Tm) :
    printTm nm t = flatten (printItems nm t) := (flatten_printItems nm t).symm

theorem printDefs_eq_flatten (nm : Name → List Char) (ds : Defs) :
    printDefs nm ds = flatten (printDefsItems nm ds) := (flatten_printDefsItems nm ds).symm

/-- the terminal of `grammar.y` a token kind stands for (`token.rs` ↔ `%token`) -/
def kindTerminal : TokKind → String
  | .asterisk => "ASTERISK" | .boolean => "BOOLEAN" | .colon => "COLON" | .doubleEquals => "DOUBLE_EQUALS"
  | .else_ => "ELSE" | .equals => "EQUALS" | .false_ => "FALSE" | .greaterThan => "GREATER_THAN"
  | .greaterThanOrEqualTo => "GREATER_THAN_OR_EQUAL" | .identifier _ => "IDENTIFIER" | .if_ => "IF"
  | .integer => "INTEGER" | .integerLiteral _ => "INTEGER_LITERAL" | .leftCurly => "LEFT_CURLY"
  | .leftParen => "LEFT_PAREN" | .lessThan => "LESS_THAN" | .lessThanOrEqualTo => "LESS_THAN_OR_EQUAL"
  | .minus => "MINUS" | .plus => "PLUS" | .rightCurly => "RIGHT_CURLY" | .rightParen => "RIGHT_PAREN"
  | .slash => "SLASH" | .terminatorLineBreak => "TERMINATOR" | .terminatorSemicolon => "TERMINATOR"
  | .then_ => "THEN" | .thickArrow => "THICK_ARROW" | .thinArrow => "THIN_ARROW" | .true_ => "TRUE"
  | .type_ => "TYPE"

/-- `%token`s and kinds are both listed alphabetically, so a kind's terminal stands at the kind's
own number, one less after the two terminator kinds, which share a terminal. -/
theorem kindTerminal_mem (k : TokKind) : kindTerminal k ∈ Generated.grammarTerminals :=
  List.mem_of_getElem? (i := k.tag - if 23 ≤ k.tag then 1 else 0) (by cases k <;> rfl)

def kindsOf (l : List Item) : List TokKind := l.map (fun i => i.2.1)

def toksOf (l : List Item) : List String := l.map (fun i => kindTerminal i.2.1)

def printKinds (nm : Name → List Char) (t : Tm) : List TokKind := kindsOf (printItems nm t)

def printToks (nm : Name → List Char) (t : Tm) : List String := toksOf (printItems nm t)

theorem printToks_eq_map (nm : Name → List Char) (t : Tm) :
    printToks nm t = (printKinds nm t).map kindTerminal := by
  simp [printToks, printKinds, toksOf, kindsOf]

@[simp] theorem toksOf_nil : toksOf [] = [] := rfl
@[simp] theorem toksOf_tk (s k r) : toksOf (tk s k :: r) = kindTerminal k :: toksOf r := rfl
@[simp] theorem toksOf_tkS (s k r) : toksOf (tkS s k :: r) = kindTerminal k :: toksOf r := rfl
@[simp] theorem toksOf_append (l r : List Item) : toksOf (l ++ r) = toksOf l ++ toksOf r := by
  simp [toksOf]

theorem map_spaced {β : Type} (g : Item → β) (hg : ∀ s k b b', g (s, k, b) = g (s, k, b')) :
    ∀ l : List Item, (spaced l).map g = l.map g
  | [] => rfl
  | [(s, k, b)] => congrArg (· :: []) (hg s k true b)
  | x :: y :: r => congrArg (g x :: ·) (map_spaced g hg (y :: r))

@[simp] theorem toksOf_spaced (l : List Item) : toksOf (spaced l) = toksOf l :=
  map_spaced _ (fun _ _ _ _ => rfl) l

def groupToks (nm : Name → List Char) (t : Tm) : List String := toksOf (wrapGroupI t (printItems nm t))
def headToks (nm : Name → List Char) (t : Tm) : List String := toksOf (wrapHeadI t (printItems nm t))
def annotToks (nm : Name → List Char) (t : Tm) : List String := toksOf (wrapAnnotI t (printItems nm t))
def defsToks (nm : Name → List Char) (ds : Defs) : List String := toksOf (printDefsItems nm ds)

theorem toksOf_parenI (l : List Item) :
    toksOf (parenI l) = "LEFT_PAREN" :: (toksOf l ++ ["RIGHT_PAREN"]) := by
  simp [parenI, kindTerminal]

theorem groupToks_eq (nm : Name → List Char) (t : Tm) :
    groupToks nm t = if atomic t then printToks nm t
      else "LEFT_PAREN" :: (printToks nm t ++ ["RIGHT_PAREN"]) := by
  unfold groupToks wrapGroupI printToks
  split <;> simp [toksOf_parenI]

theorem headToks_eq (nm : Name → List Char) (t : Tm) :
    headToks nm t = if isApp t then printToks nm t else groupToks nm t := by
  unfold headToks groupToks printToks
  rw [wrapHeadI_eq]
  split <;> rfl

theorem annotToks_eq (nm : Name → List Char) (t : Tm) :
    annotToks nm t = if isLet t then "LEFT_PAREN" :: (printToks nm t ++ ["RIGHT_PAREN"])
      else printToks nm t := by
  unfold annotToks printToks
  rw [wrapAnnotI_eq]
  split
  · exact toksOf_parenI _
  · rfl

section equations
variable (nm : Name → List Char)

theorem printToks_hole (i s) : printToks nm (.hole i s) = ["IDENTIFIER"] := rfl
theorem printToks_type : printToks nm .type = ["TYPE"] := rfl
theorem printToks_int : printToks nm .int = ["INTEGER"] := rfl
theorem printToks_bool : printToks nm .bool = ["BOOLEAN"] := rfl
theorem printToks_tt : printToks nm .tt = ["TRUE"] := rfl
theorem printToks_ff : printToks nm .ff = ["FALSE"] := rfl
theorem printToks_var (x i) : printToks nm (.var x i) = ["IDENTIFIER"] := rfl
theorem printToks_lit_nonneg (n : Nat) : printToks nm (.lit (.ofNat n)) = ["INTEGER_LITERAL"] := rfl
theorem printToks_lit_neg (n : Nat) :
    printToks nm (.lit (.negSucc n)) = ["MINUS", "INTEGER_LITERAL"] := rfl

theorem printToks_lam (x d b) (imp : Bool) :
    printToks nm (.lam x imp d b) =
      (if imp then "LEFT_CURLY" else "LEFT_PAREN") :: "IDENTIFIER" :: "COLON" :: (annotToks nm d ++
        (if imp then "RIGHT_CURLY" else "RIGHT_PAREN") :: "THICK_ARROW" :: printToks nm b) := by
  cases imp <;> simp [printToks, printItems, lamItems, annotToks, kindTerminal]

theorem printToks_pi_dep (x d c) (imp : Bool) (h : freeAt c 0 = true) :
    printToks nm (.pi x imp d c) =
      (if imp then "LEFT_CURLY" else "LEFT_PAREN") :: "IDENTIFIER" :: "COLON" :: (annotToks nm d ++
        (if imp then "RIGHT_CURLY" else "RIGHT_PAREN") :: "THIN_ARROW" :: printToks nm c) := by
  cases imp <;> simp [printToks, printItems, h, piDepItems, annotToks, kindTerminal]

theorem printToks_pi_imp (x d c) (h : freeAt c 0 = false) :
    printToks nm (.pi x true d c) =
      "LEFT_CURLY" :: (printToks nm d ++ "RIGHT_CURLY" :: "THIN_ARROW" :: printToks nm c) := by
  simp [printToks, printItems, h, piImpItems, kindTerminal]

theorem printToks_arrow (x d c) (h : freeAt c 0 = false) :
    printToks nm (.pi x false d c) = headToks nm d ++ "THIN_ARROW" :: printToks nm c := by
  simp [printToks, printItems, h, arrowItems, headToks, kindTerminal]

theorem printToks_app (f a) : printToks nm (.app f a) = headToks nm f ++ groupToks nm a := by
  simp [printToks, printItems, appItems, headToks, groupToks]

theorem printToks_neg (a) : printToks nm (.neg a) = "MINUS" :: groupToks nm a := by
  simp [printToks, printItems, negItems, groupToks, kindTerminal]

theorem printToks_bin (op a b) :
    printToks nm (.bin op a b) = groupToks nm a ++ kindTerminal (opKind op) :: groupToks nm b := by
  simp [printToks, printItems, binItems, groupToks]

theorem printToks_ite (c a b) :
    printToks nm (.ite c a b) = "IF" :: (printToks nm c ++ "THEN" :: (printToks nm a ++
      "ELSE" :: printToks nm b)) := by
  simp [printToks, printItems, iteItems, kindTerminal]

theorem printToks_letg (ds b) : printToks nm (.letg ds b) = defsToks nm ds ++ printToks nm b := by
  simp [printToks, printItems, defsToks]

theorem defsToks_nil : defsToks nm .nil = [] := rfl

theorem defsToks_cons (x a d r) :
    defsToks nm (.cons x a d r) = "IDENTIFIER" :: "COLON" :: (groupToks nm a ++ "EQUALS" ::
      (groupToks nm d ++ "TERMINATOR" :: defsToks nm r)) := by
  simp [defsToks, printDefsItems, defItems, groupToks, kindTerminal]

end equations

mutual
/-- no implicit non-dependent function type (`{A} -> B`, which `grammar.y` does not have) occurs in
the term -/
def noImplicitArrow : Tm → Bool
  | .pi _ imp d c => (!imp || freeAt c 0) && noImplicitArrow d && noImplicitArrow c
  | .lam _ _ d b => noImplicitArrow d && noImplicitArrow b
  | .app f a => noImplicitArrow f && noImplicitArrow a
  | .letg ds b => noImplicitArrowDefs ds && noImplicitArrow b
  | .neg a => noImplicitArrow a
  | .bin _ a b => noImplicitArrow a && noImplicitArrow b
  | .ite c a b => noImplicitArrow c && noImplicitArrow a && noImplicitArrow b
  | _ => true
def noImplicitArrowDefs : Defs → Bool
  | .nil => true
  | .cons _ a d r => noImplicitArrow a && noImplicitArrow d && noImplicitArrowDefs r
end

mutual
/-- no negative integer literal occurs in the term (source programs have none: `-1` is the negation
of the literal `1`; the normalizer and the evaluator create them) -/
def noNegLit : Tm → Bool
  | .lit n => decide (0 ≤ n)
  | .pi _ _ d c => noNegLit d && noNegLit c
  | .lam _ _ d b => noNegLit d && noNegLit b
  | .app f a => noNegLit f && noNegLit a
  | .letg ds b => noNegLitDefs ds && noNegLit b
  | .neg a => noNegLit a
  | .bin _ a b => noNegLit a && noNegLit b
  | .ite c a b => noNegLit c && noNegLit a && noNegLit b
  | _ => true
def noNegLitDefs : Defs → Bool
  | .nil => true
  | .cons _ a d r => noNegLit a && noNegLit d && noNegLitDefs r
end

end PrintDerives
