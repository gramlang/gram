import GramModel.Lemmas.UnifyAgree

/-!
# Which panics of the type checker model are reachable (C14)

The unrestricted statement "no panic on a well-scoped term" is false (finding D18, see
`Props/C14.lean`); this file proves what is true.

The main proof is a typing of the store: `h : Nat → Nat` gives every cell its home depth, `Sp h n D t` says `t` is well
formed at depth `D` under `h`, `StoreOK h σ` that the store is well typed, `Ext` and `Step` that the typing was extended
and the run kept the frame, and `∃ h', Step h s h' s' ∧ Sp h' … r` is the usual "under some extension of the store
typing the result is well formed".
-/

namespace CheckNoPanic

open UnifyAgree WhnfLemmas

/-- a value satisfying `Q`, or out of fuel: no panic -/
abbrev Res {α} (x : R α) (Q : α → St → Prop) : Prop := x.Sat Q Nev

/-- the site of a panic outcome; decidable, so a concrete run can be evaluated by the kernel -/
def panicSite {α} : R α → Option String
  | .panic site => some site
  | _ => none

theorem eq_panic_of_site {α} {x : R α} {site : String} (h : panicSite x = some site) :
    x = .panic site := by
  cases x <;> cases h
  rfl

/-- `t` is a spine term at depth `D`: holes occur only along the Π-spine, with shift 0, the hole `c`
only at depth `h c`; all other subterms are hole-free and well scoped.  `n` bounds the cell ids. -/
def Sp (h : Nat → Nat) (n : Nat) : Nat → Tm → Prop
  | D, .hole c s => s = 0 ∧ c < n ∧ h c = D
  | D, .pi _ _ A B => Sp h n D A ∧ Sp h n (D+1) B
  | D, t => t.holeFree = true ∧ wellScoped D t = true

theorem Sp_hole {h n D c s} : Sp h n D (.hole c s) ↔ (s = 0 ∧ c < n ∧ h c = D) := by
  simp only [Sp]
theorem Sp_pi {h n D x im A B} : Sp h n D (.pi x im A B) ↔ (Sp h n D A ∧ Sp h n (D+1) B) := by
  simp only [Sp]

theorem Sp_of_hf (h : Nat → Nat) (n : Nat) : ∀ (t : Tm) (D : Nat), t.holeFree = true →
    wellScoped D t = true → Sp h n D t
  | .pi x im A B, D, hf, hw => by
      simp only [Tm.holeFree, Bool.and_eq_true] at hf
      simp only [wellScoped, Bool.and_eq_true] at hw
      exact Sp_pi.2 ⟨Sp_of_hf h n A D hf.1 hw.1, Sp_of_hf h n B (D+1) hf.2 hw.2⟩
  | .hole c s, D, hf, hw => by cases hf
  | .type, D, hf, hw | .int, D, hf, hw | .bool, D, hf, hw | .tt, D, hf, hw | .ff, D, hf, hw
  | .lit _, D, hf, hw | .var _ _, D, hf, hw | .lam _ _ _ _, D, hf, hw | .app _ _, D, hf, hw
  | .letg _ _, D, hf, hw | .neg _, D, hf, hw | .bin _ _ _, D, hf, hw | .ite _ _ _, D, hf, hw => by
      simp only [Sp]; exact ⟨hf, hw⟩

def Ext (n : Nat) (h h' : Nat → Nat) : Prop := ∀ c, c < n → h' c = h c

theorem Ext.refl (n : Nat) (h : Nat → Nat) : Ext n h h := fun _ _ => rfl
theorem Ext.trans {n n' : Nat} {h h1 h2 : Nat → Nat} (e1 : Ext n h h1) (e2 : Ext n' h1 h2)
    (hn : n ≤ n') : Ext n h h2 := fun c hc => by rw [e2 c (by omega), e1 c hc]

theorem Sp.mono {h h' : Nat → Nat} {n n' : Nat} (he : Ext n h h') (hn : n ≤ n') :
    ∀ (t : Tm) (D : Nat), Sp h n D t → Sp h' n' D t
  | .pi x im A B, D, hs => by
      rw [Sp_pi] at hs ⊢
      exact ⟨Sp.mono he hn A D hs.1, Sp.mono he hn B (D+1) hs.2⟩
  | .hole c s, D, hs => by
      rw [Sp_hole] at hs ⊢
      exact ⟨hs.1, by omega, by rw [he c hs.2.1]; exact hs.2.2⟩
  | .type, D, hs | .int, D, hs | .bool, D, hs | .tt, D, hs | .ff, D, hs
  | .lit _, D, hs | .var _ _, D, hs | .lam _ _ _ _, D, hs | .app _ _, D, hs
  | .letg _ _, D, hs | .neg _, D, hs | .bin _ _ _, D, hs | .ite _ _ _, D, hs => by
      simp only [Sp] at hs ⊢; exact hs

/-- every resolved cell `c` holds a spine term of depth `h c` -/
def StoreOK (h : Nat → Nat) (σ : List (Option Tm)) : Prop :=
  ∀ c v, cellVal σ c = some v → Sp h σ.length (h c) v

theorem cellVal_lt {σ : List (Option Tm)} {c : Nat} {v : Tm} (e : cellVal σ c = some v) :
    c < σ.length := getElem?_lt (cellVal_some.1 e)

/-- what a run may do to the state: allocate cells (homes chosen by `h'`), nothing else the
invariant depends on -/
structure Step (h : Nat → Nat) (s : St) (h' : Nat → Nat) (s' : St) : Prop where
  ext : Ext s.store.length h h'
  ok : StoreOK h' s'.store
  len : s.store.length ≤ s'.store.length
  tctx : s'.tctx = s.tctx
  dctx : s'.dctx = s.dctx

theorem Step.refl {h : Nat → Nat} {s : St} (hs : StoreOK h s.store) : Step h s h s :=
  ⟨Ext.refl _ _, hs, Nat.le_refl _, rfl, rfl⟩

theorem Step.trans {h h1 h2 : Nat → Nat} {s s1 s2 : St} (a : Step h s h1 s1) (b : Step h1 s1 h2 s2) :
    Step h s h2 s2 :=
  ⟨a.ext.trans b.ext a.len, b.ok, Nat.le_trans a.len b.len, b.tctx.trans a.tctx,
    b.dctx.trans a.dctx⟩

theorem Step.sp {h h' : Nat → Nat} {s s' : St} (a : Step h s h' s') {D : Nat} {t : Tm}
    (ht : Sp h s.store.length D t) : Sp h' s'.store.length D t := Sp.mono a.ext a.len t D ht

theorem Step.popCtx {h h1 h2 : Nat → Nat} {s s1 s2 : St} {a : Tm × Nat} {b : Option (Tm × Nat)}
    (st1 : Step h s h1 s1)
    (st2 : Step h1 { s1 with tctx := a :: s1.tctx, dctx := b :: s1.dctx } h2 s2) :
    Step h s h2 { s2 with tctx := s2.tctx.tail, dctx := s2.dctx.tail } :=
  ⟨st1.ext.trans st2.ext st1.len, st2.ok, Nat.le_trans st1.len st2.len,
    by show s2.tctx.tail = s.tctx; rw [st2.tctx]; exact st1.tctx,
    by show s2.dctx.tail = s.dctx; rw [st2.dctx]; exact st1.dctx⟩

theorem Step.sp' {h h' : Nat → Nat} {s s' : St} (a : Step h s h' s') {t : Tm}
    (ht : Sp h s.store.length s.dctx.length t) : Sp h' s'.store.length s'.dctx.length t := by
  rw [a.dctx]; exact a.sp ht

/-! ## Shifting a spine term by 0 expands its resolved cells -/

theorem natCast_zero_int : ((0 : Nat) : Int) = 0 := rfl
theorem neg_natCast_zero_int : (-((0 : Nat) : Int)) = 0 := rfl

theorem sshiftS_sp : ∀ (f c : Nat) (t : Tm) (s : St) (h : Nat → Nat) (D : Nat),
    StoreOK h s.store → Sp h s.store.length D t →
    Res (sshiftS f c 0 t s) (fun r s' => s' = s ∧ ∃ t', r = some t' ∧ Sp h s.store.length D t') := by
  intro f
  induction f with
  | zero => intros; rw [sshiftS]; trivial
  | succ f ih =>
    intro c t s h D hst hsp
    have hfcase : t.holeFree = true → wellScoped D t = true →
        Res (sshiftS (f+1) c 0 t s) (fun r s' => s' = s ∧ ∃ t', r = some t' ∧ Sp h s.store.length D t') := by
      intro hf hw
      refine ((sshiftS_P (f+1)).1 c 0 t hf s).sat.post (fun r _ q => ⟨q.1, ?_⟩)
      have e := q.2
      rw [sshift_zero] at e
      exact ⟨t, e, Sp_of_hf h _ t D hf hw⟩
    cases t
    case hole id sh =>
      obtain ⟨rfl, hid, hh⟩ := Sp_hole.1 hsp
      unfold sshiftS
      dsimp only
      rw [cellGet_bind]
      cases hv : cellVal s.store id with
      | some sub =>
        dsimp only
        rw [natCast_zero_int]
        have hsub : Sp h s.store.length D sub := by rw [← hh]; exact hst id sub hv
        refine R.Sat.bind_ro (ih 0 sub s h D hst hsub) (fun a qa => ?_)
        obtain ⟨sub', rfl, hsub'⟩ := qa
        exact ih c sub' s h D hst hsub'
      | none =>
        dsimp only
        split
        · split
          · refine R.Sat.pure ⟨rfl, ⟨_, rfl, ?_⟩⟩
            exact Sp_hole.2 ⟨by simp, hid, hh⟩
          · omega
        · exact R.Sat.pure ⟨rfl, ⟨_, rfl, hsp⟩⟩
    case pi x im A B =>
      obtain ⟨hA, hB⟩ := Sp_pi.1 hsp
      unfold sshiftS
      dsimp only
      refine R.Sat.bind_ro (ih c A s h D hst hA) (fun a qa => ?_)
      obtain ⟨A', rfl, hA'⟩ := qa
      dsimp only
      refine R.Sat.bind_ro (ih (c+1) B s h (D+1) hst hB) (fun b qb => ?_)
      obtain ⟨B', rfl, hB'⟩ := qb
      exact R.Sat.pure ⟨rfl, ⟨_, rfl, Sp_pi.2 ⟨hA', hB'⟩⟩⟩
    all_goals (simp only [Sp] at hsp; exact hfcase hsp.1 hsp.2)

theorem ushiftS_sp (f : Nat) (t : Tm) (s : St) (h : Nat → Nat) (D : Nat)
    (hst : StoreOK h s.store) (hsp : Sp h s.store.length D t) :
    Res (ushiftS f 0 0 t s) (fun r s' => s' = s ∧ Sp h s.store.length D r) := by
  unfold ushiftS
  rw [natCast_zero_int]
  refine R.Sat.bind_ro (sshiftS_sp f 0 t s h D hst hsp) (fun a qa => ?_)
  obtain ⟨t', rfl, ht'⟩ := qa
  exact R.Sat.pure ⟨rfl, ht'⟩

theorem whnfS_sp : ∀ (f : Nat) (t : Tm) (s : St) (h : Nat → Nat),
    StoreOK h s.store → DHF s.dctx → DSc s.dctx → Sp h s.store.length s.dctx.length t →
    Res (whnfS f t s) (fun r s' => s' = s ∧ Sp h s.store.length s.dctx.length r) := by
  intro f
  induction f with
  | zero => intros; rw [whnfS]; trivial
  | succ f ih =>
    intro t s h hst hD hS hsp
    have hfcase : t.holeFree = true → wellScoped s.dctx.length t = true →
        Res (whnfS (f+1) t s) (fun r s' => s' = s ∧ Sp h s.store.length s.dctx.length r) := by
      intro hf hw
      exact (whnfS_out true (f+1) t s ⟨hf, fun _ => hw⟩ hD fun _ => hS).mono
        (fun r _ q => ⟨q.1, Sp_of_hf h _ r _ q.2.1 (q.2.2 rfl)⟩) fun _ hp => absurd hp.2 (by decide)  -- `IdxLive true` is empty
    cases t
    case hole id sh =>
      obtain ⟨rfl, hid, hh⟩ := Sp_hole.1 hsp
      unfold whnfS
      dsimp only
      rw [cellGet_bind]
      cases hv : cellVal s.store id with
      | some sub =>
        dsimp only
        have hsub : Sp h s.store.length s.dctx.length sub := by rw [← hh]; exact hst id sub hv
        refine R.Sat.bind_ro (ushiftS_sp f sub s h _ hst hsub) (fun a qa => ?_)
        exact ih a s h hst hD hS qa
      | none => exact R.Sat.pure ⟨rfl, hsp⟩
    case pi x im A B =>
      unfold whnfS
      exact R.Sat.pure ⟨rfl, hsp⟩
    all_goals (simp only [Sp] at hsp; exact hfcase hsp.1 hsp.2)

theorem cellVal_append_none (σ : List (Option Tm)) (c : Nat) :
    cellVal (σ ++ [none]) c = cellVal σ c := by
  unfold cellVal
  rcases Nat.lt_or_ge c σ.length with hlt | hge
  · rw [List.getElem?_append_left hlt]
  · rw [List.getElem?_eq_none hge]
    rcases Nat.lt_or_ge c (σ ++ [none]).length with hlt' | hge'
    · have : c = σ.length := by simp at hlt'; omega
      subst this
      simp
    · rw [List.getElem?_eq_none hge']

theorem step_fresh {h : Nat → Nat} {s : St} (hst : StoreOK h s.store) (D : Nat) :
    Step h s (fun c => if c = s.store.length then D else h c)
      { s with store := s.store ++ [none] } := by
  have hext : Ext s.store.length h (fun c => if c = s.store.length then D else h c) := by
    intro c hc
    have : c ≠ s.store.length := by omega
    simp [this]
  refine ⟨hext, ?_, by simp, rfl, rfl⟩
  intro c v hv
  rw [cellVal_append_none] at hv
  have hc := cellVal_lt hv
  have := Sp.mono hext (n' := (s.store ++ [none]).length) (by simp) v (h c) (hst c v hv)
  rw [hext c hc]
  exact this

-- `openS` is the only place, besides `cellFresh`, where cells are allocated
theorem openS_sp : ∀ (f : Nat) (t : Tm) (i : Nat) (u : Tm) (sft : Nat) (s : St) (h : Nat → Nat)
    (D m : Nat), StoreOK h s.store → Sp h s.store.length (D+1) t → i ≤ D → u.holeFree = true →
    wellScoped m u = true → m + sft ≤ D →
    Res (openS f t i u sft s) (fun r s' => ∃ h', Step h s h' s' ∧ Sp h' s'.store.length D r) := by
  intro f
  induction f with
  | zero => intros; rw [openS]; trivial
  | succ f ih =>
    intro t i u sft s h D m hst hsp hi hu hwu hm
    have hfcase : t.holeFree = true → wellScoped (D+1) t = true →
        Res (openS (f+1) t i u sft s)
          (fun r s' => ∃ h', Step h s h' s' ∧ Sp h' s'.store.length D r) := by
      intro hf hw
      refine (openS_P (f+1) t i u sft hf hu s).sat.post (fun r s' hr => ?_)
      obtain ⟨rfl, rfl⟩ := hr
      refine ⟨h, Step.refl hst, Sp_of_hf h _ _ _ (openT_holeFree _ _ _ _ hf hu) ?_⟩
      exact ws_openT t (D+1) D i u m sft hw (Nat.le_refl _) hi hwu hm
    cases t
    case hole id k =>
      obtain ⟨rfl, hid, hh⟩ := Sp_hole.1 hsp
      unfold openS
      dsimp only
      rw [cellGet_bind]
      cases hv : cellVal s.store id with
      | some sub =>
        dsimp only
        have hsub : Sp h s.store.length (D+1) sub := by rw [← hh]; exact hst id sub hv
        refine R.Sat.bind (ushiftS_sp f sub s h _ hst hsub) (fun a s1 _ qa => ?_)
        obtain ⟨e, ha⟩ := qa
        rw [e]
        exact ih a i u sft s h D m hst ha hi hu hwu hm
      | none =>
        dsimp only
        show Res ((pure (Tm.hole s.store.length (if 0 > i then 0 - 1 else 0)) : M Tm)
          { s with store := s.store ++ [none] }) _
        refine R.Sat.pure ⟨_, step_fresh hst D, ?_⟩
        have e : (if 0 > i then 0 - 1 else 0) = 0 := by split <;> rfl
        rw [e]
        exact Sp_hole.2 ⟨rfl, by simp, by simp⟩
    case pi x im A B =>
      obtain ⟨hA, hB⟩ := Sp_pi.1 hsp
      unfold openS
      dsimp only
      refine R.Sat.bind (ih A i u sft s h D m hst hA hi hu hwu hm) (fun A' s1 _ qa => ?_)
      obtain ⟨h1, st1, hA'⟩ := qa
      refine R.Sat.bind (ih B (i+1) u (sft+1) s1 h1 (D+1) m st1.ok (st1.sp hB) (by omega) hu hwu
        (by omega)) (fun B' s2 _ qb => ?_)
      obtain ⟨h2, st2, hB'⟩ := qb
      exact R.Sat.pure ⟨h2, st1.trans st2, Sp_pi.2 ⟨st2.sp hA', hB'⟩⟩
    all_goals (simp only [Sp] at hsp; exact hfcase hsp.1 hsp.2)

theorem cellVal_set {σ : List (Option Tm)} {c : Nat} (v : Tm) (hc : c < σ.length) (c' : Nat) :
    cellVal (σ.set c (some v)) c' = if c' = c then some v else cellVal σ c' := by
  unfold cellVal
  rw [List.getElem?_set]
  by_cases e : c = c'
  · subst e; simp [hc]
  · have e' : ¬ c' = c := fun x => e x.symm
    simp [e, e']

theorem solveS_sp (f c : Nat) (other : Tm) (s : St) (h : Nat → Nat) (hst : StoreOK h s.store)
    (hc : c < s.store.length) (hsp : Sp h s.store.length (h c) other) :
    Res (solveS f c 0 other s) (fun _ s' => Step h s h s') := by
  unfold solveS
  rw [neg_natCast_zero_int]
  refine R.Sat.bind (sshiftS_sp f 0 other s h _ hst hsp) (fun a s1 _ qa => ?_)
  obtain ⟨e1, t1, rfl, _⟩ := qa
  rw [e1]
  dsimp only
  refine R.Sat.bind ((occursS_fr f).1 c other s) (fun b s2 _ qb => ?_)
  rw [show s2 = s from qb]
  split
  · exact R.Sat.pure (Step.refl hst)
  · refine R.Sat.bind (sshiftS_sp f 0 other s h _ hst hsp) (fun a s3 _ qa => ?_)
    obtain ⟨e3, sol, rfl, hsol⟩ := qa
    rw [e3]
    dsimp only
    show Res ((pure (some true) : M (Option Bool)) { s with store := s.store.set c (some sol) }) _
    refine R.Sat.pure ⟨Ext.refl _ _, ?_, by simp, rfl, rfl⟩
    intro c' v hv
    rw [cellVal_set sol hc] at hv
    simp only [List.length_set]
    split at hv
    · next e => cases hv; rw [e]; exact hsol
    · exact hst c' v hv

/-- what `whnfS_sp` and `unifyS_sp` assume of the state -/
def UPre (h : Nat → Nat) (s : St) : Prop := StoreOK h s.store ∧ DHF s.dctx ∧ DSc s.dctx

theorem UPre.keep {h h' : Nat → Nat} {s s' : St} (p : UPre h s) (k : Step h s h' s') : UPre h' s' :=
  ⟨k.ok, by rw [k.dctx]; exact p.2.1, by rw [k.dctx]; exact p.2.2⟩

/-- the statement of `unifyS_sp` at fuel `f` -/
def UIH (f : Nat) : Prop := ∀ (t1 t2 : Tm) (s : St) (h : Nat → Nat), UPre h s →
  Sp h s.store.length s.dctx.length t1 → Sp h s.store.length s.dctx.length t2 →
  Res (unifyS f t1 t2 s) (fun _ s' => Step h s h s')

theorem under_sp {h : Nat → Nat} {s : St} {m : M Bool}
    (hm : Res (m { s with dctx := none :: s.dctx })
      (fun _ s' => Step h { s with dctx := none :: s.dctx } h s')) :
    Res ((do pushD none; let r ← m; popD; pure r) s) (fun _ s' => Step h s h s') :=
  R.Sat.under (R.Sat.post hm fun _ s' k =>
    ⟨k.ext, k.ok, k.len, k.tctx, by show s'.dctx.tail = s.dctx; rw [k.dctx]; rfl⟩)

theorem seq_sp {h : Nat → Nat} {s : St} {m1 m2 : M Bool}
    (h1 : Res (m1 s) (fun _ s' => Step h s h s'))
    (h2 : ∀ s1, Step h s h s1 → Res (m2 s1) (fun _ s' => Step h s1 h s')) :
    Res ((do if ← m1 then m2 else pure false) s) (fun _ s' => Step h s h s') :=
  .andThen h1 (fun s1 k1 => (h2 s1 k1).post fun _ _ k2 => k1.trans k2) fun _ k1 => k1

theorem UPre.push {h : Nat → Nat} {s : St} (p : UPre h s) :
    UPre h { s with dctx := none :: s.dctx } := ⟨p.1, DHF.push p.2.1, DSc.push p.2.2⟩

theorem struct_sp (f : Nat) (ih : UIH f) (w1 w2 : Tm) (s : St) (h : Nat → Nat) (pre : UPre h s)
    (h1 : Sp h s.store.length s.dctx.length w1) (h2 : Sp h s.store.length s.dctx.length w2)
    (n1 : NotLet w1) (n2 : NotLet w2) :
    Res (structM f w1 w2 s) (fun _ s' => Step h s h s') := by
  have sub : ∀ {t : Tm} {D : Nat}, t.holeFree = true → wellScoped D t = true →
      Sp h s.store.length D t := fun hf hw => Sp_of_hf h _ _ _ hf hw
  have leaf : ∀ b, Res ((pure b : M Bool) s) (fun _ s' => Step h s h s') :=
    fun _ => R.Sat.pure (Step.refl pre.1)
  fun_cases structM f w1 w2
  iterate 6 exact leaf _  -- constants and variables
  · -- λ against λ
    simp only [Sp, Tm.holeFree, wellScoped, Bool.and_eq_true] at h1 h2
    exact under_sp (ih _ _ _ h pre.push (sub h1.1.2 h1.2.2) (sub h2.1.2 h2.2.2))
  · exact leaf _
  · -- Π against Π: the only arm in which holes can occur below the head
    rw [Sp_pi] at h1 h2
    refine seq_sp (ih _ _ s h pre h1.1 h2.1) (fun s1 k1 => under_sp ?_)
    refine ih _ _ _ h (pre.keep k1).push ?_ ?_
    · show Sp h s1.store.length (s1.dctx.length + 1) _
      rw [k1.dctx]; exact k1.sp h1.2
    · show Sp h s1.store.length (s1.dctx.length + 1) _
      rw [k1.dctx]; exact k1.sp h2.2
  · exact leaf _
  · simp only [Sp, Tm.holeFree, wellScoped, Bool.and_eq_true] at h1 h2
    refine seq_sp (ih _ _ s h pre (sub h1.1.1 h1.2.1) (sub h2.1.1 h2.2.1)) (fun s1 k1 => ?_)
    exact ih _ _ s1 h (pre.keep k1) (k1.sp' (sub h1.1.2 h1.2.2)) (k1.sp' (sub h2.1.2 h2.2.2))
  · exact leaf _
  · simp only [Sp, Tm.holeFree, wellScoped] at h1 h2
    exact ih _ _ s h pre (sub h1.1 h1.2) (sub h2.1 h2.2)
  · simp only [Sp, Tm.holeFree, wellScoped, Bool.and_eq_true] at h1 h2
    refine seq_sp (ih _ _ s h pre (sub h1.1.1 h1.2.1) (sub h2.1.1 h2.2.1)) (fun s1 k1 => ?_)
    exact ih _ _ s1 h (pre.keep k1) (k1.sp' (sub h1.1.2 h1.2.2)) (k1.sp' (sub h2.1.2 h2.2.2))
  · exact leaf _
  · simp only [Sp, Tm.holeFree, wellScoped, Bool.and_eq_true] at h1 h2
    refine seq_sp (ih _ _ s h pre (sub h1.1.1.1 h1.2.1.1) (sub h2.1.1.1 h2.2.1.1)) (fun s1 k1 => ?_)
    refine seq_sp (ih _ _ s1 h (pre.keep k1) (k1.sp' (sub h1.1.1.2 h1.2.1.2))
      (k1.sp' (sub h2.1.1.2 h2.2.1.2))) (fun s2 k2 => ?_)
    exact ih _ _ s2 h ((pre.keep k1).keep k2) (k2.sp' (k1.sp' (sub h1.1.2 h1.2.2)))
      (k2.sp' (k1.sp' (sub h2.1.2 h2.2.2)))
  · exact (n1 _ _ rfl).elim
  · exact (n2 _ _ rfl).elim
  · exact leaf _

theorem solve_sp {f i sh : Nat} {w : Tm} {s : St} {h : Nat → Nat} {m : M Bool} (pre : UPre h s)
    (hi : Sp h s.store.length s.dctx.length (.hole i sh)) (hw : Sp h s.store.length s.dctx.length w)
    (hm : ∀ s1, Step h s h s1 → Res (m s1) (fun _ s' => Step h s1 h s')) :
    Res ((do match ← solveS f i sh w with
            | some b => pure b
            | none => m : M Bool) s) (fun _ s' => Step h s h s') := by
  obtain ⟨rfl, hi, hh⟩ := Sp_hole.1 hi
  refine R.Sat.bind (solveS_sp f i w s h pre.1 hi (by rw [hh]; exact hw)) (fun o s1 _ k1 => ?_)
  cases o with
  | some b => exact R.Sat.pure k1
  | none => exact (hm s1 k1).post (fun _ _ k2 => k1.trans k2)

theorem head_sp (f : Nat) (ih : UIH f) (w1 w2 : Tm) (s : St) (h : Nat → Nat) (pre : UPre h s)
    (h1 : Sp h s.store.length s.dctx.length w1) (h2 : Sp h s.store.length s.dctx.length w2)
    (n1 : NotLet w1) (n2 : NotLet w2) :
    Res (unifyHead f w1 w2 s) (fun _ s' => Step h s h s') := by
  have hs : ∀ s1, Step h s h s1 → Res (structM f w1 w2 s1) (fun _ s' => Step h s1 h s') :=
    fun s1 k1 => struct_sp f ih w1 w2 s1 h (pre.keep k1) (k1.sp' h1) (k1.sp' h2) n1 n2
  have hr : ∀ s1, Step h s h s1 → Res (rightM f w1 w2 s1) (fun _ s' => Step h s1 h s') := by
    intro s1 k1
    unfold rightM
    split
    · exact solve_sp (pre.keep k1) (k1.sp' h2) (k1.sp' h1) fun s2 k2 => hs s2 (k1.trans k2)
    · exact hs s1 k1
  rw [unifyHead_eq]
  split
  · split
    · exact R.Sat.pure (Step.refl pre.1)
    · exact solve_sp pre h1 h2 hr
  · exact solve_sp pre h1 h2 hr
  · exact hr s (Step.refl pre.1)

theorem unifyS_sp : ∀ f, UIH f := by
  intro f
  induction f with
  | zero => intro t1 t2 s h _ _ _; rw [unifyS]; trivial
  | succ f ih =>
    intro t1 t2 s h pre h1 h2
    rw [unifyS_succ]
    refine R.Sat.bind ((synEqS_fr f).1 t1 t2 s) (fun b s0 _ qb => ?_)
    rw [show s0 = s from qb]
    split
    · exact R.Sat.pure (Step.refl pre.1)
    · have r1 := (whnfS_sp f t1 s h pre.1 pre.2.1 pre.2.2 h1).andOk
        (fun a s' e => whnfS_notLet' e)
      refine R.Sat.bind r1 (fun w1 s1 _ q1 => ?_)
      rw [q1.1.1]
      have r2 := (whnfS_sp f t2 s h pre.1 pre.2.1 pre.2.2 h2).andOk
        (fun a s' e => whnfS_notLet' e)
      refine R.Sat.bind r2 (fun w2 s2 _ q2 => ?_)
      rw [q2.1.1]
      exact head_sp f ih w1 w2 s h pre q1.1.2 q2.1.2 q1.2 q2.2

/-- the invariant of `infer_sp`: the store typed under `h`, both contexts of length `D` and well formed -/
structure Inv (h : Nat → Nat) (s : St) (D : Nat) : Prop where
  st : StoreOK h s.store
  tl : s.tctx.length = D
  dl : s.dctx.length = D
  ts : TScG D s.tctx
  ds : DScG D s.dctx

theorem Inv.step {h h' : Nat → Nat} {s s' : St} {D : Nat} (i : Inv h s D) (a : Step h s h' s') :
    Inv h' s' D :=
  ⟨a.ok, by rw [a.tctx]; exact i.tl, by rw [a.dctx]; exact i.dl, by rw [a.tctx]; exact i.ts,
    by rw [a.dctx]; exact i.ds⟩

theorem Inv.upre {h : Nat → Nat} {s : St} {D : Nat} (i : Inv h s D) : UPre h s := by
  have hd := i.ds
  rw [← i.dl] at hd
  exact ⟨i.st, hd.dhf, hd.dsc⟩

theorem Inv.nerrs {h : Nat → Nat} {s : St} {D : Nat} (i : Inv h s D) (n : Nat) :
    Inv h { s with nerrs := n } D := ⟨i.st, i.tl, i.dl, i.ts, i.ds⟩

theorem Step.nerrs {h h' : Nat → Nat} {s s' : St} (a : Step h s h' s') (n : Nat) :
    Step h s h' { s' with nerrs := n } := ⟨a.ext, a.ok, a.len, a.tctx, a.dctx⟩

theorem check_sp {β} {f : Nat} {a b : Tm} {s : St} {h : Nat → Nat} {D : Nat} (i : Inv h s D)
    (ha : Sp h s.store.length D a) (hb : Sp h s.store.length D b) {k : M β} {Q : β → St → Prop}
    (hk : ∀ s', Step h s h s' → Res (k s') Q) :
    Res ((do
      let r ← unifyS f a b
      if (!r) = true then (do reportError; k) else k) s) Q :=
  .orReport (unifyS_sp f a b s h i.upre (by rw [i.dl]; exact ha) (by rw [i.dl]; exact hb))
    (fun _ k1 => hk _ k1) fun _ k1 => hk _ (k1.nerrs _)

theorem fresh_sp {h : Nat → Nat} {s : St} (hst : StoreOK h s.store) (D : Nat) :
    ∃ h', Step h s h' { s with store := s.store ++ [none] } ∧
      Sp h' (s.store ++ [none]).length D (.hole s.store.length 0) :=
  ⟨_, step_fresh hst D, Sp_hole.2 ⟨rfl, by simp, by simp⟩⟩

theorem letTypeS_sp (f : Nat) (ds : Defs) (D : Nat) (hf : ds.holeFree = true)
    (hw : wellScopedDefs (D + ds.len) ds = true) :
    ∀ (k i : Nat) (acc : Tm) (s : St) (h : Nat → Nat), StoreOK h s.store → i + k = ds.len →
      Sp h s.store.length (D + k) acc →
      Res (letTypeS f ds k i acc s)
        (fun r s' => ∃ h', Step h s h' s' ∧ Sp h' s'.store.length D r) := by
  intro k
  induction k with
  | zero =>
    intro i acc s h hst _ hsp
    unfold letTypeS
    exact R.Sat.pure ⟨h, Step.refl hst, hsp⟩
  | succ k ih =>
    intro i acc s h hst hik hsp
    unfold letTypeS
    dsimp only
    -- the shifted copy of the group: on hole-free definitions the pure `ushiftDefs`
    have hsh := AnsAll.bind ((sshiftS_P f).2 ds.len (↑(ds.len - 1 - i)) ds hf) (f := fun r =>
      match r with
      | some d => pure d
      | none => panicAt "unsigned_shift.unwrap") (w := ushiftDefs ds.len (ds.len - 1 - i) ds)
      (by rw [sshiftDefs_ushift]; exact UnifyAgree.AnsAll.pure _)
    refine R.Sat.bind (hsh s).sat (fun sh s1 _ q1 => ?_)
    obtain ⟨e1, rfl⟩ := q1
    rw [e1]
    have hu : ∀ x, (Tm.letg (ushiftDefs ds.len (ds.len - 1 - i) ds) (.var x i)).holeFree = true :=
      fun x => by simp only [Tm.holeFree, Bool.and_true]; rw [holeFree_ushiftDefs]; exact hf
    have hwu : ∀ x, wellScoped (D + k)
        (Tm.letg (ushiftDefs ds.len (ds.len - 1 - i) ds) (.var x i)) = true := fun x => by
      simp only [wellScoped, ushiftDefs_len, Bool.and_eq_true, decide_eq_true_eq]
      exact ⟨wsDefs_ushift ds _ _ _ _ hw (by omega), by omega⟩
    refine R.Sat.bind (openS_sp f acc 0 _ 0 s h (D + k) (D + k) hst hsp (Nat.zero_le _) (hu _) (hwu _)
      (by omega)) (fun acc' s2 _ q2 => ?_)
    obtain ⟨h2, st2, sp2⟩ := q2
    refine (ih (i + 1) acc' s2 h2 st2.ok (by omega) sp2).post (fun r s3 q3 => ?_)
    obtain ⟨h3, st3, sp3⟩ := q3
    exact ⟨h3, st2.trans st3, sp3⟩

/-- what `inferS` returns on `t`: `t` itself, and a type well formed under an extension of the store typing -/
def IPost (h : Nat → Nat) (s : St) (D : Nat) (t : Tm) (r : Tm × Tm) (s' : St) : Prop :=
  r.1 = t ∧ ∃ h', Step h s h' s' ∧ Sp h' s'.store.length D r.2

/-- the two halves of the statement of `infer_sp` at fuel `f` -/
def IH1 (f : Nat) : Prop := ∀ (t : Tm) (s : St) (h : Nat → Nat) (D : Nat), Inv h s D →
  t.holeFree = true → wellScoped D t = true → Res (inferS f t s) (IPost h s D t)

def IH2 (f : Nat) : Prop := ∀ (ds : Defs) (s : St) (h : Nat → Nat) (D : Nat), Inv h s D →
  ds.holeFree = true → wellScopedDefs D ds = true →
  Res (inferDefsS f ds s) (fun l s' => Defs.setDefs ds l = ds ∧ ∃ h', Step h s h' s')

theorem infer_check_sp {β} (f : Nat) (ih1 : IH1 f) (t T : Tm) (s : St) (h : Nat → Nat) (D : Nat)
    (inv : Inv h s D) (hf : t.holeFree = true) (hw : wellScoped D t = true)
    (hTf : T.holeFree = true) (hTw : wellScoped D T = true) (k : Tm × Tm → M β)
    (Q : β → St → Prop)
    (hk : ∀ r s' h', r.1 = t → Step h s h' s' → Sp h' s'.store.length D r.2 → Res (k r s') Q) :
    Res ((inferS f t >>= fun x => do
        let b ← unifyS f x.snd T
        if (!b) = true then (do reportError; k x) else k x) s) Q := by
  refine R.Sat.bind (ih1 t s h D inv hf hw) (fun r s1 _ q1 => ?_)
  obtain ⟨e1, h1, st1, sp1⟩ := q1
  exact check_sp (inv.step st1) sp1 (Sp_of_hf h1 _ T D hTf hTw) fun s2 k2 =>
    hk r s2 h1 e1 (st1.trans k2) (k2.sp sp1)

theorem Inv.pushLam {h : Nat → Nat} {s : St} {D : Nat} (i : Inv h s D) {d : Tm}
    (hf : d.holeFree = true) (hw : wellScoped D d = true) :
    Inv h { s with tctx := (d, 0) :: s.tctx, dctx := none :: s.dctx } (D + 1) := by
  refine ⟨i.st, by simp [i.tl], by simp [i.dl], ?_, ?_⟩
  · refine (i.ts.mono (Nat.le_of_eq i.tl) (Nat.le_succ D)).push (by rw [i.tl]; omega) (by omega) hf ?_
    have : D + 1 - (D + 1 - s.tctx.length - 0) = D := by rw [i.tl]; omega
    rw [this]; exact hw
  · exact (i.ds.mono (Nat.le_of_eq i.dl) (Nat.le_succ D)).push_none (by rw [i.dl]; omega)

theorem infer_var (f : Nat) (x : Name) (i : Nat) (s : St) (h : Nat → Nat) (D : Nat)
    (inv : Inv h s D) (hw : wellScoped D (.var x i) = true) :
    Res (inferS (f+1) (.var x i) s) (IPost h s D (.var x i)) := by
  simp only [wellScoped, decide_eq_true_eq] at hw
  unfold inferS
  dsimp only
  rw [getSt_bind]
  have hi : i < s.tctx.length := by rw [inv.tl]; exact hw
  cases e : s.tctx[i]? with
  | none => rw [List.getElem?_eq_none_iff] at e; omega
  | some p =>
    obtain ⟨ty, off⟩ := p
    obtain ⟨h1, h2, h3⟩ := inv.ts i ty off e
    dsimp only
    rw [inv.tl] at h1 h3
    split
    · omega
    · refine R.Sat.bind (ushiftS_P f 0 (i + 1 - off) ty h2 s).sat (fun r s1 _ q1 => ?_)
      obtain ⟨rfl, rfl⟩ := q1
      refine R.Sat.pure ⟨rfl, h, Step.refl inv.st, Sp_of_hf h _ _ _ ?_ ?_⟩
      · rw [holeFree_ushift]; exact h2
      · exact ws_ushift ty _ D 0 _ h3 (by omega)

theorem infer_sp : ∀ f, IH1 f ∧ IH2 f := by
  intro f
  induction f with
  | zero =>
    constructor
    · intro t s h D _ _ _; rw [inferS]; trivial
    · intro ds s h D _ _ _; rw [inferDefsS]; trivial
  | succ f ih =>
    obtain ⟨ih1, ih2⟩ := ih
    constructor
    · intro t s h D inv hf hw
      have leaf : ∀ (ty : Tm), ty.holeFree = true → wellScoped D ty = true →
          Res ((pure (t, ty) : M (Tm × Tm)) s) (IPost h s D t) := fun ty h1 h2 =>
        R.Sat.pure ⟨rfl, h, Step.refl inv.st, Sp_of_hf h _ ty D h1 h2⟩
      cases t
      case hole => cases hf
      case var x i => exact infer_var f x i s h D inv hw
      all_goals try simp only [Tm.holeFree, wellScoped, Bool.and_eq_true] at hf hw
      all_goals unfold inferS
      all_goals try dsimp only
      case type | int | bool => exact leaf .type rfl rfl
      case tt | ff => exact leaf .bool rfl rfl
      case lit n => exact leaf .int rfl rfl
      case lam x im d b =>
        refine infer_check_sp f ih1 d .type s h D inv hf.1 hw.1 rfl rfl _ _
          (fun r s1 h1 e1 st1 sp1 => ?_)
        rw [pushCtx_bind, e1]
        refine R.Sat.bind (ih1 b _ h1 (D+1) ((inv.step st1).pushLam hf.1 hw.1) hf.2 hw.2)
          (fun r2 s2 _ q2 => ?_)
        obtain ⟨e2, h2, st2, sp2⟩ := q2
        rw [popCtx_bind]
        exact R.Sat.pure ⟨by rw [e2], h2, st1.popCtx st2, Sp_pi.2 ⟨Sp_of_hf h2 _ d D hf.1 hw.1, sp2⟩⟩
      case pi x im d c =>
        refine infer_check_sp f ih1 d .type s h D inv hf.1 hw.1 rfl rfl _ _
          (fun r s1 h1 e1 st1 sp1 => ?_)
        rw [pushCtx_bind, e1]
        refine infer_check_sp f ih1 c .type _ h1 (D+1) ((inv.step st1).pushLam hf.1 hw.1) hf.2 hw.2
          rfl rfl _ _ (fun r2 s2 h2 e2 st2 sp2 => ?_)
        rw [popCtx_bind]
        exact R.Sat.pure ⟨by rw [e2], h2, st1.popCtx st2, Sp_of_hf h2 _ .type D rfl rfl⟩
      case neg a =>
        refine infer_check_sp f ih1 a .int s h D inv hf hw rfl rfl _ _
          (fun r s1 h1 e1 st1 sp1 => ?_)
        exact R.Sat.pure ⟨by rw [e1], h1, st1, Sp_of_hf h1 _ .int D rfl rfl⟩
      case bin op a b =>
        refine infer_check_sp f ih1 a .int s h D inv hf.1 hw.1 rfl rfl _ _
          (fun r s1 h1 e1 st1 sp1 => ?_)
        refine infer_check_sp f ih1 b .int s1 h1 D (inv.step st1) hf.2 hw.2 rfl rfl _ _
          (fun r2 s2 h2 e2 st2 sp2 => ?_)
        refine R.Sat.pure ⟨by rw [e1, e2], h2, st1.trans st2, Sp_of_hf h2 _ _ D ?_ ?_⟩
        · cases op <;> rfl
        · cases op <;> rfl
      case ite c a b =>
        refine infer_check_sp f ih1 c .bool s h D inv hf.1.1 hw.1.1 rfl rfl _ _
          (fun r s1 h1 e1 st1 sp1 => ?_)
        refine R.Sat.bind (ih1 a s1 h1 D (inv.step st1) hf.1.2 hw.1.2) (fun r2 s2 _ q2 => ?_)
        obtain ⟨e2, h2, st2, sp2⟩ := q2
        have inv2 := (inv.step st1).step st2
        refine R.Sat.bind (ih1 b s2 h2 D inv2 hf.2 hw.2) (fun r3 s3 _ q3 => ?_)
        obtain ⟨e3, h3, st3, sp3⟩ := q3
        have inv3 := inv2.step st3
        refine check_sp inv3 (st3.sp sp2) sp3 fun s4 k4 => ?_
        exact R.Sat.pure ⟨by rw [e1, e2, e3], h3, (st1.trans st2).trans (st3.trans k4),
          k4.sp (st3.sp sp2)⟩
      case app g a =>
        refine R.Sat.bind (ih1 g s h D inv hf.1 hw.1) (fun r1 s1 _ q1 => ?_)
        obtain ⟨e1, h1, st1, sp1⟩ := q1
        -- two fresh cells `?A` (home `D`) and `?B` (home `D + 1`): `Π ?A. ?B` is a spine term
        rw [cellFresh_bind, cellFresh_bind]
        obtain ⟨hA, stA, spA⟩ := fresh_sp st1.ok D
        obtain ⟨hB, stB, spB⟩ := fresh_sp stA.ok (D+1)
        have invB := ((inv.step st1).step stA).step stB
        have spA' := stB.sp spA
        -- it is unified with the type of the function, then `?A` with the type of the argument
        refine check_sp invB (Sp_pi.2 ⟨spA', spB⟩) ((stA.trans stB).sp sp1) fun s2 k2' => ?_
        refine R.Sat.bind (ih1 a _ hB D (invB.step k2') hf.2 hw.2) (fun r2 s3 _ q3 => ?_)
        obtain ⟨e3, h3, st3, sp3⟩ := q3
        have inv3 := (invB.step k2').step st3
        refine check_sp inv3 (st3.sp (k2'.sp spA')) sp3 fun s4 k4' => ?_
        -- the result type is `?B` opened with the argument, one binder up
        refine R.Sat.bind (openS_sp f _ 0 r2.1 0 _ h3 D D k4'.ok (k4'.sp (st3.sp (k2'.sp spB)))
          (Nat.zero_le _) (by rw [e3]; exact hf.2) (by rw [e3]; exact hw.2) (by omega))
          (fun r5 s5 _ q5 => ?_)
        obtain ⟨h5, st5, sp5⟩ := q5
        refine R.Sat.pure ⟨by rw [e1, e3], h5, ?_, sp5⟩
        exact (((st1.trans (stA.trans stB)).trans k2').trans (st3.trans k4')).trans st5
      case letg ds body =>
        -- the whole group is pushed first: the invariant holds at length `D + ds.len`
        rw [M.bind_of_ok (pushDefsS_eq ds ds.len s)]
        obtain ⟨pT, pD, pTl, pDl⟩ := pushed_ok (L := D + ds.len) ds s.tctx s.dctx
          (inv.ts.mono (Nat.le_of_eq inv.tl) (Nat.le_add_right _ _))
          (inv.ds.mono (Nat.le_of_eq inv.dl) (Nat.le_add_right _ _))
          (by rw [inv.tl]) (by rw [inv.tl, inv.dl]) hf.1 hw.1
        have inv0 : Inv h
            { s with tctx := pushedT ds ds.len s.tctx, dctx := pushedD ds ds.len s.dctx }
            (D + ds.len) := ⟨inv.st, pTl, pDl, pT, pD⟩
        -- the definitions, then the body, under the pushed group
        refine R.Sat.bind (ih2 ds _ h (D + ds.len) inv0 hf.1 hw.1) (fun l s1 _ q1 => ?_)
        obtain ⟨e1, h1, st1⟩ := q1
        refine R.Sat.bind (ih1 body s1 h1 (D + ds.len) (inv0.step st1) hf.2 hw.2) (fun r2 s2 _ q2 => ?_)
        obtain ⟨e2, h2, st2, sp2⟩ := q2
        rw [e1]
        -- the body's type is closed by the group (`letTypeS`), back at depth `D`; then the group is popped
        refine R.Sat.bind (letTypeS_sp f ds D hf.1 hw.1 ds.len 0 r2.2 s2 h2 st2.ok (by omega) sp2)
          (fun ty s3 _ q3 => ?_)
        obtain ⟨h3, st3, sp3⟩ := q3
        rw [M.bind_of_ok (popN_eq ds.len s3)]
        refine R.Sat.pure ⟨by rw [e2], h3, ?_, sp3⟩
        have stAll := (st1.trans st2).trans st3
        exact ⟨stAll.ext, stAll.ok, stAll.len,
          by show s3.tctx.drop ds.len = s.tctx; rw [stAll.tctx]; exact pushedT_drop ds ds.len s.tctx,
          by show s3.dctx.drop ds.len = s.dctx; rw [stAll.dctx]; exact pushedD_drop ds ds.len s.dctx⟩
    · intro ds s h D inv hf hw
      cases ds
      case nil =>
        unfold inferDefsS
        exact R.Sat.pure ⟨rfl, h, Step.refl inv.st⟩
      case cons x ann d r =>
        simp only [Defs.holeFree, Bool.and_eq_true] at hf
        simp only [wellScopedDefs, Bool.and_eq_true] at hw
        unfold inferDefsS
        dsimp only
        refine infer_check_sp f ih1 ann .type s h D inv hf.1.1 hw.1.1 rfl rfl _ _
          (fun r1 s1 h1 e1 st1 sp1 => ?_)
        refine infer_check_sp f ih1 d ann s1 h1 D (inv.step st1) hf.1.2 hw.1.2 hf.1.1 hw.1.1 _ _
          (fun r2 s2 h2 e2 st2 sp2 => ?_)
        refine R.Sat.bind (ih2 r s2 h2 D ((inv.step st1).step st2) hf.2 hw.2) (fun l s3 _ q3 => ?_)
        obtain ⟨e3, h3, st3⟩ := q3
        refine R.Sat.pure ⟨?_, h3, (st1.trans st2).trans st3⟩
        simp only [Defs.setDefs, e2, e3]

theorem cellVal_replicate_none (n c : Nat) : cellVal (List.replicate n none) c = none := by
  unfold cellVal
  rcases Nat.lt_or_ge c n with hlt | hge
  · simp [hlt]
  · rw [List.getElem?_eq_none (by simpa using hge)]

theorem Inv.init (n : Nat) : Inv (fun _ => 0) { store := List.replicate n none } 0 := by
  refine ⟨?_, rfl, rfl, ?_, ?_⟩
  · intro c v hv
    rw [cellVal_replicate_none] at hv
    cases hv
  · intro i ty off e; simp at e
  · intro i d off e; simp at e

theorem inferS_holeFree_res (fuel n : Nat) (t : Tm) (hw : wellScoped 0 t = true)
    (hf : t.holeFree = true) :
    Res (inferS fuel t { store := List.replicate n none })
      (IPost (fun _ => 0) { store := List.replicate n none } 0 t) :=
  (infer_sp fuel).1 t _ _ 0 (Inv.init n) hf hw

theorem inferS_holeFree_no_panic (fuel n : Nat) (t : Tm) (site : String)
    (hw : wellScoped 0 t = true) (hf : t.holeFree = true) :
    inferS fuel t { store := List.replicate n none } ≠ .panic site :=
  fun e => (inferS_holeFree_res fuel n t hw hf).panic e

/-- `m` panics at sites satisfying `P` only -/
structure PS {α} (P : String → Prop) (m : M α) : Prop where
  out : ∀ s site, m s = .panic site → P site

section
variable {P : String → Prop}

theorem PS.mono {α} {P' : String → Prop} {m : M α} (h : PS P m) (hp : ∀ site, P site → P' site) :
    PS P' m := ⟨fun s site e => hp _ (h.out s site e)⟩

theorem sshiftDefsS_ps (f c amt ds) : PS P (sshiftDefsS f c amt ds) :=
  ⟨fun s _ e => (((sshiftS_fr f).2 c amt ds s).panic e).elim⟩
theorem derefS_ps (f t) : PS P (derefS f t) :=
  ⟨fun s _ e => ((derefS_fr f t s).panic e).elim⟩

end

/-! On any term and state the only reachable panics are the four context lookups.  On a well-scoped term (holes
anywhere, whatever the store does) three of them are dead: the offsets recorded in the two contexts are in range by
construction, and the typing context is indexed by variables of the *source* term only.  Both are
`StoreMono.inferS_spec`, without and with scoping assumed. -/

theorem inferS_lookup (f : Nat) (t : Tm) : PS LookupSite (inferS f t) :=
  ⟨fun s _ e => (((StoreMono.inferS_le_ctx false f).1 t s nofun nofun).panic e).elim Or.inl fun h => h.2⟩

theorem inferS_wellScoped_site (fuel : Nat) (t : Tm) (σ : List (Option Tm)) (site : String)
    (hw : wellScoped 0 t = true) (h : inferS fuel t { store := σ } = .panic site) :
    site = "normalize_weak_head.definitions_context[index]" :=
  (((StoreMono.inferS_le_ctx true fuel).1 t { store := σ }
    (fun _ => ⟨rfl, fun i ty off e => by simp at e, fun i d off e => by simp at e⟩) fun _ => hw).panic h).elim id
    fun h => nomatch h.1

end CheckNoPanic
