import GramModel.Lemmas.PreservationTyping
import GramModel.Lemmas.CCJoin

/-!
# Subject reduction, part 4: `Conv`/`HasType` versus the hole-free copies `Cv`/`HT`

From here on the development speaks of the implementation's list contexts, of `Conv`/`HasType` and of confluence
(`PreservationMain`, `PreservationRefute` do too; `PreservationBase`, `PreservationConv`, `PreservationTyping` do not).  `lkD`/`lkT` read the
offset contexts as function-style contexts.  Hole removal maps `Conv` to `Cv` (`conv_cv`) and `HasType` to `HT`
(`hasType_ht`); `Cv` and `HT` embed back (`cv_conv`, `ht_hasType`).  Joinability of erasures gives `Cv` (`join_cv`),
hence injectivity of `Π` for `Cv` (`cv_pi_inj`).
-/

namespace Pres

open WhnfLemmas CCSubst OracleLemmas CCPar TypingSound RewriteTyping

def lkD (Δ : DCtxX) : Ctx := fun i =>
  match Δ[i]? with
  | some (some (d, off)) => if off ≤ i + 1 then some (ushift 0 (i + 1 - off) d) else none
  | _ => none

def lkT (Γ : TCtxX) : Ctx := fun i =>
  match Γ[i]? with
  | some (ty, off) => if off ≤ i + 1 then some (ushift 0 (i + 1 - off) ty) else none
  | none => none

def dhC (G : Ctx) : Ctx := fun i => (G i).map dh

theorem lkD_some {Δ : DCtxX} {i : Nat} {d : Tm} {off : Nat} (h : Δ[i]? = some (some (d, off)))
    (ho : off ≤ i + 1) : lkD Δ i = some (ushift 0 (i + 1 - off) d) := by
  simp only [lkD, h, if_pos ho]

theorem lkD_inv {Δ : DCtxX} {i : Nat} {t : Tm} (h : lkD Δ i = some t) :
    ∃ d off, Δ[i]? = some (some (d, off)) ∧ off ≤ i + 1 ∧ t = ushift 0 (i + 1 - off) d := by
  simp only [lkD] at h
  split at h
  · next d off e =>
    split at h
    · next ho => cases h; exact ⟨d, off, e, ho, rfl⟩
    · cases h
  · cases h

theorem lkT_some {Γ : TCtxX} {i : Nat} {d : Tm} {off : Nat} (h : Γ[i]? = some (d, off))
    (ho : off ≤ i + 1) : lkT Γ i = some (ushift 0 (i + 1 - off) d) := by
  simp only [lkT, h, if_pos ho]

theorem lkT_inv {Γ : TCtxX} {i : Nat} {t : Tm} (h : lkT Γ i = some t) :
    ∃ d off, Γ[i]? = some (d, off) ∧ off ≤ i + 1 ∧ t = ushift 0 (i + 1 - off) d := by
  simp only [lkT] at h
  split at h
  · next d off e =>
    split at h
    · next ho => cases h; exact ⟨d, off, e, ho, rfl⟩
    · cases h
  · cases h

theorem dhC_ext (n : Nat) (F : Nat → Option Tm) (G : Ctx) :
    dhC (ext n F G) = ext n (fun i => (F i).map dh) (dhC G) := by
  funext i
  simp only [dhC, ext]
  split
  · rfl
  · cases G (i - n) with
    | none => rfl
    | some t => simp only [Option.map_some]; rw [dh_ushift]

theorem dhC_extN (n : Nat) (G : Ctx) : dhC (ext n noneF G) = ext n noneF (dhC G) := dhC_ext n noneF G

theorem lkT_eq (Γ : TCtxX) : lkT Γ = lkD (Γ.map some) := by
  funext i
  simp only [lkT, lkD, List.getElem?_map]
  rcases Γ[i]? with _ | ⟨ty, off⟩ <;> rfl

/-- a context whose entries from `m` on are those of the in-range context `Δ` reads as `ext m` of the reading of
`Δ`, whatever its first `m` entries read as -/
theorem lkD_ext {Δ Δ' : DCtxX} (hW : DWF Δ) (m : Nat) (hi : ∀ i, m ≤ i → Δ'[i]? = Δ[i - m]?) :
    lkD Δ' = ext m (lkD Δ') (lkD Δ) := by
  funext i
  by_cases h : i < m
  · rw [ext_lt h]
  · have h' : m ≤ i := Nat.not_lt.1 h
    rw [ext_ge h']
    simp only [lkD, hi i h']
    cases e : Δ[i - m]? with
    | none => rfl
    | some o =>
      cases o with
      | none => rfl
      | some p =>
        obtain ⟨d, off⟩ := p
        have := hW _ _ _ e
        simp only
        rw [if_pos (by omega), if_pos this]
        simp only [Option.map_some]
        rw [ushift_ushift]
        congr 2
        omega

theorem ext_congr {m : Nat} {F F' : Nat → Option Tm} (G : Ctx) (h : ∀ i, i < m → F i = F' i) :
    ext m F G = ext m F' G := by
  funext i
  by_cases hi : i < m
  · rw [ext_lt hi, ext_lt hi, h i hi]
  · rw [ext_ge (Nat.not_lt.1 hi), ext_ge (Nat.not_lt.1 hi)]

theorem lkD_nones {Δ : DCtxX} (hW : DWF Δ) (n : Nat) :
    lkD (List.replicate n none ++ Δ) = ext n noneF (lkD Δ) := by
  rw [lkD_ext hW n fun i h => CCPar.nones_get h]
  refine ext_congr _ fun i hi => ?_
  simp only [lkD]
  rw [List.getElem?_append_left (by simpa using hi)]
  simp [hi, noneF]

theorem lkD_none {Δ : DCtxX} (hW : DWF Δ) : lkD (none :: Δ) = ext 1 noneF (lkD Δ) :=
  lkD_nones hW 1

theorem DWF_map_some {Γ : TCtxX} (hO : OffsT Γ) : DWF (Γ.map some) := by
  intro p d off e
  rw [List.getElem?_map] at e
  cases e' : Γ[p]? with
  | none => rw [e'] at e; cases e
  | some q => rw [e'] at e; cases e; exact hO _ _ _ e'

theorem lkT_cons {Γ : TCtxX} (hO : OffsT Γ) (d : Tm) :
    lkT ((d, 0) :: Γ) = ext 1 (fun _ => some (ushift 0 1 d)) (lkT Γ) := by
  rw [lkT_eq, lkT_eq Γ, lkD_ext (DWF_map_some hO) 1 (Δ' := ((d, 0) :: Γ).map some) fun i h => by
    obtain ⟨j, rfl⟩ : ∃ j, i = j + 1 := ⟨i - 1, by omega⟩
    simp]
  exact ext_congr _ fun i hi => by
    obtain rfl : i = 0 := by omega
    simp [lkD]

theorem OffsT_cons {Γ : TCtxX} (hO : OffsT Γ) (d : Tm) : OffsT ((d, 0) :: Γ) :=
  CheckNoPanic.TOff.push0 hO d

theorem defAt_eq : ∀ (ds : Defs) (v : Nat), defAt ds v = CCPar.defAt ds v
  | .nil, _ => rfl
  | .cons _ _ d r, v => by simp only [defAt, CCPar.defAt, defAt_eq r v]

theorem pushedD_lookup (ds : Defs) (D : DCtxX) (p : Nat) :
    (pushedD ds ds.len D)[p]? =
      if p < ds.len then (defAt ds p).map (fun d => some (d, p + 1)) else D[p - ds.len]? := by
  rw [CCPar.pushedD_lookup, defAt_eq]

theorem pushedT_lookup : ∀ (ds : Defs) (T : TCtxX) (p : Nat),
    (pushedT ds ds.len T)[p]? =
      if p < ds.len then (annAt ds p).map (fun d => (d, p + 1)) else T[p - ds.len]?
  | .nil, D, p => by simp [pushedT]
  | .cons x a d r, D, p => by
      have hl : (Defs.cons x a d r).len = r.len + 1 := rfl
      show (pushedT r (r.len + 1 - 1) ((a, r.len + 1) :: D))[p]? = _
      rw [Nat.add_sub_cancel, pushedT_lookup r _ p]
      by_cases h1 : p < r.len
      · rw [if_pos h1, if_pos (by rw [hl]; omega)]
        simp only [annAt]
        rw [if_neg (by omega)]
      · rw [if_neg h1]
        by_cases h2 : p = r.len
        · subst h2
          rw [if_pos (by rw [hl]; omega)]
          simp [annAt]
        · rw [if_neg (by rw [hl]; omega), hl]
          rw [show p - r.len = (p - (r.len + 1)) + 1 by omega, List.getElem?_cons_succ]

theorem lkD_pushed {Δ : DCtxX} (hW : DWF Δ) (ds : Defs) :
    lkD (pushedD ds ds.len Δ) = ext ds.len (defF ds) (lkD Δ) := by
  rw [lkD_ext hW ds.len fun i h => by rw [pushedD_lookup, if_neg (by omega)]]
  refine ext_congr _ fun i hi => ?_
  simp only [lkD, pushedD_lookup, if_pos hi, defF]
  cases defAt ds i with
  | none => rfl
  | some d => simp [ushift_zero]

theorem lkT_pushed {Γ : TCtxX} (hO : OffsT Γ) (ds : Defs) :
    lkT (pushedT ds ds.len Γ) = ext ds.len (annF ds) (lkT Γ) := by
  rw [lkT_eq, lkT_eq Γ, lkD_ext (DWF_map_some hO) ds.len (Δ' := (pushedT ds ds.len Γ).map some) fun i h => by
    rw [List.getElem?_map, List.getElem?_map, pushedT_lookup, if_neg (by omega)]]
  refine ext_congr _ fun i hi => ?_
  simp only [lkD, List.getElem?_map, pushedT_lookup, if_pos hi, annF]
  cases annAt ds i with
  | none => rfl
  | some d => simp [ushift_zero]

theorem OffsT_pushed {Γ : TCtxX} (hO : OffsT Γ) (ds : Defs) : OffsT (pushedT ds ds.len Γ) := by
  intro p d off h
  rw [pushedT_lookup] at h
  by_cases hp : p < ds.len
  · rw [if_pos hp] at h
    cases e : annAt ds p with
    | none => rw [e] at h; cases h
    | some d0 => rw [e] at h; simp at h; omega
  · rw [if_neg hp] at h
    have := hO _ _ _ h
    omega

theorem annF_dh (ds : Defs) : (fun i => (annF ds i).map dh) = annF (dhDefs ds) := by
  funext i; simp only [annF, annAt_dhDefs]
theorem defF_dh (ds : Defs) : (fun i => (defF ds i).map dh) = defF (dhDefs ds) := by
  funext i; simp only [defF, defAt_dhDefs]


theorem cv_comps_nil {D : Ctx} (i : Nat) (t1 t2 : Tm) (e1 : (comps .nil)[i]? = some t1) : Cv D t1 t2 := by
  simp [comps] at e1

theorem red1_cv {Δ : DCtxX} {a b : Tm} (h : Red1 Δ a b) : Cv (dhC (lkD Δ)) (dh a) (dh b) := by
  cases h with
  | beta x im d body a =>
    simp only [dh, dh_openT]
    exact .beta x im _ _ _ (dh_holeFree _) (dh_holeFree _) (dh_holeFree _)
  | delta x i d off hΔ hoff =>
    simp only [dh]
    refine .delta x i _ ?_ (dh_holeFree _)
    simp only [dhC, lkD_some hΔ hoff, Option.map_some]
  | letStep x a d rest body =>
    simp only [dh, dhDefs, letStepX, dh_openT, dhDefs_openDefs, dh_unfoldDef]
    have := Cv.letStep (D := dhC (lkD Δ)) x (dh a) (dh d) (dhDefs rest) (dh body) (dh_holeFree _)
      (dh_holeFree _) (dhDefs_holeFree _) (dh_holeFree _)
    rw [dhDefs_len] at this
    exact this
  | letNil body =>
    simp only [dh, dhDefs]
    exact .letNil _ (dh_holeFree _)
  | neg k => exact .negLit k
  | arith op x y _ hr =>
    simp only [dh]
    rw [dh_id _ (delta_holeFree hr)]
    exact .arith op x y _ hr
  | iteTrue a b => simp only [dh]; exact .iteT _ _ (dh_holeFree _) (dh_holeFree _)
  | iteFalse a b => simp only [dh]; exact .iteF _ _ (dh_holeFree _) (dh_holeFree _)

theorem conv_cv {Δ : DCtxX} {a b : Tm} (h : Conv Δ a b) : DWF Δ → Cv (dhC (lkD Δ)) (dh a) (dh b) := by
  induction h using Conv.rec (motive_2 := fun Δ a b _ => DWF Δ →
    ∀ (i : Nat) (t1 t2 : Tm), (comps (dhDefs a))[i]? = some t1 → (comps (dhDefs b))[i]? = some t2 →
      Cv (dhC (lkD Δ)) t1 t2) with
  | refl => exact fun _ => .refl (dh_holeFree _)
  | symm _ ih => exact fun hW => .symm (ih hW)
  | trans _ _ ih1 ih2 => exact fun hW => .trans (ih1 hW) (ih2 hW)
  | red h => exact fun _ => red1_cv h
  | same h => exact fun _ => .same (sameX_dh _ _ h) (dh_holeFree _) (dh_holeFree _)
  | lam x y im d1 d2 _ ih =>
      intro hW
      have := ih (DWF.push hW)
      rw [lkD_none hW, dhC_extN] at this
      exact .lam x y im _ _ (dh_holeFree _) (dh_holeFree _) this
  | pi x y im _ _ ih1 ih2 =>
      intro hW
      have := ih2 (DWF.push hW)
      rw [lkD_none hW, dhC_extN] at this
      exact .pi x y im (ih1 hW) this
  | app _ _ ih1 ih2 => exact fun hW => .app (ih1 hW) (ih2 hW)
  | neg _ ih => exact fun hW => .neg (ih hW)
  | bin op _ _ ih1 ih2 => exact fun hW => .bin op (ih1 hW) (ih2 hW)
  | ite _ _ _ ih0 ih1 ih2 => exact fun hW => .ite (ih0 hW) (ih1 hW) (ih2 hW)
  | @letg Δ ds1 ds2 b1 b2 h1 _ ih1 ih2 =>
      intro hW
      have hW' := DWF_nones hW ds1.len
      have c1 := ih1 hW'
      have c2 := ih2 hW'
      rw [lkD_nones hW, dhC_extN] at c1 c2
      refine .letg (by rw [dhDefs_len, dhDefs_len, ConvDefs.len_eq h1]) (dhDefs_holeFree _)
        (dhDefs_holeFree _) ?_ ?_
      · rw [dhDefs_len]; exact c1
      · rw [dhDefs_len]; exact c2
  | nil => rename_i e1 _; cases e1
  | cons _ _ _ _ _ ih1 ih2 ih3 =>
      rename_i hW i t1 t2 e1 e2
      exact rel_cons_getElem? (ih1 hW) (rel_cons_getElem? (ih2 hW) (ih3 hW)) i t1 t2 e1 e2

theorem convDefs_cv : ∀ {Δ : DCtxX} {a b : Defs}, ConvDefs Δ a b → DWF Δ →
    ∀ (i : Nat) (t1 t2 : Tm), (comps (dhDefs a))[i]? = some t1 → (comps (dhDefs b))[i]? = some t2 →
      Cv (dhC (lkD Δ)) t1 t2
  | _, _, _, .nil _, _ => fun _ _ _ e1 => by cases e1
  | _, _, _, .cons _ _ h1 h2 h3, hW =>
      rel_cons_getElem? (conv_cv h1 hW) (rel_cons_getElem? (conv_cv h2 hW) (convDefs_cv h3 hW))

theorem dhC_id {G : Ctx} (h : CHF G) : dhC G = G := by
  funext i
  simp only [dhC]
  cases e : G i with
  | none => rfl
  | some t => simp only [Option.map_some]; rw [dh_id t (h i t e)]

theorem CHF_lkD {Δ : DCtxX} (hD : DHF Δ) : CHF (lkD Δ) := by
  intro i t h
  obtain ⟨d, off, e, _, rfl⟩ := lkD_inv h
  rw [holeFree_ushift]
  exact hD.get e

theorem CHF_lkT {Γ : TCtxX} (hT : THF Γ) : CHF (lkT Γ) := by
  intro i t h
  obtain ⟨d, off, e, _, rfl⟩ := lkT_inv h
  rw [holeFree_ushift]
  exact hT.get e

theorem conv_cv_hf {Δ : DCtxX} {a b : Tm} (h : Conv Δ a b) (hW : DWF Δ) (hD : DHF Δ)
    (ha : a.holeFree = true) (hb : b.holeFree = true) : Cv (lkD Δ) a b := by
  have := conv_cv h hW
  rwa [dhC_id (CHF_lkD hD), dh_id a ha, dh_id b hb] at this


theorem convDefs_of_comps {Δ : DCtxX} : ∀ (ds1 ds2 : Defs), ds1.len = ds2.len →
    (∀ (i : Nat) (t1 t2 : Tm), (comps ds1)[i]? = some t1 → (comps ds2)[i]? = some t2 → Conv Δ t1 t2) →
    ConvDefs Δ ds1 ds2
  | .nil, .nil, _, _ => .nil _
  | .nil, .cons .., h, _ => by simp at h
  | .cons .., .nil, h, _ => by simp at h
  | .cons x a d r, .cons y a' d' r', hl, h => by
      simp only [Defs.len_cons, Nat.add_right_cancel_iff] at hl
      refine .cons x y (h 0 a a' (by simp [comps]) (by simp [comps]))
        (h 1 d d' (by simp [comps]) (by simp [comps])) (convDefs_of_comps r r' hl ?_)
      intro i t1 t2 e1 e2
      exact h (i + 2) t1 t2 (by simpa [comps] using e1) (by simpa [comps] using e2)

theorem cv_conv {D : Ctx} {a b : Tm} (h : Cv D a b) : ∀ (Δ : DCtxX), DWF Δ → D = lkD Δ → Conv Δ a b := by
  induction h with
  | refl _ => intro Δ _ _; exact .refl _ _
  | symm _ ih => intro Δ hW e; exact .symm (ih Δ hW e)
  | trans _ _ ih1 ih2 => intro Δ hW e; exact .trans (ih1 Δ hW e) (ih2 Δ hW e)
  | beta x im d body a _ _ _ => intro Δ _ _; exact .red (.beta x im d body a)
  | delta x i d hi _ =>
    intro Δ _ e
    rw [e] at hi
    obtain ⟨d0, off, e0, ho, rfl⟩ := lkD_inv hi
    exact .red (.delta x i d0 off e0 ho)
  | letStep x a d rest body _ _ _ _ => intro Δ _ _; exact .red (.letStep x a d rest body)
  | letNil body _ => intro Δ _ _; exact .red (.letNil body)
  | negLit n => intro Δ _ _; exact .red (.neg n)
  | arith op x y r hr => intro Δ _ _; exact .red (.arith op x y r hr)
  | iteT a b _ _ => intro Δ _ _; exact .red (.iteTrue a b)
  | iteF a b _ _ => intro Δ _ _; exact .red (.iteFalse a b)
  | same hs _ _ => intro Δ _ _; exact .same hs
  | lam x y im d1 d2 _ _ _ ih =>
    intro Δ hW e
    exact .lam x y im d1 d2 (ih (none :: Δ) (DWF.push hW) (by rw [e, lkD_none hW]))
  | pi x y im _ _ ih1 ih2 =>
    intro Δ hW e
    exact .pi x y im (ih1 Δ hW e) (ih2 (none :: Δ) (DWF.push hW) (by rw [e, lkD_none hW]))
  | app _ _ ih1 ih2 => intro Δ hW e; exact .app (ih1 Δ hW e) (ih2 Δ hW e)
  | neg _ ih => intro Δ hW e; exact .neg (ih Δ hW e)
  | bin op _ _ ih1 ih2 => intro Δ hW e; exact .bin op (ih1 Δ hW e) (ih2 Δ hW e)
  | ite _ _ _ ih0 ih1 ih2 => intro Δ hW e; exact .ite (ih0 Δ hW e) (ih1 Δ hW e) (ih2 Δ hW e)
  | @letg D ds1 ds2 b1 b2 hl _ _ _ _ ihc ihb =>
    intro Δ hW e
    have e' : ext ds1.len noneF D = lkD (List.replicate ds1.len none ++ Δ) := by rw [e, lkD_nones hW]
    have hW' := DWF_nones hW ds1.len
    exact .letg (convDefs_of_comps ds1 ds2 hl (fun i t1 t2 e1 e2 => ihc i t1 t2 e1 e2 _ hW' e'))
      (ihb _ hW' e')


theorem eraseDefsX_er : ∀ (ds : Defs), ds.holeFree = true → eraseDefsX ds = erDefs ds :=
  eraseDefsX_erDefs

theorem ctxCv_er (Δ : DCtxX) (hD : DHF Δ) : CtxCv (lkD (erD Δ)) (lkD Δ) := by
  intro i d x e
  obtain ⟨d0, off, e0, ho, rfl⟩ := lkD_inv e
  obtain ⟨d1, e1, rfl⟩ := erD_some_inv e0
  have hd1 : d1.holeFree = true := hD.get e1
  have hs : (ushift 0 (i + 1 - off) d1).holeFree = true := by rw [holeFree_ushift]; exact hd1
  refine .trans (.delta x i _ (lkD_some e1 ho) hs) ?_
  rw [← er_ushift]
  exact .same (CheckComplete.sameX_er _ hs) hs (er_holeFree _)

theorem join_cv {Δ : DCtxX} (hW : DWF Δ) (hD : DHF Δ) {n : Nat} {a b : Tm} (ha : a.holeFree = true)
    (hb : b.holeFree = true) (h : Join (erD Δ) n (er a) (er b)) : Cv (ext n noneF (lkD Δ)) a b := by
  obtain ⟨c, p1, p2⟩ := h
  have hWe := DWF_erD hW
  have c1 := CheckComplete.pars_conv hWe p1
  have c2 := CheckComplete.pars_conv hWe p2
  have hc : (c.holeFree = true) := p1.hf (DHF_erD _) (er_holeFree _)
  have hWn := DWF_nones hWe n
  have hDn := DHF_nones (DHF_erD Δ) n
  have k1 := conv_cv_hf c1 hWn hDn (er_holeFree _) hc
  have k2 := conv_cv_hf c2 hWn hDn (er_holeFree _) hc
  have k : Cv (ext n noneF (lkD (erD Δ))) (er a) (er b) := by
    rw [← lkD_nones hWe]; exact .trans k1 (.symm k2)
  have k' := k.sub Act.id_natural Act.id_nameBlind ((ctxCv_er Δ hD).rel.under Act.id_natural n noneF)
  rw [Tm.trav_id, Tm.trav_id] at k'
  exact .trans (.same (CheckComplete.sameX_er a ha) ha (er_holeFree _))
    (.trans k' (.symm (.same (CheckComplete.sameX_er b hb) hb (er_holeFree _))))

theorem cv_pi_inj {Δ : DCtxX} (hW : DWF Δ) (hD : DHF Δ) {x y : Name} {im jm : Bool} {A B A' B' : Tm}
    (h : Cv (lkD Δ) (.pi x im A B) (.pi y jm A' B')) :
    im = jm ∧ Cv (lkD Δ) A A' ∧ Cv (ext 1 noneF (lkD Δ)) B B' := by
  have hf := h.hf
  simp only [Tm.holeFree, Bool.and_eq_true] at hf
  have c := cv_conv h Δ hW rfl
  have j := Conv.join c hW
  simp only [er] at j
  obtain ⟨e, j1, j2⟩ := Join.pi_inv j
  refine ⟨e, ?_, join_cv hW hD hf.1.2 hf.2.2 j2⟩
  have := join_cv hW hD hf.1.1 hf.2.1 j1
  rwa [ext_zero] at this


theorem hasType_ht {Γ : TCtxX} {Δ : DCtxX} {t T : Tm} (h : HasType Γ Δ t T) : OffsT Γ → DWF Δ →
    HT (dhC (lkT Γ)) (dhC (lkD Δ)) (dh t) (dh T) := by
  induction h using HasType.rec (motive_2 := fun Γ Δ ds _ => OffsT Γ → DWF Δ →
    ∀ x a d, (x, a, d) ∈ (dhDefs ds).toList →
      HT (dhC (lkT Γ)) (dhC (lkD Δ)) a .type ∧ HT (dhC (lkT Γ)) (dhC (lkD Δ)) d a) with
  | type | int | bool | lit | tt | ff => intro _ _; constructor
  | var _ x i ty off hΓ ho =>
      intro _ _
      refine .var _ x i _ ?_ (dh_holeFree _)
      simp only [dhC, lkT_some hΓ ho, Option.map_some]
  | @lam Γ Δ x im d b cod _ _ ih1 ih2 =>
      intro hO hW
      have i2 := ih2 (OffsT_cons hO d) (DWF.push hW)
      rw [lkT_cons hO, lkD_none hW, dhC_extN, dhC_ext] at i2
      simp only [Option.map_some, dh_ushift] at i2
      exact .lam x im (ih1 hO hW) i2
  | @pi Γ Δ x im d c _ _ ih1 ih2 =>
      intro hO hW
      have i2 := ih2 (OffsT_cons hO d) (DWF.push hW)
      rw [lkT_cons hO, lkD_none hW, dhC_extN, dhC_ext] at i2
      simp only [Option.map_some, dh_ushift] at i2
      exact .pi x im (ih1 hO hW) i2
  | app x im _ _ ih1 ih2 =>
      intro hO hW
      simp only [dh, dh_openT]
      exact .app x im (ih1 hO hW) (ih2 hO hW)
  | @letg Γ Δ ds body bty _ _ ih1 ih2 =>
      intro hO hW
      have hO' := OffsT_pushed hO ds
      have hW' := DWF_pushed hW ds
      have e := CheckSound.pushGroupX_eq ds Γ Δ
      have e1 : (pushGroupX ds 0 (Γ, Δ)).1 = pushedT ds ds.len Γ := by rw [e]
      have e2 : (pushGroupX ds 0 (Γ, Δ)).2 = pushedD ds ds.len Δ := by rw [e]
      have i1 := ih1 (by rw [e1]; exact hO') (by rw [e2]; exact hW')
      have i2 := ih2 (by rw [e1]; exact hO') (by rw [e2]; exact hW')
      rw [e1, e2, lkT_pushed hO, lkD_pushed hW, dhC_ext, dhC_ext, annF_dh, defF_dh, ← dhDefs_len ds] at i1 i2
      exact .letg (dhDefs_holeFree _) (fun x a d hm => (i1 x a d hm).1) (fun x a d hm => (i1 x a d hm).2) i2
  | neg _ ih => exact fun hO hW => .neg (ih hO hW)
  | bin op _ _ ih1 ih2 =>
      intro hO hW
      simp only [dh, binResult_dh]
      exact .bin op (ih1 hO hW) (ih2 hO hW)
  | ite _ _ _ ih0 ih1 ih2 => exact fun hO hW => .ite (ih0 hO hW) (ih1 hO hW) (ih2 hO hW)
  | conv _ hc ih => exact fun hO hW => .conv (ih hO hW) (conv_cv hc hW)
  | nil => rename_i hm; cases hm
  | cons y _ _ _ ih1 ih2 ih3 =>
      rename_i hO hW x a d hm
      simp only [dhDefs, Defs.toList, List.mem_cons, Prod.mk.injEq] at hm
      rcases hm with ⟨_, rfl, rfl⟩ | hm
      · exact ⟨ih1 hO hW, ih2 hO hW⟩
      · exact ih3 hO hW x a d hm

theorem hasType_ht_hf {Γ : TCtxX} {Δ : DCtxX} {t T : Tm} (h : HasType Γ Δ t T) (hO : OffsT Γ)
    (hW : DWF Δ) (hT : THF Γ) (hD : DHF Δ) (ht : t.holeFree = true) (hTy : T.holeFree = true) :
    HT (lkT Γ) (lkD Δ) t T := by
  have := hasType_ht h hO hW
  rwa [dhC_id (CHF_lkT hT), dhC_id (CHF_lkD hD), dh_id t ht, dh_id T hTy] at this


theorem defsOK_of {Γ : TCtxX} {Δ : DCtxX} : ∀ (ds : Defs),
    (∀ x a d, (x, a, d) ∈ ds.toList → HasType Γ Δ a .type ∧ HasType Γ Δ d a) → DefsOK Γ Δ ds
  | .nil, _ => .nil _ _
  | .cons x a d r, h =>
      .cons x (h x a d (by simp [Defs.toList])).1 (h x a d (by simp [Defs.toList])).2
        (defsOK_of r (fun y b e hm => h y b e (by simp [Defs.toList, hm])))

theorem ht_hasType {G D : Ctx} {t T : Tm} (h : HT G D t T) : ∀ (Γ : TCtxX) (Δ : DCtxX), OffsT Γ →
    DWF Δ → G = lkT Γ → D = lkD Δ → HasType Γ Δ t T := by
  induction h with
  | type | int | bool | lit | tt | ff => intro Γ Δ _ _ _ _; constructor
  | var D x i ty hi _ =>
    intro Γ Δ _ _ eG _
    rw [eG] at hi
    obtain ⟨ty0, off, e0, ho, rfl⟩ := lkT_inv hi
    exact .var _ x i ty0 off e0 ho
  | @lam G D x im d b cod _ _ ih1 ih2 =>
    intro Γ Δ hO hW eG eD
    exact .lam x im (ih1 Γ Δ hO hW eG eD)
      (ih2 ((d, 0) :: Γ) (none :: Δ) (OffsT_cons hO d) (DWF.push hW) (by rw [eG, lkT_cons hO])
        (by rw [eD, lkD_none hW]))
  | @pi G D x im d c _ _ ih1 ih2 =>
    intro Γ Δ hO hW eG eD
    exact .pi x im (ih1 Γ Δ hO hW eG eD)
      (ih2 ((d, 0) :: Γ) (none :: Δ) (OffsT_cons hO d) (DWF.push hW) (by rw [eG, lkT_cons hO])
        (by rw [eD, lkD_none hW]))
  | app x im _ _ ih1 ih2 => intro Γ Δ hO hW eG eD; exact .app x im (ih1 Γ Δ hO hW eG eD) (ih2 Γ Δ hO hW eG eD)
  | @letg G D ds body bty hds _ _ _ iha ihd ihb =>
    intro Γ Δ hO hW eG eD
    have hO' := OffsT_pushed hO ds
    have hW' := DWF_pushed hW ds
    have eG' : ext ds.len (annF ds) G = lkT (pushedT ds ds.len Γ) := by rw [eG, lkT_pushed hO]
    have eD' : ext ds.len (defF ds) D = lkD (pushedD ds ds.len Δ) := by rw [eD, lkD_pushed hW]
    have r : DefsOK (pushedT ds ds.len Γ) (pushedD ds ds.len Δ) ds ∧
        HasType (pushedT ds ds.len Γ) (pushedD ds ds.len Δ) body bty :=
      ⟨defsOK_of ds (fun x a d hm => ⟨iha x a d hm _ _ hO' hW' eG' eD', ihd x a d hm _ _ hO' hW' eG' eD'⟩),
        ihb _ _ hO' hW' eG' eD'⟩
    have e := CheckSound.pushGroupX_eq ds Γ Δ
    have e1 : (pushGroupX ds 0 (Γ, Δ)).1 = pushedT ds ds.len Γ := by rw [e]
    have e2 : (pushGroupX ds 0 (Γ, Δ)).2 = pushedD ds ds.len Δ := by rw [e]
    rw [← e1, ← e2] at r
    exact .letg r.1 r.2
  | neg _ ih => intro Γ Δ hO hW eG eD; exact .neg (ih Γ Δ hO hW eG eD)
  | bin op _ _ ih1 ih2 => intro Γ Δ hO hW eG eD; exact .bin op (ih1 Γ Δ hO hW eG eD) (ih2 Γ Δ hO hW eG eD)
  | ite _ _ _ ih0 ih1 ih2 =>
    intro Γ Δ hO hW eG eD; exact .ite (ih0 Γ Δ hO hW eG eD) (ih1 Γ Δ hO hW eG eD) (ih2 Γ Δ hO hW eG eD)
  | conv _ hc ih =>
    intro Γ Δ hO hW eG eD
    exact .conv (ih Γ Δ hO hW eG eD) (cv_conv hc Δ hW eD)

end Pres
