import GramModel.Lemmas.Lexer

/-!
# Invariants of the scanner about single characters

Over the four kinds of step (`StepCase`), for a whole text, with the invariant seeing the consumed prefix
(`scan0_inv`): no token lies inside a comment, the gaps between tokens are blank, and the reported errors
are exactly the unexpected symbols.
-/

theorem scan0_inv (cc : CharClass) (text : List Char) (Inv : List Char → List Char → LexState → Prop)
    (hstep : ∀ pre lex cs' s s', text = pre ++ (lex ++ cs') → Inv pre (lex ++ cs') s → lex ≠ [] →
      StepCase cc (bytesOf pre) (bytesOf (pre ++ lex)) lex cs' s s' → Inv (pre ++ lex) cs' s')
    (h0 : Inv [] text { toks := [], errs := [] }) : Inv text [] (scan0 cc text) :=
  scan0_run_inv cc text Inv (fun pre lex rest s s' ht h hs =>
    hstep pre lex rest s s' ht h (List.length_pos_iff.1 hs.ne_nil) (bytesOf_append pre lex ▸ hs.stepCase)) h0

/-- state "a `#` occurs earlier on the current line", updated by one character -/
def hashStep (st : Bool) (c : Char) : Bool := if c = '\n' then false else if c = '#' then true else st

def hashLine (l : List Char) : Bool := (l.reverse.takeWhile (· != '\n')).contains '#'

theorem hashLine_snoc (l : List Char) (c : Char) : hashLine (l ++ [c]) = hashStep (hashLine l) c := by
  unfold hashLine hashStep
  rw [List.reverse_append]
  simp only [List.reverse_singleton, List.singleton_append, List.takeWhile_cons]
  by_cases h : c = '\n'
  · subst h; simp
  · by_cases h2 : c = '#'
    · subst h2; simp
    · simp [h, h2]
      intro e; exact absurd e.symm h2

theorem hashLine_append (a b : List Char) : hashLine (a ++ b) = b.foldl hashStep (hashLine a) := by
  induction b generalizing a with
  | nil => simp
  | cons c b ih =>
    have : a ++ c :: b = (a ++ [c]) ++ b := by simp
    rw [this, ih, hashLine_snoc, List.foldl_cons]

theorem fold_nohash : ∀ (m : List Char) (st : Bool), '#' ∉ m →
    m.foldl hashStep st = (st && m.all (· != '\n'))
  | [], st, _ => by simp
  | c :: m, st, h => by
    have hc : c ≠ '#' := fun e => h (by simp [e])
    have hm : '#' ∉ m := fun e => h (by simp [e])
    rw [List.foldl_cons, fold_nohash m _ hm]
    by_cases hn : c = '\n'
    · subst hn; simp [hashStep]
    · have : (c != '\n') = true := by simp [hn]
      simp [hashStep, hn, hc, this]

theorem fold_comment : ∀ (m : List Char), (∀ x ∈ m, x ≠ '\n') → m.foldl hashStep true = true
  | [], _ => rfl
  | c :: m, h => by
    have hc : c ≠ '\n' := h c (by simp)
    rw [List.foldl_cons]
    have : hashStep true c = true := by simp [hashStep, hc]
    rw [this]
    exact fold_comment m (fun x hx => h x (by simp [hx]))

/-- `inComment` of Props/C09 (`inComment_eq_inCom` there), through `hashLine` -/
def inCom (text : List Char) (i : Nat) : Bool :=
  text[i]? != some '\n' && hashLine (text.take (i + 1))

/-- `offsetOf` of Props/C09 (`offsetOf_eq_offs` there) -/
def offs (text : List Char) (i : Nat) : Nat := bytesOf (text.take i)

theorem inCom_prefix {pre : List Char} (cs : List Char) {i : Nat} (h : i < pre.length) :
    inCom (pre ++ cs) i = inCom pre i := by
  unfold inCom
  rw [List.getElem?_append_left h, List.take_append_of_le_length (by omega)]

theorem getElem?_at (pre lex : List Char) (j : Nat) : (pre ++ lex)[pre.length + j]? = lex[j]? := by
  rw [List.getElem?_append_right (by omega)]
  congr 1; omega

theorem inCom_at (pre lex : List Char) (j : Nat) :
    inCom (pre ++ lex) (pre.length + j) =
      (lex[j]? != some '\n' && (lex.take (j + 1)).foldl hashStep (hashLine pre)) := by
  unfold inCom
  rw [getElem?_at]
  have : (pre ++ lex).take (pre.length + j + 1) = pre ++ lex.take (j + 1) := by
    rw [List.take_append]
    rw [List.take_of_length_le (by omega)]
    congr 2; omega
  rw [this, hashLine_append]

theorem inCom_tok_false {pre lex : List Char} (hh : '#' ∉ lex)
    (hB : hashLine pre = false ∨ ∃ r, lex = '\n' :: r) (j : Nat) :
    inCom (pre ++ lex) (pre.length + j) = false := by
  rw [inCom_at, fold_nohash _ _ (fun e => hh (List.mem_of_mem_take e))]
  rcases hB with hB | ⟨r, rfl⟩
  · simp [hB]
  · cases j with
    | zero => simp
    | succ j => simp

theorem inCom_comment_true {pre body : List Char} (hb : ∀ x ∈ body, x ≠ '\n') {j : Nat} :
    inCom (pre ++ '#' :: body) (pre.length + j) = true := by
  rw [inCom_at]
  have h1 : ('#' :: body)[j]? ≠ some '\n' := fun e => by
    rcases List.mem_cons.1 (List.mem_of_getElem? e) with e | hm
    · exact absurd e (by decide)
    · exact hb _ hm rfl
  have h2 : (('#' :: body).take (j + 1)).foldl hashStep (hashLine pre) = true := by
    rw [List.take_succ_cons, List.foldl_cons]
    have : hashStep (hashLine pre) '#' = true := by simp [hashStep]
    rw [this]
    exact fold_comment _ (fun x hx => hb x (List.mem_of_mem_take hx))
  rw [h2, Bool.and_true]
  simpa using h1

/-- the "not inside a comment" part of the loop invariant: either no `#` on the current line so far,
or the scanner stands at the end of a line -/
def LineOK (pre cs : List Char) : Prop := hashLine pre = false ∨ cs = [] ∨ ∃ r, cs = '\n' :: r

theorem LineOK.start {pre lex cs' : List Char} (h : LineOK pre (lex ++ cs')) (hne : lex ≠ []) :
    hashLine pre = false ∨ ∃ r, lex = '\n' :: r := by
  rcases h with h | h | ⟨r, h⟩
  · exact Or.inl h
  · exact absurd (List.append_eq_nil_iff.1 h).1 hne
  · cases lex with
    | nil => exact absurd rfl hne
    | cons c l => right; rw [List.cons_append] at h; injection h with h1 h2; exact ⟨l, by rw [h1]⟩

theorem hashLine_tok {pre lex : List Char} (hh : '#' ∉ lex)
    (hB : hashLine pre = false ∨ ∃ r, lex = '\n' :: r) : hashLine (pre ++ lex) = false := by
  rw [hashLine_append, fold_nohash _ _ hh]
  rcases hB with hB | ⟨r, rfl⟩
  · simp [hB]
  · simp

/-- `#` is neither a word character nor whitespace: the clauses `hash_plain`, `hash_cont` of `CharClass.Sane2`,
which is all the invariants about comments need; C09 gets it from `Sane` and `identCont cc '#' = false` -/
structure HashPlain (cc : CharClass) : Prop where
  start : identStart cc '#' = false
  ws : cc.isWs '#' = false
  cont : identCont cc '#' = false

theorem HashPlain.of_sane {cc : CharClass} (hs : cc.Sane) (hc : identCont cc '#' = false) :
    HashPlain cc := ⟨hs.hash_plain.1, hs.hash_plain.2, hc⟩

theorem tokShape_nohash {cc : CharClass} (hp : HashPlain cc) {k : TokKind} {lex rest : List Char}
    (h : TokShape cc k lex rest) : '#' ∉ lex := by
  intro hm
  rcases h with ⟨h, _⟩ | ⟨c, w, rfl, hc, hw, _⟩ | ⟨h, _⟩
  · exact absurd (h _ hm) (by decide)
  · rcases List.mem_cons.1 hm with e | hm
    · rw [← e, hp.start] at hc; cases hc
    · have := hw _ hm; rw [hp.cont] at this; cases this
  · exact absurd (h _ hm) (by decide)

theorem lineOK_step {cc : CharClass} (hp : HashPlain cc) {pre lex cs' : List Char} {p p' : Nat}
    {s s' : LexState} (hB : LineOK pre (lex ++ cs')) (hne : lex ≠ [])
    (hc : StepCase cc p p' lex cs' s s') : LineOK (pre ++ lex) cs' := by
  have hB' := hB.start hne
  rcases hc with ⟨k, _, _, _, _, hs⟩ | ⟨_, _, c, rfl, hc⟩ | ⟨_, _, body, rfl, _, hr⟩ | ⟨_, _, c, rfl, hu⟩
  · exact Or.inl (hashLine_tok (tokShape_nohash hp hs) hB')
  · refine Or.inl (hashLine_tok ?_ hB')
    intro hm
    rw [List.mem_singleton] at hm
    rcases hc with hc | hc
    · rw [← hm, hp.ws] at hc; cases hc
    · rw [hc] at hm; exact absurd hm (by decide)
  · exact Or.inr hr
  · refine Or.inl (hashLine_tok ?_ hB')
    intro hm
    rw [List.mem_singleton] at hm
    exact hu.2.2.2.2 hm.symm

theorem offs_prefix {pre : List Char} (cs : List Char) {i : Nat} (h : i ≤ pre.length) :
    offs (pre ++ cs) i = offs pre i := by
  unfold offs; rw [List.take_append_of_le_length h]

theorem offs_length (pre cs : List Char) : offs (pre ++ cs) pre.length = bytesOf pre := by
  unfold offs; rw [List.take_left']; rfl

theorem offs_lt {a : List Char} (b : List Char) {i : Nat} (h : i < a.length) :
    offs (a ++ b) i < bytesOf a := by
  rw [offs_prefix b (by omega)]
  exact bytesOf_take_lt a i h

theorem offs_ge (a b : List Char) {i : Nat} (h : a.length ≤ i) : bytesOf a ≤ offs (a ++ b) i := by
  unfold offs
  rw [List.take_append, List.take_of_length_le h, bytesOf_append]
  omega

theorem split_index {pre lex : List Char} {i : Nat} (h : i < (pre ++ lex).length) :
    i < pre.length ∨ ∃ j, j < lex.length ∧ i = pre.length + j := by
  rw [List.length_append] at h
  by_cases h1 : i < pre.length
  · exact Or.inl h1
  · exact Or.inr ⟨i - pre.length, by omega, by omega⟩

theorem scan_no_token_in_comment (cc : CharClass) (hp : HashPlain cc) (text : List Char) :
    ∀ t ∈ (scan0 cc text).toks, ∀ i, inCom text i = true →
      ¬ (t.start ≤ offs text i ∧ offs text i < t.stop) := by
  have key := scan0_inv cc text (fun pre cs s => LineOK pre cs ∧ ∀ t ∈ s.toks,
      t.stop ≤ bytesOf pre ∧ ∀ i, i < pre.length → inCom pre i = true →
        ¬ (t.start ≤ offs pre i ∧ offs pre i < t.stop)) ?_ ⟨Or.inl rfl, by intro t ht; cases ht⟩
  · intro t ht i hi
    obtain ⟨h1, h2⟩ := key.2 t ht
    by_cases hlt : i < text.length
    · exact h2 i hlt hi
    · have : offs text i = bytesOf text := by
        unfold offs; rw [List.take_of_length_le (by omega)]
      rw [this]; omega
  · intro pre lex cs' s s' ht ⟨hB, hi⟩ hne hc
    refine ⟨lineOK_step hp hB hne hc, ?_⟩
    have hold : ∀ t ∈ s.toks, t.stop ≤ bytesOf (pre ++ lex) ∧ ∀ i, i < (pre ++ lex).length →
        inCom (pre ++ lex) i = true →
        ¬ (t.start ≤ offs (pre ++ lex) i ∧ offs (pre ++ lex) i < t.stop) := by
      intro t htm
      obtain ⟨h1, h2⟩ := hi t htm
      refine ⟨by rw [bytesOf_append]; omega, ?_⟩
      intro i hil hic
      rcases split_index hil with hlt | ⟨j, _, rfl⟩
      · rw [inCom_prefix _ hlt] at hic
        rw [offs_prefix _ (Nat.le_of_lt hlt)]
        exact h2 i hlt hic
      · have := offs_ge pre lex (i := pre.length + j) (by omega)
        omega
    rcases hc with ⟨k, hk, _, _, _, hs⟩ | ⟨hk, _⟩ | ⟨hk, _⟩ | ⟨hk, _⟩
    · rw [hk]; intro t htm
      rcases List.mem_cons.1 htm with rfl | htm
      · refine ⟨Nat.le_refl _, ?_⟩
        intro i hil hic
        rcases split_index hil with hlt | ⟨j, _, rfl⟩
        · have := offs_lt lex hlt
          dsimp only; omega
        · rw [inCom_tok_false (tokShape_nohash hp hs) (hB.start hne)] at hic
          cases hic
      · exact hold t htm
    all_goals (rw [hk]; exact hold)

/-- the `i`-th character `c` is accounted for: inside a token (a line-break token only covers a line
feed), whitespace, a line feed, or inside a comment -/
def Cov (cc : CharClass) (pre : List Char) (toks : List Tok) (i : Nat) (c : Char) : Prop :=
  (∃ t ∈ toks, t.start ≤ offs pre i ∧ offs pre i < t.stop ∧
      (t.kind = .terminatorLineBreak → c = '\n')) ∨
    cc.isWs c = true ∨ c = '\n' ∨ inCom pre i = true

theorem Cov.mono {cc : CharClass} {pre : List Char} {toks toks' : List Tok} {i : Nat} {c : Char}
    (lex : List Char) (hi : i < pre.length) (hs : ∀ t ∈ toks, t ∈ toks')
    (h : Cov cc pre toks i c) : Cov cc (pre ++ lex) toks' i c := by
  unfold Cov at h ⊢
  rw [offs_prefix _ (Nat.le_of_lt hi), inCom_prefix _ hi]
  rcases h with ⟨t, ht, h⟩ | h
  · exact Or.inl ⟨t, hs t ht, h⟩
  · exact Or.inr h

theorem scan_cov (cc : CharClass) (text : List Char) (he : (scan0 cc text).errs = []) :
    ∀ i c, text[i]? = some c → Cov cc text (scan0 cc text).toks i c := by
  have key := scan0_inv cc text (fun pre _ s => s.errs ≠ [] ∨
      ∀ i c, pre[i]? = some c → Cov cc pre s.toks i c) ?_ (Or.inr (by intro i c h; simp at h))
  · rcases key with h | h
    · exact absurd he h
    · exact h
  · intro pre lex cs' s s' ht hi hne hc
    -- the three error-free cases share the treatment of old indices
    have hcommon : s'.errs = s.errs → (∀ t ∈ s.toks, t ∈ s'.toks) →
        (∀ j (hj : j < lex.length), Cov cc (pre ++ lex) s'.toks (pre.length + j) lex[j]) →
        (s'.errs ≠ [] ∨ ∀ i c, (pre ++ lex)[i]? = some c → Cov cc (pre ++ lex) s'.toks i c) := by
      intro h1 h2 h3
      rcases hi with hi | hi
      · left; rw [h1]; exact hi
      · right
        intro i c hic
        obtain ⟨hil, rfl⟩ := List.getElem?_eq_some_iff.1 hic
        rcases split_index hil with hlt | ⟨j, hj, rfl⟩
        · rw [List.getElem?_append_left hlt] at hic
          exact (hi i _ hic).mono lex hlt h2
        · rw [List.getElem_append_right (Nat.le_add_right _ _)]
          simp only [Nat.add_sub_cancel_left]
          exact h3 j hj
    rcases hc with ⟨k, hk, hes, _, hl, _⟩ | ⟨hk, hes, x, rfl, hx⟩ | ⟨hk, hes, body, rfl, hb, _⟩ |
      ⟨_, hes, _⟩
    -- (a) a token
    · apply hcommon hes (by rw [hk]; intro t ht; exact List.mem_cons_of_mem _ ht)
      intro j hj
      refine Or.inl ⟨_, by rw [hk]; exact List.mem_cons_self,
        offs_ge pre lex (i := pre.length + j) (by omega), ?_, ?_⟩
      · have := offs_lt (a := pre ++ lex) [] (i := pre.length + j) (by rw [List.length_append]; omega)
        rwa [List.append_nil] at this
      · intro hlb
        dsimp only at hlb
        subst hlb
        have : lex = ['\n'] := hl
        subst this
        exact List.getElem_singleton hj
    -- (b) whitespace or a dropped line feed
    · apply hcommon hes (by rw [hk]; exact fun t ht => ht)
      intro j hj
      rw [List.getElem_singleton]
      rcases hx with hx | hx
      · exact Or.inr (Or.inl hx)
      · exact Or.inr (Or.inr (Or.inl hx))
    -- (c) a comment
    · apply hcommon hes (by rw [hk]; exact fun t ht => ht)
      intro j hj
      exact Or.inr (Or.inr (Or.inr (inCom_comment_true hb)))
    -- (d) an unexpected symbol
    · left; rw [hes]; simp

/-- `unexpectedAt` of Props/C09 (`unexpectedAt_eq_unexp` there) -/
def unexp (cc : CharClass) (text : List Char) (i : Nat) : Bool :=
  match text[i]? with
  | none => false
  | some c =>
      !inCom text i && !(symbolChars.contains c) && !(identStart cc c) && !(isDigit c)
        && !(cc.isWs c) && c != '#'

theorem unexp_prefix {cc : CharClass} {pre : List Char} (cs : List Char) {i : Nat}
    (h : i < pre.length) : unexp cc (pre ++ cs) i = unexp cc pre i := by
  unfold unexp; rw [List.getElem?_append_left h, inCom_prefix _ h]

theorem unexp_at {cc : CharClass} (pre : List Char) {lex : List Char} {j : Nat} {c : Char}
    (h : lex[j]? = some c) : unexp cc (pre ++ lex) (pre.length + j) =
      (!inCom (pre ++ lex) (pre.length + j) && !(symbolChars.contains c) && !(identStart cc c) &&
        !(isDigit c) && !(cc.isWs c) && c != '#') := by
  unfold unexp; rw [getElem?_at, h]

def errPos (cc : CharClass) (pre : List Char) : List Nat :=
  ((List.range pre.length).filter (unexp cc pre)).map (offs pre)

theorem errPos_append (cc : CharClass) (pre lex : List Char) :
    errPos cc (pre ++ lex) = errPos cc pre ++
      ((List.range lex.length).filter (fun j => unexp cc (pre ++ lex) (pre.length + j))).map
        (fun j => offs (pre ++ lex) (pre.length + j)) := by
  unfold errPos
  rw [List.length_append, List.range_add, List.filter_append, List.map_append]
  congr 1
  · have : (List.range pre.length).filter (unexp cc (pre ++ lex)) =
        (List.range pre.length).filter (unexp cc pre) :=
      List.filter_congr (fun i hi => unexp_prefix lex (List.mem_range.1 hi))
    rw [this]
    apply List.map_congr_left
    intro i hi
    exact offs_prefix lex (Nat.le_of_lt (List.mem_range.1 (List.mem_filter.1 hi).1))
  · rw [List.filter_map, List.map_map]; rfl

theorem scan_errors (cc : CharClass) (hp : HashPlain cc)
    (hcont : ∀ c, identCont cc c = true → identStart cc c = true ∨ isDigit c = true)
    (text : List Char) : (scan0 cc text).errs.reverse.map (·.1) = errPos cc text := by
  have key := scan0_inv cc text (fun pre cs s => LineOK pre cs ∧
      s.errs.reverse.map (·.1) = errPos cc pre) ?_ ⟨Or.inl rfl, rfl⟩
  · exact key.2
  · intro pre lex cs' s s' ht ⟨hB, hi⟩ hne hc
    refine ⟨lineOK_step hp hB hne hc, ?_⟩
    rw [errPos_append]
    have hclean : s'.errs = s.errs →
        (∀ j (hj : j < lex.length), inCom (pre ++ lex) (pre.length + j) = true ∨
          symbolChars.contains lex[j] = true ∨ identStart cc lex[j] = true ∨
          isDigit lex[j] = true ∨ cc.isWs lex[j] = true) →
        s'.errs.reverse.map (·.1) = errPos cc pre ++
          ((List.range lex.length).filter (fun j => unexp cc (pre ++ lex) (pre.length + j))).map
            (fun j => offs (pre ++ lex) (pre.length + j)) := by
      intro h1 h2
      have : (List.range lex.length).filter (fun j => unexp cc (pre ++ lex) (pre.length + j)) = [] := by
        rw [List.filter_eq_nil_iff]
        intro j hj
        have hj := List.mem_range.1 hj
        rw [unexp_at pre (List.getElem?_eq_getElem hj)]
        rcases h2 j hj with h | h | h | h | h <;> rw [h] <;> simp
      rw [this, h1, hi]; simp
    rcases hc with ⟨k, _, hes, _, _, hs⟩ | ⟨_, hes, x, rfl, hx⟩ | ⟨_, hes, body, rfl, hb, _⟩ |
      ⟨_, hes, c, rfl, hu⟩
    -- (a) a token: none of its characters is unexpected
    · apply hclean hes
      intro j hj
      have hm : lex[j] ∈ lex := List.getElem_mem hj
      rcases hs with ⟨h, _⟩ | ⟨c, w, rfl, hc, hw, _⟩ | ⟨h, _⟩
      · right; left; simpa using h _ hm
      · rcases List.mem_cons.1 hm with e | hm
        · right; right; left; rw [e]; exact hc
        · rcases hcont _ (hw _ hm) with h | h
          · right; right; left; exact h
          · right; right; right; left; exact h
      · right; right; right; left; exact h _ hm
    -- (b) whitespace or a dropped line feed
    · apply hclean hes
      intro j hj
      rw [List.getElem_singleton]
      rcases hx with hx | hx
      · right; right; right; right; exact hx
      · right; left; rw [hx]; decide
    -- (c) a comment
    · apply hclean hes
      intro j hj
      exact Or.inl (inCom_comment_true hb)
    -- (d) an unexpected symbol: the one new entry
    · obtain ⟨u1, u2, u3, u4, u5⟩ := hu
      have hnh : '#' ∉ [c] := by
        intro hm; rw [List.mem_singleton] at hm; exact u5 hm.symm
      have hun : unexp cc (pre ++ [c]) (pre.length + 0) = true := by
        rw [unexp_at pre (j := 0) (c := c) rfl, inCom_tok_false hnh (hB.start hne), u1, u2, u3, u4]
        simpa using u5
      have hr : List.range [c].length = [0] := rfl
      have hf : List.filter (fun j => unexp cc (pre ++ [c]) (pre.length + j)) [0] = [0] := by
        rw [List.filter_cons]; simp only [hun]; rfl
      rw [hes, List.reverse_cons, List.map_append, hi, hr, hf]
      simp only [List.map_cons, List.map_nil, Nat.add_zero, offs_length]
