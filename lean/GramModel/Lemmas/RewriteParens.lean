import GramModel.Lemmas.ReassocChain
import GramModel.Lemmas.ResolveLayout
import GramModel.Lemmas.FinishParse

/-!
# Redundant parentheses (C19): a rewrite of the parse tree

Around the whole program: the three re-association passes and name resolution only see the `variant` of
the top node (`paren_whole`).  Around the right operand of a chain node: the pass gives the same tree up to
layout, if it keeps that operand as it is and the left operand is opaque to it (`paren_chain_operand` for any
link; `paren_operand` is the reading for a binary operator, the one for an application is
`ParenTokens.paren_argument`).  What is opaque to a pass: every node but an unparenthesised chain node of the
family (`opaque_of`, with `inFam`); a parenthesised chain (`opaque_grouped`) and the atoms (`kept_atom`, which the
pass even keeps as they are) are the cases the parentheses need.  Declares into `RewriteMore`, the namespace of
the lemmas about rewrites of the program (C19; also Lemmas/RewriteTerms.lean); `inFam` and `opaque_of` into `PModel`.
-/

namespace RewriteMore

open PModel

theorem reassoc_top (fam : Family) {t t' : Src} (h : t'.variant = t.variant) :
    (reassoc fam none t').map Src.variant = (reassoc fam none t).map Src.variant := by
  obtain ⟨r, g, v, es⟩ := t
  obtain ⟨r', g', v', es'⟩ := t'
  cases (h : v' = v)
  cases v
  case app a b | bin o a b =>
    rw [reassoc, reassoc]
    simp only [Option.isSome, Bool.false_and, Bool.false_eq_true, if_false]
    split
    · split
      · cases reassoc fam none a <;> cases reassoc fam none b <;> rfl
      · rfl
    · cases reassoc fam none a <;> cases reassoc fam none b <;> rfl
  case lam x imp dom body =>
    rw [reassoc, reassoc]
    cases reassocOpt fam dom <;> cases reassoc fam none body <;> rfl
  case pi x imp dom cod =>
    rw [reassoc, reassoc]
    cases reassoc fam none dom <;> cases reassoc fam none cod <;> rfl
  case let_ x ann d b =>
    rw [reassoc, reassoc]
    cases reassocOpt fam ann <;> cases reassoc fam none d <;> cases reassoc fam none b <;> rfl
  case neg a =>
    rw [reassoc, reassoc]
    cases reassoc fam none a <;> rfl
  case ite c a b =>
    rw [reassoc, reassoc]
    cases reassoc fam none c <;> cases reassoc fam none a <;> cases reassoc fam none b <;> rfl
  all_goals (rw [reassoc, reassoc]; try rfl)

theorem map_eq_map_cases {α γ : Type} {x y : Option α} {f : α → γ} (h : x.map f = y.map f) :
    (x = none ∧ y = none) ∨ ∃ a b, x = some a ∧ y = some b ∧ f a = f b := by
  cases x <;> cases y <;> first | exact .inl ⟨rfl, rfl⟩ | cases h | exact .inr ⟨_, _, rfl, rfl, Option.some.inj h⟩

theorem reassocAll_top {t t' : Src} (h : t'.variant = t.variant) :
    (reassocAll t').map Src.variant = (reassocAll t).map Src.variant := by
  unfold reassocAll reassociateApplications reassociateProductsAndQuotients
    reassociateSumsAndDifferences
  rcases map_eq_map_cases (reassoc_top .applications h) with ⟨e, e'⟩ | ⟨u', u, e, e', h1⟩ <;> rw [e, e']
  dsimp only
  rcases map_eq_map_cases (reassoc_top .productsAndQuotients h1) with
    ⟨e, e'⟩ | ⟨w', w, e, e', h2⟩ <;> rw [e, e']
  exact reassoc_top .sumsAndDifferences h2

theorem resolve_top {t t' : Src} (h : t'.variant = t.variant) (depth : Nat) (st : RState) :
    (resolve t' depth st).map resView = (resolve t depth st).map resView := by
  obtain ⟨r, g, v, es⟩ := t
  obtain ⟨r', g', v', es'⟩ := t'
  cases h
  exact resolve_layout_independent _ _ depth st rfl

/-- The parser's `parse_group` returns the inner tree's variant with a wider range, `group = true` and
possibly more errors: such a pair is `t'`, `t`. -/
theorem paren_whole {t t' : Src} (h : t'.variant = t.variant) (depth : Nat) (st : RState) :
    (reassocResolve t' depth st).map resView = (reassocResolve t depth st).map resView := by
  unfold reassocResolve
  rcases map_eq_map_cases (reassocAll_top h) with ⟨e, e'⟩ | ⟨u', u, e, e', h1⟩ <;> rw [e, e']
  exact resolve_top h1 depth st

/-- The pass leaves `t` as it is, whatever the accumulator (atoms): `reassocTail acc t` hangs `t` itself on the
accumulator, with its range, flag and error list (a node the pass rebuilds gets the error list `[]`). -/
def Kept (fam : Family) (t : Src) : Prop := ∀ acc, reassoc fam acc t = some (reassocTail acc t)
/-- The pass treats `t` as one operand: re-associated on its own, then hung on the accumulator. -/
def Opaque (fam : Family) (t : Src) : Prop :=
  ∀ acc, reassoc fam acc t = (reassoc fam none t).map (reassocTail acc)

theorem opaque_of_kept {fam : Family} {t : Src} (h : Kept fam t) : Opaque fam t := by
  intro acc
  rw [h acc, h none]
  rfl

/-- the variant is a chain node of the family -/
def _root_.PModel.inFam (fam : Family) : SrcV → Bool
  | .app _ _ => decide (fam = .applications)
  | .bin o _ _ => decide ((fam = .productsAndQuotients ∧ (o = .prod ∨ o = .quot))
      ∨ (fam = .sumsAndDifferences ∧ (o = .sum ∨ o = .diff)))
  | _ => false

theorem _root_.PModel.opaque_of (fam : Family) (r : SourceRange) (g : Bool) (v : SrcV) (es : List PErr)
    (h : g = true ∨ inFam fam v = false) : Opaque fam (.mk r g v es) := by
  intro acc
  cases v with
  | app f a =>
    rw [reassoc_app, reassoc_app]
    split
    · rename_i hf
      obtain rfl : g = true := h.resolve_right (by simp [inFam, hf])
      exact chainStep_grouped ..
    · exact rebuildStep_tail ..
  | bin o a b =>
    rw [reassoc_bin, reassoc_bin]
    split
    · rename_i ho
      obtain rfl : g = true := h.resolve_right (by simp [inFam, ho])
      exact chainStep_grouped ..
    · exact rebuildStep_tail ..
  | lam x imp dom body =>
    rw [reassoc, reassoc]
    cases reassocOpt fam dom <;> cases reassoc fam none body <;> rfl
  | pi x imp dom cod =>
    rw [reassoc, reassoc]
    cases reassoc fam none dom <;> cases reassoc fam none cod <;> rfl
  | let_ x ann d b =>
    rw [reassoc, reassoc]
    cases reassocOpt fam ann <;> cases reassoc fam none d <;> cases reassoc fam none b <;> rfl
  | neg a =>
    rw [reassoc, reassoc]
    cases reassoc fam none a <;> rfl
  | ite c a b =>
    rw [reassoc, reassoc]
    cases reassoc fam none c <;> cases reassoc fam none a <;> cases reassoc fam none b <;> rfl
  | _ => rw [reassoc, reassoc]; rfl

/-- What re-associating a chain node `a ⋆ b` (link `l`) comes to, layout stripped, when both operands
are opaque and have become `sa`, `sb` (stripped): alone without accumulator; hung on the accumulator as
one operand if the node was parenthesised (`g`); otherwise the accumulator takes `sa` first and `sb`
comes last. -/
def linkNF (l : Link) (acc : Option (Src × Link)) (g : Bool) (sa sb : Src) : Src :=
  match acc, g with
  | none, _ => .mk ⟨0, 0⟩ false (l.build sa sb) []
  | some (ac, l'), true =>
      .mk ⟨0, 0⟩ false (l'.build (strip ac) (.mk ⟨0, 0⟩ false (l.build sa sb) [])) []
  | some (ac, l'), false =>
      .mk ⟨0, 0⟩ false (l.build (.mk ⟨0, 0⟩ false (l'.build (strip ac) sa) []) sb) []

theorem strip_mk_build (r : SourceRange) (g : Bool) (l : Link) (a b : Src) (es : List PErr) :
    strip (.mk r g (l.build a b) es) = .mk ⟨0, 0⟩ false (l.build (strip a) (strip b)) [] := by
  cases l <;> rfl

theorem chainStep_norm (fam : Family) (l : Link) (acc : Option (Src × Link)) (r : SourceRange)
    (g : Bool) (a b : Src) (hb : Opaque fam b) (ha : Opaque fam a) :
    (chainStep fam l r g a b acc).map strip =
      ((reassoc fam none a).map strip).bind fun sa =>
        ((reassoc fam none b).map strip).map (linkNF l acc g sa) := by
  have hb' : ∀ p, reassoc fam (some p) b = (reassoc fam none b).map (reassocTail (some p)) :=
    fun p => hb (some p)
  unfold chainStep chainArm
  cases acc with
  | none =>
    simp only [Option.isSome, Bool.false_and, Bool.false_eq_true, if_false, hb']
    cases reassoc fam none a <;> cases reassoc fam none b <;> by_cases hg : b.group = true <;>
      simp [hg, reassocTail, linkNF, strip_mk_build]
  | some p =>
    obtain ⟨ac, l'⟩ := p
    cases g with
    | true =>
      simp only [Option.isSome, Bool.and_self, if_true, hb']
      cases reassoc fam none a <;> cases reassoc fam none b <;> by_cases hg : b.group = true <;>
        simp [hg, reassocTail, linkNF, strip_mk_build]
    | false =>
      simp only [Bool.and_false, Bool.false_eq_true, if_false, ha (some (ac, l')), hb']
      cases reassoc fam none a <;> cases reassoc fam none b <;> by_cases hg : b.group = true <;>
        simp [hg, reassocTail, linkNF, strip_mk_build]

theorem paren_chain_operand (fam : Family) (l : Link) (acc : Option (Src × Link)) (r : SourceRange)
    (g : Bool) (a b b' : Src) (hb : Opaque fam b) (hb' : Opaque fam b')
    (hs : (reassoc fam none b').map strip = (reassoc fam none b).map strip) (ha : Opaque fam a) :
    (chainStep fam l r g a b' acc).map strip = (chainStep fam l r g a b acc).map strip := by
  rw [chainStep_norm fam l acc r g a b' hb' ha, chainStep_norm fam l acc r g a b hb ha, hs]

theorem kept_strip {fam : Family} {b b' : Src} (hb : Kept fam b) (hb' : Kept fam b')
    (hs : strip b' = strip b) : (reassoc fam none b').map strip = (reassoc fam none b).map strip := by
  rw [hb none, hb' none]; simp only [reassocTail, Option.map_some, hs]

theorem build_op (o : BinOp) (a b : Src) : (Link.op o).build a b = .bin o a b := rfl

theorem paren_operand (fam : Family) (acc : Option (Src × Link)) (r : SourceRange) (g : Bool)
    (o : BinOp) (a b b' : Src) (es : List PErr)
    (ho : (fam = .productsAndQuotients ∧ (o = .prod ∨ o = .quot))
        ∨ (fam = .sumsAndDifferences ∧ (o = .sum ∨ o = .diff)))
    (hb : Kept fam b) (hb' : Kept fam b') (hs : strip b' = strip b) (ha : Opaque fam a) :
    (reassoc fam acc (.mk r g (.bin o a b') es)).map strip =
      (reassoc fam acc (.mk r g (.bin o a b) es)).map strip := by
  rw [reassoc_bin, reassoc_bin, if_pos ho, if_pos ho]
  exact paren_chain_operand fam _ acc r g a b b' (opaque_of_kept hb) (opaque_of_kept hb')
    (kept_strip hb hb' hs) ha

theorem kept_atom (fam : Family) (r : SourceRange) (g : Bool) (v : SrcV) (es : List PErr)
    (hv : v = .type ∨ (∃ x, v = .var x) ∨ v = .int ∨ (∃ n, v = .lit n) ∨ v = .bool ∨ v = .tt ∨ v = .ff) :
    Kept fam (.mk r g v es) := by
  intro acc
  rcases hv with rfl | ⟨x, rfl⟩ | rfl | ⟨n, rfl⟩ | rfl | rfl | rfl <;> rw [reassoc]

theorem opaque_grouped (fam : Family) (r : SourceRange) (o : BinOp) (a b : Src) (es : List PErr)
    (_ : (fam = .productsAndQuotients ∧ (o = .prod ∨ o = .quot))
        ∨ (fam = .sumsAndDifferences ∧ (o = .sum ∨ o = .diff))) :
    Opaque fam (.mk r true (.bin o a b) es) :=
  PModel.opaque_of fam r true _ es (Or.inl rfl)

end RewriteMore
