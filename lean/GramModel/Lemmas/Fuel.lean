import GramModel.Lemmas.Oracle

/-!
# Fuel monotonicity of the independent checker

An answer of `letAllX`, `whnfX`, `convX`, `isTypeX`, `expectX`, `inferX`/`inferDefsX`, `oracleAccepts` other than "out of
fuel" is kept by more fuel, so answers at different fuels agree.  For `inferX` the step is `Le.bind` (sequencing is
monotone for "answers at least as much") along the equations of its arms.
-/

namespace FuelLemmas

/- An answer is kept by one more unit of fuel.  Stated as an equation under `isSome`, so that the induction
hypotheses are rewrite rules; each arm of the function is then closed by rewriting. -/

theorem letAllX_more (f : Nat) (ds : Defs) (b : Tm) (h : (letAllX f ds b).isSome) :
    letAllX (f+1) ds b = letAllX f ds b := by
  fun_induction letAllX f ds b <;> simp_all [letAllX]

theorem whnfX_more (f : Nat) (Δ : DCtxX) (t : Tm) (h : (whnfX f Δ t).isSome) :
    whnfX (f+1) Δ t = whnfX f Δ t := by
  fun_induction whnfX f Δ t
  all_goals first
    | (cases h; done)
    | (rw [whnfX] <;> first
        | assumption
        | simp_all only [Option.isSome_some, letAllX_more, if_false])

theorem whnfX_mono (f : Nat) (Δ : DCtxX) (t r : Tm) (h : whnfX f Δ t = some r) :
    whnfX (f+1) Δ t = some r := by
  rw [whnfX_more f Δ t (by rw [h]; rfl), h]

theorem convX_more (f : Nat) (Δ : DCtxX) (a b : Tm) (h : (convX f Δ a b).isSome) :
    convX (f+1) Δ a b = convX f Δ a b := by
  fun_induction convX f Δ a b
  all_goals first
    | (cases h; done)
    | (rw [convX] <;> first
        | assumption
        | simp_all only [Option.isSome_some, whnfX_more, if_false, if_true, Bool.false_eq_true])

theorem convX_mono (f : Nat) (Δ : DCtxX) (a b : Tm) (r : Bool) (h : convX f Δ a b = some r) :
    convX (f+1) Δ a b = some r := by
  rw [convX_more f Δ a b (by rw [h]; rfl), h]

/-- `y` answers whatever `x` answers (`x` may be out of fuel) -/
def Le {α} (x y : Except XErr α) : Prop := x = .error .fuel ∨ x = y

theorem Le.refl {α} (x : Except XErr α) : Le x x := .inr rfl

theorem Le.bind {α β} {x x' : Except XErr α} {k k' : α → Except XErr β} (h : Le x x')
    (hk : ∀ v, Le (k v) (k' v)) : Le (x.bind k) (x'.bind k') := by
  rcases h with rfl | rfl
  · exact .inl rfl
  · cases x with
    | error e => exact .inr rfl
    | ok v => exact hk v

theorem Le.eq {α} {x y : Except XErr α} (h : Le x y) (hx : x ≠ .error .fuel) : y = x :=
  h.elim (fun e => absurd e hx) Eq.symm

theorem expectX_le (f : Nat) (Δ : DCtxX) (a b : Tm) (e : XErr) :
    Le (expectX f Δ a b e) (expectX (f+1) Δ a b e) := by
  unfold expectX
  cases hc : convX f Δ a b with
  | none => exact .inl rfl
  | some r => rw [convX_mono _ _ _ _ _ hc]; exact .inr rfl

theorem isTypeX_le (f : Nat) (Δ : DCtxX) (ty : Tm) : Le (isTypeX f Δ ty) (isTypeX (f+1) Δ ty) :=
  expectX_le f Δ ty .type .notType

/-- what `F` answers at some fuel it answers at every larger one, `F` being monotone step by step -/
theorem Le.mono_le {α} {F : Nat → Except XErr α} (hF : ∀ f, Le (F f) (F (f+1))) {f g : Nat} (hfg : f ≤ g)
    {r : Except XErr α} (h : F f = r) (hr : r ≠ .error .fuel) : F g = r := by
  induction hfg with
  | refl => exact h
  | step _ ih => exact ((hF _).eq (ih ▸ hr)).trans ih

theorem ne_fuel_of_ok {α} {x : Except XErr α} {v : α} (hx : x = .ok v) : x ≠ .error .fuel := by
  subst hx; intro c; cases c

set_option hygiene false in
local macro "ex_seq" pat:term "," lem:term "," k:tactic : tactic => `(tactic| (
  revert h
  generalize hx : $pat = cx
  cases cx with
  | error e =>
    intro h
    have hx' := $lem (ne_fuel_of_error hx (error_ne_fuel h))
    rw [hx] at hx'
    rw [hx']
  | ok v =>
    have hx' := $lem (ne_fuel_of_ok hx)
    rw [hx] at hx'
    rw [hx']
    intro h
    (try simp only at h)
    (try simp only)
    first | done | ($k:tactic)))

open OracleLemmas in
theorem inferX_le : ∀ (f : Nat),
    (∀ (Γ : TCtxX) (Δ : DCtxX) (t : Tm), Le (inferX f Γ Δ t) (inferX (f+1) Γ Δ t)) ∧
    (∀ (Γ : TCtxX) (Δ : DCtxX) (ds : Defs), Le (inferDefsX f Γ Δ ds) (inferDefsX (f+1) Γ Δ ds)) := by
  intro f
  induction f with
  | zero => exact ⟨fun _ _ _ => .inl rfl, fun _ _ _ => .inl rfl⟩
  | succ f ih =>
    obtain ⟨ih1, ih2⟩ := ih
    constructor
    · intro Γ Δ t
      cases t
      case lam x im d b =>
        rw [inferX_lam, inferX_lam]
        exact (ih1 ..).bind fun _ => (isTypeX_le ..).bind fun _ => (ih1 ..).bind fun _ => .refl _
      case pi x im d c =>
        rw [inferX_pi, inferX_pi]
        exact (ih1 ..).bind fun _ => (isTypeX_le ..).bind fun _ => (ih1 ..).bind fun _ =>
          (isTypeX_le ..).bind fun _ => .refl _
      case app g a =>
        rw [inferX_app, inferX_app]
        refine (ih1 ..).bind fun gty => ?_
        cases hw : whnfX f Δ gty with
        | none => exact .inl rfl
        | some w =>
          rw [whnfX_mono _ _ _ _ hw]
          cases w <;> first
            | exact .refl _
            | exact (ih1 ..).bind fun _ => .refl _
            | exact (ih1 ..).bind fun _ => (expectX_le ..).bind fun _ => .refl _
      case letg ds b =>
        rw [inferX_letg, inferX_letg]
        exact (ih2 ..).bind fun _ => (ih1 ..).bind fun _ => .refl _
      case neg a =>
        rw [inferX_neg, inferX_neg]
        exact (ih1 ..).bind fun _ => (expectX_le ..).bind fun _ => .refl _
      case bin op a b =>
        rw [inferX_bin, inferX_bin]
        exact (ih1 ..).bind fun _ => (expectX_le ..).bind fun _ => (ih1 ..).bind fun _ =>
          (expectX_le ..).bind fun _ => .refl _
      case ite c a b =>
        rw [inferX_ite, inferX_ite]
        exact (ih1 ..).bind fun _ => (expectX_le ..).bind fun _ => (ih1 ..).bind fun _ =>
          (ih1 ..).bind fun _ => (expectX_le ..).bind fun _ => .refl _
      all_goals exact .refl _
    · intro Γ Δ ds
      cases ds
      case nil => exact .refl _
      case cons x a d r =>
        rw [inferDefsX_cons, inferDefsX_cons]
        exact (ih1 ..).bind fun _ => (isTypeX_le ..).bind fun _ => (ih1 ..).bind fun _ =>
          (expectX_le ..).bind fun _ => ih2 ..

theorem inferX_mono (f : Nat) (Γ : TCtxX) (Δ : DCtxX) (t : Tm) (r : Except XErr Tm)
    (h : inferX f Γ Δ t = r) (hr : r ≠ .error .fuel) : inferX (f+1) Γ Δ t = r := by
  subst h; exact ((inferX_le f).1 Γ Δ t).eq hr

theorem whnfX_mono_le {f g : Nat} (hfg : f ≤ g) {Δ : DCtxX} {t r : Tm}
    (h : whnfX f Δ t = some r) : whnfX g Δ t = some r := by
  induction hfg with
  | refl => exact h
  | step _ ih => exact whnfX_mono _ _ _ _ ih

theorem convX_mono_le {f g : Nat} (hfg : f ≤ g) {Δ : DCtxX} {a b : Tm} {r : Bool}
    (h : convX f Δ a b = some r) : convX g Δ a b = some r := by
  induction hfg with
  | refl => exact h
  | step _ ih => exact convX_mono _ _ _ _ _ ih

theorem inferX_mono_le {f g : Nat} (hfg : f ≤ g) {Γ : TCtxX} {Δ : DCtxX} {t : Tm}
    {r : Except XErr Tm} (h : inferX f Γ Δ t = r) (hr : r ≠ .error .fuel) :
    inferX g Γ Δ t = r :=
  Le.mono_le (fun f => (inferX_le f).1 Γ Δ t) hfg h hr

theorem expectX_mono_le {f g : Nat} (hfg : f ≤ g) {Δ : DCtxX} {a b : Tm} {e : XErr} {r : Except XErr Unit}
    (h : expectX f Δ a b e = r) (hr : r ≠ .error .fuel) : expectX g Δ a b e = r :=
  Le.mono_le (fun f => expectX_le f Δ a b e) hfg h hr

theorem isTypeX_mono_le {f g : Nat} (hfg : f ≤ g) {Δ : DCtxX} {K : Tm} {r : Except XErr Unit}
    (h : isTypeX f Δ K = r) (hr : r ≠ .error .fuel) : isTypeX g Δ K = r :=
  expectX_mono_le (e := .notType) hfg h hr

theorem inferDefsX_mono_le {f g : Nat} (hfg : f ≤ g) {Γ : TCtxX} {Δ : DCtxX} {ds : Defs}
    {r : Except XErr Unit} (h : inferDefsX f Γ Δ ds = r) (hr : r ≠ .error .fuel) :
    inferDefsX g Γ Δ ds = r :=
  Le.mono_le (fun f => (inferX_le f).2 Γ Δ ds) hfg h hr

theorem inferX_det {f g : Nat} {Γ : TCtxX} {Δ : DCtxX} {t : Tm} {r₁ r₂ : Except XErr Tm}
    (h1 : inferX f Γ Δ t = r₁) (h2 : inferX g Γ Δ t = r₂)
    (n1 : r₁ ≠ .error .fuel) (n2 : r₂ ≠ .error .fuel) : r₁ = r₂ := by
  have a := inferX_mono_le (Nat.le_max_left f g) h1 n1
  have b := inferX_mono_le (Nat.le_max_right f g) h2 n2
  rw [← a, ← b]

theorem map_ne_fuel {α β} {g : α → β} {r : Except XErr α} :
    r.map g ≠ .error .fuel ↔ r ≠ .error .fuel := by
  cases r with
  | error e => simp [Except.map]
  | ok v => simp [Except.map]

theorem convX_det {f g : Nat} {Δ : DCtxX} {a b : Tm} {r r' : Bool} (h : convX f Δ a b = some r)
    (h' : convX g Δ a b = some r') : r = r' :=
  Option.some.inj ((convX_mono_le (Nat.le_max_left f g) h).symm.trans (convX_mono_le (Nat.le_max_right f g) h'))

theorem oracleAccepts_mono_le {f g : Nat} (hfg : f ≤ g) {e ty : Tm} {r : Except XErr Bool}
    (h : oracleAccepts f e ty = r) (hr : r ≠ .error .fuel) : oracleAccepts g e ty = r := by
  subst h
  unfold oracleAccepts at hr ⊢
  cases hi : inferX f [] [] e with
  | error x =>
    rw [hi] at hr
    have hx : x ≠ .fuel := fun c => hr (by rw [c])
    rw [inferX_mono_le hfg hi (fun c => hx (by injection c))]
  | ok T =>
    rw [hi] at hr
    rw [inferX_mono_le hfg hi (fun c => by cases c)]
    simp only at hr ⊢
    cases hc : convX f [] T ty with
    | none => rw [hc] at hr; exact absurd rfl hr
    | some b => rw [convX_mono_le hfg hc]

end FuelLemmas
