import GramModel.Lemmas.CCSubst
import GramModel.Lemmas.Natural
import GramModel.Lemmas.CtxOff
import GramModel.Lemmas.Eval

/-!
# Parallel reduction for gram's conversion, and its confluence (C05)

`Par Δ n t t'`: one parallel step (β, δ-unfolding of a definition of `Δ`, unfolding of the first definition of a group,
arithmetic, `if`) under `n` opaque binders on top of the definitions context `Δ`; it is used on erased terms (`er`,
`Lemmas/CCSubst.lean`).  `Par.trav`: a pair of traversals that maps variables to reducts (`ParAct`) maps steps to
steps; lifting and substitution are instances.  `cd` is the complete development, `Par.tri` Takahashi's triangle
(`t ⇒ t'` gives `t' ⇒ cd t`), hence the diamond and `Pars.confluence`.  `Join Δ n a b`: a common reduct.  The file
begins with what a definitions context holds (`DWF`: offsets in range; `defAt`, `pushedD_lookup`: the entries of a
pushed group) and two index laws about re-binding a group's self reference.
-/

namespace CCPar

open CCSubst WhnfLemmas

/-- offsets in range: the lift `p + 1 - off` by which the entry at position `p` is read does not underflow -/
def DWF (Δ : DCtxX) : Prop := ∀ p d off, Δ[p]? = some (some (d, off)) → off ≤ p + 1

theorem DWF_nil : DWF [] := by intro p d off h; simp at h

theorem DWF.push {Δ : DCtxX} (h : DWF Δ) : DWF (none :: Δ) := CheckNoPanic.DOff.push_none h

/-- the definition of the group variable with index `v` (the function-context files have their own copy,
`Pres.defAt`) -/
def defAt : Defs → Nat → Option Tm
  | .nil, _ => none
  | .cons _ _ d r, v => if v = r.len then some d else defAt r v

theorem defAt_lt : ∀ (ds : Defs) (v : Nat) (d : Tm), defAt ds v = some d → v < ds.len
  | .nil, _, _, h => by simp [defAt] at h
  | .cons _ _ _ r, v, d, h => by
      simp only [defAt] at h
      simp only [Defs.len_cons]
      split at h
      · omega
      · have := defAt_lt r v d h; omega

theorem defAt_holeFree : ∀ (ds : Defs) (v : Nat) (d : Tm), ds.holeFree = true → defAt ds v = some d →
    d.holeFree = true
  | .nil, _, _, _, h => by simp [defAt] at h
  | .cons _ _ dd r, v, d, hf, h => by
      simp only [Defs.holeFree, Bool.and_eq_true] at hf
      simp only [defAt] at h
      split at h
      · cases h; exact hf.1.2
      · exact defAt_holeFree r v d hf.2 h

theorem defAt_openDefs : ∀ (ds : Defs) (v : Nat) (i : Nat) (u : Tm) (s : Nat),
    defAt (openDefs ds i u s) v = (defAt ds v).map (fun t => openT t i u s)
  | .nil, _, _, _, _ => rfl
  | .cons _ _ dd r, v, i, u, s => by
      simp only [openDefs, defAt, openDefs_len]
      split
      · rfl
      · exact defAt_openDefs r v i u s

theorem pushedD_lookup : ∀ (ds : Defs) (D : DCtxX) (p : Nat),
    (pushedD ds ds.len D)[p]? =
      if p < ds.len then (defAt ds p).map (fun d => some (d, p + 1)) else D[p - ds.len]?
  | .nil, D, p => by simp [pushedD]
  | .cons x a d r, D, p => by
      have hl : (Defs.cons x a d r).len = r.len + 1 := rfl
      show (pushedD r (r.len + 1 - 1) (some (d, r.len + 1) :: D))[p]? = _
      rw [Nat.add_sub_cancel, pushedD_lookup r _ p]
      by_cases h1 : p < r.len
      · rw [if_pos h1, if_pos (by rw [hl]; omega)]
        simp only [defAt]
        rw [if_neg (by omega)]
      · rw [if_neg h1]
        by_cases h2 : p = r.len
        · subst h2
          rw [if_pos (by rw [hl]; omega)]
          simp [defAt]
        · rw [if_neg (by rw [hl]; omega), hl]
          rw [show p - r.len = (p - (r.len + 1)) + 1 by omega, List.getElem?_cons_succ]

theorem pushedD_get (ds : Defs) (D : DCtxX) (p : Nat) (d : Tm) (off : Nat)
    (h : (pushedD ds ds.len D)[p]? = some (some (d, off))) :
    (p < ds.len ∧ defAt ds p = some d ∧ off = p + 1) ∨
      (ds.len ≤ p ∧ D[p - ds.len]? = some (some (d, off))) := by
  rw [pushedD_lookup] at h
  split at h
  · cases e : defAt ds p with
    | none => rw [e] at h; cases h
    | some d' => rw [e] at h; cases h; exact .inl ⟨‹_›, rfl, rfl⟩
  · exact .inr ⟨by omega, h⟩

theorem DWF_pushed {Δ : DCtxX} (hW : DWF Δ) (ds : Defs) : DWF (pushedD ds ds.len Δ) := by
  intro p d off h
  rcases pushedD_get ds Δ p d off h with ⟨_, _, e⟩ | ⟨h1, h2⟩
  · omega
  · have := hW _ _ _ h2
    omega

theorem swap_id_both :
    (∀ (t : Tm) (k : Nat), openT (ushift k 1 (er t)) (k + 1) (Tm.var 0 0) k = er t) ∧
    ∀ (ds : Defs) (k : Nat), openDefs (ushiftDefs k 1 (erDefs ds)) (k + 1) (Tm.var 0 0) k = erDefs ds := by
  apply Tm.rec_both
  case var =>
    intro x j k
    rcases Nat.lt_trichotomy j k with h | rfl | h <;>
      simp (disch := omega) only [er, ushift, openT, if_pos, if_neg, if_true, Nat.zero_add,
        Nat.add_sub_cancel]
  case letg =>
    intro ds b ih1 ih2 k
    simp only [er, ushift, openT, ushiftDefs_len, erDefs_len]
    rw [Nat.add_right_comm k 1 ds.len, ih1, ih2]
  all_goals intros; simp only [er, erDefs, ushift, openT, ushiftDefs, openDefs, *]

/-- on an erased term, making room for a variable at `k` and substituting it by itself is the identity -/
theorem swap_id (t : Tm) (k : Nat) : openT (ushift k 1 (er t)) (k + 1) (Tm.var 0 0) k = er t :=
  swap_id_both.1 t k
theorem swapDefs_id : ∀ (ds : Defs) (k : Nat),
    openDefs (ushiftDefs k 1 (erDefs ds)) (k + 1) (Tm.var 0 0) k = erDefs ds :=
  swap_id_both.2

theorem open_self_ref_both (y : Name) (L : Tm) :
    (∀ (t : Tm) (k w : Nat), k ≤ w →
      openT (openT (ushift k 1 t) (w + 1) (Tm.var y 0) k) k L k = openT t w L k) ∧
    ∀ (ds : Defs) (k w : Nat), k ≤ w →
      openDefs (openDefs (ushiftDefs k 1 ds) (w + 1) (Tm.var y 0) k) k L k = openDefs ds w L k := by
  apply Tm.rec_both
  case var =>
    intro x j k w h
    rcases Nat.lt_or_ge j k with h1 | h1
    · simp (disch := omega) only [ushift, openT, if_pos, if_neg]
    · rcases Nat.lt_trichotomy j w with h2 | rfl | h2 <;>
        simp (disch := omega) only [ushift, openT, if_pos, if_neg, if_true, Nat.zero_add,
          Nat.add_sub_cancel]
  case hole =>
    intro id s k w h
    rcases Nat.lt_or_ge s k with h1 | h1
    · simp (disch := omega) only [ushift, openT, if_neg]
    · rcases Nat.lt_or_ge w s with h2 | h2 <;>
        simp (disch := omega) only [ushift, openT, if_pos, if_neg, Nat.add_sub_cancel]
  all_goals
    intros
    simp (disch := omega) only [ushift, openT, ushiftDefs, openDefs, ushiftDefs_len, openDefs_len,
      Nat.add_right_comm _ 1, *]

/-- lifting a term over a fresh variable at `k`, opening that variable at `w + 1` by itself and then
opening `k` is opening `w` in the term itself: the conditions on indices are decided region by region -/
theorem open_self_ref (y : Name) (L t : Tm) (k w : Nat) (h : k ≤ w) :
    openT (openT (ushift k 1 t) (w + 1) (Tm.var y 0) k) k L k = openT t w L k :=
  (open_self_ref_both y L).1 t k w h

theorem openDefs_self_ref (L : Tm) (v : Nat) : ∀ (ds : Defs) (k : Nat),
    openDefs (openDefs (ushiftDefs k 1 ds) (v + 1 + k) (Tm.var 0 0) k) k L k = openDefs ds (v + k) L k :=
  fun ds k => by
    have := (open_self_ref_both 0 L).2 ds k (v + k) (Nat.le_add_left k v)
    rwa [Nat.add_right_comm v k 1] at this

mutual
/-- parallel reduction under `n` opaque binders on top of the definitions context `Δ`.  There is no
rule for holes (it is used on erasures), so `Par t t` needs `t` hole-free: that is where the `holeFree`
hypotheses of every congruence below come from. -/
inductive Par (Δ : DCtxX) : Nat → Tm → Tm → Prop
  | type (n : Nat) : Par Δ n .type .type
  | int (n : Nat) : Par Δ n .int .int
  | bool (n : Nat) : Par Δ n .bool .bool
  | tt (n : Nat) : Par Δ n .tt .tt
  | ff (n : Nat) : Par Δ n .ff .ff
  | lit (n : Nat) (k : Int) : Par Δ n (.lit k) (.lit k)
  | var (n : Nat) (x : Name) (i : Nat) : Par Δ n (.var x i) (.var x i)
  | delta (n : Nat) (x : Name) (i : Nat) (d : Tm) (off : Nat) : n ≤ i →
      Δ[i - n]? = some (some (d, off)) → Par Δ n (.var x i) (ushift 0 (i + 1 - off) d)
  | lam {n : Nat} (x : Name) (im : Bool) {d d' b b' : Tm} :
      Par Δ n d d' → Par Δ (n+1) b b' → Par Δ n (.lam x im d b) (.lam x im d' b')
  | pi {n : Nat} (x : Name) (im : Bool) {d d' b b' : Tm} :
      Par Δ n d d' → Par Δ (n+1) b b' → Par Δ n (.pi x im d b) (.pi x im d' b')
  | app {n : Nat} {f f' a a' : Tm} : Par Δ n f f' → Par Δ n a a' → Par Δ n (.app f a) (.app f' a')
  | beta {n : Nat} (x : Name) (im : Bool) {d d' b b' a a' : Tm} :
      Par Δ n d d' → Par Δ (n+1) b b' → Par Δ n a a' →
      Par Δ n (.app (.lam x im d b) a) (openT b' 0 a' 0)
  | letg {n : Nat} {ds ds' : Defs} {b b' : Tm} :
      ParDefs Δ (n + ds.len) ds ds' → Par Δ (n + ds.len) b b' → Par Δ n (.letg ds b) (.letg ds' b')
  | letStep {n : Nat} (x : Name) {a a' d d' : Tm} {r r' : Defs} {b b' : Tm} :
      Par Δ (n + r.len + 1) a a' → Par Δ (n + r.len + 1) d d' →
      ParDefs Δ (n + r.len + 1) r r' → Par Δ (n + r.len + 1) b b' →
      Par Δ n (.letg (.cons x a d r) b)
        (.letg (openDefs r' r.len (unfoldDef x a' d' r.len) 0)
          (openT b' r.len (unfoldDef x a' d' r.len) 0))
  | letNil {n : Nat} {b b' : Tm} : Par Δ n b b' → Par Δ n (.letg .nil b) b'
  | neg {n : Nat} {a a' : Tm} : Par Δ n a a' → Par Δ n (.neg a) (.neg a')
  | negLit (n : Nat) (k : Int) : Par Δ n (.neg (.lit k)) (.lit (-k))
  | bin {n : Nat} (op : BinOp) {a a' b b' : Tm} :
      Par Δ n a a' → Par Δ n b b' → Par Δ n (.bin op a b) (.bin op a' b')
  | arith (n : Nat) (op : BinOp) (x y : Int) (r : Tm) : delta op x y = some r →
      Par Δ n (.bin op (.lit x) (.lit y)) r
  | ite {n : Nat} {c c' a a' b b' : Tm} :
      Par Δ n c c' → Par Δ n a a' → Par Δ n b b' → Par Δ n (.ite c a b) (.ite c' a' b')
  | iteT {n : Nat} {a a' b b' : Tm} : Par Δ n a a' → Par Δ n b b' → Par Δ n (.ite .tt a b) a'
  | iteF {n : Nat} {a a' b b' : Tm} : Par Δ n a a' → Par Δ n b b' → Par Δ n (.ite .ff a b) b'
inductive ParDefs (Δ : DCtxX) : Nat → Defs → Defs → Prop
  | nil (n : Nat) : ParDefs Δ n .nil .nil
  | cons {n : Nat} (x : Name) {a a' d d' : Tm} {r r' : Defs} :
      Par Δ n a a' → Par Δ n d d' → ParDefs Δ n r r' →
      ParDefs Δ n (.cons x a d r) (.cons x a' d' r')
end

variable {Δ : DCtxX}

theorem ParDefs.len : ∀ {n : Nat} {ds ds' : Defs}, ParDefs Δ n ds ds' → ds'.len = ds.len
  | _, _, _, .nil _ => rfl
  | _, _, _, .cons _ _ _ hr => by simp only [Defs.len, ParDefs.len hr]

theorem Par.cast {n m : Nat} {t t' : Tm} (e : n = m) (h : Par Δ n t t') : Par Δ m t t' := e ▸ h
theorem ParDefs.cast {n m : Nat} {t t' : Defs} (e : n = m) (h : ParDefs Δ n t t') : ParDefs Δ m t t' :=
  e ▸ h

/-- the group rule where the depth `N` of the premises and the length `L` in the conclusion are given up to equations -/
theorem Par.letStep_at {n N L : Nat} (x : Name) {a a' d d' : Tm} {r r' : Defs} {b b' : Tm} (hL : r.len = L)
    (e : N = n + L + 1) (h1 : Par Δ N a a') (h2 : Par Δ N d d') (h3 : ParDefs Δ N r r') (h4 : Par Δ N b b') :
    Par Δ n (.letg (.cons x a d r) b)
      (.letg (openDefs r' L (unfoldDef x a' d' L) 0) (openT b' L (unfoldDef x a' d' L) 0)) := by
  subst hL e; exact .letStep x h1 h2 h3 h4

theorem Par.hfL {n : Nat} {t t' : Tm} (h : Par Δ n t t') : t.holeFree = true := by
  induction h using Par.rec (motive_2 := fun _ ds _ _ => ds.holeFree = true) with
  | type | int | bool | tt | ff | lit | var | delta | negLit | arith | nil => rfl
  | _ => simp [Tm.holeFree, Defs.holeFree, *]

theorem ParDefs.hfL : ∀ {n : Nat} {t t' : Defs}, ParDefs Δ n t t' → t.holeFree = true
  | _, _, _, .nil _ => rfl
  | _, _, _, .cons _ h1 h2 h3 => by simp [Defs.holeFree, h1.hfL, h2.hfL, ParDefs.hfL h3]

theorem Par.hfR (hD : DHF Δ) {n : Nat} {t t' : Tm} (h : Par Δ n t t') : t'.holeFree = true := by
  induction h using Par.rec (motive_2 := fun _ _ ds' _ => ds'.holeFree = true) with
  | type | int | bool | tt | ff | lit | var | negLit | nil => rfl
  | delta _ _ _ d off _ h =>
      rw [holeFree_ushift]
      exact hD.get h
  | beta _ _ _ _ _ _ ih2 ih3 => exact openT_holeFree _ _ _ _ ih2 ih3
  | @letStep _ x _ a' _ d' r _ _ _ _ _ _ _ ih1 ih2 ih3 ih4 =>
      have hu := unfoldDef_holeFree x a' d' r.len ih1 ih2
      simp [Tm.holeFree, openDefs_holeFree _ _ _ _ ih3 hu, openT_holeFree _ _ _ _ ih4 hu]
  | letNil _ ih | iteT _ _ ih _ | iteF _ _ _ ih => exact ih
  | arith _ _ _ _ _ h => exact delta_holeFree h
  | _ => simp [Tm.holeFree, Defs.holeFree, *]

theorem ParDefs.hfR (hD : DHF Δ) : ∀ {n : Nat} {t t' : Defs}, ParDefs Δ n t t' → t'.holeFree = true
  | _, _, _, .nil _ => rfl
  | _, _, _, .cons _ h1 h2 h3 => by
      simp [Defs.holeFree, h1.hfR hD, h2.hfR hD, ParDefs.hfR hD h3]

mutual
theorem Par.refl : ∀ (t : Tm) (n : Nat), t.holeFree = true → Par Δ n t t
  | .hole _ _, _, h => by cases h
  | .type, n, _ => .type n
  | .int, n, _ => .int n
  | .bool, n, _ => .bool n
  | .tt, n, _ => .tt n
  | .ff, n, _ => .ff n
  | .lit k, n, _ => .lit n k
  | .var x i, n, _ => .var n x i
  | .lam x im d b, n, h => by
      simp only [Tm.holeFree, Bool.and_eq_true] at h
      exact .lam x im (Par.refl d n h.1) (Par.refl b (n+1) h.2)
  | .pi x im d b, n, h => by
      simp only [Tm.holeFree, Bool.and_eq_true] at h
      exact .pi x im (Par.refl d n h.1) (Par.refl b (n+1) h.2)
  | .app f a, n, h => by
      simp only [Tm.holeFree, Bool.and_eq_true] at h
      exact .app (Par.refl f n h.1) (Par.refl a n h.2)
  | .letg ds b, n, h => by
      simp only [Tm.holeFree, Bool.and_eq_true] at h
      exact .letg (ParDefs.refl ds _ h.1) (Par.refl b _ h.2)
  | .neg a, n, h => by
      simp only [Tm.holeFree] at h
      exact .neg (Par.refl a n h)
  | .bin op a b, n, h => by
      simp only [Tm.holeFree, Bool.and_eq_true] at h
      exact .bin op (Par.refl a n h.1) (Par.refl b n h.2)
  | .ite c a b, n, h => by
      simp only [Tm.holeFree, Bool.and_eq_true] at h
      exact .ite (Par.refl c n h.1.1) (Par.refl a n h.1.2) (Par.refl b n h.2)
theorem ParDefs.refl : ∀ (ds : Defs) (n : Nat), ds.holeFree = true → ParDefs Δ n ds ds
  | .nil, n, _ => .nil n
  | .cons x a d r, n, h => by
      simp only [Defs.holeFree, Bool.and_eq_true] at h
      exact .cons x (Par.refl a n h.1.1) (Par.refl d n h.1.2) (ParDefs.refl r n h.2)
end


/-- A pair of traversals that keeps parallel steps.  Under `m` more binders, what `F` puts for a variable
reduces to what `F'` puts for it, and to `F'` of its definition if it has one in `Δ` (the `N` binders above
`Δ` become `N'` binders above `Δ'`); `F'` commutes with the substitutions of the β rule and of the group rule
on terms that are hole-free when `Δ` is (the reducts are): a natural `F'` does (`ParAct.ofNatural`). -/
structure ParAct (Δ : DCtxX) (N : Nat) (Δ' : DCtxX) (N' : Nat) (F F' : Act) : Prop where
  var : ∀ m x i, Par Δ' (N' + m) (F.var m x i) (F'.var m x i)
  delta : ∀ m x i d off, N + m ≤ i → Δ[i - (N + m)]? = some (some (d, off)) →
    Par Δ' (N' + m) (F.var m x i) ((ushift 0 (i + 1 - off) d).trav F' m)
  opn : ∀ {t u : Tm}, (DHF Δ → t.holeFree = true) → (DHF Δ → u.holeFree = true) → ∀ (k m : Nat),
    (openT t k u 0).trav F' (m + k) = openT (t.trav F' (m + k + 1)) k (u.trav F' (m + k)) 0
  opnDefs : ∀ {r : Defs} {u : Tm}, (DHF Δ → r.holeFree = true) → (DHF Δ → u.holeFree = true) →
    ∀ (k m : Nat),
    (openDefs r k u 0).trav F' (m + k) = openDefs (r.trav F' (m + k + 1)) k (u.trav F' (m + k)) 0
  unf : ∀ {a d : Tm}, (DHF Δ → a.holeFree = true) → (DHF Δ → d.holeFree = true) →
    ∀ (x : Name) (k m : Nat),
    (unfoldDef x a d k).trav F' (m + k) = unfoldDef x (a.trav F' (m + k + 1)) (d.trav F' (m + k + 1)) k

theorem ParAct.ofNatural {Δ' : DCtxX} {N N' : Nat} {F F' : Act} (hD : DHF Δ) (hN : F'.Natural)
    (var : ∀ m x i, Par Δ' (N' + m) (F.var m x i) (F'.var m x i))
    (delta : ∀ m x i d off, N + m ≤ i → Δ[i - (N + m)]? = some (some (d, off)) →
      Par Δ' (N' + m) (F.var m x i) ((ushift 0 (i + 1 - off) d).trav F' m)) :
    ParAct Δ N Δ' N' F F' :=
  ⟨var, delta, fun ht hu k m => hN.trav_open (ht hD) (hu hD) m k,
    fun hr hu k m => hN.travDefs_open (hr hD) (hu hD) m k,
    fun ha hd x k m => hN.unfoldDef_trav x (ha hD) (hd hD) m k⟩

theorem Par.trav {Δ' : DCtxX} {N N' : Nat} {F F' : Act} (H : ParAct Δ N Δ' N' F F') {n : Nat}
    {t t' : Tm} (h : Par Δ n t t') : ∀ m, n = N + m → Par Δ' (N' + m) (t.trav F m) (t'.trav F' m) := by
  induction h using Par.rec (motive_2 := fun n ds ds' _ =>
    ∀ m, n = N + m → ParDefs Δ' (N' + m) (ds.trav F m) (ds'.trav F' m)) with
  | type | int | bool | tt | ff | lit | negLit => exact fun _ _ => by constructor
  | var _ x i => exact fun m _ => H.var m x i
  | delta _ x i d off hni hΔ => exact fun m e => H.delta m x i d off (e ▸ hni) (e ▸ hΔ)
  | lam x im _ _ ih1 ih2 => exact fun m e => .lam x im (ih1 m e) (ih2 (m + 1) (by omega))
  | pi x im _ _ ih1 ih2 => exact fun m e => .pi x im (ih1 m e) (ih2 (m + 1) (by omega))
  | app _ _ ih1 ih2 => exact fun m e => .app (ih1 m e) (ih2 m e)
  | @beta _ x im _ _ _ _ _ _ _ h2 h3 ih1 ih2 ih3 =>
      intro m e
      have := H.opn (fun hD => h2.hfR hD) (fun hD => h3.hfR hD) 0 m
      rw [Nat.add_zero] at this
      rw [this]
      exact .beta x im (ih1 m e) (ih2 (m + 1) (by omega)) (ih3 m e)
  | @letg _ ds _ _ _ h1 _ ih1 ih2 =>
      intro m e
      simp only [Tm.trav, ParDefs.len h1]
      refine .letg ?_ ?_ <;> rw [Defs.len_trav]
      · exact (ih1 (m + ds.len) (by omega)).cast (by omega)
      · exact (ih2 (m + ds.len) (by omega)).cast (by omega)
  | @letStep _ x _ _ _ _ r _ _ _ h1 h2 h3 h4 ih1 ih2 ih3 ih4 =>
      intro m e
      have hU := fun hD => unfoldDef_holeFree x _ _ r.len (h1.hfR hD) (h2.hfR hD)
      simp only [Tm.trav, Defs.trav, Defs.len_cons, openDefs_len, ParDefs.len h3]
      rw [H.opn (fun hD => h4.hfR hD) hU r.len m, H.opnDefs (fun hD => h3.hfR hD) hU r.len m,
        H.unf (fun hD => h1.hfR hD) (fun hD => h2.hfR hD) x r.len m]
      exact .letStep_at x (Defs.len_trav ..) (by omega) (ih1 (m + r.len + 1) (by omega))
        (ih2 (m + r.len + 1) (by omega)) (ih3 (m + r.len + 1) (by omega)) (ih4 (m + r.len + 1) (by omega))
  | letNil _ ih => exact fun m e => .letNil (ih m e)
  | neg _ ih => exact fun m e => .neg (ih m e)
  | bin op _ _ ih1 ih2 => exact fun m e => .bin op (ih1 m e) (ih2 m e)
  | arith _ op x y r h => exact fun m _ => by rw [delta_trav h]; exact .arith _ op x y r h
  | ite _ _ _ ih1 ih2 ih3 => exact fun m e => .ite (ih1 m e) (ih2 m e) (ih3 m e)
  | iteT _ _ ih1 ih2 => exact fun m e => .iteT (ih1 m e) (ih2 m e)
  | iteF _ _ ih1 ih2 => exact fun m e => .iteF (ih1 m e) (ih2 m e)
  | nil => exact .nil _
  | cons x _ _ _ ih1 ih2 ih3 => exact .cons x (ih1 _ ‹_›) (ih2 _ ‹_›) (ih3 _ ‹_›)

theorem ParDefs.trav {Δ' : DCtxX} {N N' : Nat} {F F' : Act} (H : ParAct Δ N Δ' N' F F') :
    ∀ {n : Nat} {t t' : Defs}, ParDefs Δ n t t' → ∀ m, n = N + m →
      ParDefs Δ' (N' + m) (t.trav F m) (t'.trav F' m)
  | _, _, _, .nil _, _, _ => .nil _
  | _, _, _, .cons x h1 h2 h3, m, e => .cons x (h1.trav H m e) (h2.trav H m e) (ParDefs.trav H h3 m e)

theorem ParAct.lift (hW : DWF Δ) (hD : DHF Δ) (k : Nat) {c N : Nat} (hc : c ≤ N) :
    ParAct Δ N Δ (N + k) (.lift c k) (.lift c k) :=
  .ofNatural hD (Act.lift_natural c k) (fun _ _ _ => .var _ _ _) fun m x i d off hni hΔ => by
    have hoff := hW _ _ _ hΔ
    show Par Δ (N + k + m) (Tm.var x (liftIdx c k m i)) _
    rw [← ushift_add_eq_trav, ushift_ushift_mid d (c + m) 0 k (i + 1 - off) (Nat.zero_le _) (by omega),
      show liftIdx c k m i = i + k from if_pos (by omega),
      show k + (i + 1 - off) = i + k + 1 - off by omega]
    exact .delta _ x (i + k) d off (by omega)
      (by rw [show i + k - (N + k + m) = i - (N + m) by omega]; exact hΔ)

theorem Par.shift (hW : DWF Δ) (hD : DHF Δ) (k : Nat) {n : Nat} {t t' : Tm} (h : Par Δ n t t') :
    ∀ (c : Nat), c ≤ n → Par Δ (n + k) (ushift c k t) (ushift c k t') := by
  intro c hc
  have := h.trav (ParAct.lift hW hD k hc) 0 rfl
  rwa [← ushift_eq_trav, ← ushift_eq_trav] at this

theorem ParDefs.shift (hW : DWF Δ) (hD : DHF Δ) (k : Nat) : ∀ {n : Nat} {t t' : Defs}, ParDefs Δ n t t' →
    ∀ (c : Nat), c ≤ n → ParDefs Δ (n + k) (ushiftDefs c k t) (ushiftDefs c k t') := by
  intro n t t' h c hc
  have := h.trav (ParAct.lift hW hD k hc) 0 rfl
  rwa [← ushiftDefs_eq_trav, ← ushiftDefs_eq_trav] at this

theorem ParAct.subst (hW : DWF Δ) (hD : DHF Δ) {N : Nat} {u u' : Tm} (hu : Par Δ N u u') {i : Nat}
    (hi : i ≤ N) : ParAct Δ (N + 1) Δ N (.subst i u 0) (.subst i u' 0) :=
  .ofNatural hD (Act.subst_natural i (hu.hfR hD))
    (fun m x j => by
      show Par Δ (N + m) (if j = i + m then ushift 0 (0 + m) u else .var x (lowerIdx i m j))
        (if j = i + m then ushift 0 (0 + m) u' else .var x (lowerIdx i m j))
      split
      · rw [Nat.zero_add]; exact hu.shift hW hD m 0 (Nat.zero_le _)
      · exact .var _ _ _)
    fun m x j d off hnj hΔ => by
      have hoff := hW _ _ _ hΔ
      rw [Act.subst_var_ne (by omega), lower_of_lt (show i + m < j by omega),
        ← openT_add_eq_trav, show j + 1 - off = (j - off) + 1 by omega,
        open_ushift_past d (j - off) (i + m) u' _ (by omega),
        show j - off = j - 1 + 1 - off by omega]
      exact .delta _ x (j - 1) d off (by omega)
        (by rw [show j - 1 - (N + m) = j - (N + 1 + m) by omega]; exact hΔ)

/-- `u` lives under `N` opaque binders and is substituted for the `i`-th of the `N + 1`; `t` lives under `m` more
(its own binders above the substituted variable) -/
theorem Par.subst (hW : DWF Δ) (hD : DHF Δ) {N : Nat} {u u' : Tm} (hu : Par Δ N u u') (i : Nat)
    (hi : i ≤ N) {n : Nat} {t t' : Tm} (h : Par Δ n t t') : ∀ (m : Nat), n = m + N + 1 →
    Par Δ (m + N) (openT t (i + m) u m) (openT t' (i + m) u' m) := by
  intro m e
  have := h.trav (ParAct.subst hW hD hu hi) m (by omega)
  rw [← openT_add_eq_trav, ← openT_add_eq_trav, Nat.zero_add] at this
  exact this.cast (Nat.add_comm _ _)

theorem ParDefs.subst (hW : DWF Δ) (hD : DHF Δ) {N : Nat} {u u' : Tm} (hu : Par Δ N u u') (i : Nat)
    (hi : i ≤ N) : ∀ {n : Nat} {t t' : Defs}, ParDefs Δ n t t' → ∀ (m : Nat), n = m + N + 1 →
    ParDefs Δ (m + N) (openDefs t (i + m) u m) (openDefs t' (i + m) u' m) := by
  intro n t t' h m e
  have := h.trav (ParAct.subst hW hD hu hi) m (by omega)
  rw [← openDefs_add_eq_trav, ← openDefs_add_eq_trav, Nat.zero_add] at this
  exact this.cast (Nat.add_comm _ _)


theorem Par.unfoldDef_congr (hW : DWF Δ) (hD : DHF Δ) (x : Name) {N idx : Nat} {a a' d d' : Tm}
    (ha : Par Δ (N + idx + 1) a a') (hd : Par Δ (N + idx + 1) d d') :
    Par Δ (N + idx) (unfoldDef x a d idx) (unfoldDef x a' d' idx) := by
  have inner : ∀ {t t' : Tm}, Par Δ (N + idx + 1) t t' →
      Par Δ (N + idx + 1) (openT (ushift 0 1 t) (idx + 1) (Tm.var x 0) 0)
        (openT (ushift 0 1 t') (idx + 1) (Tm.var x 0) 0) := by
    intro t t' h
    have h1 := Par.shift hW hD 1 h 0 (Nat.zero_le _)
    have := Par.subst hW hD (Par.var (Δ := Δ) (N + idx + 1) x 0) (idx + 1) (by omega) h1 0 (by omega)
    simpa using this
  have hL : Par Δ (N + idx)
      (.letg (.cons x (openT (ushift 0 1 a) (idx + 1) (Tm.var x 0) 0)
        (openT (ushift 0 1 d) (idx + 1) (Tm.var x 0) 0) .nil) (Tm.var x 0))
      (.letg (.cons x (openT (ushift 0 1 a') (idx + 1) (Tm.var x 0) 0)
        (openT (ushift 0 1 d') (idx + 1) (Tm.var x 0) 0) .nil) (Tm.var x 0)) :=
    .letg (.cons x (inner ha) (inner hd) (.nil _)) (.var _ _ _)
  have := Par.subst hW hD hL idx (by omega) hd 0 (by omega)
  simpa [_root_.unfoldDef] using this

-- `appC`, `negC`, `binC`, `letC`: the complete development of an application, negation, operation, group
-- from the developments `c…` of its parts: the redex is contracted if the ORIGINAL term shows one
def appC (f cf ca : Tm) : Tm :=
  match f with
  | .lam .. => (match cf with
      | .lam _ _ _ cb => openT cb 0 ca 0
      | _ => .app cf ca)
  | _ => .app cf ca

def negC (a ca : Tm) : Tm :=
  match a with
  | .lit k => .lit (-k)
  | _ => .neg ca

def binC (op : BinOp) (a b ca cb : Tm) : Tm :=
  match a, b with
  | .lit x, .lit y => (match delta op x y with
      | some r => r
      | none => .bin op ca cb)
  | _, _ => .bin op ca cb

def letC (cds : Defs) (cb : Tm) : Tm :=
  match cds with
  | .nil => cb
  | .cons x a d r => .letg (openDefs r r.len (unfoldDef x a d r.len) 0) (openT cb r.len (unfoldDef x a d r.len) 0)

-- `cd Δ n t`: contract every redex visible in `t` at once (δ-unfolding of context definitions included)
mutual
def cd (Δ : DCtxX) : Nat → Tm → Tm
  | n, .var x i =>
      if n ≤ i then
        match Δ[i - n]? with
        | some (some (d, off)) => ushift 0 (i + 1 - off) d
        | _ => .var x i
      else .var x i
  | n, .lam x im d b => .lam x im (cd Δ n d) (cd Δ (n+1) b)
  | n, .pi x im d b => .pi x im (cd Δ n d) (cd Δ (n+1) b)
  | n, .app f a => appC f (cd Δ n f) (cd Δ n a)
  | n, .letg ds b => letC (cdDefs Δ (n + ds.len) ds) (cd Δ (n + ds.len) b)
  | n, .neg a => negC a (cd Δ n a)
  | n, .bin op a b => binC op a b (cd Δ n a) (cd Δ n b)
  | n, .ite c a b =>
      match c with
      | .tt => cd Δ n a
      | .ff => cd Δ n b
      | _ => .ite (cd Δ n c) (cd Δ n a) (cd Δ n b)
  | _, t => t
def cdDefs (Δ : DCtxX) : Nat → Defs → Defs
  | _, .nil => .nil
  | n, .cons x a d r => .cons x (cd Δ n a) (cd Δ n d) (cdDefs Δ n r)
end

theorem cdDefs_len (Δ : DCtxX) (n : Nat) : ∀ (ds : Defs), (cdDefs Δ n ds).len = ds.len
  | .nil => rfl
  | .cons _ _ _ r => by simp only [cdDefs, Defs.len, cdDefs_len Δ n r]


/-- the triangle: every reduct of `t` reduces to the complete development of `t` -/
theorem Par.tri (hW : DWF Δ) (hD : DHF Δ) {n : Nat} {t t' : Tm} (h : Par Δ n t t') :
    Par Δ n t' (cd Δ n t) := by
  induction h using Par.rec (motive_2 := fun n ds ds' _ => ParDefs Δ n ds' (cdDefs Δ n ds)) with
  | type | int | bool | tt | ff | lit => simp only [cd]; constructor
  | var n x i =>
      simp only [cd]
      split
      · next hni =>
        split
        · next d off hΔ => exact .delta n x i d off hni hΔ
        · exact .var _ _ _
      · exact .var _ _ _
  | delta n x i d off hni hΔ =>
      simp only [cd]
      rw [if_pos hni, hΔ]
      exact Par.refl _ _ (by rw [holeFree_ushift]; exact hD.get hΔ)
  | lam x im _ _ ih1 ih2 => simp only [cd]; exact .lam x im ih1 ih2
  | pi x im _ _ ih1 ih2 => simp only [cd]; exact .pi x im ih1 ih2
  | @app n f _ _ _ h1 _ ih1 ih2 =>
      simp only [cd]
      cases f
      case lam x im d b =>
        cases h1
        simp only [cd] at ih1
        cases ih1
        next id ib => exact .beta x im id ib ih2
      all_goals exact .app ih1 ih2
  | beta _ _ _ _ _ _ ih2 ih3 =>
      simp only [cd, appC]
      have := Par.subst hW hD ih3 0 (Nat.zero_le _) ih2 0 (by omega)
      simpa using this
  | @letg n ds _ b _ h1 _ ih1 ih2 =>
      simp only [cd]
      cases h1 with
      | nil =>
        simp only [Defs.len, Nat.add_zero] at ih2
        exact .letNil ih2
      | @cons _ x a a' d d' r r' _ _ hr =>
        simp only [cdDefs] at ih1
        cases ih1
        next ia id ir =>
        simp only [cdDefs, letC, cdDefs_len, Defs.len]
        exact .letStep_at x (ParDefs.len hr) (Nat.add_assoc ..).symm ia id ir ih2
  | @letStep n x _ _ _ _ r _ _ _ _ _ h3 _ ih1 ih2 ih3 ih4 =>
      have hl := ParDefs.len h3
      simp only [cd, cdDefs, letC, cdDefs_len, Defs.len]
      have hU := Par.unfoldDef_congr hW hD x (N := n) (idx := r.len) ih1 ih2
      refine .letg ?_ ?_
      · rw [openDefs_len, hl]
        have := ParDefs.subst hW hD hU r.len (by omega) ih3 0 (by omega)
        simpa [Nat.add_assoc] using this
      · rw [openDefs_len, hl]
        have := Par.subst hW hD hU r.len (by omega) ih4 0 (by omega)
        simpa [Nat.add_assoc] using this
  | letNil _ ih =>
      simp only [cd, cdDefs, letC, Defs.len, Nat.add_zero]
      exact ih
  | @neg n a _ h ih =>
      simp only [cd]
      cases a
      case lit k => cases h; exact .negLit _ _
      all_goals exact .neg ih
  | negLit => simp only [cd, negC]; exact .lit _ _
  | @bin n op a _ b _ h1 h2 ih1 ih2 =>
      simp only [cd]
      cases a
      case lit x =>
        cases b
        case lit y =>
          cases h1
          cases h2
          simp only [binC]
          split
          · next r hr => exact .arith _ op x y r hr
          · exact .bin op ih1 ih2
        all_goals exact .bin op ih1 ih2
      all_goals exact .bin op ih1 ih2
  | arith _ op x y r h =>
      simp only [cd, binC, h]
      exact Par.refl _ _ (delta_holeFree h)
  | @ite n c _ _ _ _ _ h1 _ _ ih1 ih2 ih3 =>
      cases c
      case tt => cases h1; simp only [cd]; exact .iteT ih2 ih3
      case ff => cases h1; simp only [cd]; exact .iteF ih2 ih3
      all_goals (simp only [cd] at ih1 ⊢; exact .ite ih1 ih2 ih3)
  | iteT _ _ ih1 _ => simp only [cd]; exact ih1
  | iteF _ _ _ ih2 => simp only [cd]; exact ih2
  | nil => exact .nil _
  | cons x _ _ _ ih1 ih2 ih3 => exact .cons x ih1 ih2 ih3

theorem ParDefs.tri (hW : DWF Δ) (hD : DHF Δ) : ∀ {n : Nat} {t t' : Defs}, ParDefs Δ n t t' →
    ParDefs Δ n t' (cdDefs Δ n t)
  | _, _, _, .nil _ => .nil _
  | _, _, _, .cons x h1 h2 h3 => .cons x (h1.tri hW hD) (h2.tri hW hD) (ParDefs.tri hW hD h3)


theorem Par.diamond (hW : DWF Δ) (hD : DHF Δ) {n : Nat} {t t1 t2 : Tm} (h1 : Par Δ n t t1)
    (h2 : Par Δ n t t2) : ∃ t3, Par Δ n t1 t3 ∧ Par Δ n t2 t3 :=
  ⟨cd Δ n t, Par.tri hW hD h1, Par.tri hW hD h2⟩

theorem ParDefs.diamond (hW : DWF Δ) (hD : DHF Δ) {n : Nat} {t t1 t2 : Defs} (h1 : ParDefs Δ n t t1)
    (h2 : ParDefs Δ n t t2) : ∃ t3, ParDefs Δ n t1 t3 ∧ ParDefs Δ n t2 t3 :=
  ⟨cdDefs Δ n t, ParDefs.tri hW hD h1, ParDefs.tri hW hD h2⟩

inductive Pars (Δ : DCtxX) (n : Nat) : Tm → Tm → Prop
  | refl (t : Tm) : Pars Δ n t t
  | tail {a b c : Tm} : Pars Δ n a b → Par Δ n b c → Pars Δ n a c

inductive ParsDefs (Δ : DCtxX) (n : Nat) : Defs → Defs → Prop
  | refl (t : Defs) : ParsDefs Δ n t t
  | tail {a b c : Defs} : ParsDefs Δ n a b → ParDefs Δ n b c → ParsDefs Δ n a c

theorem Pars.single {n : Nat} {a b : Tm} (h : Par Δ n a b) : Pars Δ n a b := .tail (.refl _) h
theorem ParsDefs.single {n : Nat} {a b : Defs} (h : ParDefs Δ n a b) : ParsDefs Δ n a b :=
  .tail (.refl _) h

theorem Pars.trans {n : Nat} {a b c : Tm} (h1 : Pars Δ n a b) (h2 : Pars Δ n b c) : Pars Δ n a c := by
  induction h2 with
  | refl => exact h1
  | tail _ hp ih => exact .tail ih hp
theorem ParsDefs.trans {n : Nat} {a b c : Defs} (h1 : ParsDefs Δ n a b) (h2 : ParsDefs Δ n b c) :
    ParsDefs Δ n a c := by
  induction h2 with
  | refl => exact h1
  | tail _ hp ih => exact .tail ih hp

theorem Pars.cast {n m : Nat} {t t' : Tm} (e : n = m) (h : Pars Δ n t t') : Pars Δ m t t' := e ▸ h

theorem Pars.hf (hD : DHF Δ) {n : Nat} {a b : Tm} (h : Pars Δ n a b) (ha : a.holeFree = true) :
    b.holeFree = true := by
  induction h with
  | refl => exact ha
  | tail _ hp _ => exact Par.hfR hD hp
theorem ParsDefs.hf (hD : DHF Δ) {n : Nat} {a b : Defs} (h : ParsDefs Δ n a b)
    (ha : a.holeFree = true) : b.holeFree = true := by
  induction h with
  | refl => exact ha
  | tail _ hp _ => exact ParDefs.hfR hD hp
theorem ParsDefs.len {n : Nat} {a b : Defs} (h : ParsDefs Δ n a b) : b.len = a.len := by
  induction h with
  | refl => rfl
  | tail _ hp ih => rw [ParDefs.len hp, ih]

theorem Pars.strip (hW : DWF Δ) (hD : DHF Δ) {n : Nat} {t t1 t2 : Tm} (h1 : Par Δ n t t1)
    (h2 : Pars Δ n t t2) : ∃ t3, Pars Δ n t1 t3 ∧ Par Δ n t2 t3 := by
  induction h2 with
  | refl => exact ⟨t1, .refl _, h1⟩
  | tail _ hp ih =>
    obtain ⟨t3, h3, h4⟩ := ih
    obtain ⟨t4, h5, h6⟩ := Par.diamond hW hD h4 hp
    exact ⟨t4, .tail h3 h5, h6⟩

theorem Pars.confluence (hW : DWF Δ) (hD : DHF Δ) {n : Nat} {t t1 t2 : Tm} (h1 : Pars Δ n t t1)
    (h2 : Pars Δ n t t2) : ∃ t3, Pars Δ n t1 t3 ∧ Pars Δ n t2 t3 := by
  induction h1 with
  | refl => exact ⟨t2, h2, .refl _⟩
  | tail _ hp ih =>
    obtain ⟨t3, h3, h4⟩ := ih
    obtain ⟨t4, h5, h6⟩ := Pars.strip hW hD hp h3
    exact ⟨t4, h5, .tail h4 h6⟩

theorem ParsDefs.strip (hW : DWF Δ) (hD : DHF Δ) {n : Nat} {t t1 t2 : Defs} (h1 : ParDefs Δ n t t1)
    (h2 : ParsDefs Δ n t t2) : ∃ t3, ParsDefs Δ n t1 t3 ∧ ParDefs Δ n t2 t3 := by
  induction h2 with
  | refl => exact ⟨t1, .refl _, h1⟩
  | tail _ hp ih =>
    obtain ⟨t3, h3, h4⟩ := ih
    obtain ⟨t4, h5, h6⟩ := ParDefs.diamond hW hD h4 hp
    exact ⟨t4, .tail h3 h5, h6⟩

theorem ParsDefs.confluence (hW : DWF Δ) (hD : DHF Δ) {n : Nat} {t t1 t2 : Defs}
    (h1 : ParsDefs Δ n t t1) (h2 : ParsDefs Δ n t t2) :
    ∃ t3, ParsDefs Δ n t1 t3 ∧ ParsDefs Δ n t2 t3 := by
  induction h1 with
  | refl => exact ⟨t2, h2, .refl _⟩
  | tail _ hp ih =>
    obtain ⟨t3, h3, h4⟩ := ih
    obtain ⟨t4, h5, h6⟩ := ParsDefs.strip hW hD hp h3
    exact ⟨t4, h5, .tail h4 h6⟩

def Join (Δ : DCtxX) (n : Nat) (a b : Tm) : Prop := ∃ c, Pars Δ n a c ∧ Pars Δ n b c
def JoinDefs (Δ : DCtxX) (n : Nat) (a b : Defs) : Prop := ∃ c, ParsDefs Δ n a c ∧ ParsDefs Δ n b c

theorem Join.refl (n : Nat) (a : Tm) : Join Δ n a a := ⟨a, .refl _, .refl _⟩
theorem Join.symm {n : Nat} {a b : Tm} (h : Join Δ n a b) : Join Δ n b a := by
  obtain ⟨c, h1, h2⟩ := h
  exact ⟨c, h2, h1⟩
theorem Join.trans (hW : DWF Δ) (hD : DHF Δ) {n : Nat} {a b c : Tm} (h1 : Join Δ n a b)
    (h2 : Join Δ n b c) : Join Δ n a c := by
  obtain ⟨x, h3, h4⟩ := h1
  obtain ⟨y, h5, h6⟩ := h2
  obtain ⟨z, h7, h8⟩ := Pars.confluence hW hD h4 h5
  exact ⟨z, h3.trans h7, h6.trans h8⟩
theorem Join.of_pars {n : Nat} {a b : Tm} (h : Pars Δ n a b) : Join Δ n a b := ⟨b, h, .refl _⟩
theorem Join.of_par {n : Nat} {a b : Tm} (h : Par Δ n a b) : Join Δ n a b := .of_pars (.single h)
theorem Join.cast {n m : Nat} {t t' : Tm} (e : n = m) (h : Join Δ n t t') : Join Δ m t t' := e ▸ h

theorem JoinDefs.refl (n : Nat) (a : Defs) : JoinDefs Δ n a a := ⟨a, .refl _, .refl _⟩

theorem Pars.map {n m : Nat} (F : Tm → Tm) (hF : ∀ a a', Par Δ n a a' → Par Δ m (F a) (F a'))
    {a a' : Tm} (h : Pars Δ n a a') : Pars Δ m (F a) (F a') := by
  induction h with
  | refl => exact .refl _
  | tail _ hp ih => exact .tail ih (hF _ _ hp)

theorem Pars.mapD {n m : Nat} (F : Tm → Defs) (hF : ∀ a a', Par Δ n a a' → ParDefs Δ m (F a) (F a'))
    {a a' : Tm} (h : Pars Δ n a a') : ParsDefs Δ m (F a) (F a') := by
  induction h with
  | refl => exact .refl _
  | tail _ hp ih => exact .tail ih (hF _ _ hp)

theorem ParsDefs.map {n m : Nat} (F : Defs → Tm) (hF : ∀ a a', ParDefs Δ n a a' → Par Δ m (F a) (F a'))
    {a a' : Defs} (h : ParsDefs Δ n a a') : Pars Δ m (F a) (F a') := by
  induction h with
  | refl => exact .refl _
  | tail _ hp ih => exact .tail ih (hF _ _ hp)

theorem ParsDefs.mapD {n m : Nat} (F : Defs → Defs)
    (hF : ∀ a a', ParDefs Δ n a a' → ParDefs Δ m (F a) (F a'))
    {a a' : Defs} (h : ParsDefs Δ n a a') : ParsDefs Δ m (F a) (F a') := by
  induction h with
  | refl => exact .refl _
  | tail _ hp ih => exact .tail ih (hF _ _ hp)

section Cong
variable (hD : DHF Δ)
include hD

theorem Pars.map2 {n m k : Nat} (F : Tm → Tm → Tm)
    (hF : ∀ {a a' b b' : Tm}, Par Δ n a a' → Par Δ m b b' → Par Δ k (F a b) (F a' b'))
    {a a' b b' : Tm} (ha : a.holeFree = true) (hb : b.holeFree = true) (h1 : Pars Δ n a a')
    (h2 : Pars Δ m b b') : Pars Δ k (F a b) (F a' b') :=
  (Pars.map (F · b) (fun _ _ h => hF h (Par.refl b _ hb)) h1).trans
    (Pars.map (F a') (fun _ _ h => hF (Par.refl a' _ (h1.hf hD ha)) h) h2)

omit hD in
theorem Pars.neg {n : Nat} {a a' : Tm} (h1 : Pars Δ n a a') : Pars Δ n (.neg a) (.neg a') :=
  Pars.map (fun t => .neg t) (fun _ _ h => .neg h) h1

theorem Pars.ite {n : Nat} {c c' a a' b b' : Tm} (hc : c.holeFree = true) (ha : a.holeFree = true)
    (hb : b.holeFree = true) (h1 : Pars Δ n c c') (h2 : Pars Δ n a a') (h3 : Pars Δ n b b') :
    Pars Δ n (.ite c a b) (.ite c' a' b') :=
  ((Pars.map (fun t => .ite t a b) (fun _ _ h => .ite h (Par.refl a _ ha) (Par.refl b _ hb)) h1).trans
    (Pars.map (fun t => .ite c' t b)
      (fun _ _ h => .ite (Par.refl c' _ (h1.hf hD hc)) h (Par.refl b _ hb)) h2)).trans
    (Pars.map (fun t => .ite c' a' t)
      (fun _ _ h => .ite (Par.refl c' _ (h1.hf hD hc)) (Par.refl a' _ (h2.hf hD ha)) h) h3)

theorem ParsDefs.cons {n : Nat} (x : Name) {a a' d d' : Tm} {r r' : Defs} (ha : a.holeFree = true)
    (hd : d.holeFree = true) (hr : r.holeFree = true) (h1 : Pars Δ n a a') (h2 : Pars Δ n d d')
    (h3 : ParsDefs Δ n r r') : ParsDefs Δ n (.cons x a d r) (.cons x a' d' r') :=
  ((Pars.mapD (fun t => .cons x t d r)
      (fun _ _ h => .cons x h (Par.refl d _ hd) (ParDefs.refl r _ hr)) h1).trans
    (Pars.mapD (fun t => .cons x a' t r)
      (fun _ _ h => .cons x (Par.refl a' _ (h1.hf hD ha)) h (ParDefs.refl r _ hr)) h2)).trans
    (ParsDefs.mapD (fun t => .cons x a' d' t)
      (fun _ _ h => .cons x (Par.refl a' _ (h1.hf hD ha)) (Par.refl d' _ (h2.hf hD hd)) h) h3)

theorem Pars.letg {n : Nat} {ds ds' : Defs} {b b' : Tm} (hds : ds.holeFree = true)
    (hb : b.holeFree = true) (h1 : ParsDefs Δ (n + ds.len) ds ds') (h2 : Pars Δ (n + ds.len) b b') :
    Pars Δ n (.letg ds b) (.letg ds' b') := by
  have s1 : Pars Δ n (.letg ds b) (.letg ds' b) := by
    clear h2
    induction h1 with
    | refl => exact .refl _
    | @tail m1 m2 hm hp ih =>
      refine .tail ih (.letg ?_ ?_)
      · rw [ParsDefs.len hm]; exact hp
      · rw [ParsDefs.len hm]; exact Par.refl b _ hb
  refine s1.trans ?_
  have hl := ParsDefs.len h1
  have hds' := h1.hf hD hds
  refine Pars.map (n := n + ds.len) (fun t => .letg ds' t) (fun _ _ h => .letg ?_ ?_) h2
  · rw [hl]; exact ParDefs.refl ds' _ hds'
  · rw [hl]; exact h

end Cong

end CCPar
