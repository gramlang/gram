import GramModel.Lemmas.ParserPure

/-! # The packrat functions, bottom-up: success and failure lemmas

`RetN toks nt s r`: with enough fuel the cache-free function `parse_nt(tokens, s)` returns `r`
(from any state, leaving it unchanged).  For every nonterminal there is one lemma per way the
function comes out on a sentence: the alternative that succeeds, given that the alternatives
tried before it fail (`FailsN`: return a `ParseError` term). -/

namespace PModel

def Ret (m : ParseM PResult) (r : PResult) : Prop := ∀ st, m st = some (r, st)

def Fails (m : ParseM PResult) : Prop := ∃ r, Ret m r ∧ r.term.isParseError = true

theorem Ret.pure (r : PResult) : Ret (Pure.pure r) r := fun _ => rfl

theorem Ret.bind {m : ParseM PResult} {f : PResult → ParseM PResult} {a b : PResult}
    (h1 : Ret m a) (h2 : Ret (f a) b) : Ret (m >>= f) b := by
  intro st
  rw [ParseM_bind_eq, h1 st]
  exact h2 st

theorem Ret.tryReturn_ok {p k : ParseM PResult} {r : PResult} (h : Ret p r)
    (hr : r.term.isParseError = false) : Ret (tryReturn p k) r := by
  unfold tryReturn
  refine Ret.bind h ?_
  simp only [hr]
  exact Ret.pure r

theorem Ret.tryReturn_skip {p k : ParseM PResult} {r : PResult} (h : Fails p) (hk : Ret k r) :
    Ret (tryReturn p k) r := by
  obtain ⟨r0, h0, hpe⟩ := h
  unfold tryReturn
  refine Ret.bind h0 ?_
  simp only [hpe]
  exact hk

theorem Ret.tryEval_ok {p : ParseM PResult} {k : Src → Nat → Bool → ParseM PResult} {a r : PResult}
    (h : Ret p a) (ha : a.term.isParseError = false) (hk : Ret (k a.term a.next a.confident) r) :
    Ret (tryEval p k) r := by
  unfold tryEval
  refine Ret.bind h ?_
  simp only [ha]
  exact hk

theorem Ret.tryEval_fail {p : ParseM PResult} {k : Src → Nat → Bool → ParseM PResult} {a : PResult}
    (h : Ret p a) (ha : a.term.isParseError = true) : Ret (tryEval p k) a := by
  unfold tryEval
  refine Ret.bind h ?_
  simp only [ha]
  exact Ret.pure a

theorem consume0_ok {toks : Array PTok} {n : Nat} {kind : PKind} {k : Nat → ParseM PResult}
    (h : KAt toks n kind) : consume0 toks n kind k = k (n + 1) := by
  obtain ⟨h1, h2⟩ := h
  simp [consume0, h1, h2]

theorem consume0_fail {toks : Array PTok} {n : Nat} {kind : PKind} {k : Nat → ParseM PResult}
    (h : ¬KAt toks n kind) : consume0 toks n kind k = Pure.pure (failAt toks n) :=
  consume0_elim (P := fun c => c k = _) (fun h1 h2 => absurd ⟨h1, h2⟩ h) rfl

theorem consumeIdent_ok {toks : Array PTok} {n : Nat} {x : Name} {k : Name → Nat → ParseM PResult}
    (h : KAt toks n (.identifier x)) : consumeIdent toks n k = k x (n + 1) := by
  obtain ⟨h1, h2⟩ := h
  simp [consumeIdent, h1, h2]

theorem consumeIdent_fail {toks : Array PTok} {n : Nat} {k : Name → Nat → ParseM PResult}
    (h : ∀ x, ¬KAt toks n (.identifier x)) : consumeIdent toks n k = Pure.pure (failAt toks n) :=
  consumeIdent_elim (P := fun c => c k = _) (fun h1 x h2 => absurd ⟨h1, h2⟩ (h x)) rfl

theorem consumeLiteral_ok {toks : Array PTok} {n m : Nat} {k : Nat → Nat → ParseM PResult}
    (h : KAt toks n (.integerLiteral m)) : consumeLiteral toks n k = k m (n + 1) := by
  obtain ⟨h1, h2⟩ := h
  simp [consumeLiteral, h1, h2]

theorem consumeLiteral_fail {toks : Array PTok} {n : Nat} {k : Nat → Nat → ParseM PResult}
    (h : ∀ m, ¬KAt toks n (.integerLiteral m)) :
    consumeLiteral toks n k = Pure.pure (failAt toks n) :=
  consumeLiteral_elim (P := fun c => c k = _) (fun h1 m h2 => absurd ⟨h1, h2⟩ (h m)) rfl

theorem failAt_pe (toks : Array PTok) (n : Nat) : (failAt toks n).term.isParseError = true := rfl

theorem expectToken_here {toks : Array PTok} {n : Nat} {target : PKind → Bool} {k : PKind}
    (h : KAt toks n k) (ht : target k = true) (c : Bool) :
    expectToken toks n target c = ([], true, n + 1) := by
  obtain ⟨h1, h2⟩ := h
  have hsz : toks.size - n = (toks.size - n - 1) + 1 := by omega
  unfold expectToken
  rw [hsz]
  simp [scanLoop, h1, h2, ht]

/-- with enough fuel the cache-free `parse_nt(tokens, s)` returns `r`, from any state, leaving it unchanged -/
def RetN (toks : Array PTok) (nt : NT) (s : Nat) (r : PResult) : Prop :=
  ∃ F, ∀ fuel, F ≤ fuel → Ret (parsePure toks fuel nt s) r

/-- … returns a `ParseError` term -/
def FailsN (toks : Array PTok) (nt : NT) (s : Nat) : Prop :=
  ∃ r, RetN toks nt s r ∧ r.term.isParseError = true

/-- a recursive call and what it returns: the nonterminal, the start, the result -/
abbrev Fact := NT × Nat × PResult

def HoldsN (toks : Array PTok) (fs : List Fact) : Prop := ∀ x ∈ fs, RetN toks x.1 x.2.1 x.2.2

/-- the facts hold of the `rec` argument of `parseBody`: what `RetN.lift` hands to the proof about one body -/
def Holds (rec : NT → Nat → ParseM PResult) (fs : List Fact) : Prop :=
  ∀ x ∈ fs, Ret (rec x.1 x.2.1) x.2.2

theorem holdsN_common {toks : Array PTok} {fs : List Fact} (h : HoldsN toks fs) :
    ∃ F, ∀ fuel, F ≤ fuel → Holds (parsePure toks fuel) fs := by
  induction fs with
  | nil => exact ⟨0, fun _ _ x hx => by cases hx⟩
  | cons x fs ih =>
    obtain ⟨F1, h1⟩ := h x (by simp)
    obtain ⟨F2, h2⟩ := ih (fun y hy => h y (by simp [hy]))
    refine ⟨F1 + F2, fun fuel hf y hy => ?_⟩
    rcases List.mem_cons.mp hy with rfl | hy
    · exact h1 fuel (by omega)
    · exact h2 fuel (by omega) y hy

theorem RetN.lift {toks : Array PTok} {nt : NT} {s : Nat} {r : PResult} (fs : List Fact)
    (h : HoldsN toks fs)
    (hb : ∀ rec, Holds rec fs → Ret (parseBody toks rec nt s) r) : RetN toks nt s r := by
  obtain ⟨F, hF⟩ := holdsN_common h
  refine ⟨F + 1, fun fuel hf => ?_⟩
  obtain ⟨f, rfl⟩ : ∃ f, fuel = f + 1 := ⟨fuel - 1, by omega⟩
  rw [parsePure]
  exact hb _ (hF f (by omega))

theorem RetN.det {toks : Array PTok} {nt : NT} {s : Nat} {r r' : PResult} (h : RetN toks nt s r)
    (h' : RetN toks nt s r') : r = r' := by
  obtain ⟨F, hF⟩ := h
  obtain ⟨F', hF'⟩ := h'
  cases (hF (F + F') (by omega) PState.init).symm.trans (hF' (F + F') (by omega) PState.init)
  rfl

theorem RetN.range {toks : Array PTok} {nt : NT} {s n : Nat} {r r' : SourceRange} {g c : Bool}
    {v : SrcV} {es : List PErr} (h : RetN toks nt s ⟨.mk r g v es, n, c⟩) (e : r = r') :
    RetN toks nt s ⟨.mk r' g v es, n, c⟩ := e ▸ h

theorem HoldsN.nil {toks : Array PTok} : HoldsN toks [] := fun _ hx => by cases hx

theorem HoldsN.cons {toks : Array PTok} {nt : NT} {s : Nat} {r : PResult} {fs : List Fact}
    (h : RetN toks nt s r) (hs : HoldsN toks fs) : HoldsN toks ((nt, s, r) :: fs) := by
  intro x hx
  rcases List.mem_cons.mp hx with rfl | hx
  · exact h
  · exact hs x hx

theorem Holds.head {rec : NT → Nat → ParseM PResult} {nt : NT} {s : Nat} {r : PResult}
    {fs : List Fact} (h : Holds rec ((nt, s, r) :: fs)) : Ret (rec nt s) r := h (nt, s, r) (by simp)

theorem Holds.tail {rec : NT → Nat → ParseM PResult} {x : Fact} {fs : List Fact}
    (h : Holds rec (x :: fs)) : Holds rec fs := fun y hy => h y (by simp [hy])

section Leaves
variable {toks : Array PTok}

theorem parseLeaf_ok {kind : PKind} {v : SrcV} {s : Nat}
    (h : KAt toks s kind) :
    Ret (parseLeaf toks kind v s) ⟨.mk (tokenRange toks s) false v [], s + 1, true⟩ := by
  unfold parseLeaf
  rw [consume0_ok h]
  exact Ret.pure _

theorem parseLeaf_fail {kind : PKind} {v : SrcV} {s : Nat} (h : ¬KAt toks s kind) :
    Ret (parseLeaf toks kind v s) (failAt toks s) := by
  unfold parseLeaf
  rw [consume0_fail h]
  exact Ret.pure _

def leafKind : NT → Option PKind
  | .type => some .type_ | .integer => some .integer | .boolean => some .boolean
  | .true_ => some .true_ | .false_ => some .false_ | _ => none

theorem leaf_ok {nt : NT} {k : PKind} {s : Nat} (hk : leafKind nt = some k) (h : KAt toks s k) :
    RetN toks nt s ⟨.mk (tokenRange toks s) false (leafV nt) [], s + 1, true⟩ := by
  refine RetN.lift [] HoldsN.nil (fun rec _ => ?_)
  cases nt <;> simp only [leafKind, Option.some.injEq, reduceCtorEq] at hk <;> subst hk
  all_goals exact parseLeaf_ok h

theorem leaf_fail {nt : NT} {k : PKind} {s : Nat} (hk : leafKind nt = some k) (h : ¬KAt toks s k) :
    FailsN toks nt s := by
  refine ⟨failAt toks s, RetN.lift [] HoldsN.nil (fun rec _ => ?_), rfl⟩
  cases nt <;> simp only [leafKind, Option.some.injEq, reduceCtorEq] at hk <;> subst hk
  all_goals exact parseLeaf_fail h

theorem variable_ok {x : Name} {s : Nat} (h : KAt toks s (.identifier x)) :
    RetN toks .variable s ⟨.mk (tokenRange toks s) false (.var x) [], s + 1, true⟩ := by
  refine RetN.lift [] HoldsN.nil (fun rec _ => ?_)
  show Ret (parseVariable toks s) _
  unfold parseVariable
  simp only [consumeIdent_ok h]
  exact Ret.pure _

theorem variable_fail {s : Nat} (h : ∀ x, ¬KAt toks s (.identifier x)) :
    FailsN toks .variable s := by
  refine ⟨failAt toks s, RetN.lift [] HoldsN.nil (fun rec _ => ?_), rfl⟩
  show Ret (parseVariable toks s) _
  unfold parseVariable
  simp only [consumeIdent_fail h]
  exact Ret.pure _

theorem literal_ok {n : Nat} {s : Nat} (h : KAt toks s (.integerLiteral n)) :
    RetN toks .integerLiteral s ⟨.mk (tokenRange toks s) false (.lit (Int.ofNat n)) [], s + 1, true⟩ := by
  refine RetN.lift [] HoldsN.nil (fun rec _ => ?_)
  show Ret (parseIntegerLiteral toks s) _
  unfold parseIntegerLiteral
  simp only [consumeLiteral_ok h]
  exact Ret.pure _

theorem literal_fail {s : Nat} (h : ∀ n, ¬KAt toks s (.integerLiteral n)) :
    FailsN toks .integerLiteral s := by
  refine ⟨failAt toks s, RetN.lift [] HoldsN.nil (fun rec _ => ?_), rfl⟩
  show Ret (parseIntegerLiteral toks s) _
  unfold parseIntegerLiteral
  simp only [consumeLiteral_fail h]
  exact Ret.pure _

theorem group_fail {s : Nat} (h : ¬KAt toks s .leftParen) : FailsN toks .group s := by
  refine ⟨failAt toks s, RetN.lift [] HoldsN.nil (fun rec _ => ?_), rfl⟩
  show Ret (parseGroup toks rec s) _
  unfold parseGroup
  rw [consume0_fail h]
  exact Ret.pure _

end Leaves

theorem chain_ok {toks : Array PTok} {rec : NT → Nat → ParseM PResult} {s : Nat} {r : PResult}
    {B : NT} {post : List NT} : ∀ (pre : List NT), (∀ X ∈ pre, Fails (rec X s)) →
    Ret (rec B s) r → r.term.isParseError = false → Ret (choiceOf toks rec (pre ++ B :: post) s) r
  | [], _, hB, hr => Ret.tryReturn_ok hB hr
  | X :: pre, hpre, hB, hr =>
    Ret.tryReturn_skip (hpre X (by simp))
      (chain_ok pre (fun Y hY => hpre Y (by simp [hY])) hB hr)

theorem chain_fail {toks : Array PTok} {rec : NT → Nat → ParseM PResult} {s : Nat} :
    ∀ (l : List NT), (∀ X ∈ l, Fails (rec X s)) → Ret (choiceOf toks rec l s) (failAt toks s)
  | [], _ => Ret.pure _
  | X :: l, h =>
    Ret.tryReturn_skip (h X (by simp)) (chain_fail l (fun Y hY => h Y (by simp [hY])))

theorem failsN_common {toks : Array PTok} {s : Nat} : ∀ (l : List NT),
    (∀ X ∈ l, FailsN toks X s) → ∃ F, ∀ fuel, F ≤ fuel → ∀ X ∈ l, Fails (parsePure toks fuel X s)
  | [], _ => ⟨0, fun _ _ X hX => by cases hX⟩
  | Y :: l, h => by
    obtain ⟨r, ⟨F1, h1⟩, hpe⟩ := h Y (by simp)
    obtain ⟨F2, h2⟩ := failsN_common l (fun X hX => h X (by simp [hX]))
    refine ⟨F1 + F2, fun fuel hf X hX => ?_⟩
    rcases List.mem_cons.mp hX with rfl | hX
    · exact ⟨r, h1 fuel (by omega), hpe⟩
    · exact h2 fuel (by omega) X hX

/-- **Ordered choice, success**: the alternatives before `B` fail, `B` succeeds. -/
theorem choice_ok {toks : Array PTok} {A B : NT} {s : Nat} {r : PResult} (pre post : List NT)
    (hA : altsOf A = pre ++ B :: post) (hpre : ∀ X ∈ pre, FailsN toks X s)
    (hB : RetN toks B s r) (hr : r.term.isParseError = false) : RetN toks A s r := by
  obtain ⟨F1, h1⟩ := failsN_common pre hpre
  obtain ⟨F2, h2⟩ := hB
  refine ⟨F1 + F2 + 1, fun fuel hf => ?_⟩
  obtain ⟨f, rfl⟩ : ∃ f, fuel = f + 1 := ⟨fuel - 1, by omega⟩
  rw [parsePure, parseBody_choice _ _ _ (by rw [hA]; simp), hA]
  exact chain_ok pre (h1 f (by omega)) (h2 f (by omega)) hr

theorem choice_fail {toks : Array PTok} {A : NT} {s : Nat} (hA : altsOf A ≠ [])
    (hall : ∀ X ∈ altsOf A, FailsN toks X s) : FailsN toks A s := by
  obtain ⟨F1, h1⟩ := failsN_common _ hall
  refine ⟨failAt toks s, ⟨F1 + 1, fun fuel hf => ?_⟩, rfl⟩
  obtain ⟨f, rfl⟩ : ∃ f, fuel = f + 1 := ⟨fuel - 1, by omega⟩
  rw [parsePure, parseBody_choice _ _ _ hA]
  exact chain_fail _ (h1 f (by omega))

section Composite
variable {toks : Array PTok}

theorem application_ok {a : Nat} {r1 r2 : PResult} (h1 : RetN toks .atom a r1)
    (hr1 : r1.term.isParseError = false) (h2 : RetN toks .smallTerm r1.next r2)
    (hr2 : r2.term.isParseError = false) :
    RetN toks .application a
      ⟨.mk (span r1.term.range r2.term.range) false (.app r1.term r2.term) [], r2.next,
        r2.confident⟩ := by
  refine RetN.lift [(.atom, a, r1), (.smallTerm, r1.next, r2)] (.cons h1 (.cons h2 .nil))
    (fun rec hh => ?_)
  show Ret (parseApplication rec a) _
  unfold parseApplication
  exact Ret.tryEval_ok hh.head hr1 (Ret.tryEval_ok hh.tail.head hr2 (Ret.pure _))

theorem application_fail_arg {a : Nat} {r1 : PResult} (h1 : RetN toks .atom a r1)
    (hr1 : r1.term.isParseError = false) (h2 : FailsN toks .smallTerm r1.next) :
    FailsN toks .application a := by
  obtain ⟨r2, h2, hr2⟩ := h2
  refine ⟨r2, RetN.lift [(.atom, a, r1), (.smallTerm, r1.next, r2)] (.cons h1 (.cons h2 .nil))
    (fun rec hh => ?_), hr2⟩
  show Ret (parseApplication rec a) _
  unfold parseApplication
  exact Ret.tryEval_ok hh.head hr1 (Ret.tryEval_fail hh.tail.head hr2)

theorem application_fail_head {a : Nat} (h1 : FailsN toks .atom a) : FailsN toks .application a := by
  obtain ⟨r1, h1, hr1⟩ := h1
  refine ⟨r1, RetN.lift [(.atom, a, r1)] (.cons h1 .nil) (fun rec hh => ?_), hr1⟩
  show Ret (parseApplication rec a) _
  unfold parseApplication
  exact Ret.tryEval_fail hh.head hr1

theorem ndpi_ok {a : Nat} {r1 r2 : PResult} (h1 : RetN toks .smallTerm a r1)
    (hr1 : r1.term.isParseError = false) (hk : KAt toks r1.next .thinArrow)
    (h2 : RetN toks .term (r1.next + 1) r2) :
    RetN toks .nonDependentPi a
      ⟨.mk (span r1.term.range r2.term.range) false
        (.pi ⟨emptyRange toks a, placeholder⟩ false r1.term r2.term) [], r2.next, r2.confident⟩ := by
  refine RetN.lift [(.smallTerm, a, r1), (.term, r1.next + 1, r2)] (.cons h1 (.cons h2 .nil))
    (fun rec hh => ?_)
  show Ret (parseNonDependentPi toks rec a) _
  unfold parseNonDependentPi
  refine Ret.tryEval_ok hh.head hr1 ?_
  rw [consume0_ok hk]
  exact Ret.bind hh.tail.head (Ret.pure _)

theorem ndpi_fail_arrow {a : Nat} {r1 : PResult} (h1 : RetN toks .smallTerm a r1)
    (hr1 : r1.term.isParseError = false) (hk : ¬KAt toks r1.next .thinArrow) :
    FailsN toks .nonDependentPi a := by
  refine ⟨failAt toks r1.next, RetN.lift [(.smallTerm, a, r1)] (.cons h1 .nil) (fun rec hh => ?_),
    rfl⟩
  show Ret (parseNonDependentPi toks rec a) _
  unfold parseNonDependentPi
  refine Ret.tryEval_ok hh.head hr1 ?_
  rw [consume0_fail hk]
  exact Ret.pure _

theorem ndpi_fail_small {a : Nat} (h1 : FailsN toks .smallTerm a) :
    FailsN toks .nonDependentPi a := by
  obtain ⟨r1, h1, hr1⟩ := h1
  refine ⟨r1, RetN.lift [(.smallTerm, a, r1)] (.cons h1 .nil) (fun rec hh => ?_), hr1⟩
  show Ret (parseNonDependentPi toks rec a) _
  unfold parseNonDependentPi
  exact Ret.tryEval_fail hh.head hr1

theorem binary_ok {A L R : NT} {op : PKind} (hm : (A, L, op, R) ∈ binProds) {a : Nat}
    {r1 r2 : PResult} (h1 : RetN toks L a r1) (hr1 : r1.term.isParseError = false)
    (hk : KAt toks r1.next op) (h2 : RetN toks R (r1.next + 1) r2) :
    RetN toks A a
      ⟨.mk (span r1.term.range r2.term.range) false (.bin (binOpOf A) r1.term r2.term) [], r2.next,
        r2.confident⟩ := by
  refine RetN.lift [(L, a, r1), (R, r1.next + 1, r2)] (.cons h1 (.cons h2 .nil)) (fun rec hh => ?_)
  rw [parseBody_bin hm]
  unfold parseBinary
  refine Ret.tryEval_ok hh.head hr1 ?_
  rw [consume0_ok hk]
  exact Ret.bind hh.tail.head (Ret.pure _)

theorem binary_fail_op {A L R : NT} {op : PKind} (hm : (A, L, op, R) ∈ binProds) {a : Nat}
    {r1 : PResult} (h1 : RetN toks L a r1) (hr1 : r1.term.isParseError = false)
    (hk : ¬KAt toks r1.next op) : FailsN toks A a := by
  refine ⟨failAt toks r1.next, RetN.lift [(L, a, r1)] (.cons h1 .nil) (fun rec hh => ?_), rfl⟩
  rw [parseBody_bin hm]
  unfold parseBinary
  refine Ret.tryEval_ok hh.head hr1 ?_
  rw [consume0_fail hk]
  exact Ret.pure _

theorem negation_ok {a : Nat} {r : PResult} (hk : KAt toks a .minus)
    (h : RetN toks .largeTerm (a + 1) r) :
    RetN toks .negation a
      ⟨.mk (span (tokenRange toks a) r.term.range) false (.neg r.term) [], r.next, r.confident⟩ := by
  refine RetN.lift [(.largeTerm, a + 1, r)] (.cons h .nil) (fun rec hh => ?_)
  show Ret (parseNegation toks rec a) _
  unfold parseNegation
  rw [consume0_ok hk]
  exact Ret.bind hh.head (Ret.pure _)

theorem negation_fail {a : Nat} (hk : ¬KAt toks a .minus) : FailsN toks .negation a := by
  refine ⟨failAt toks a, RetN.lift [] .nil (fun rec _ => ?_), rfl⟩
  show Ret (parseNegation toks rec a) _
  unfold parseNegation
  rw [consume0_fail hk]
  exact Ret.pure _

theorem group_ok {a : Nat} {r : PResult} (hk : KAt toks a .leftParen)
    (h : RetN toks .term (a + 1) r) (hr : r.term.isParseError = false)
    (hc : KAt toks r.next .rightParen) :
    RetN toks .group a
      ⟨.mk (span (tokenRange toks a) (tokenRange toks (r.next + 1 - 1))) true r.term.variant
        r.term.errors, r.next + 1, true⟩ := by
  refine RetN.lift [(.term, a + 1, r)] (.cons h .nil) (fun rec hh => ?_)
  show Ret (parseGroup toks rec a) _
  unfold parseGroup
  rw [consume0_ok hk]
  refine Ret.tryEval_ok hh.head hr ?_
  rw [expectToken_here hc (by simp)]
  simp only [Bool.not_true, Bool.false_eq_true, if_false, if_true, List.append_nil]
  exact Ret.pure _

theorem binder_ok {A : NT} {o c ar : PKind} (hm : (A, o, c, ar) ∈ binderProds) {a : Nat} {x : Name}
    {r1 r2 : PResult} (h0 : KAt toks a o) (hx : KAt toks (a + 1) (.identifier x))
    (hc : KAt toks (a + 1 + 1) .colon) (h1 : RetN toks .jumboTerm (a + 1 + 1 + 1) r1)
    (hr1 : r1.term.isParseError = false) (hcl : KAt toks r1.next c)
    (har : KAt toks (r1.next + 1) ar) (h2 : RetN toks .term (r1.next + 1 + 1) r2) :
    RetN toks A a
      ⟨.mk (span (tokenRange toks a) r2.term.range) false
        (binderV A ⟨tokenRange toks (a + 1), x⟩ r1.term r2.term) [], r2.next, r2.confident⟩ := by
  refine RetN.lift [(.jumboTerm, a + 1 + 1 + 1, r1), (.term, r1.next + 1 + 1, r2)]
    (.cons h1 (.cons h2 .nil)) (fun rec hh => ?_)
  rw [parseBody_binder hm]
  unfold parseBinder
  rw [consume0_ok h0]
  simp only [consumeIdent_ok hx]
  rw [consume0_ok hc]
  refine Ret.tryEval_ok hh.head hr1 ?_
  rw [consume0_ok hcl, consume0_ok har]
  exact Ret.bind hh.tail.head (Ret.pure _)

theorem binder_fail_start {A : NT} {o c ar : PKind} (hm : (A, o, c, ar) ∈ binderProds) {a : Nat}
    (h : ¬KAt toks a o ∨ (∀ x, ¬KAt toks (a + 1) (.identifier x)) ∨ ¬KAt toks (a + 1 + 1) .colon) :
    FailsN toks A a := by
  by_cases h0 : KAt toks a o
  · by_cases hx : ∃ x, KAt toks (a + 1) (.identifier x)
    · obtain ⟨x, hx⟩ := hx
      have hc : ¬KAt toks (a + 1 + 1) .colon := by
        rcases h with h | h | h
        · exact absurd h0 h
        · exact absurd hx (h x)
        · exact h
      refine ⟨failAt toks (a + 1 + 1), RetN.lift [] .nil (fun rec _ => ?_), rfl⟩
      rw [parseBody_binder hm]
      unfold parseBinder
      rw [consume0_ok h0]
      simp only [consumeIdent_ok hx]
      rw [consume0_fail hc]
      exact Ret.pure _
    · refine ⟨failAt toks (a + 1), RetN.lift [] .nil (fun rec _ => ?_), rfl⟩
      rw [parseBody_binder hm]
      unfold parseBinder
      rw [consume0_ok h0]
      simp only [consumeIdent_fail (fun x hx' => hx ⟨x, hx'⟩)]
      exact Ret.pure _
  · refine ⟨failAt toks a, RetN.lift [] .nil (fun rec _ => ?_), rfl⟩
    rw [parseBody_binder hm]
    unfold parseBinder
    rw [consume0_fail h0]
    exact Ret.pure _

theorem binder_fail_close {A : NT} {o c ar : PKind} (hm : (A, o, c, ar) ∈ binderProds) {a : Nat}
    {r1 : PResult} (h1 : RetN toks .jumboTerm (a + 1 + 1 + 1) r1)
    (hr1 : r1.term.isParseError = false)
    (h : ¬KAt toks r1.next c ∨ ¬KAt toks (r1.next + 1) ar) : FailsN toks A a := by
  by_cases h0 : KAt toks a o ∧ (∃ x, KAt toks (a + 1) (.identifier x)) ∧ KAt toks (a + 1 + 1) .colon
  · obtain ⟨h0, ⟨x, hx⟩, hc⟩ := h0
    by_cases hcl : KAt toks r1.next c
    · have har : ¬KAt toks (r1.next + 1) ar := by
        rcases h with h | h
        · exact absurd hcl h
        · exact h
      refine ⟨failAt toks (r1.next + 1), RetN.lift [(.jumboTerm, a + 1 + 1 + 1, r1)] (.cons h1 .nil)
        (fun rec hh => ?_), rfl⟩
      rw [parseBody_binder hm]
      unfold parseBinder
      rw [consume0_ok h0]
      simp only [consumeIdent_ok hx]
      rw [consume0_ok hc]
      refine Ret.tryEval_ok hh.head hr1 ?_
      rw [consume0_ok hcl, consume0_fail har]
      exact Ret.pure _
    · refine ⟨failAt toks r1.next, RetN.lift [(.jumboTerm, a + 1 + 1 + 1, r1)] (.cons h1 .nil)
        (fun rec hh => ?_), rfl⟩
      rw [parseBody_binder hm]
      unfold parseBinder
      rw [consume0_ok h0]
      simp only [consumeIdent_ok hx]
      rw [consume0_ok hc]
      refine Ret.tryEval_ok hh.head hr1 ?_
      rw [consume0_fail hcl]
      exact Ret.pure _
  · refine binder_fail_start hm ?_
    by_cases h0' : KAt toks a o
    · by_cases hx : ∃ x, KAt toks (a + 1) (.identifier x)
      · exact Or.inr (Or.inr (fun hc => h0 ⟨h0', hx, hc⟩))
      · exact Or.inr (Or.inl (fun x hx' => hx ⟨x, hx'⟩))
    · exact Or.inl h0'

theorem lambda_ok {a : Nat} {x : Name} {r : PResult} (h0 : KAt toks a (.identifier x))
    (h1 : KAt toks (a + 1) .thickArrow) (h : RetN toks .term (a + 1 + 1) r) :
    RetN toks .lambda a
      ⟨.mk (span (tokenRange toks a) r.term.range) false
        (.lam ⟨tokenRange toks a, x⟩ false .none r.term) [], r.next, r.confident⟩ := by
  refine RetN.lift [(.term, a + 1 + 1, r)] (.cons h .nil) (fun rec hh => ?_)
  show Ret (parseLambda toks rec a) _
  unfold parseLambda
  simp only [consumeIdent_ok h0]
  rw [consume0_ok h1]
  exact Ret.bind hh.head (Ret.pure _)

theorem lambdaImplicit_ok {a : Nat} {x : Name} {r : PResult} (h0 : KAt toks a .leftCurly)
    (h1 : KAt toks (a + 1) (.identifier x)) (h2 : KAt toks (a + 1 + 1) .rightCurly)
    (h3 : KAt toks (a + 1 + 1 + 1) .thickArrow) (h : RetN toks .term (a + 1 + 1 + 1 + 1) r) :
    RetN toks .lambdaImplicit a
      ⟨.mk (span (tokenRange toks a) r.term.range) false
        (.lam ⟨tokenRange toks (a + 1), x⟩ true .none r.term) [], r.next, r.confident⟩ := by
  refine RetN.lift [(.term, a + 1 + 1 + 1 + 1, r)] (.cons h .nil) (fun rec hh => ?_)
  show Ret (parseLambdaImplicit toks rec a) _
  unfold parseLambdaImplicit
  rw [consume0_ok h0]
  simp only [consumeIdent_ok h1]
  rw [consume0_ok h2, consume0_ok h3]
  exact Ret.bind hh.head (Ret.pure _)

theorem lambda_fail {a : Nat}
    (h : (∀ x, ¬KAt toks a (.identifier x)) ∨ ¬KAt toks (a + 1) .thickArrow) :
    FailsN toks .lambda a := by
  by_cases hx : ∃ x, KAt toks a (.identifier x)
  · obtain ⟨x, hx⟩ := hx
    have har : ¬KAt toks (a + 1) .thickArrow := by
      rcases h with h | h
      · exact absurd hx (h x)
      · exact h
    refine ⟨failAt toks (a + 1), RetN.lift [] .nil (fun rec _ => ?_), rfl⟩
    show Ret (parseLambda toks rec a) _
    unfold parseLambda
    simp only [consumeIdent_ok hx]
    rw [consume0_fail har]
    exact Ret.pure _
  · refine ⟨failAt toks a, RetN.lift [] .nil (fun rec _ => ?_), rfl⟩
    show Ret (parseLambda toks rec a) _
    unfold parseLambda
    simp only [consumeIdent_fail (fun x hx' => hx ⟨x, hx'⟩)]
    exact Ret.pure _

theorem lambdaImplicit_fail {a : Nat}
    (h : ¬KAt toks a .leftCurly ∨ ¬KAt toks (a + 1 + 1) .rightCurly) :
    FailsN toks .lambdaImplicit a := by
  by_cases h0 : KAt toks a .leftCurly
  · have hc : ¬KAt toks (a + 1 + 1) .rightCurly := by
      rcases h with h | h
      · exact absurd h0 h
      · exact h
    by_cases hx : ∃ x, KAt toks (a + 1) (.identifier x)
    · obtain ⟨x, hx⟩ := hx
      refine ⟨failAt toks (a + 1 + 1), RetN.lift [] .nil (fun rec _ => ?_), rfl⟩
      show Ret (parseLambdaImplicit toks rec a) _
      unfold parseLambdaImplicit
      rw [consume0_ok h0]
      simp only [consumeIdent_ok hx]
      rw [consume0_fail hc]
      exact Ret.pure _
    · refine ⟨failAt toks (a + 1), RetN.lift [] .nil (fun rec _ => ?_), rfl⟩
      show Ret (parseLambdaImplicit toks rec a) _
      unfold parseLambdaImplicit
      rw [consume0_ok h0]
      simp only [consumeIdent_fail (fun x hx' => hx ⟨x, hx'⟩)]
      exact Ret.pure _
  · refine ⟨failAt toks a, RetN.lift [] .nil (fun rec _ => ?_), rfl⟩
    show Ret (parseLambdaImplicit toks rec a) _
    unfold parseLambdaImplicit
    rw [consume0_fail h0]
    exact Ret.pure _

theorem if_ok {a : Nat} {r1 r2 r3 : PResult} (h0 : KAt toks a .if_)
    (h1 : RetN toks .term (a + 1) r1) (hk1 : KAt toks r1.next .then_)
    (h2 : RetN toks .term (r1.next + 1) r2) (hk2 : KAt toks r2.next .else_)
    (h3 : RetN toks .term (r2.next + 1) r3) :
    RetN toks .if_ a
      ⟨.mk (span (tokenRange toks a) r3.term.range) false (.ite r1.term r2.term r3.term) [],
        r3.next, r3.confident⟩ := by
  obtain ⟨t1, n1, c1⟩ := r1
  obtain ⟨t2, n2, c2⟩ := r2
  obtain ⟨t3, n3, c3⟩ := r3
  dsimp only at *
  refine RetN.lift [(.term, a + 1, ⟨t1, n1, c1⟩), (.term, n1 + 1, ⟨t2, n2, c2⟩), (.term, n2 + 1, ⟨t3, n3, c3⟩)]
    (.cons h1 (.cons h2 (.cons h3 .nil))) (fun rec hh => ?_)
  show Ret (parseIf toks rec a) _
  unfold parseIf
  rw [consume0_ok h0]  -- `if`
  refine Ret.bind hh.head ?_  -- the condition
  dsimp only
  rw [expectToken_here hk1 (by simp)]  -- `then`
  dsimp only
  simp only [if_true]
  refine Ret.bind hh.tail.head ?_  -- the first branch
  dsimp only
  rw [expectToken_here hk2 (by simp)]  -- `else`
  dsimp only
  simp only [if_true]
  exact Ret.bind hh.tail.tail.head (Ret.pure _)  -- the second branch

theorem if_fail {a : Nat} (h0 : ¬KAt toks a .if_) : FailsN toks .if_ a := by
  refine ⟨failAt toks a, RetN.lift [] .nil (fun rec _ => ?_), rfl⟩
  show Ret (parseIf toks rec a) _
  unfold parseIf
  rw [consume0_fail h0]
  exact Ret.pure _

theorem let_ok {a : Nat} {x : Name} {t : TerminatorType} {r1 r2 r3 : PResult}
    (hx : KAt toks a (.identifier x)) (hc : KAt toks (a + 1) .colon)
    (h1 : RetN toks .smallTerm (a + 1 + 1) r1) (hr1 : r1.term.isParseError = false)
    (he : KAt toks r1.next .equals) (h2 : RetN toks .term (r1.next + 1) r2)
    (ht : KAt toks r2.next (.terminator t)) (h3 : RetN toks .term (r2.next + 1) r3) :
    RetN toks .let_ a
      ⟨.mk (span (tokenRange toks a) r3.term.range) false
        (.let_ ⟨tokenRange toks a, x⟩ (.some r1.term) r2.term r3.term) [], r3.next,
        r3.confident⟩ := by
  obtain ⟨t1, n1, c1⟩ := r1
  obtain ⟨t2, n2, c2⟩ := r2
  obtain ⟨t3, n3, c3⟩ := r3
  dsimp only at *
  refine RetN.lift [(.smallTerm, a + 1 + 1, ⟨t1, n1, c1⟩), (.term, n1 + 1, ⟨t2, n2, c2⟩), (.term, n2 + 1, ⟨t3, n3, c3⟩)]
    (.cons h1 (.cons h2 (.cons h3 .nil))) (fun rec hh => ?_)
  show Ret (parseLet toks rec a) _
  rw [parseLet_eq]
  simp only [consumeIdent_ok hx]  -- `x`
  obtain ⟨hlt, hkc⟩ := hc
  simp only [hlt, hkc, dite_true, if_true]
  rw [consume0_ok ⟨hlt, hkc⟩]  -- `:`
  refine Ret.tryEval_ok hh.head hr1 ?_  -- the annotation
  dsimp only
  rw [expectToken_here he (by simp)]  -- `=`
  unfold parseLetRest
  dsimp only
  simp only [if_true]
  refine Ret.bind hh.tail.head ?_  -- the definition
  dsimp only
  rw [expectToken_here ht (by simp [PKind.isTerminator])]  -- the terminator
  dsimp only
  simp only [if_true, List.append_nil]
  exact Ret.bind hh.tail.tail.head (Ret.pure _)  -- the body

theorem let_plain_ok {a : Nat} {x : Name} {t : TerminatorType} {r2 r3 : PResult}
    (hx : KAt toks a (.identifier x)) (he : KAt toks (a + 1) .equals)
    (h2 : RetN toks .term (a + 1 + 1) r2)
    (ht : KAt toks r2.next (.terminator t)) (h3 : RetN toks .term (r2.next + 1) r3) :
    RetN toks .let_ a
      ⟨.mk (span (tokenRange toks a) r3.term.range) false
        (.let_ ⟨tokenRange toks a, x⟩ .none r2.term r3.term) [], r3.next, r3.confident⟩ := by
  obtain ⟨t2, n2, c2⟩ := r2
  obtain ⟨t3, n3, c3⟩ := r3
  dsimp only at *
  refine RetN.lift [(.term, a + 1 + 1, ⟨t2, n2, c2⟩), (.term, n2 + 1, ⟨t3, n3, c3⟩)]
    (.cons h2 (.cons h3 .nil)) (fun rec hh => ?_)
  show Ret (parseLet toks rec a) _
  rw [parseLet_eq]
  simp only [consumeIdent_ok hx]  -- `x`
  obtain ⟨hlt, hke⟩ := he
  have hnc : ¬ toks[a + 1].kind = PKind.colon := by rw [hke]; simp
  simp only [hlt, dite_true, hnc, if_false]  -- no `:`
  rw [consume0_ok ⟨hlt, hke⟩]  -- `=`
  unfold parseLetRest
  dsimp only
  simp only [if_true]
  refine Ret.bind hh.head ?_  -- the definition
  dsimp only
  rw [expectToken_here ht (by simp [PKind.isTerminator])]  -- the terminator
  dsimp only
  simp only [if_true, List.append_nil]
  exact Ret.bind hh.tail.head (Ret.pure _)  -- the body

theorem let_fail {a : Nat}
    (h : (∀ x, ¬KAt toks a (.identifier x)) ∨ (¬KAt toks (a + 1) .colon ∧ ¬KAt toks (a + 1) .equals)) :
    FailsN toks .let_ a := by
  by_cases hx : ∃ x, KAt toks a (.identifier x)
  · obtain ⟨x, hx⟩ := hx
    have h2 : ¬KAt toks (a + 1) .colon ∧ ¬KAt toks (a + 1) .equals := by
      rcases h with h | h
      · exact absurd hx (h x)
      · exact h
    refine ⟨failAt toks (a + 1), RetN.lift [] .nil (fun rec _ => ?_), rfl⟩
    show Ret (parseLet toks rec a) _
    rw [parseLet_eq]
    simp only [consumeIdent_ok hx]
    split
    · split
      · exact absurd ⟨‹_›, ‹_›⟩ h2.1
      · rw [consume0_fail h2.2]; exact Ret.pure _
    · rw [consume0_fail h2.2]; exact Ret.pure _
  · refine ⟨failAt toks a, RetN.lift [] .nil (fun rec _ => ?_), rfl⟩
    show Ret (parseLet toks rec a) _
    rw [parseLet_eq]
    simp only [consumeIdent_fail (fun x hx' => hx ⟨x, hx'⟩)]
    exact Ret.pure _

end Composite

/-- the kinds an `atom` can start with (`Unamb.isF` of `Lemmas/Tower.lean`, which this file does not import:
`atomStartK_eq_isF`; likewise `Follow` and `NoExt`) -/
def atomStartK : PKind → Bool
  | .type_ | .identifier _ | .integer | .integerLiteral _ | .boolean | .true_ | .false_
  | .leftParen => true
  | _ => false

/-- the token at `b` satisfies `p`; true when `b` is the end of the input -/
def Follow (toks : Array PTok) (b : Nat) (p : PKind → Bool) : Prop := ∀ k, KAt toks b k → p k = true

theorem Follow.not {toks : Array PTok} {b : Nat} {p : PKind → Bool} (h : Follow toks b p)
    {k : PKind} (hk : p k = false) : ¬KAt toks b k := fun h' => by
  rw [h k h'] at hk; cases hk

theorem Follow.of_kat {toks : Array PTok} {b : Nat} {p : PKind → Bool} {k : PKind}
    (h : KAt toks b k) (hk : p k = true) : Follow toks b p := fun k' h' => by
  rw [← KAt.unique h h']; exact hk

theorem KAt.ne {toks : Array PTok} {b : Nat} {k k' : PKind} (h : KAt toks b k) (hne : k ≠ k') :
    ¬KAt toks b k' := fun h' => hne (KAt.unique h h')

theorem bp_al : (NT.annotatedLambda, PKind.leftParen, PKind.rightParen, PKind.thickArrow) ∈ binderProds := by decide
theorem bp_ali : (NT.annotatedLambdaImplicit, PKind.leftCurly, PKind.rightCurly, PKind.thickArrow) ∈ binderProds := by decide
theorem bp_pi : (NT.pi, PKind.leftParen, PKind.rightParen, PKind.thinArrow) ∈ binderProds := by decide
theorem bp_pii : (NT.piImplicit, PKind.leftCurly, PKind.rightCurly, PKind.thinArrow) ∈ binderProds := by decide

/-- both `( x : A ) => …` and `( x : A ) -> …` fail at `a` -/
def NB (toks : Array PTok) (a : Nat) : Prop :=
  FailsN toks .annotatedLambda a ∧ FailsN toks .pi a

theorem NB.of_start {toks : Array PTok} {a : Nat}
    (h : ¬KAt toks a .leftParen ∨ (∀ x, ¬KAt toks (a + 1) (.identifier x)) ∨
      ¬KAt toks (a + 1 + 1) .colon) : NB toks a :=
  ⟨binder_fail_start bp_al h,
   binder_fail_start bp_pi h⟩

theorem NB.of_close {toks : Array PTok} {a : Nat} {r1 : PResult}
    (h1 : RetN toks .jumboTerm (a + 1 + 1 + 1) r1) (hr1 : r1.term.isParseError = false)
    (h : ¬KAt toks r1.next .rightParen) : NB toks a :=
  ⟨binder_fail_close bp_al h1 hr1 (Or.inl h),
   binder_fail_close bp_pi h1 hr1 (Or.inl h)⟩

section Lift
variable {toks : Array PTok}

theorem atom_fails {b : Nat} (h : Follow toks b (fun k => !atomStartK k)) : FailsN toks .atom b := by
  refine choice_fail (by simp [altsOf]) ?_
  intro X hX
  simp only [altsOf, List.mem_cons, List.mem_nil_iff, or_false] at hX
  rcases hX with rfl | rfl | rfl | rfl | rfl | rfl | rfl | rfl
  · exact leaf_fail rfl (h.not rfl)
  · exact variable_fail (fun x => h.not rfl)
  · exact leaf_fail rfl (h.not rfl)
  · exact literal_fail (fun n => h.not rfl)
  · exact leaf_fail rfl (h.not rfl)
  · exact leaf_fail rfl (h.not rfl)
  · exact leaf_fail rfl (h.not rfl)
  · exact group_fail (h.not rfl)

theorem small_fails {b : Nat} (h : Follow toks b (fun k => !atomStartK k)) :
    FailsN toks .smallTerm b := by
  refine choice_fail (by simp [altsOf]) ?_
  intro X hX
  simp only [altsOf, List.mem_cons, List.mem_nil_iff, or_false] at hX
  rcases hX with rfl | rfl
  · exact application_fail_head (atom_fails h)
  · exact atom_fails h

theorem RetN.up_small {a : Nat} {r : PResult} (h : RetN toks .atom a r)
    (hr : r.term.isParseError = false) (hf : Follow toks r.next (fun k => !atomStartK k)) :
    RetN toks .smallTerm a r :=
  choice_ok [.application] [] rfl
    (fun X hX => by
      simp only [List.mem_cons, List.mem_nil_iff, or_false] at hX; subst hX
      exact application_fail_arg h hr (small_fails hf)) h hr

theorem RetN.up_large {a : Nat} {r : PResult} (h : RetN toks .mediumTerm a r)
    (hr : r.term.isParseError = false) (h0 : ¬KAt toks a .minus) : RetN toks .largeTerm a r :=
  choice_ok [.negation] [] rfl
    (fun X hX => by
      simp only [List.mem_cons, List.mem_nil_iff, or_false] at hX; subst hX
      exact negation_fail h0) h hr

theorem RetN.up_term {a : Nat} {r : PResult} (h : RetN toks .jumboTerm a r)
    (hr : r.term.isParseError = false) (hl : FailsN toks .let_ a) : RetN toks .term a r :=
  choice_ok [.let_] [] rfl
    (fun X hX => by
      simp only [List.mem_cons, List.mem_nil_iff, or_false] at hX; subst hX; exact hl) h hr

end Lift

end PModel
