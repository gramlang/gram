import GramModel.Parser

/-! `NoPE` (a surface tree without `ParseError` node: half of the invariant `Good` of every parse result, and what
the passes after the parse phase need to be panic-free, `Props/C14.lean`) and `Clean` (a resolved term whose holes
outside let-annotations all have shift 0). -/

namespace PModel

mutual
def NoPE (t : Src) : Prop :=
  match t with
  | .mk _ _ v _ =>
    match v with
    | .parseError => False
    | .type | .var _ | .int | .lit _ | .bool | .tt | .ff => True
    | .lam _ _ dom body => NoPEOpt dom ∧ NoPE body
    | .pi _ _ dom cod => NoPE dom ∧ NoPE cod
    | .app f a => NoPE f ∧ NoPE a
    | .let_ _ ann defn body => NoPEOpt ann ∧ NoPE defn ∧ NoPE body
    | .neg a => NoPE a
    | .bin _ a b => NoPE a ∧ NoPE b
    | .ite c a b => NoPE c ∧ NoPE a ∧ NoPE b
termination_by structural t
def NoPEOpt (o : OptSrc) : Prop :=
  match o with
  | .none => True
  | .some t => NoPE t
termination_by structural o
end

mutual
/-- Every hole of the resolved term that `check_definitions` visits (i.e. outside the annotations
of let-definitions) has shift 0. -/
def Clean (t : RTm) : Prop :=
  match t with
  | .mk _ v =>
    match v with
    | .hole _ shift => shift = 0
    | .type | .int | .bool | .tt | .ff | .lit _ | .var _ _ => True
    | .lam _ _ d b => Clean d ∧ Clean b
    | .pi _ _ d b => Clean d ∧ Clean b
    | .app f a => Clean f ∧ Clean a
    | .letg ds b => CleanDefs ds ∧ Clean b
    | .neg a => Clean a
    | .bin _ a b => Clean a ∧ Clean b
    | .ite c a b => Clean c ∧ Clean a ∧ Clean b
termination_by structural t
def CleanDefs (ds : RDefs) : Prop :=
  match ds with
  | .nil => True
  | .cons _ _ defn rest => Clean defn ∧ CleanDefs rest
termination_by structural ds
end

end PModel
