import GramModel.Lemmas.ParserGood
import GramModel.Lemmas.ParserTermination

/-! # The memo table is transparent

`parsePure` runs the same 36 bodies without `cache_check!`.  Whatever the memoised functions return
is what the cache-free functions return (whenever those return at all); `runParser_eval` is the form in which
the property files evaluate the parser on concrete inputs inside the kernel (`Std.HashMap` does not reduce there). -/

namespace PModel

def parsePure (toks : Array PTok) : Nat → NT → Nat → ParseM PResult
  | 0, _, _ => fun _ => none
  | fuel + 1, nt, start => parseBody toks (parsePure toks fuel) nt start

def PureInv (toks : Array PTok) (nt : NT) (s : Nat) (r : PResult) : Prop :=
  ∀ fuel st x st', parsePure toks fuel nt s st = some (x, st') → x = r

/-- Relational partial correctness: from a memo table whose entries agree with the cache-free
functions, whatever `m1` returns, `m2` returns the same from any state (if it returns). -/
def RPres (toks : Array PTok) {α : Type} (m1 m2 : ParseM α) : Prop :=
  GPres (PureInv toks) m1 (fun a1 => ∀ st2 a2 st2', m2 st2 = some (a2, st2') → a2 = a1)

section Rel
variable {toks : Array PTok} {α β : Type}

theorem RPres.pure {a : α} : RPres toks (Pure.pure a : ParseM α) (Pure.pure a) := by
  refine Tri.pure ?_
  intro st2 a2 st2' e
  cases e
  rfl

theorem RPres.bind {m1 m2 : ParseM α} {f1 f2 : α → ParseM β} (hm : RPres toks m1 m2)
    (hf : ∀ a, RPres toks (f1 a) (f2 a)) : RPres toks (m1 >>= f1) (m2 >>= f2) := by
  intro st b st' hI e
  rw [ParseM_bind_eq] at e
  cases h1 : m1 st with
  | none => simp [h1] at e
  | some p1 =>
    obtain ⟨a, s1⟩ := p1
    simp only [h1] at e
    obtain ⟨hI1, hp⟩ := hm st a s1 hI h1
    obtain ⟨hI2, hq⟩ := hf a s1 b st' hI1 e
    refine ⟨hI2, ?_⟩
    intro st2 b2 st2' e2
    rw [ParseM_bind_eq] at e2
    cases h2 : m2 st2 with
    | none => simp [h2] at e2
    | some p2 =>
      obtain ⟨a2, s2⟩ := p2
      simp only [h2] at e2
      have := hp _ _ _ h2
      subst this
      exact hq _ _ _ e2

theorem RPres.ite {c : Prop} [Decidable c] {m1 m2 n1 n2 : ParseM α}
    (h1 : c → RPres toks m1 m2) (h2 : ¬c → RPres toks n1 n2) :
    RPres toks (if c then m1 else n1) (if c then m2 else n2) := by
  split
  · exact h1 ‹_›
  · exact h2 ‹_›

theorem RPres.tryReturn {p1 p2 k1 k2 : ParseM PResult} (hp : RPres toks p1 p2)
    (hk : RPres toks k1 k2) : RPres toks (tryReturn p1 k1) (tryReturn p2 k2) := by
  unfold PModel.tryReturn
  refine RPres.bind hp (fun r => ?_)
  exact RPres.ite (fun _ => hk) (fun _ => RPres.pure)

end Rel

-- `ralt_tac hrec` closes `RPres` for a choice function (a `tryReturn` chain ending in `noParse`) over related calls.
macro "ralt_tac" hrec:ident : tactic => `(tactic|
  repeat (first
    | exact RPres.pure
    | refine RPres.tryReturn ($hrec _ _) ?_))

theorem Calls.rpres {toks : Array PTok} {rec1 rec2 : NT → Nat → ParseM PResult}
    (hrec : ∀ nt pos, RPres toks (rec1 nt pos) (rec2 nt pos)) {n : Nat} {m1 m2 : ParseM PResult}
    (h : Calls rec1 rec2 n m1 m2) : RPres toks m1 m2 := by
  induction h with
  | pure n r => exact RPres.pure
  | call nt pos _ ih => exact RPres.bind (hrec nt pos) ih

theorem RPres.parseBody {toks : Array PTok} {rec1 rec2 : NT → Nat → ParseM PResult}
    (hrec : ∀ nt pos, RPres toks (rec1 nt pos) (rec2 nt pos)) (nt : NT) (start : Nat) :
    RPres toks (parseBody toks rec1 nt start) (parseBody toks rec2 nt start) :=
  (Calls.parseBody nt start).rpres hrec

theorem GPres.parseNT_pure (toks : Array PTok) : ∀ (fuel : Nat) (nt : NT) (start : Nat),
    GPres (PureInv toks) (parseNT toks fuel nt start) (PureInv toks nt start) :=
  parseNT_ind toks (P := fun nt s m => GPres (PureInv toks) m (PureInv toks nt s)) (fun _ _ => Tri.fail)
    fun rec h nt start => GPres.cacheCheck fun st a st' hI e => by
      have hrec : ∀ f nt' pos, RPres toks (rec nt' pos) (parsePure toks f nt' pos) :=
        fun f nt' pos st1 a1 st1' hI1 e1 =>
          let ⟨h1, h2⟩ := h nt' pos st1 a1 st1' hI1 e1
          ⟨h1, fun st2 a2 st2' e2 => h2 f st2 a2 st2' e2⟩
      refine ⟨(RPres.parseBody (hrec 0) nt start st a st' hI e).1, ?_⟩
      intro f st2 x st2' e2
      cases f with
      | zero => simp [parsePure] at e2
      | succ f =>
        rw [parsePure] at e2
        exact (RPres.parseBody (hrec f) nt start st a st' hI e).2 st2 x st2' e2

theorem runParser_eq_pure {toks : Array PTok} {fuel : Nat} {st0 st0' : PState} {x : PResult}
    (h : parsePure toks fuel .term 0 st0 = some (x, st0')) :
    ∃ st, runParser toks = some (x, st) := by
  obtain ⟨r, st', hr, _⟩ := runParser_ok toks
  have := (GPres.parseNT_pure toks _ _ _ PState.init r st' (CacheInvG.init _) hr).2 fuel st0 x st0' h
  subst this
  exact ⟨st', hr⟩

/-- Read observed facts off a kernel evaluation of the cache-free parser: they hold of what the
parse phase returns. -/
theorem runParser_eval {β : Type} (toks : Array PTok) (fuel : Nat) (obs : PResult → β) (v : β)
    (h : (parsePure toks fuel .term 0 PState.init).map (fun p => obs p.1) = some v) :
    ∃ r st, runParser toks = some (r, st) ∧ obs r = v := by
  cases hp : parsePure toks fuel .term 0 PState.init with
  | none => rw [hp] at h; cases h
  | some p =>
    obtain ⟨x, st0⟩ := p
    rw [hp] at h
    simp only [Option.map_some, Option.some.injEq] at h
    obtain ⟨st, hr⟩ := runParser_eq_pure hp
    exact ⟨x, st, hr, h⟩

end PModel
