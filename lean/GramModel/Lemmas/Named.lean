/-!
# Positions of names in binder stacks

List facts behind `Props/C11.lean`'s "opening is named substitution" / "shifting is named weakening":
how `List.idxOf?` (the de Bruijn index of a name = position of its nearest binder) changes when names are
inserted into, or a name is removed from, the middle of the stack.
-/

namespace NamedLemmas

variable {α : Type} [DecidableEq α]

theorem idxOf?_append (y : α) (Δ Γ : List α) :
    (Δ ++ Γ).idxOf? y = (Δ.idxOf? y).or ((Γ.idxOf? y).map (· + Δ.length)) :=
  List.findIdx?_append

theorem idxOf?_append_not_mem (y : α) (Δ Γ : List α) (h : y ∉ Δ) :
    (Δ ++ Γ).idxOf? y = (Γ.idxOf? y).map (· + Δ.length) := by
  rw [idxOf?_append, List.idxOf?_eq_none_iff.2 h, Option.none_or]

theorem idxOf?_append_mem (y : α) (Δ Γ : List α) (h : y ∈ Δ) :
    ∃ i, i < Δ.length ∧ Δ.idxOf? y = some i ∧ (Δ ++ Γ).idxOf? y = some i := by
  cases hi : Δ.idxOf? y with
  | none => exact absurd h (List.idxOf?_eq_none_iff.1 hi)
  | some i =>
    obtain ⟨hlt, _⟩ := List.idxOf?_eq_some_iff.1 hi
    exact ⟨i, hlt, rfl, by rw [idxOf?_append, hi, Option.some_or]⟩

theorem idxOf?_insert (y : α) (Γ₁ Δ Γ₂ : List α) (hΔ : y ∉ Γ₁ → y ∉ Δ) :
    (Γ₁ ++ (Δ ++ Γ₂)).idxOf? y =
      ((Γ₁ ++ Γ₂).idxOf? y).map fun i => if i ≥ Γ₁.length then i + Δ.length else i := by
  by_cases hy : y ∈ Γ₁
  · obtain ⟨j, hj, h1, h2⟩ := idxOf?_append_mem y Γ₁ Γ₂ hy
    obtain ⟨j', _, h3, h4⟩ := idxOf?_append_mem y Γ₁ (Δ ++ Γ₂) hy
    cases h1.symm.trans h3
    rw [h2, h4, Option.map_some, if_neg (Nat.not_le_of_lt hj)]
  · rw [idxOf?_append_not_mem y Γ₁ _ hy, idxOf?_append_not_mem y Γ₁ _ hy,
      idxOf?_append_not_mem y Δ Γ₂ (hΔ hy)]
    cases Γ₂.idxOf? y with
    | none => rfl
    | some k =>
      simp only [Option.map_some]
      rw [if_pos (Nat.le_add_left ..)]
      exact congrArg some (Nat.add_right_comm ..)

theorem idxOf?_middle (x : α) (Γ₁ Γ : List α) (hx : x ∉ Γ₁) :
    (Γ₁ ++ x :: Γ).idxOf? x = some Γ₁.length := by
  rw [idxOf?_append_not_mem x Γ₁ _ hx, List.idxOf?_cons, beq_self_eq_true, if_pos rfl]
  exact congrArg some (Nat.zero_add _)

theorem idxOf?_remove (x y : α) (Γ₁ Γ : List α) (hxy : y ≠ x) :
    (Γ₁ ++ x :: Γ).idxOf? y ≠ some Γ₁.length ∧
    (Γ₁ ++ Γ).idxOf? y = ((Γ₁ ++ x :: Γ).idxOf? y).map fun j => if j > Γ₁.length then j - 1 else j := by
  by_cases hy : y ∈ Γ₁
  · obtain ⟨i, hi, h1, h2⟩ := idxOf?_append_mem y Γ₁ (x :: Γ) hy
    obtain ⟨i', _, h3, h4⟩ := idxOf?_append_mem y Γ₁ Γ hy
    cases h1.symm.trans h3
    rw [h2, h4, Option.map_some, if_neg (Nat.lt_asymm hi)]
    exact ⟨fun e => Nat.ne_of_lt hi (Option.some.inj e), rfl⟩
  · rw [idxOf?_append_not_mem y Γ₁ _ hy, idxOf?_append_not_mem y Γ₁ _ hy, List.idxOf?_cons,
      if_neg (fun e => hxy (eq_of_beq e).symm)]
    cases Γ.idxOf? y with
    | none => exact ⟨nofun, rfl⟩
    | some k =>
      simp only [Option.map_some]
      have hlt : k + 1 + Γ₁.length > Γ₁.length := Nat.lt_add_of_pos_left (Nat.succ_pos k)
      refine ⟨fun e => Nat.ne_of_gt hlt (Option.some.inj e), ?_⟩
      rw [if_pos hlt, Nat.add_right_comm, Nat.add_sub_cancel]

end NamedLemmas
