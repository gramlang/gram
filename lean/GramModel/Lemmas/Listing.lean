import GramModel.Listing
import GramModel.Lemmas.Bytes

/-!
# The excerpt renderer `listing`

The loop of `listing` over the lines is a filter and a map: the rows are `mkRow` of the table entries
(`linesOf`: index, first byte, text of every line) that the range `touches` (`rowsOf_eq`, `shownLines`).
`listing` answers `panic` exactly when a slice of a row would (`listing_panic_iff`), which a range that ends
at the end of a token never causes (`mkRow_sliceable`, `reach_of_token_end`); otherwise `listing_ok_spec`
says what each row shows (`byteOfCol`: the byte at which a column starts).  `IsBoundary`, `linesOf`,
`shownLines`, `byteOfCol` are the words C15 is stated in.  The model measures with `utf8Len`, which is `bytesOf`
of the lexer model (`Lemmas/Bytes.lean`); `utf8Len_append`, `prefix_of_le`, `utf8Len_take_le/_lt` restate its facts.
-/

namespace Listing

theorem utf8Len_append (a b : List Char) : utf8Len (a ++ b) = utf8Len a + utf8Len b := by
  simp only [utf8Len_eq_bytesOf, bytesOf_append]

theorem utf8Len_eq_zero {a : List Char} (h : utf8Len a = 0) : a = [] :=
  Classical.byContradiction fun ha => by have := bytesOf_pos ha; rw [utf8Len_eq_bytesOf] at h; omega

theorem utf8Len_nl : utf8Len ['\n'] = 1 := by decide

/-- `n` is a character boundary of `s`: some prefix of `s` is exactly `n` bytes long. -/
def IsBoundary (s : List Char) (n : Nat) : Prop := ∃ a b, s = a ++ b ∧ utf8Len a = n

theorem isBoundary_len (s : List Char) : IsBoundary s (utf8Len s) := ⟨s, [], by simp, rfl⟩
theorem isBoundary_zero (s : List Char) : IsBoundary s 0 := ⟨[], s, by simp, rfl⟩

theorem prefix_of_le {a b c d : List Char} (h : a ++ b = c ++ d) (hle : utf8Len a ≤ utf8Len c) :
    ∃ x, c = a ++ x ∧ b = x ++ d :=
  bytes_prefix_of_le h (by rwa [utf8Len_eq_bytesOf, utf8Len_eq_bytesOf] at hle)

theorem sliceAt_append (a b : List Char) : sliceAt (a ++ b) (utf8Len a) = some (a, b) := by
  induction a with
  | nil => cases b <;> simp [sliceAt, utf8Len]
  | cons c a ih =>
    have hc := Char.utf8Size_pos c
    have h0 : ¬ (c.utf8Size + utf8Len a = 0) := by omega
    simp only [List.cons_append, sliceAt, utf8Len, h0, if_false, Nat.le_add_right, if_true,
      Nat.add_sub_cancel_left, ih]

theorem sliceAt_some {s : List Char} {n : Nat} {a b : List Char} (h : sliceAt s n = some (a, b)) :
    s = a ++ b ∧ utf8Len a = n := by
  fun_induction sliceAt s n generalizing a b with
  | case1 | case3 => cases h; exact ⟨rfl, rfl⟩
  | case4 c cs n _ hle a' b' hr ih =>
    cases h
    obtain ⟨h1, h2⟩ := ih hr
    exact ⟨congrArg _ h1, by simp only [utf8Len]; omega⟩
  | _ => cases h

theorem sliceAt_isSome_iff (s : List Char) (n : Nat) : (sliceAt s n).isSome ↔ IsBoundary s n := by
  constructor
  · intro h
    obtain ⟨⟨a, b⟩, hr⟩ := Option.isSome_iff_exists.mp h
    exact ⟨a, b, sliceAt_some hr⟩
  · rintro ⟨a, b, rfl, rfl⟩
    rw [sliceAt_append]; rfl

theorem slices_some {line : List Char} {s e : Nat} {pre mid post : List Char}
    (h : slices line s e = some (pre, mid, post)) :
    line = pre ++ mid ++ post ∧ utf8Len pre = s ∧ utf8Len pre + utf8Len mid = e := by
  revert h
  fun_cases slices line s e with
  | case4 pre' rest h1 hle mid' post' h2 =>
    intro h
    cases h
    obtain ⟨rfl, e2⟩ := sliceAt_some h1
    obtain ⟨rfl, e4⟩ := sliceAt_some h2
    exact ⟨(List.append_assoc ..).symm, e2, by omega⟩
  | _ => nofun

/-- The slices exist exactly when Rust's three slice expressions do not panic. -/
theorem slices_isSome_iff (line : List Char) (s e : Nat) :
    (slices line s e).isSome ↔ (IsBoundary line s ∧ IsBoundary line e ∧ s ≤ e) := by
  constructor
  · intro h
    obtain ⟨⟨pre, mid, post⟩, hr⟩ := Option.isSome_iff_exists.mp h
    obtain ⟨h1, h2, h3⟩ := slices_some hr
    exact ⟨⟨pre, mid ++ post, by rw [h1, List.append_assoc], h2⟩,
      ⟨pre ++ mid, post, h1, by rw [utf8Len_append]; exact h3⟩, by omega⟩
  · rintro ⟨⟨a, b, rfl, rfl⟩, ⟨c, d, hcd, rfl⟩, hle⟩
    obtain ⟨x, rfl, rfl⟩ := prefix_of_le hcd hle
    simp [slices, sliceAt_append, utf8Len_append]

theorem splitLines_ne_nil (text : List Char) : splitLines text ≠ [] := by
  fun_cases splitLines text <;> simp

theorem splitLines_nl (cs : List Char) : splitLines ('\n' :: cs) = [] :: splitLines cs := rfl

theorem splitLines_cons {c : Char} (h : c ≠ '\n') (cs : List Char) :
    ∃ l ls, splitLines cs = l :: ls ∧ splitLines (c :: cs) = (c :: l) :: ls := by
  cases hs : splitLines cs with
  | nil => exact absurd hs (splitLines_ne_nil cs)
  | cons l ls => exact ⟨l, ls, rfl, by simp only [splitLines, h, if_false, hs]⟩

theorem joinNl_cons (a : List Char) {r : List (List Char)} (h : r ≠ []) :
    joinNl (a :: r) = a ++ '\n' :: joinNl r := by
  cases r with
  | nil => exact absurd rfl h
  | cons b r => rfl

theorem joinNl_splitLines (text : List Char) : joinNl (splitLines text) = text := by
  induction text with
  | nil => rfl
  | cons c cs ih =>
    by_cases h : c = '\n'
    · subst h
      rw [splitLines_nl, joinNl_cons _ (splitLines_ne_nil cs), ih]; rfl
    · obtain ⟨l, ls, h1, h2⟩ := splitLines_cons h cs
      rw [h1] at ih
      rw [h2, ← ih]
      cases ls <;> rfl

theorem splitLines_no_nl (text : List Char) : ∀ l ∈ splitLines text, '\n' ∉ l := by
  induction text with
  | nil => simp [splitLines]
  | cons c cs ih =>
    by_cases h : c = '\n'
    · subst h
      simpa [splitLines_nl] using ih
    · obtain ⟨l, ls, h1, h2⟩ := splitLines_cons h cs
      rw [h1] at ih
      simpa [h2, Ne.symm h] using ih

/-- `(index, first byte, line)` for every line, `i` and `pos` being those of the head line -/
def lineTable : List (List Char) → Nat → Nat → List (Nat × Nat × List Char)
  | [], _, _ => []
  | l :: ls, i, pos => (i, pos, l) :: lineTable ls (i + 1) (pos + utf8Len l + 1)

def linesOf (text : List Char) : List (Nat × Nat × List Char) := lineTable (splitLines text) 0 0

theorem lineTable_ge (lines : List (List Char)) (i pos : Nat) :
    ∀ e ∈ lineTable lines i pos, pos ≤ e.2.1 := by
  induction lines generalizing i pos with
  | nil => simp [lineTable]
  | cons l ls ih =>
    exact List.forall_mem_cons.mpr ⟨Nat.le_refl _, fun e he => Nat.le_trans (by omega) (ih _ _ e he)⟩

theorem lineTable_index (lines : List (List Char)) (i pos : Nat) :
    (lineTable lines i pos).map (·.1) = (List.range lines.length).map (· + i) := by
  induction lines generalizing i pos with
  | nil => rfl
  | cons l ls ih =>
    simp [lineTable, List.range_succ_eq_map, ih, Nat.add_assoc, Nat.add_comm 1]

theorem lineTable_spec (lines : List (List Char)) (hne : lines ≠ [])
    (hnl : ∀ l ∈ lines, '\n' ∉ l) (i pos : Nat) :
    ∀ e ∈ lineTable lines i pos, ∃ pre post,
      joinNl lines = pre ++ e.2.2 ++ post ∧ pos + utf8Len pre = e.2.1 ∧ i + pre.count '\n' = e.1 ∧
      (pre = [] ∨ ∃ p, pre = p ++ ['\n']) ∧ (post = [] ∨ ∃ q, post = '\n' :: q) := by
  induction lines generalizing i pos with
  | nil => exact absurd rfl hne
  | cons l ls ih =>
    intro e he
    simp only [lineTable] at he
    rcases List.mem_cons.mp he with rfl | he
    · cases ls with
      | nil => exact ⟨[], [], by simp [joinNl], rfl, by simp, .inl rfl, .inl rfl⟩
      | cons b r =>
        exact ⟨[], '\n' :: joinNl (b :: r), by simp [joinNl], rfl, by simp, .inl rfl, .inr ⟨_, rfl⟩⟩
    · have hls : ls ≠ [] := by rintro rfl; cases he
      obtain ⟨pre, post, h1, h2, h3, h4, h5⟩ :=
        ih hls (fun x hx => hnl x (List.mem_cons_of_mem _ hx)) _ _ e he
      refine ⟨l ++ ['\n'] ++ pre, post, ?_, ?_, ?_, ?_, h5⟩
      · rw [joinNl_cons _ hls, h1]; simp
      · simp only [utf8Len_append, utf8Len_nl]; omega
      · have hl : l.count '\n' = 0 := List.count_eq_zero.mpr (hnl l List.mem_cons_self)
        simp only [List.count_append, hl, List.count_singleton_self]; omega
      · right
        rcases h4 with rfl | ⟨p, rfl⟩
        · exact ⟨l, by simp⟩
        · exact ⟨l ++ '\n' :: p, by simp⟩

theorem linesOf_spec (text : List Char) : ∀ e ∈ linesOf text, ∃ pre post,
    text = pre ++ e.2.2 ++ post ∧ utf8Len pre = e.2.1 ∧ pre.count '\n' = e.1 ∧
    (pre = [] ∨ ∃ p, pre = p ++ ['\n']) ∧ (post = [] ∨ ∃ q, post = '\n' :: q) := by
  intro e he
  obtain ⟨pre, post, h1, h2, h3, h4, h5⟩ :=
    lineTable_spec (splitLines text) (splitLines_ne_nil text) (splitLines_no_nl text) 0 0 e he
  rw [joinNl_splitLines] at h1
  exact ⟨pre, post, h1, by omega, by omega, h4, h5⟩

theorem splitLines_length (text : List Char) : (splitLines text).length = text.count '\n' + 1 := by
  induction text with
  | nil => rfl
  | cons c cs ih =>
    by_cases h : c = '\n'
    · subst h
      rw [splitLines_nl, List.count_cons_self, List.length_cons, ih]
    · obtain ⟨l, ls, h1, h2⟩ := splitLines_cons h cs
      rw [h1] at ih
      rw [h2, List.count_cons_of_ne h, ← ih]; rfl

theorem lineTable_mem (lines : List (List Char)) (i pos : Nat) :
    ∀ e ∈ lineTable lines i pos, e.2.2 ∈ lines := by
  induction lines generalizing i pos with
  | nil => simp [lineTable]
  | cons l ls ih =>
    exact List.forall_mem_cons.mpr ⟨List.mem_cons_self, fun e he => List.mem_cons_of_mem _ (ih _ _ e he)⟩

theorem linesOf_index (text : List Char) :
    (linesOf text).map (·.1) = List.range (text.count '\n' + 1) := by
  unfold linesOf
  rw [lineTable_index, splitLines_length]
  simp

theorem linesOf_pairwise (text : List Char) :
    List.Pairwise (fun a b => a.1 < b.1) (linesOf text) := by
  have h : List.Pairwise (· < ·) ((linesOf text).map (·.1)) := by
    rw [linesOf_index]; exact List.pairwise_lt_range
  exact List.pairwise_map.mp h

/-- the test of the loop of `listing`: the line starts before `stop` and the range starts at or before the
line's own line feed (`+ 1`) -/
def touches (start stop : Nat) (e : Nat × Nat × List Char) : Bool :=
  e.2.1 < stop && start < e.2.1 + utf8Len e.2.2 + 1

/-- the record the model makes for a table entry -/
def mkRow (ws : Char → Bool) (start stop : Nat) (e : Nat × Nat × List Char) : Row :=
  let t := trimEnd ws e.2.2
  ⟨e.1 + 1, t, (section_ ws start stop e.2.1 t).1, (section_ ws start stop e.2.1 t).2⟩

/-- The loop with its `break` and `continue` selects exactly the touched lines. -/
theorem collectRows_eq (ws : Char → Bool) (start stop : Nat) (lines : List (List Char)) (i pos : Nat) :
    collectRows ws start stop lines i pos =
      ((lineTable lines i pos).filter (touches start stop)).map (mkRow ws start stop) := by
  fun_induction collectRows ws start stop lines i pos with
  | case1 => rfl
  | case2 l ls i pos h1 =>
    have : ∀ e ∈ lineTable (l :: ls) i pos, touches start stop e = false := fun e he => by
      have := lineTable_ge _ _ _ e he
      simp [touches]; omega
    rw [List.filter_eq_nil_iff.mpr (by simpa using this)]
    rfl
  | case3 l ls i pos pos' h1 h2 ih =>
    have : touches start stop (i, pos, l) = false := by simp [touches]; omega
    simp [lineTable, this, ih, pos']
  | case4 l ls i pos pos' h1 h2 t se ih =>
    have : touches start stop (i, pos, l) = true := by simp [touches]; omega
    simp [lineTable, this, ih, mkRow, pos', se, t]

theorem rowsOf_eq (ws : Char → Bool) (text : List Char) (start stop : Nat) :
    rowsOf ws text start stop = ((linesOf text).filter (touches start stop)).map (mkRow ws start stop) :=
  collectRows_eq ws start stop _ 0 0

theorem trimEnd_spec (ws : Char → Bool) (l : List Char) :
    ∃ suf, l = trimEnd ws l ++ suf ∧ (∀ c ∈ suf, ws c = true) ∧
      (∀ c, (trimEnd ws l).getLast? = some c → ws c = false) := by
  fun_induction trimEnd ws l with
  | case1 => exact ⟨[], by simp⟩
  | case2 c cs ht hc ih =>
    obtain ⟨suf, h1, h2, -⟩ := ih
    rw [ht] at h1
    exact ⟨c :: suf, congrArg _ h1, List.forall_mem_cons.mpr ⟨hc, h2⟩, by simp⟩
  | case3 c cs ht hc ih =>
    obtain ⟨suf, h1, h2, -⟩ := ih
    rw [ht] at h1
    exact ⟨suf, congrArg _ h1, h2, by simpa using hc⟩
  | case4 c cs ht ih =>
    obtain ⟨suf, h1, h2, h3⟩ := ih
    refine ⟨suf, congrArg _ h1, h2, fun x hx => h3 x ?_⟩
    rwa [List.getLast?_cons_of_ne_nil ht] at hx

theorem findNonWs_some {ws : Char → Bool} {t : List Char} {pos f : Nat}
    (h : findNonWs ws t pos = some f) :
    ∃ a c b, t = a ++ c :: b ∧ pos + utf8Len a = f ∧ ws c = false ∧ ∀ x ∈ a, ws x = true := by
  fun_induction findNonWs ws t pos with
  | case1 => cases h
  | case2 c cs pos hc ih =>
    obtain ⟨a, d, b, h1, h2, h3, h4⟩ := ih h
    exact ⟨c :: a, d, b, congrArg _ h1, by simp only [utf8Len]; omega, h3,
      List.forall_mem_cons.mpr ⟨hc, h4⟩⟩
  | case3 c cs pos hc =>
    cases h
    exact ⟨[], c, cs, rfl, rfl, by simpa using hc, nofun⟩

theorem findNonWs_none {ws : Char → Bool} {t : List Char} {pos : Nat}
    (h : findNonWs ws t pos = none) : ∀ x ∈ t, ws x = true := by
  fun_induction findNonWs ws t pos with
  | case1 => nofun
  | case2 c cs pos hc ih => exact List.forall_mem_cons.mpr ⟨hc, ih h⟩
  | case3 => cases h

theorem renderRow_some {gw : Nat} {last : Bool} {r : Row} {x : List Char}
    (h : renderRow gw last r = some x) : ∃ pre mid post,
      r.line = pre ++ mid ++ post ∧ utf8Len pre = r.secStart ∧ utf8Len pre + utf8Len mid = r.secEnd ∧
      x = gutter gw r.num ++ r.line ++ '\n' :: markerRow gw last r pre mid := by
  unfold renderRow at h
  split at h
  · cases h
  · next pre mid post h3 =>
    obtain rfl := Option.some.inj h
    obtain ⟨e1, e2, e3⟩ := slices_some h3
    exact ⟨pre, mid, post, e1, e2, e3, by simp only [e1, List.append_assoc]⟩

theorem renderRows_spec (gw : Nat) (rows : List Row) (xs : List (List Char))
    (h : renderRows gw rows = some xs) :
    xs.length = rows.length ∧
    ∀ j r, rows[j]? = some r → ∃ x,
      xs[j]? = some x ∧ renderRow gw (decide (j + 1 = rows.length)) r = some x := by
  fun_induction renderRows gw rows generalizing xs with
  | case1 => cases h; exact ⟨rfl, nofun⟩
  | case2 r rs x xs' h2 h1 ih =>
    obtain rfl := Option.some.inj h
    obtain ⟨ihl, ihr⟩ := ih xs' h2
    refine ⟨congrArg (· + 1) ihl, fun j r' hj => ?_⟩
    cases j with
    | zero =>
      cases hj
      refine ⟨x, rfl, ?_⟩
      rw [← h1]
      cases rs <;> rfl
    | succ j =>
      simpa only [List.getElem?_cons_succ, List.length_cons, Nat.add_right_cancel_iff] using ihr j r' hj
  | case3 => cases h

theorem renderRows_isSome_iff (gw : Nat) (rows : List Row) :
    (renderRows gw rows).isSome ↔ ∀ r ∈ rows, (slices r.line r.secStart r.secEnd).isSome := by
  induction rows with
  | nil => simp [renderRows]
  | cons r rs ih =>
    simp only [renderRows, List.mem_cons, forall_eq_or_imp]
    rw [← ih]
    unfold renderRow
    cases h3 : slices r.line r.secStart r.secEnd with
    | none => simp
    | some p =>
      obtain ⟨pre, mid, post⟩ := p
      cases h2 : renderRows gw rs <;> simp

theorem le_foldl_max (f : Row → Nat) (rows : List Row) (acc : Nat) :
    acc ≤ rows.foldl (fun a r => max a (f r)) acc ∧
    ∀ r ∈ rows, f r ≤ rows.foldl (fun a r => max a (f r)) acc := by
  induction rows generalizing acc with
  | nil => simp
  | cons r rs ih =>
    simp only [List.foldl_cons]
    obtain ⟨h1, h2⟩ := ih (max acc (f r))
    exact ⟨by omega, List.forall_mem_cons.mpr ⟨by omega, h2⟩⟩

theorem le_gutterWidth (rows : List Row) : ∀ r ∈ rows, (decimal r.num).length ≤ gutterWidth rows :=
  (le_foldl_max (fun r => (decimal r.num).length) rows 0).2

theorem gutter_length (gw num : Nat) (h : (decimal num).length ≤ gw) :
    (gutter gw num).length = gw + 3 := by
  simp [gutter, spaces]; omega

theorem isBoundary_clip {pre t rest : List Char} {b : Nat}
    (hb : IsBoundary (pre ++ t ++ rest) b) (hle : utf8Len pre ≤ b) :
    IsBoundary t (min (b - utf8Len pre) (utf8Len t)) := by
  by_cases h : utf8Len t ≤ b - utf8Len pre
  · rw [Nat.min_eq_right h]; exact isBoundary_len t
  · rw [Nat.min_eq_left (by omega)]
    obtain ⟨a, c, hac, ha⟩ := hb
    rw [List.append_assoc] at hac
    obtain ⟨x, rfl, hx⟩ := prefix_of_le hac (by omega)
    rw [utf8Len_append] at ha
    obtain ⟨y, hy, -⟩ := prefix_of_le hx.symm (by omega)
    exact ⟨x, y, hy, by omega⟩

theorem linesOf_trimmed (ws : Char → Bool) {text e} (he : e ∈ linesOf text) :
    ∃ pre rest, text = pre ++ trimEnd ws e.2.2 ++ rest ∧ utf8Len pre = e.2.1 := by
  obtain ⟨pre, post, h1, h2, -⟩ := linesOf_spec text e he
  obtain ⟨suf, h3, -⟩ := trimEnd_spec ws e.2.2
  exact ⟨pre, suf ++ post, by rw [← List.append_assoc, List.append_assoc pre, ← h3]; exact h1, h2⟩

theorem clip_mono {a b p L : Nat} (h : a ≤ b) : min (a - p) L ≤ min (b - p) L :=
  Nat.le_min.mpr ⟨Nat.le_trans (Nat.min_le_left ..) (Nat.sub_le_sub_right h p), Nat.min_le_right ..⟩

/-- `hreach`: on a line that the range does not start in, the section runs from the first non-blank to where
the range ends, so if the range ended inside the leading blanks `line[s..e]` would have `s > e` and `listing`
in `error.rs` does panic.  `reach_of_token_end` gives `hreach` for a range that ends right after a non-blank. -/
theorem mkRow_sliceable (ws : Char → Bool) (text : List Char) (start stop : Nat)
    (hss : start ≤ stop) (hbs : IsBoundary text start) (hbe : IsBoundary text stop)
    (e : Nat × Nat × List Char) (he : e ∈ linesOf text) (ht : touches start stop e = true)
    (hreach : start ≤ e.2.1 → ∀ f, findNonWs ws (trimEnd ws e.2.2) 0 = some f → e.2.1 + f ≤ stop) :
    IsBoundary (mkRow ws start stop e).line (mkRow ws start stop e).secStart ∧
    IsBoundary (mkRow ws start stop e).line (mkRow ws start stop e).secEnd ∧
    (mkRow ws start stop e).secStart ≤ (mkRow ws start stop e).secEnd := by
  obtain ⟨pre, rest, rfl, h2⟩ := linesOf_trimmed ws he
  rw [← h2] at hreach
  simp only [touches, Bool.and_eq_true, decide_eq_true_eq, ← h2] at ht
  -- both ends are boundaries of the text at or after the first byte of the line: clip them
  have hE := isBoundary_clip hbe (Nat.le_of_lt ht.1)
  simp only [mkRow, section_, ← h2]
  split
  · next hgt => exact ⟨isBoundary_clip hbs (Nat.le_of_lt hgt), hE, clip_mono hss⟩
  · next hgt =>
    cases hf : findNonWs ws (trimEnd ws e.2.2) 0 with
    | none => exact ⟨hE, hE, Nat.le_refl _⟩
    | some f =>
      obtain ⟨a, c, b, e1, e2, -⟩ := findNonWs_some hf
      have hr := hreach (Nat.le_of_not_gt hgt) f hf
      have hlen : f ≤ utf8Len (trimEnd ws e.2.2) := by
        rw [e1, utf8Len_append]; omega
      exact ⟨⟨a, c :: b, e1, (Nat.zero_add _).symm.trans e2⟩, hE,
        Nat.le_min.mpr ⟨Nat.le_sub_of_add_le' hr, hlen⟩⟩

theorem utf8Len_take_le (l : List Char) (k : Nat) : utf8Len (l.take k) ≤ utf8Len l := by
  rw [utf8Len_eq_bytesOf, utf8Len_eq_bytesOf]; exact bytesOf_take_le l k

theorem utf8Len_take_lt (l : List Char) (k : Nat) (h : k < l.length) :
    utf8Len (l.take k) < utf8Len l := by
  rw [utf8Len_eq_bytesOf, utf8Len_eq_bytesOf]; exact bytesOf_take_lt l k h

def byteOfCol (line : List Char) (j : Nat) : Nat := utf8Len (line.take j)

theorem utf8Len_take_le_iff {l : List Char} {k : Nat} (hk : k ≤ l.length) (j : Nat) :
    utf8Len (l.take k) ≤ utf8Len (l.take j) ↔ k ≤ j := by
  constructor
  · intro h
    apply Nat.le_of_not_lt
    intro hj
    have := utf8Len_take_lt (l.take k) j (by rw [List.length_take]; omega)
    rw [List.take_take, Nat.min_eq_left (Nat.le_of_lt hj)] at this
    omega
  · intro h
    have := utf8Len_take_le (l.take j) k
    rwa [List.take_take, Nat.min_eq_left h] at this

theorem cols_iff (pre mid post : List Char) (j : Nat) :
    (pre.length ≤ j ∧ j < pre.length + mid.length) ↔
      (utf8Len pre ≤ byteOfCol (pre ++ mid ++ post) j ∧
        byteOfCol (pre ++ mid ++ post) j < utf8Len pre + utf8Len mid) := by
  have h1 := utf8Len_take_le_iff (l := pre ++ (mid ++ post)) (k := pre.length) (by simp) j
  have h2 := utf8Len_take_le_iff (l := pre ++ mid ++ post) (k := (pre ++ mid).length) (by simp) j
  rw [List.take_left' rfl, ← List.append_assoc] at h1
  rw [List.take_left' rfl, utf8Len_append, List.length_append] at h2
  unfold byteOfCol
  omega

theorem markerRow_mark (gw : Nat) (last : Bool) (r : Row) (pre mid : List Char)
    (hs : utf8Len pre = r.secStart) (he : utf8Len pre + utf8Len mid = r.secEnd) (col : Nat) :
    (markerRow gw last r pre mid)[gw + 3 + col]? = some '‾' ↔
      (pre.length ≤ col ∧ col < pre.length + mid.length) := by
  unfold markerRow
  by_cases h : r.secStart = r.secEnd
  · obtain rfl : mid = [] := utf8Len_eq_zero (by omega)
    simp only [h, if_true]
    rw [List.getElem?_eq_none (by simp [spaces]; omega)]
    simp
  · simp only [h, if_false]
    have e1 : gw + 3 + col = (spaces gw ++ [' ', if last = true then ' ' else '┊', ' ']).length + col := by
      simp [spaces]
    rw [List.append_assoc, e1, List.getElem?_append_right (Nat.le_add_right ..), Nat.add_sub_cancel_left]
    simp only [spaces, List.getElem?_append, List.getElem?_replicate, List.length_replicate]
    split
    · simp; omega
    · simp; omega

def shownLines (text : List Char) (start stop : Nat) : List (Nat × Nat × List Char) :=
  (linesOf text).filter (touches start stop)

theorem listing_panic_iff (ws : Char → Bool) (text : List Char) (start stop : Nat) :
    listing ws text start stop = .panic ↔
      ∃ r ∈ rowsOf ws text start stop,
        ¬ (IsBoundary r.line r.secStart ∧ IsBoundary r.line r.secEnd ∧ r.secStart ≤ r.secEnd) := by
  have h : listing ws text start stop = .panic ↔
      ¬ (renderRows (gutterWidth (rowsOf ws text start stop)) (rowsOf ws text start stop)).isSome := by
    unfold listing render
    split <;> simp [*]
  simp only [h, renderRows_isSome_iff, slices_isSome_iff, Classical.not_forall, exists_prop]

theorem listing_ok_spec (ws : Char → Bool) (text : List Char) (start stop : Nat) (out : List Char)
    (h : listing ws text start stop = .ok out) :
    ∃ xs, out = joinNl xs ∧ xs.length = (shownLines text start stop).length ∧
      ∀ (j : Nat) (e : Nat × Nat × List Char), (shownLines text start stop)[j]? = some e → ∃ m,
        xs[j]? = some (gutter (gutterWidth (rowsOf ws text start stop)) (e.1 + 1) ++
          trimEnd ws e.2.2 ++ '\n' :: m) ∧
        (gutter (gutterWidth (rowsOf ws text start stop)) (e.1 + 1)).length =
          gutterWidth (rowsOf ws text start stop) + 3 ∧
        ∀ col, m[gutterWidth (rowsOf ws text start stop) + 3 + col]? = some '‾' ↔
          ((section_ ws start stop e.2.1 (trimEnd ws e.2.2)).1 ≤ byteOfCol (trimEnd ws e.2.2) col ∧
            byteOfCol (trimEnd ws e.2.2) col < (section_ ws start stop e.2.1 (trimEnd ws e.2.2)).2) := by
  unfold listing render at h
  split at h
  · cases h
  · next xs hr =>
    cases h
    obtain ⟨h1, h2⟩ := renderRows_spec _ _ _ hr
    have hrows : rowsOf ws text start stop = (shownLines text start stop).map (mkRow ws start stop) :=
      rowsOf_eq ws text start stop
    have hlen : (rowsOf ws text start stop).length = (shownLines text start stop).length := by
      rw [hrows, List.length_map]
    refine ⟨xs, rfl, by omega, ?_⟩
    intro j e hj
    have hj' : (rowsOf ws text start stop)[j]? = some (mkRow ws start stop e) := by
      rw [hrows, List.getElem?_map, hj]; rfl
    obtain ⟨x, hx, hr'⟩ := h2 j _ hj'
    obtain ⟨pre, mid, post, e1, e2, e3, e4⟩ := renderRow_some hr'
    refine ⟨_, by rw [hx, e4]; rfl, gutter_length _ _ (le_gutterWidth _ _ (List.mem_of_getElem? hj')), ?_⟩
    intro col
    rw [markerRow_mark _ _ _ pre mid e2 e3 col]
    dsimp only [mkRow] at e1 e2 e3
    rw [← e2, ← e3, e1]
    exact cols_iff pre mid post col

theorem mem_of_ends_within {pre x r a b : List Char} {c : Char} (h : pre ++ (x ++ r) = a ++ c :: b)
    (h1 : utf8Len pre < utf8Len a + c.utf8Size)
    (h2 : utf8Len a + c.utf8Size ≤ utf8Len pre + utf8Len x) : c ∈ x := by
  have hac : utf8Len (a ++ [c]) = utf8Len a + c.utf8Size := utf8Len_append a [c]
  have hA : pre ++ (x ++ r) = (a ++ [c]) ++ b := by rw [h, List.append_assoc]; rfl
  obtain ⟨z, hz1, hz2⟩ := prefix_of_le hA (by omega)
  have hzl : utf8Len pre + utf8Len z = utf8Len a + c.utf8Size := by
    rw [← utf8Len_append, ← hz1, hac]
  obtain ⟨w, rfl, -⟩ := prefix_of_le hz2.symm (by omega)
  rcases List.eq_nil_or_concat z with rfl | ⟨z', l, rfl⟩
  · simp only [utf8Len] at hzl; omega
  · rw [List.concat_eq_append, ← List.append_assoc] at hz1
    obtain rfl : c = l := List.singleton_inj.mp (List.append_inj_right' hz1 rfl)
    simp

theorem reach_of_token_end (ws : Char → Bool) (text : List Char) (stop : Nat)
    (a b : List Char) (c : Char) (htext : text = a ++ c :: b) (hstop : utf8Len a + c.utf8Size = stop)
    (hc : ws c = false)
    (e : Nat × Nat × List Char) (he : e ∈ linesOf text) (hlt : e.2.1 < stop)
    (f : Nat) (hf : findNonWs ws (trimEnd ws e.2.2) 0 = some f) : e.2.1 + f ≤ stop := by
  obtain ⟨pre, rest, h1, h2⟩ := linesOf_trimmed ws he
  obtain ⟨x, d, y, e1, e2, -, hx⟩ := findNonWs_some hf
  apply Classical.byContradiction
  intro hn
  -- otherwise `c` is one of the blanks `x` in front of the first non-blank
  have hA : pre ++ (x ++ (d :: y ++ rest)) = a ++ c :: b := by
    rw [← htext, h1, e1]
    simp only [List.append_assoc, List.cons_append]
  have := hx c (mem_of_ends_within hA (by omega) (by omega))
  rw [hc] at this
  cases this

end Listing
