import GramModel.Lemmas.RewriteParens
import GramModel.Lemmas.ParserNoPanicDefs

/-! # The re-association passes by themselves

The applications pass turns a right-nested chain of opaque operands into the left-nested application
(`reassoc_chainS`); on a fully parenthesised tree (`OK23`) the two operator passes change nothing but
layout (`pass23`).  `Res1`/`Res2` name what the applications pass is shown to do on a tree.
Declares into namespace `PModel`. -/

namespace PModel
open RewriteMore

/-- a node without range, flag and errors (what `strip` builds) -/
def mk00 (v : SrcV) : Src := .mk ⟨0, 0⟩ false v []

/-- the left-nested application of `h` to `l` -/
def leftN : Src → List Src → Src
  | h, [] => h
  | h, x :: l => leftN (mk00 (.app h x)) l

/-- `s` is the right-nested chain (as the packrat functions build it: inner nodes not flagged
`group`, any ranges) of the operands `l` -/
inductive IsChain : Src → List Src → Prop
  | one (x : Src) : IsChain x [x]
  | cons (r : SourceRange) (es : List PErr) (x rest y : Src) (l : List Src) :
      IsChain rest (y :: l) → IsChain (.mk r false (.app x rest) es) (x :: y :: l)

/-- the stripped result of the applications pass on a chain (`none, []` does not occur: a chain has an operand) -/
def chainRes : Option Src → List Src → Src
  | none, [] => mk00 .parseError
  | none, x :: l => leftN x l
  | some a, l => leftN a l

/-- the operands `l` are opaque to the applications pass, which turns them into `l'` -/
inductive Ops : List Src → List Src → Prop
  | nil : Ops [] []
  | cons {x x' : Src} {l l' : List Src} :
      (Opaque .applications x ∧ reassoc .applications none x = some x') → Ops l l' →
      Ops (x :: l) (x' :: l')

/-- `res` is the left-nested application of `h` to `l` (any ranges and flags on the new nodes) -/
inductive LApp : Src → List Src → Src → Prop
  | nil (h : Src) : LApp h [] h
  | cons {h x : Src} {l : List Src} {res : Src} (r : SourceRange) (g : Bool) :
      LApp (.mk r g (.app h x) []) l res → LApp h (x :: l) res

/-- `LApp` from the accumulator if there is one, else from the first operand -/
def LRes : Option Src → List Src → Src → Prop
  | none, [], _ => False
  | none, x :: l, s1 => LApp x l s1
  | some a, l, s1 => LApp a l s1

theorem LApp.strip {h : Src} {l : List Src} {res : Src} (hl : LApp h l res) :
    RewriteMore.strip res = leftN (RewriteMore.strip h) (l.map RewriteMore.strip) := by
  induction hl with
  | nil h => rfl
  | cons r g _ ih => rw [ih]; rfl

theorem LRes.strip {o : Option Src} {l : List Src} {res : Src} (h : LRes o l res) :
    RewriteMore.strip res = chainRes (o.map RewriteMore.strip) (l.map RewriteMore.strip) := by
  cases o with
  | some a => exact LApp.strip h
  | none =>
    cases l with
    | nil => exact h.elim
    | cons x l => exact LApp.strip h

theorem reassoc_chainS {s : Src} {l : List Src} (hc : IsChain s l) :
    ∀ (l' : List Src), Ops l l' →
      ∀ acc : Option (Src × Link), (acc = none ∨ ∃ ac, acc = some (ac, Link.app)) →
        ∃ s1, reassoc .applications acc s = some s1 ∧ LRes (acc.map (·.1)) l' s1 := by
  induction hc with
  | one x =>
    intro l' hl acc hacc
    cases hl with
    | cons hx hnil =>
      cases hnil
      obtain ⟨hop, hx'⟩ := hx
      rw [hop acc, hx']
      rcases hacc with rfl | ⟨ac, rfl⟩
      · exact ⟨_, rfl, .nil _⟩
      · exact ⟨_, rfl, .cons _ _ (.nil _)⟩
  | cons r es x rest y l0 hrest ih =>
    intro l' hl acc hacc
    cases hl with
    | cons hx hl1 =>
      rename_i x' l1'
      obtain ⟨hop, hx'⟩ := hx
      rw [reassoc]
      simp only [if_true, Bool.and_false, Bool.false_eq_true, if_false]
      by_cases hg : rest.group = true
      · have hlast : rest = y ∧ l0 = [] := by
          cases hrest with
          | one _ => exact ⟨rfl, rfl⟩
          | cons _ _ _ _ _ _ _ => simp [Src.group] at hg
        obtain ⟨rfl, rfl⟩ := hlast
        cases hl1 with
        | cons hy hnil =>
          cases hnil
          obtain ⟨_, hy'⟩ := hy
          simp only [hg, if_true]
          rcases hacc with rfl | ⟨ac, rfl⟩
          · simp only [hx', hy']
            exact ⟨_, rfl, .cons _ _ (.nil _)⟩
          · simp only [hop (some (ac, Link.app)), hx', hy', Option.map_some]
            exact ⟨_, rfl, .cons _ _ (.cons _ _ (.nil _))⟩
      · simp only [hg, hx']
        rcases hacc with rfl | ⟨ac, rfl⟩
        · obtain ⟨s1, h1, h2⟩ := ih l1' hl1 (some (x', Link.app)) (Or.inr ⟨_, rfl⟩)
          exact ⟨s1, h1, h2⟩
        · obtain ⟨s1, h1, h2⟩ := ih l1' hl1
            (some (Src.mk (span ac.range x.range) true (Link.app.build ac x') [], Link.app))
            (Or.inr ⟨_, rfl⟩)
          exact ⟨s1, h1, .cons _ _ h2⟩

/-- `reassoc_chainS` up to `strip` -/
theorem reassoc_chain {s : Src} {l : List Src} (hc : IsChain s l) (l' : List Src) (hl : Ops l l')
    (acc : Option (Src × Link)) (hacc : acc = none ∨ ∃ ac, acc = some (ac, Link.app)) :
    (reassoc .applications acc s).map strip =
      some (chainRes (acc.map (fun p => strip p.1)) (l'.map strip)) := by
  obtain ⟨s1, h1, h2⟩ := reassoc_chainS hc l' hl acc hacc
  rw [h1, Option.map_some, h2.strip, Option.map_map]
  rfl

theorem leftN_snoc : ∀ (l : List Src) (h x : Src), leftN h (l ++ [x]) = mk00 (.app (leftN h l) x)
  | [], h, x => rfl
  | y :: l, h, x => by simp only [List.cons_append, leftN]; exact leftN_snoc l _ x

theorem IsChain.noPE {s : Src} {l : List Src} (hc : IsChain s l) : NoPE s → ∀ x ∈ l, NoPE x := by
  induction hc with
  | one x => intro h y hy; simp only [List.mem_cons, List.mem_nil_iff, or_false] at hy; subst hy; exact h
  | cons r es x rest y l0 _ ih =>
    intro h z hz
    unfold NoPE at h
    rcases List.mem_cons.mp hz with rfl | hz
    · exact h.1
    · exact ih h.2 z hz

/-- the applications pass succeeds on `x` and returns `E` up to ranges, flags, errors -/
def Res1 (x E : Src) : Prop := ∃ x1, reassoc .applications none x = some x1 ∧ strip x1 = E

theorem strip_eq_of_variant {a b : Src} (h : a.variant = b.variant) : strip a = strip b := by
  obtain ⟨_, _, va, _⟩ := a
  obtain ⟨_, _, vb, _⟩ := b
  simp only [Src.variant] at h
  subst h; rfl

def isBinV : SrcV → Bool
  | .bin _ _ _ => true
  | _ => false

/-- an operand the chain passes do not look into -/
def At23 (x : Src) : Prop := x.group = true ∨ isBinV x.variant = false

mutual
/-- no `ParseError` node, both operands of every binary-operator node `At23`: what the printer's `group` guarantees -/
def OK23 : Src → Prop
  | .mk _ _ v _ => OK23V v
def OK23V : SrcV → Prop
  | .parseError => False
  | .type | .var _ | .int | .lit _ | .bool | .tt | .ff => True
  | .lam _ _ dom body => OK23O dom ∧ OK23 body
  | .pi _ _ dom cod => OK23 dom ∧ OK23 cod
  | .app f a => OK23 f ∧ OK23 a
  | .let_ _ ann d b => OK23O ann ∧ OK23 d ∧ OK23 b
  | .neg a => OK23 a
  | .bin _ a b => (At23 a ∧ At23 b) ∧ OK23 a ∧ OK23 b
  | .ite c a b => OK23 c ∧ OK23 a ∧ OK23 b
def OK23O : OptSrc → Prop
  | .none => True
  | .some t => OK23 t
end

theorem isBinV_strip (x : Src) : isBinV (strip x).variant = isBinV x.variant := by
  obtain ⟨r, g, v, es⟩ := x
  cases v <;> rfl

theorem At23.pres {a a' : Src} (h : At23 a) (hs : strip a' = strip a)
    (hg : a.group = true → a'.group = true) : At23 a' := by
  rcases h with h | h
  · exact Or.inl (hg h)
  · right
    rw [← isBinV_strip, hs, isBinV_strip]; exact h

theorem inFam_nonbin {fam : Family} (hf : fam ≠ .applications) {v : SrcV} (h : isBinV v = false) :
    inFam fam v = false := by
  cases v <;> simp_all [inFam, isBinV]

mutual
theorem pass23 (fam : Family) (hf : fam ≠ .applications) : ∀ s : Src, OK23 s →
    ∃ s', reassoc fam none s = some s' ∧ strip s' = strip s ∧ OK23 s' ∧
      (s.group = true → s'.group = true)
  | .mk r g v es, hok => by
    cases v with
    | parseError => rw [OK23, OK23V] at hok; exact hok.elim
    | type | var _ | int | lit _ | bool | tt | ff =>
      exact ⟨_, by rw [reassoc]; rfl, rfl, by rw [OK23, OK23V]; trivial, fun h => h⟩
    | lam x imp dom body =>
      rw [OK23, OK23V] at hok
      obtain ⟨d', hd, sd, okd⟩ := pass23O fam hf dom hok.1
      obtain ⟨b', hb, sb, okb, _⟩ := pass23 fam hf body hok.2
      refine ⟨.mk r g (.lam x imp d' b') [], reassoc_lam_some.2 ⟨_, _, hd, hb, rfl⟩,
        by simp [strip, stripV, sd, sb], by rw [OK23, OK23V]; exact ⟨okd, okb⟩, fun h => h⟩
    | pi x imp dom cod =>
      rw [OK23, OK23V] at hok
      obtain ⟨d', hd, sd, okd, _⟩ := pass23 fam hf dom hok.1
      obtain ⟨b', hb, sb, okb, _⟩ := pass23 fam hf cod hok.2
      refine ⟨.mk r g (.pi x imp d' b') [], reassoc_pi_some.2 ⟨_, _, hd, hb, rfl⟩,
        by simp [strip, stripV, sd, sb], by rw [OK23, OK23V]; exact ⟨okd, okb⟩, fun h => h⟩
    | app f a =>
      rw [OK23, OK23V] at hok
      obtain ⟨f', hf', sf, okf, _⟩ := pass23 fam hf f hok.1
      obtain ⟨a', ha, sa, oka, _⟩ := pass23 fam hf a hok.2
      refine ⟨.mk r g (.app f' a') [], by rw [reassoc_app, if_neg hf]; exact rebuildStep_some.2 ⟨_, _, hf', ha, rfl⟩,
        by simp [strip, stripV, sf, sa], by rw [OK23, OK23V]; exact ⟨okf, oka⟩, fun h => h⟩
    | let_ x ann d b =>
      rw [OK23, OK23V] at hok
      obtain ⟨n', hn, sn, okn⟩ := pass23O fam hf ann hok.1
      obtain ⟨d', hd, sd, okd, _⟩ := pass23 fam hf d hok.2.1
      obtain ⟨b', hb, sb, okb, _⟩ := pass23 fam hf b hok.2.2
      refine ⟨.mk r g (.let_ x n' d' b') [], reassoc_let_some.2 ⟨_, _, _, hn, hd, hb, rfl⟩,
        by simp [strip, stripV, sn, sd, sb], by rw [OK23, OK23V]; exact ⟨okn, okd, okb⟩, fun h => h⟩
    | neg a =>
      rw [OK23, OK23V] at hok
      obtain ⟨a', ha, sa, oka, _⟩ := pass23 fam hf a hok
      refine ⟨.mk r g (.neg a') [], reassoc_neg_some.2 ⟨_, ha, rfl⟩,
        by simp [strip, stripV, sa], by rw [OK23, OK23V]; exact oka, fun h => h⟩
    | ite c a b =>
      rw [OK23, OK23V] at hok
      obtain ⟨c', hc, sc, okc, _⟩ := pass23 fam hf c hok.1
      obtain ⟨a', ha, sa, oka, _⟩ := pass23 fam hf a hok.2.1
      obtain ⟨b', hb, sb, okb, _⟩ := pass23 fam hf b hok.2.2
      refine ⟨.mk r g (.ite c' a' b') [], reassoc_ite_some.2 ⟨_, _, _, hc, ha, hb, rfl⟩,
        by simp [strip, stripV, sc, sa, sb], by rw [OK23, OK23V]; exact ⟨okc, oka, okb⟩, fun h => h⟩
    | bin o a b =>
      rw [OK23, OK23V] at hok
      obtain ⟨⟨ata, atb⟩, oka0, okb0⟩ := hok
      obtain ⟨a', ha, sa, oka, ga⟩ := pass23 fam hf a oka0
      obtain ⟨b', hb, sb, okb, gb⟩ := pass23 fam hf b okb0
      have ata' := ata.pres sa ga
      have atb' := atb.pres sb gb
      by_cases ho : (fam = .productsAndQuotients ∧ (o = .prod ∨ o = .quot))
          ∨ (fam = .sumsAndDifferences ∧ (o = .sum ∨ o = .diff))
      · -- a chain node of the family
        by_cases hg : b.group = true
        · -- right operand parenthesised: both operands are re-associated on their own, the node is kept
          refine ⟨.mk r g (.bin o a' b') [], ?_, by simp [strip, stripV, sa, sb],
            by rw [OK23, OK23V]; exact ⟨⟨ata', atb'⟩, oka, okb⟩, fun h => h⟩
          rw [reassoc]
          simp only [ho, if_true, Option.isSome, Bool.false_and, Bool.false_eq_true, if_false, hg,
            ha, hb]
        · -- right operand not parenthesised: by `At23` it is no binary-operator node, so it is opaque and the pass
          -- hangs it on the accumulator `a'`
          have hop : Opaque fam b := by
            obtain ⟨rb, gb', vb, esb⟩ := b
            refine opaque_of fam rb gb' vb esb (Or.inr (inFam_nonbin hf ?_))
            rcases atb with h | h
            · exact absurd h hg
            · exact h
          refine ⟨reassocTail (some (a', Link.op o)) b', ?_,
            by simp [reassocTail, Link.build, strip, stripV, sa, sb],
            by simp only [reassocTail, Link.build]; rw [OK23, OK23V]; exact ⟨⟨ata', atb'⟩, oka, okb⟩,
            fun _ => rfl⟩
          rw [reassoc]
          simp only [ho, if_true, Option.isSome, Bool.false_and, Bool.false_eq_true, if_false, hg,
            ha, hop (some (a', Link.op o)), hb, Option.map_some]
      · -- not a chain node of the family: rebuilt from its re-associated operands
        refine ⟨.mk r g (.bin o a' b') [], by rw [reassoc_bin, if_neg ho]; exact rebuildStep_some.2 ⟨_, _, ha, hb, rfl⟩,
          by simp [strip, stripV, sa, sb],
          by rw [OK23, OK23V]; exact ⟨⟨ata', atb'⟩, oka, okb⟩, fun h => h⟩
theorem pass23O (fam : Family) (hf : fam ≠ .applications) : ∀ o : OptSrc, OK23O o →
    ∃ o', reassocOpt fam o = some o' ∧ stripO o' = stripO o ∧ OK23O o'
  | .none, _ => ⟨.none, by rw [reassocOpt], rfl, by rw [OK23O]; trivial⟩
  | .some t, h => by
    rw [OK23O] at h
    obtain ⟨t', ht, st, okt, _⟩ := pass23 fam hf t h
    exact ⟨.some t', by rw [reassocOpt]; simp only [ht], by simp [stripO, st], by rw [OK23O]; exact okt⟩
end

theorem LApp.ok23 {h : Src} {l : List Src} {res : Src} (hl : LApp h l res) :
    OK23 h → (∀ x ∈ l, OK23 x) → OK23 res := by
  induction hl with
  | nil h => exact fun hh _ => hh
  | cons r g _ ih =>
    intro hh hx
    refine ih ?_ (fun y hy => hx y (by simp [hy]))
    rw [OK23, OK23V]
    exact ⟨hh, hx _ (by simp)⟩

/-- `Res1` (both are about the first pass, the applications pass) with what the two operator passes need afterwards: the
result is `OK23`; the root is a binary-operator node before iff after (so that `At23` of an operand can be carried over),
and such a root keeps its `group` flag -/
def Res2 (x E : Src) : Prop :=
  ∃ x1, reassoc .applications none x = some x1 ∧ strip x1 = E ∧ OK23 x1 ∧
    isBinV x.variant = isBinV E.variant ∧ (isBinV x.variant = true → x1.group = x.group)

theorem OK23_of_variant {a b : Src} (h : a.variant = b.variant) : OK23 a ↔ OK23 b := by
  obtain ⟨_, _, va, _⟩ := a
  obtain ⟨_, _, vb, _⟩ := b
  simp only [Src.variant] at h
  subst h
  rw [OK23, OK23]

theorem reassoc_apps_bin_group {r : SourceRange} {g : Bool} {o : BinOp} {a b : Src} {es : List PErr}
    {s' : Src} (h : reassoc .applications none (.mk r g (.bin o a b) es) = some s') :
    s'.group = g := by
  rw [reassoc] at h
  simp only [reduceCtorEq, false_and, or_self, if_false] at h
  cases ha : reassoc .applications none a <;> cases hb : reassoc .applications none b <;>
    simp [ha, hb, reassocTail] at h
  subst h; rfl

/-- `Res2` does not look at the range, the `group` flag and the error list of the root -/
theorem Res2.flag {r r' : SourceRange} {g g' : Bool} {v : SrcV} {es es' : List PErr} {E : Src}
    (h : Res2 (.mk r g v es) E) : Res2 (.mk r' g' v es') E := by
  obtain ⟨s1, h1, hs, hok, hK, _⟩ := h
  have := reassoc_top .applications (t := .mk r g v es) (t' := .mk r' g' v es') rfl
  rw [h1] at this
  cases h' : reassoc .applications none (.mk r' g' v es') with
  | none => rw [h'] at this; cases this
  | some x1 =>
    rw [h'] at this
    simp only [Option.map_some, Option.some.injEq] at this
    refine ⟨x1, h', by rw [strip_eq_of_variant this, hs], (OK23_of_variant this).mpr hok, hK, ?_⟩
    intro hb
    cases v <;> simp [isBinV, Src.variant] at hb
    exact reassoc_apps_bin_group h'

theorem Res2.at23 {x E : Src} (h : Res2 x E) (hx : x.group = true ∨ isBinV E.variant = false) :
    ∀ x1, reassoc .applications none x = some x1 → At23 x1 := by
  obtain ⟨x1, h1, hs, _, hK, hG⟩ := h
  intro x1' h1'
  rw [h1] at h1'
  cases h1'
  have hk : isBinV x1.variant = isBinV E.variant := by rw [← hs, isBinV_strip]
  rcases hx with hx | hx
  · by_cases hb : isBinV x1.variant = true
    · left
      rw [hG (by rw [hK, ← hk]; exact hb)]; exact hx
    · right; simpa using hb
  · right; rw [hk]; exact hx

/-- operand by operand: opaque to the applications pass, and `Res2` with the corresponding element of the second list -/
inductive AtomsRes2 : List Src → List Src → Prop
  | nil : AtomsRes2 [] []
  | cons {x e : Src} {l E : List Src} : Opaque .applications x → Res2 x e → AtomsRes2 l E →
      AtomsRes2 (x :: l) (e :: E)

theorem AtomsRes2.append {l1 l2 E1 E2 : List Src} (h1 : AtomsRes2 l1 E1) (h2 : AtomsRes2 l2 E2) :
    AtomsRes2 (l1 ++ l2) (E1 ++ E2) := by
  induction h1 with
  | nil => exact h2
  | cons ho hr _ ih => exact .cons ho hr ih

theorem AtomsRes2.ops {l E : List Src} (h : AtomsRes2 l E) :
    ∃ l', Ops l l' ∧ l'.map strip = E ∧ ∀ x' ∈ l', OK23 x' := by
  induction h with
  | nil => exact ⟨[], .nil, rfl, fun _ h => by cases h⟩
  | cons ho hr _ ih =>
    obtain ⟨l', h1, h2, h3⟩ := ih
    obtain ⟨x1, hx, hs, hok, _⟩ := hr
    refine ⟨x1 :: l', .cons ⟨ho, hx⟩ h1, by simp [hs, h2], ?_⟩
    intro y hy
    rcases List.mem_cons.mp hy with rfl | hy
    · exact hok
    · exact h3 y hy

theorem Res2.res1 {x E : Src} (h : Res2 x E) : Res1 x E :=
  let ⟨x1, h1, h2, _⟩ := h
  ⟨x1, h1, h2⟩

end PModel
