import GramModel.Lemmas.UnifySound

/-!
# The occurs check keeps the hole store acyclic (C12)

`Edge σ i j`: cell `i` is solved and its solution mentions `j`.  `Terminating σ` (no infinite chain of solved cells:
what `zonk` needs, `zonk_terminates`; the same as `Acyclic σ`, `acyclic_iff_terminating`, and decided by `acyclicB`) is
kept by every run of `unifyS`, because the store only evolves by fresh empty cells and by guarded assignments
`id := sol` (`Guarded`: `id` empty, every cell mentioned by `sol` empty and different from `id`) — which is what
lowering (`sshiftS_holes`) and the occurs check (`occursS_spec`) give at `solveS`.  `solveS_scoped`, the scoping clause
of C12 at store level, stands here because it reads the same run of `solveS` (`solveS_cases`).
-/

namespace UnifyAcyclic

open StoreMono

mutual
def holesOf : Tm → List Nat
  | .hole id _ => [id]
  | .lam _ _ d b => holesOf d ++ holesOf b
  | .pi _ _ d b => holesOf d ++ holesOf b
  | .app g a => holesOf g ++ holesOf a
  | .letg ds b => holesOfDefs ds ++ holesOf b
  | .neg a => holesOf a
  | .bin _ a b => holesOf a ++ holesOf b
  | .ite c a b => holesOf c ++ (holesOf a ++ holesOf b)
  | _ => []
def holesOfDefs : Defs → List Nat
  | .nil => []
  | .cons _ a d r => holesOf a ++ (holesOf d ++ holesOfDefs r)
end

def Edge (σ : List (Option Tm)) (i j : Nat) : Prop := ∃ t, σ[i]? = some (some t) ∧ j ∈ holesOf t

inductive Reaches (σ : List (Option Tm)) : Nat → Nat → Prop
  | edge {i j} : Edge σ i j → Reaches σ i j
  | cons {i k j} : Edge σ i k → Reaches σ k j → Reaches σ i j

def ReachL (σ : List (Option Tm)) (l : List Nat) (j : Nat) : Prop := j ∈ l ∨ ∃ k ∈ l, Reaches σ k j

def ReachT (σ : List (Option Tm)) (t : Tm) (j : Nat) : Prop := ReachL σ (holesOf t) j
def ReachD (σ : List (Option Tm)) (ds : Defs) (j : Nat) : Prop := ReachL σ (holesOfDefs ds) j

def Acyclic (σ : List (Option Tm)) : Prop := ∀ i, ¬ Reaches σ i i

/-- no infinite chain `i₀ → i₁ → …` of solved cells each mentioning the next -/
def Terminating (σ : List (Option Tm)) : Prop := ∀ i, Acc (fun j i => Edge σ i j) i

variable {σ : List (Option Tm)}

theorem Reaches.snoc {i k j} (h : Reaches σ i k) (e : Edge σ k j) : Reaches σ i j := by
  induction h with
  | edge e1 => exact .cons e1 (.edge e)
  | cons e1 _ ih => exact .cons e1 (ih e)

theorem Reaches.trans {i k j} (h : Reaches σ i k) (h2 : Reaches σ k j) : Reaches σ i j := by
  induction h with
  | edge e1 => exact .cons e1 h2
  | cons e1 _ ih => exact .cons e1 (ih h2)

theorem Reaches.solved {i j} (h : Reaches σ i j) : ∃ t, σ[i]? = some (some t) := by
  cases h with
  | edge e => exact ⟨_, e.choose_spec.1⟩
  | cons e _ => exact ⟨_, e.choose_spec.1⟩

theorem empty_no_edge {i j} (he : Empty σ i) : ¬ Edge σ i j := fun ⟨t, h, _⟩ => he t h
theorem empty_no_reach {i j} (he : Empty σ i) : ¬ Reaches σ i j := fun h =>
  let ⟨t, ht⟩ := h.solved; he t ht

theorem ReachL_nil {j} : ReachL σ [] j ↔ False := by simp [ReachL]
theorem ReachL_single {k j} : ReachL σ [k] j ↔ j = k ∨ Reaches σ k j := by simp [ReachL]
theorem ReachL_append {a b : List Nat} {j} : ReachL σ (a ++ b) j ↔ ReachL σ a j ∨ ReachL σ b j := by
  simp only [ReachL, List.mem_append]
  constructor
  · rintro ((h | h) | ⟨k, hk | hk, hr⟩)
    · exact .inl (.inl h)
    · exact .inr (.inl h)
    · exact .inl (.inr ⟨k, hk, hr⟩)
    · exact .inr (.inr ⟨k, hk, hr⟩)
  · rintro ((h | ⟨k, hk, hr⟩) | (h | ⟨k, hk, hr⟩))
    · exact .inl (.inl h)
    · exact .inr ⟨k, .inl hk, hr⟩
    · exact .inl (.inr h)
    · exact .inr ⟨k, .inr hk, hr⟩

theorem ReachL_mono {a b : List Nat} {j} (h : ∀ k ∈ a, k ∈ b) (hr : ReachL σ a j) : ReachL σ b j := by
  rcases hr with hr | ⟨k, hk, hr⟩
  · exact .inl (h _ hr)
  · exact .inr ⟨k, h _ hk, hr⟩

theorem ReachL_empty {l : List Nat} {j} (he : ∀ k ∈ l, Empty σ k) : ReachL σ l j ↔ j ∈ l := by
  constructor
  · rintro (h | ⟨k, hk, hr⟩)
    · exact h
    · exact absurd hr (empty_no_reach (he k hk))
  · exact .inl

theorem Reaches_iff {k j} : Reaches σ k j ↔ ∃ sub, σ[k]? = some (some sub) ∧ ReachT σ sub j := by
  constructor
  · intro h
    cases h with
    | edge e => obtain ⟨t, h1, h2⟩ := e; exact ⟨t, h1, .inl h2⟩
    | cons e r => obtain ⟨t, h1, h2⟩ := e; exact ⟨t, h1, .inr ⟨_, h2, r⟩⟩
  · rintro ⟨sub, h1, h2 | ⟨m, hm, hr⟩⟩
    · exact .edge ⟨sub, h1, h2⟩
    · exact .cons ⟨sub, h1, hm⟩ hr

theorem ReachT_hole_solved {k s j sub} (h : σ[k]? = some (some sub)) (he : Empty σ j) :
    ReachT σ (.hole k s) j ↔ ReachT σ sub j := by
  unfold ReachT
  rw [holesOf, ReachL_single, Reaches_iff]
  constructor
  · rintro (rfl | ⟨sub', h', hr⟩)
    · exact absurd h (he sub)
    · rw [h] at h'; cases h'; exact hr
  · intro hr; exact .inr ⟨sub, h, hr⟩

theorem Acc.not_reaches {i} (h : Acc (fun j i => Edge σ i j) i) : ¬ Reaches σ i i := by
  induction h with
  | intro i _ ih =>
    intro hr
    cases hr with
    | edge e => exact ih _ e (.edge e)
    | cons e r => exact ih _ e (r.snoc e)

theorem Terminating.acyclic (h : Terminating σ) : Acyclic σ := fun i => Acc.not_reaches (h i)

inductive Guarded : List (Option Tm) → List (Option Tm) → Prop
  | refl (a) : Guarded a a
  | fresh {a b} : Guarded a b → Guarded a (b ++ [none])
  | assign {a b id sol} : Guarded a b → Empty b id →
      (∀ j ∈ holesOf sol, Empty b j ∧ j ≠ id) → Guarded a (b.set id (some sol))

theorem Guarded.trans {a b c} (h1 : Guarded a b) (h2 : Guarded b c) : Guarded a c := by
  induction h2 with
  | refl => exact h1
  | fresh _ ih => exact .fresh ih
  | assign _ he hs ih => exact .assign ih he hs

theorem Guarded.replicate (σ : List (Option Tm)) : ∀ k, Guarded σ (σ ++ List.replicate k none)
  | 0 => by simpa using Guarded.refl σ
  | k+1 => by
    rw [List.replicate_succ', ← List.append_assoc]
    exact .fresh (Guarded.replicate σ k)

theorem edge_fresh {i j} (e : Edge (σ ++ [none]) i j) : Edge σ i j := by
  obtain ⟨t, h, hj⟩ := e
  refine ⟨t, ?_, hj⟩
  rcases Nat.lt_or_ge i σ.length with hl | hl
  · rwa [List.getElem?_append_left hl] at h
  · rw [List.getElem?_append_right hl] at h
    rcases hi : i - σ.length with _ | n
    · rw [hi] at h; simp at h
    · rw [hi] at h; simp at h

theorem edge_set {id sol i j} (h : Edge (σ.set id (some sol)) i j) :
    (i = id ∧ j ∈ holesOf sol) ∨ (i ≠ id ∧ Edge σ i j) := by
  obtain ⟨t, h, hj⟩ := h
  rw [List.getElem?_set] at h
  split at h
  · next e =>
    subst e
    split at h
    · cases h; exact .inl ⟨rfl, hj⟩
    · cases h
  · next e => exact .inr ⟨fun e' => e e'.symm, t, h, hj⟩

theorem empty_set {id sol j} (he : Empty σ j) (hne : j ≠ id) : Empty (σ.set id (some sol)) j := by
  intro t h
  rw [List.getElem?_set, if_neg (fun e => hne e.symm)] at h
  exact he t h

theorem reaches_fresh {i j} (h : Reaches (σ ++ [none]) i j) : Reaches σ i j := by
  induction h with
  | edge e => exact .edge (edge_fresh e)
  | cons e _ ih => exact .cons (edge_fresh e) ih

theorem reaches_set {id sol i k} (hs : ∀ j ∈ holesOf sol, Empty σ j ∧ j ≠ id)
    (h : Reaches (σ.set id (some sol)) i k) :
    Reaches σ i k ∨ ((i = id ∨ Reaches σ i id) ∧ k ∈ holesOf sol) := by
  induction h with
  | edge e =>
    rcases edge_set e with ⟨rfl, hj⟩ | ⟨_, e'⟩
    · exact .inr ⟨.inl rfl, hj⟩
    · exact .inl (.edge e')
  | @cons i m k e r ih =>
    rcases edge_set e with ⟨rfl, hm⟩ | ⟨hne, e'⟩
    · -- `m` is empty and stays so: nothing is reached from it
      exact absurd r (empty_no_reach (empty_set (hs m hm).1 (hs m hm).2))
    · rcases ih with ih | ⟨rfl | ih, hk⟩
      · exact .inl (.cons e' ih)
      · exact .inr ⟨.inr (.edge e'), hk⟩
      · exact .inr ⟨.inr (.cons e' ih), hk⟩

theorem Acyclic.fresh (h : Acyclic σ) : Acyclic (σ ++ [none]) := fun i hr => h i (reaches_fresh hr)

theorem Acyclic.assign {id sol} (h : Acyclic σ) (hs : ∀ j ∈ holesOf sol, Empty σ j ∧ j ≠ id) :
    Acyclic (σ.set id (some sol)) := by
  intro i hr
  rcases reaches_set hs hr with hr | ⟨rfl | hr, hi⟩
  · exact h i hr
  · exact (hs i hi).2 rfl
  · exact empty_no_reach (hs i hi).1 hr

theorem Guarded.acyclic {σ σ'} (h : Guarded σ σ') (ha : Acyclic σ) : Acyclic σ' := by
  induction h with
  | refl => exact ha
  | fresh _ ih => exact ih.fresh
  | assign _ _ hs ih => exact ih.assign hs

theorem Terminating.fresh (h : Terminating σ) : Terminating (σ ++ [none]) := by
  intro i
  induction h i with
  | intro i _ ih => exact ⟨i, fun j e => ih j (edge_fresh e)⟩

theorem Terminating.assign {id sol} (h : Terminating σ) (hs : ∀ j ∈ holesOf sol, Empty σ j ∧ j ≠ id) :
    Terminating (σ.set id (some sol)) := by
  have hE : ∀ j, Empty σ j → j ≠ id → Acc (fun j i => Edge (σ.set id (some sol)) i j) j :=
    fun j he hne => ⟨j, fun k e => absurd e (empty_no_edge (empty_set he hne))⟩
  have hid : Acc (fun j i => Edge (σ.set id (some sol)) i j) id := by
    refine ⟨id, fun k e => ?_⟩
    rcases edge_set e with ⟨_, hk⟩ | ⟨hne, _⟩
    · exact hE k (hs k hk).1 (hs k hk).2
    · exact absurd rfl hne
  intro i
  induction h i with
  | intro i _ ih =>
    refine ⟨i, fun j e => ?_⟩
    rcases edge_set e with ⟨_, hj⟩ | ⟨_, e'⟩
    · exact hE j (hs j hj).1 (hs j hj).2
    · exact ih j e'

theorem Guarded.terminating {σ σ'} (h : Guarded σ σ') (ha : Terminating σ) : Terminating σ' := by
  induction h with
  | refl => exact ha
  | fresh _ ih => exact ih.fresh
  | assign _ _ hs ih => exact ih.assign hs

theorem Guarded.storeLe {σ σ'} (h : Guarded σ σ') : StoreLe σ σ' := by
  induction h with
  | refl => exact ⟨Nat.le_refl _, fun _ _ h => h⟩
  | @fresh σ' _ ih =>
    refine ⟨by have := ih.1; simp; omega, fun id t h => ?_⟩
    have h' := ih.2 id t h
    have hl : id < σ'.length := CheckNoPanic.getElem?_lt h'
    rwa [List.getElem?_append_left hl]
  | @assign _ _ sol _ he _ ih =>
    have := StoreLe_set sol he
    exact ⟨Nat.le_trans ih.1 this.1, fun id t h => this.2 id t (ih.2 id t h)⟩

theorem cellGet_ok {id : Nat} {s s1 : St} {o : Option Tm} (h : cellGet id s = .ok o s1) :
    s1 = s ∧ (∀ sub, o = some sub → s.store[id]? = some (some sub)) ∧ (o = none → Empty s.store id) := by
  cases h
  exact ⟨rfl, fun sub e => CheckNoPanic.cellVal_some.1 e, fun e t ht =>
    nomatch (CheckNoPanic.cellVal_some.2 ht).symm.trans e⟩

theorem same_step {α β} {m : M α} {k : α → M β} {E : String → Prop} {s s' : St} {r : β}
    (hm : Fr Same E m) (h : (m >>= k) s = .ok r s') : ∃ o, m s = .ok o s ∧ k o s = .ok r s' := by
  obtain ⟨o, s1, h1, h2⟩ := bind_ok h
  obtain rfl : s1 = s := (hm s).ok h1
  exact ⟨o, h1, h2⟩

/-- for a function that answers `none` as soon as a component does, in a run that answers `some r` -/
theorem opt_step {α β} {m : M (Option α)} {k : Option α → M (Option β)} {E : String → Prop} {s s' : St} {r : β}
    (hm : Fr Same E m) (h : (m >>= k) s = .ok (some r) s') (hk : k none = pure none) :
    ∃ a, m s = .ok (some a) s ∧ k (some a) s = .ok (some r) s' := by
  obtain ⟨o, h1, h2⟩ := same_step hm h
  cases o with
  | none => rw [hk] at h2; cases (pure_ok h2).1
  | some a => exact ⟨a, h1, h2⟩

theorem comb2 {A B A' B' : List Nat} (h1 : ∀ j ∈ A', Empty σ j ∧ ReachL σ A j)
    (h2 : ∀ j ∈ B', Empty σ j ∧ ReachL σ B j) : ∀ j ∈ A' ++ B', Empty σ j ∧ ReachL σ (A ++ B) j := by
  intro j hj
  rcases List.mem_append.1 hj with hj | hj
  · exact ⟨(h1 j hj).1, ReachL_append.2 (.inl (h1 j hj).2)⟩
  · exact ⟨(h2 j hj).1, ReachL_append.2 (.inr (h2 j hj).2)⟩

theorem sshiftS_state {f c amt t s a s'} (h : sshiftS f c amt t s = .ok a s') : s' = s :=
  UnifySound.sshiftS_state h

theorem synEqS_state {f a b s r s'} (h : synEqS f a b s = .ok r s') : s' = s :=
  UnifySound.synEqS_state h

/-- **What lowering returns.**  Every cell mentioned by the result of `signed_shift` is an *empty* cell
reachable from the argument: solved cells are expanded, never copied. -/
theorem sshiftS_holes : ∀ f,
    (∀ c amt t s r s', sshiftS f c amt t s = .ok (some r) s' →
        ∀ j ∈ holesOf r, Empty s.store j ∧ ReachT s.store t j) ∧
    (∀ c amt ds s r s', sshiftDefsS f c amt ds s = .ok (some r) s' →
        ∀ j ∈ holesOfDefs r, Empty s.store j ∧ ReachD s.store ds j) := by
  intro f
  induction f with
  | zero =>
    constructor
    · intro c amt t s r s' h; rw [sshiftS] at h; cases h
    · intro c amt t s r s' h; rw [sshiftDefsS] at h; cases h
  | succ f ih =>
    obtain ⟨ih1, ih2⟩ := ih
    have hs := (UnifySound.sshiftS_rd f).1
    have hsd := (UnifySound.sshiftS_rd f).2
    constructor
    · intro c amt t s r s' h
      unfold sshiftS at h
      split at h
      · -- hole
        next id sh =>
        obtain ⟨o, s1, h1, h2⟩ := bind_ok h
        obtain ⟨rfl, hsome, hnone⟩ := cellGet_ok h1
        split at h2
        · next sub =>
          obtain ⟨o2, h3, h4⟩ := same_step (hs _ _ _) h2
          split at h4
          · next sub' =>
            have i1 := ih1 _ _ _ _ _ _ h3
            have i2 := ih1 _ _ _ _ _ _ h4
            intro j hj
            obtain ⟨ej, rj⟩ := i2 j hj
            have : j ∈ holesOf sub' := (ReachL_empty (fun k hk => (i1 k hk).1)).1 rj
            exact ⟨ej, (ReachT_hole_solved (hsome _ rfl) ej).2 (i1 j this).2⟩
          · cases h4
        · have key : ∀ sh', ∀ j ∈ holesOf (.hole id sh'), Empty s1.store j ∧ ReachT s1.store (.hole id sh) j := by
            intro sh' j hj
            simp only [holesOf, List.mem_singleton] at hj
            subst hj
            exact ⟨hnone rfl, .inl (by simp [holesOf])⟩
          split at h2
          · split at h2
            · obtain ⟨e, _⟩ := pure_ok h2; cases e; exact key _
            · obtain ⟨e, _⟩ := pure_ok h2; cases e
          · obtain ⟨e, _⟩ := pure_ok h2; cases e; exact key _
      · -- var
        split at h
        · split at h
          · obtain ⟨e, _⟩ := pure_ok h; cases e; simp [holesOf]
          · obtain ⟨e, _⟩ := pure_ok h; cases e
        · obtain ⟨e, _⟩ := pure_ok h; cases e; simp [holesOf]
      -- lam, pi, app
      iterate 3
          obtain ⟨o1, h1, h2⟩ := opt_step (hs _ _ _) h rfl
          obtain ⟨o2, h3, h4⟩ := opt_step (hs _ _ _) h2 rfl
          obtain ⟨e, _⟩ := pure_ok h4; cases e
          simp only [ReachT, holesOf]
          exact comb2 (ih1 _ _ _ _ _ _ h1) (ih1 _ _ _ _ _ _ h3)
      · -- letg
        obtain ⟨o1, h1, h2⟩ := opt_step (hsd _ _ _) h rfl
        obtain ⟨o2, h3, h4⟩ := opt_step (hs _ _ _) h2 rfl
        obtain ⟨e, _⟩ := pure_ok h4; cases e
        simp only [ReachT, holesOf]
        exact comb2 (ih2 _ _ _ _ _ _ h1) (ih1 _ _ _ _ _ _ h3)
      · -- neg
        obtain ⟨o1, h1, h2⟩ := opt_step (hs _ _ _) h rfl
        obtain ⟨e, _⟩ := pure_ok h2; cases e
        simp only [ReachT, holesOf]
        exact ih1 _ _ _ _ _ _ h1
      · -- bin
        obtain ⟨o1, h1, h2⟩ := opt_step (hs _ _ _) h rfl
        obtain ⟨o2, h3, h4⟩ := opt_step (hs _ _ _) h2 rfl
        obtain ⟨e, _⟩ := pure_ok h4; cases e
        simp only [ReachT, holesOf]
        exact comb2 (ih1 _ _ _ _ _ _ h1) (ih1 _ _ _ _ _ _ h3)
      · -- ite
        obtain ⟨o1, h1, h2⟩ := opt_step (hs _ _ _) h rfl
        obtain ⟨o2, h3, h4⟩ := opt_step (hs _ _ _) h2 rfl
        obtain ⟨o3, h5, h6⟩ := opt_step (hs _ _ _) h4 rfl
        obtain ⟨e, _⟩ := pure_ok h6; cases e
        simp only [ReachT, holesOf]
        exact comb2 (ih1 _ _ _ _ _ _ h1) (comb2 (ih1 _ _ _ _ _ _ h3) (ih1 _ _ _ _ _ _ h5))
      · -- leaves
        obtain ⟨e, _⟩ := pure_ok h; cases e
        cases t <;> first | (exfalso; solve_by_elim) | simp [holesOf]
    · intro c amt ds s r s' h
      unfold sshiftDefsS at h
      split at h
      · obtain ⟨e, _⟩ := pure_ok h; cases e; simp [holesOfDefs]
      · obtain ⟨o1, h1, h2⟩ := opt_step (hs _ _ _) h rfl
        obtain ⟨o2, h3, h4⟩ := opt_step (hs _ _ _) h2 rfl
        obtain ⟨o3, h5, h6⟩ := opt_step (hsd _ _ _) h4 rfl
        obtain ⟨e, _⟩ := pure_ok h6; cases e
        simp only [ReachD, holesOfDefs]
        exact comb2 (ih1 _ _ _ _ _ _ h1) (comb2 (ih1 _ _ _ _ _ _ h3) (ih2 _ _ _ _ _ _ h5))

theorem ite_step {m n : M Bool} {E : String → Prop} {s s' : St} {b : Bool} (hm : Fr Same E m)
    (h : (m >>= fun c => if c = true then pure true else n) s = .ok b s') :
    ∃ b1, m s = .ok b1 s ∧ ((b1 = true ∧ b = true) ∨ (b1 = false ∧ n s = .ok b s')) := by
  obtain ⟨b1, h1, h2⟩ := same_step hm h
  refine ⟨b1, h1, ?_⟩
  split at h2
  · next e => exact .inl ⟨e, (pure_ok h2).1.symm⟩
  · next e => exact .inr ⟨by simpa using e, h2⟩

theorem or_spec {b1 b : Bool} {A B E : Prop} (h1 : b1 = true ↔ A ∧ E)
    (h2 : (b1 = true ∧ b = true) ∨ (b1 = false ∧ (b = true ↔ B ∧ E))) : b = true ↔ (A ∨ B) ∧ E := by
  rcases h2 with ⟨e1, e2⟩ | ⟨e1, h2⟩
  · have := h1.1 e1
    exact ⟨fun _ => ⟨.inl this.1, this.2⟩, fun _ => e2⟩
  · have hn : ¬ (A ∧ E) := fun h => by rw [h1.2 h] at e1; cases e1
    rw [h2]
    constructor
    · rintro ⟨hb, he⟩; exact ⟨.inr hb, he⟩
    · rintro ⟨ha | hb, he⟩
      · exact absurd ⟨ha, he⟩ hn
      · exact ⟨hb, he⟩

/-- **The occurs check is exact**: `occursS id t` answers `true` iff `id` is an empty cell mentioned by `t`
directly or through solved cells. -/
theorem occursS_spec : ∀ f,
    (∀ id t s b s', occursS f id t s = .ok b s' →
        (b = true ↔ (ReachT s.store t id ∧ Empty s.store id))) ∧
    (∀ id ds s b s', occursDefsS f id ds s = .ok b s' →
        (b = true ↔ (ReachD s.store ds id ∧ Empty s.store id))) := by
  intro f
  induction f with
  | zero =>
    constructor
    · intro id t s b s' h; rw [occursS] at h; cases h
    · intro id t s b s' h; rw [occursDefsS] at h; cases h
  | succ f ih =>
    obtain ⟨ih1, ih2⟩ := ih
    have ho := (occursS_fr f).1
    have hod := (occursS_fr f).2
    constructor
    · intro id t s b s' h
      unfold occursS at h
      split at h
      · -- hole
        next j sh =>
        obtain ⟨o, s1, h1, h2⟩ := bind_ok h
        obtain ⟨rfl, hsome, hnone⟩ := cellGet_ok h1
        split at h2
        · next sub =>
          rw [ih1 _ _ _ _ _ h2]
          exact ⟨fun ⟨a, e⟩ => ⟨(ReachT_hole_solved (hsome _ rfl) e).2 a, e⟩,
            fun ⟨a, e⟩ => ⟨(ReachT_hole_solved (hsome _ rfl) e).1 a, e⟩⟩
        · obtain ⟨e, _⟩ := pure_ok h2
          subst e
          simp only [ReachT, holesOf, ReachL_single, beq_iff_eq]
          constructor
          · rintro rfl; exact ⟨.inl rfl, hnone rfl⟩
          · rintro ⟨e | r, _⟩
            · exact e.symm
            · exact absurd r (empty_no_reach (hnone rfl))
      -- lam, pi, app
      iterate 3
          obtain ⟨b1, h1, h2⟩ := ite_step (ho _ _) h
          simp only [ReachT, holesOf, ReachL_append]
          exact or_spec (ih1 _ _ _ _ _ h1) (h2.imp (fun x => x) (fun ⟨e, h⟩ => ⟨e, ih1 _ _ _ _ _ h⟩))
      · -- letg
        obtain ⟨b1, h1, h2⟩ := ite_step (hod _ _) h
        simp only [ReachT, holesOf, ReachL_append]
        exact or_spec (ih2 _ _ _ _ _ h1) (h2.imp (fun x => x) (fun ⟨e, h⟩ => ⟨e, ih1 _ _ _ _ _ h⟩))
      · -- neg
        simp only [ReachT, holesOf]
        exact ih1 _ _ _ _ _ h
      · -- bin
        obtain ⟨b1, h1, h2⟩ := ite_step (ho _ _) h
        simp only [ReachT, holesOf, ReachL_append]
        exact or_spec (ih1 _ _ _ _ _ h1) (h2.imp (fun x => x) (fun ⟨e, h⟩ => ⟨e, ih1 _ _ _ _ _ h⟩))
      · -- ite
        obtain ⟨b1, h1, h2⟩ := ite_step (ho _ _) h
        simp only [ReachT, holesOf, ReachL_append]
        refine or_spec (ih1 _ _ _ _ _ h1) (h2.imp (fun x => x) (fun ⟨e, h⟩ => ⟨e, ?_⟩))
        obtain ⟨b2, h3, h4⟩ := ite_step (ho _ _) h
        exact or_spec (ih1 _ _ _ _ _ h3) (h4.imp (fun x => x) (fun ⟨e, h⟩ => ⟨e, ih1 _ _ _ _ _ h⟩))
      · -- leaves
        obtain ⟨e, _⟩ := pure_ok h
        subst e
        have : holesOf t = [] := by
          cases t <;> first | (exfalso; solve_by_elim) | simp [holesOf]
        simp [ReachT, this, ReachL]
    · intro id ds s b s' h
      unfold occursDefsS at h
      split at h
      · obtain ⟨e, _⟩ := pure_ok h
        subst e
        simp [ReachD, holesOfDefs, ReachL]
      · obtain ⟨b1, h1, h2⟩ := ite_step (ho _ _) h
        simp only [ReachD, holesOfDefs, ReachL_append]
        refine or_spec (ih1 _ _ _ _ _ h1) (h2.imp (fun x => x) (fun ⟨e, h⟩ => ⟨e, ?_⟩))
        obtain ⟨b2, h3, h4⟩ := ite_step (ho _ _) h
        exact or_spec (ih1 _ _ _ _ _ h3) (h4.imp (fun x => x) (fun ⟨e, h⟩ => ⟨e, ih2 _ _ _ _ _ h⟩))

theorem solveS_cases {f id sh : Nat} {other : Tm} {s s' : St} {r : Option Bool}
    (h : solveS f id sh other s = .ok r s') :
    (r = none ∧ s' = s) ∨ (r = some false ∧ s' = s) ∨
    (r = some true ∧ ∃ sol, sshiftS f 0 (-(sh : Int)) other s = .ok (some sol) s ∧
      occursS f id other s = .ok false s ∧ s' = { s with store := s.store.set id (some sol) }) := by
  rcases (solveS_sat f id sh other s (E := Nev)).ok h with ⟨hne, e⟩ | ⟨e, q⟩
  · rcases r with _ | _ | _
    · exact .inl ⟨rfl, e⟩
    · exact .inr (.inl ⟨rfl, e⟩)
    · exact absurd rfl hne
  · exact .inr (.inr ⟨e, q⟩)

theorem solveS_assign {f id sh : Nat} {other sol : Tm} {s : St}
    (h1 : sshiftS f 0 (-(sh : Int)) other s = .ok (some sol) s)
    (h2 : occursS f id other s = .ok false s) :
    (∀ j ∈ holesOf sol, Empty s.store j ∧ j ≠ id ∧ ReachT s.store other j) ∧
    ¬ ReachT s.store sol id ∧ (Empty s.store id → ¬ ReachT s.store other id) := by
  have hh := (sshiftS_holes f).1 _ _ _ _ _ _ h1
  have ho := (occursS_spec f).1 _ _ _ _ _ h2
  have hno : ¬ (ReachT s.store other id ∧ Empty s.store id) := fun h => by
    have := ho.2 h; cases this
  have key : ∀ j ∈ holesOf sol, Empty s.store j ∧ j ≠ id ∧ ReachT s.store other j := by
    intro j hj
    refine ⟨(hh j hj).1, ?_, (hh j hj).2⟩
    rintro rfl
    exact hno ⟨(hh j hj).2, (hh j hj).1⟩
  refine ⟨key, ?_, fun he hr => hno ⟨hr, he⟩⟩
  intro hr
  have := (ReachL_empty (fun k hk => (key k hk).1)).1 hr
  exact (key id this).2.1 rfl

def GS (s s' : St) : Prop := Le s s' ∧ Guarded s.store s'.store

instance : RT GS where
  refl s := ⟨RT.refl s, .refl _⟩
  trans h1 h2 := ⟨RT.trans h1.1 h2.1, h1.2.trans h2.2⟩

theorem _root_.UnifySound.G2.gs {s s' : St} (h : UnifySound.G2 s s') : GS s s' := by
  refine ⟨h.le, ?_⟩
  obtain ⟨k, rfl⟩ := h
  exact Guarded.replicate _ k

theorem GS.move (s : St) (T : List (Tm × Nat)) (D : List (Option (Tm × Nat))) :
    GS s { s with tctx := T, dctx := D } := ⟨RT.refl (P := Le) s, .refl _⟩

theorem solveS_gs {f id sh : Nat} {other : Tm} {s s' : St} {r : Option Bool}
    (h : solveS f id sh other s = .ok r s') (he : Empty s.store id) : GS s s' := by
  rcases solveS_cases h with ⟨_, rfl⟩ | ⟨_, rfl⟩ | ⟨_, sol, h1, h2, rfl⟩
  · exact RT.refl _
  · exact RT.refl _
  · refine ⟨(solveS_spec h).2 he, ?_⟩
    have := (solveS_assign h1 h2).1
    exact .assign (.refl _) he (fun j hj => ⟨(this j hj).1, (this j hj).2.1⟩)

theorem unifyS_gs (f a b s) : (unifyS f a b s).Sat (fun _ s' => CP GS s s') (CheckNoPanic.Live false) :=
  unifyS_spec UnifySound.G2.gs (fun s D => GS.move s s.tctx D) solveS_gs
    false f a b s nofun

theorem inferS_gs (f t s) : (inferS f t s).Sat (fun p s' => CP GS s s' ∧ p.1 = t) (CheckNoPanic.Live false) :=
  (inferS_spec UnifySound.G2.gs GS.move solveS_gs (fun s => ⟨⟨(RT.refl (P := Le) s).1, Nat.le_succ _⟩, .refl _⟩) false f).1
    t s nofun nofun

theorem unifyS_guarded {f a b s r s'} (h : unifyS f a b s = .ok r s') : Guarded s.store s'.store :=
  ((unifyS_gs f a b s).ok h).2.2.2
theorem inferS_guarded {f t s r s'} (h : inferS f t s = .ok r s') : Guarded s.store s'.store :=
  ((inferS_gs f t s).ok h).1.2.2.2
theorem whnfS_guarded {f t s r s'} (h : whnfS f t s = .ok r s') : Guarded s.store s'.store :=
  (UnifySound.G2.gs ((whnfS_spec false f t s nofun).ok h).1).2

open UnifySound (Zk ZkD Zk_hole_none Zk_hole_some Zk_neg Zk_app Zk_lam Zk_pi Zk_bin Zk_letg Zk_ite
  ZkD_nil ZkD_cons Zk_leaf Leaf)

def CellZ (σ : List (Option Tm)) (j : Nat) : Prop := ∀ sub, σ[j]? = some (some sub) → ∃ z, Zk σ sub z

mutual
theorem zk_of_cells : ∀ (t : Tm), (∀ j ∈ holesOf t, CellZ σ j) → ∃ z, Zk σ t z
  | .hole id s, h => by
      rcases hc : σ[id]? with _ | _ | sub
      · exact ⟨_, (Zk_hole_none (by simp [hc])).2 rfl⟩
      · exact ⟨_, (Zk_hole_none (by simp [hc])).2 rfl⟩
      · obtain ⟨z, hz⟩ := h id (by simp [holesOf]) sub hc
        exact ⟨_, (Zk_hole_some hc).2 ⟨z, hz, rfl⟩⟩
  | .type, _ | .int, _ | .bool, _ | .tt, _ | .ff, _ | .lit _, _ | .var _ _, _ =>
      ⟨_, (Zk_leaf (by simp [Leaf])).2 rfl⟩
  | .lam _ _ d b, h | .pi _ _ d b, h | .app d b, h | .bin _ d b, h => by
      obtain ⟨zd, hd⟩ := zk_of_cells d (fun j hj => h j (by simp [holesOf, hj]))
      obtain ⟨zb, hb⟩ := zk_of_cells b (fun j hj => h j (by simp [holesOf, hj]))
      exact ⟨_, by simp only [Zk_lam, Zk_pi, Zk_app, Zk_bin]; exact ⟨zd, zb, hd, hb, rfl⟩⟩
  | .letg ds b, h => by
      obtain ⟨zd, hd⟩ := zkD_of_cells ds (fun j hj => h j (by simp [holesOf, hj]))
      obtain ⟨zb, hb⟩ := zk_of_cells b (fun j hj => h j (by simp [holesOf, hj]))
      exact ⟨_, Zk_letg.2 ⟨zd, zb, hd, hb, rfl⟩⟩
  | .neg a, h => by
      obtain ⟨za, ha⟩ := zk_of_cells a (fun j hj => h j (by simp [holesOf, hj]))
      exact ⟨_, Zk_neg.2 ⟨za, ha, rfl⟩⟩
  | .ite c a b, h => by
      obtain ⟨zc, hc⟩ := zk_of_cells c (fun j hj => h j (by simp [holesOf, hj]))
      obtain ⟨zd, hd⟩ := zk_of_cells a (fun j hj => h j (by simp [holesOf, hj]))
      obtain ⟨zb, hb⟩ := zk_of_cells b (fun j hj => h j (by simp [holesOf, hj]))
      exact ⟨_, Zk_ite.2 ⟨zc, zd, zb, hc, hd, hb, rfl⟩⟩
theorem zkD_of_cells : ∀ (ds : Defs), (∀ j ∈ holesOfDefs ds, CellZ σ j) → ∃ z, ZkD σ ds z
  | .nil, _ => ⟨_, ZkD_nil.2 rfl⟩
  | .cons x a d r, h => by
      obtain ⟨za, ha⟩ := zk_of_cells a (fun j hj => h j (by simp [holesOfDefs, hj]))
      obtain ⟨zd, hd⟩ := zk_of_cells d (fun j hj => h j (by simp [holesOfDefs, hj]))
      obtain ⟨zr, hr⟩ := zkD_of_cells r (fun j hj => h j (by simp [holesOfDefs, hj]))
      exact ⟨_, ZkD_cons.2 ⟨za, zd, zr, ha, hd, hr, rfl⟩⟩
end

theorem Terminating.cellZ (h : Terminating σ) : ∀ j, CellZ σ j := by
  intro j
  induction h j with
  | intro j _ ih =>
    intro sub hs
    exact zk_of_cells sub (fun k hk => ih k ⟨sub, hs, hk⟩)

theorem zonk_terminates (h : Terminating σ) (t : Tm) : ∃ fuel z, zonk fuel σ t = some z := by
  obtain ⟨z, n, hz⟩ := zk_of_cells t (fun j _ => h.cellZ j)
  exact ⟨n, z, hz⟩

theorem acyclic_acc_aux (ha : Acyclic σ) : ∀ n (V : List Nat) k, V.Nodup → (∀ v ∈ V, v < σ.length) →
    (∀ v ∈ V, Reaches σ v k) → σ.length ≤ V.length + n → Acc (fun j i => Edge σ i j) k := by
  intro n
  induction n with
  | zero =>
    intro V k hnd hlt hr hlen
    refine ⟨k, fun j e => ?_⟩
    exfalso
    have hk : k ∉ V := fun hk => ha k (hr k hk)
    have hkl : k < σ.length := let ⟨_, ht, _⟩ := e; CheckNoPanic.getElem?_lt ht
    have hnd' : (k :: V).Nodup := List.nodup_cons.2 ⟨hk, hnd⟩
    have hsub : (k :: V) ⊆ List.range σ.length := by
      intro v hv
      rcases List.mem_cons.1 hv with rfl | hv
      · exact List.mem_range.2 hkl
      · exact List.mem_range.2 (hlt v hv)
    have := hnd'.length_le_of_subset hsub
    simp at this
    omega
  | succ n ih =>
    intro V k hnd hlt hr hlen
    refine ⟨k, fun j e => ?_⟩
    have hk : k ∉ V := fun hk => ha k (hr k hk)
    have hkl : k < σ.length := let ⟨_, ht, _⟩ := e; CheckNoPanic.getElem?_lt ht
    refine ih (k :: V) j (List.nodup_cons.2 ⟨hk, hnd⟩) ?_ ?_ (by simp; omega)
    · intro v hv
      rcases List.mem_cons.1 hv with rfl | hv
      · exact hkl
      · exact hlt v hv
    · intro v hv
      rcases List.mem_cons.1 hv with rfl | hv
      · exact .edge e
      · exact (hr v hv).snoc e

theorem Acyclic.terminating (ha : Acyclic σ) : Terminating σ := fun k =>
  acyclic_acc_aux ha σ.length [] k List.nodup_nil (by simp) (by simp) (by simp)

theorem acyclic_iff_terminating : Acyclic σ ↔ Terminating σ := ⟨Acyclic.terminating, Terminating.acyclic⟩

theorem zonk_terminates_of_acyclic (h : Acyclic σ) (t : Tm) : ∃ fuel z, zonk fuel σ t = some z :=
  zonk_terminates h.terminating t

/-- every chain of solved cells from `k` has length `≤ fuel` -/
def termB (σ : List (Option Tm)) : Nat → Nat → Bool
  | 0, k => match σ[k]? with
    | some (some _) => false
    | _ => true
  | f+1, k => match σ[k]? with
    | some (some t) => (holesOf t).all (termB σ f)
    | _ => true

def acyclicB (σ : List (Option Tm)) : Bool := (List.range σ.length).all (termB σ σ.length)

theorem termB_sound : ∀ f k, termB σ f k = true → Acc (fun j i => Edge σ i j) k := by
  intro f
  induction f with
  | zero =>
    intro k h
    refine ⟨k, fun j ⟨t, ht, _⟩ => ?_⟩
    simp [termB, ht] at h
  | succ f ih =>
    intro k h
    refine ⟨k, fun j ⟨t, ht, hj⟩ => ?_⟩
    simp only [termB, ht] at h
    exact ih j (List.all_eq_true.1 h j hj)

theorem acyclicB_sound (h : acyclicB σ = true) : Terminating σ := by
  intro k
  rcases Nat.lt_or_ge k σ.length with hl | hl
  · exact termB_sound _ k (List.all_eq_true.1 h k (List.mem_range.2 hl))
  · refine ⟨k, fun j ⟨t, ht, _⟩ => ?_⟩
    rw [List.getElem?_eq_none hl] at ht
    cases ht

theorem acyclicB_acyclic (h : acyclicB σ = true) : Acyclic σ := (acyclicB_sound h).acyclic

theorem Terminating.replicate (n : Nat) : Terminating (List.replicate n (none : Option Tm)) := by
  intro k
  refine ⟨k, fun j ⟨t, ht, _⟩ => ?_⟩
  rw [List.getElem?_replicate] at ht
  split at ht <;> cases ht

theorem solveS_scoped {f id k : Nat} {other : Tm} {s s' : St}
    (h : solveS f id k other s = .ok (some true) s') (hS : storeDeep s.store) (hd : hdeep 0 other = true) :
    ∃ sol, s'.store = s.store.set id (some sol) ∧
      ∀ σ', StoreLe s.store σ' → ∀ zo, Zk σ' other zo →
        ∃ zs, Zk σ' sol zs ∧ sshift 0 (-(k : Int)) zo = some zs ∧ ushift 0 k zs = zo ∧
          (zo.holeFree = true →
            (∀ j, freeAt zs j = true → freeAt zo (j + k) = true) ∧ ∀ j, j < k → freeAt zo j = false) := by
  rcases solveS_cases h with ⟨e, _⟩ | ⟨e, _⟩ | ⟨_, sol, h1, _, rfl⟩
  · cases e
  · cases e
  · refine ⟨sol, rfl, fun σ' hle zo hzo => ?_⟩
    have hq := ((UnifySound.sshiftS_zk (σ := σ') f).1 0 (-(k : Int)) other s hS hle hd).ok h1 (Nat.le_refl _)
    obtain ⟨zs, hsh, hzs⟩ := (hq sol rfl).2 zo hzo
    refine ⟨zs, hzs, hsh, ushift_of_sshift_neg _ _ _ _ hsh, fun hf => ?_⟩
    have := sshift_down_spec zo zs k hf hsh
    exact ⟨this.1, this.2.1⟩

/-- a solved chain `?0 := ?1`, `?1 := ?2 -> int`, and two empty cells -/
def exStore : List (Option Tm) :=
  [some (.hole 1 0), some (.pi 0 false (.hole 2 0) .int), none, none]

example : acyclicB exStore = true := by decide
-- `?3` is solved by `?0 -> bool` with the chain expanded: `(?2 -> int) -> bool`
example :
    (match unifyS 20 (.hole 3 0) (.pi 0 false (.hole 0 0) .bool) { store := exStore } with
     | .ok r s' => r == true && acyclicB s'.store &&
         s'.store == [some (.hole 1 0), some (.pi 0 false (.hole 2 0) .int), none,
           some (.pi 0 false (.pi 0 false (.hole 2 0) .int) .bool)]
     | _ => false) = true := by decide
-- the occurs check through the chain: `?2 = ?0 -> bool` is `X = f X`; answer `false`, store unchanged
example :
    (match unifyS 20 (.hole 2 0) (.pi 0 false (.hole 0 0) .bool) { store := exStore } with
     | .ok r s' => r == false && s'.store == exStore
     | _ => false) = true := by decide
-- the occurs check is what is needed: a store with a cycle is rejected by `acyclicB`
example : acyclicB [some (.hole 1 0), some (.pi 0 false (.hole 0 0) .int)] = false := by decide
example : ¬ Acyclic [some (.hole 1 0), some (.pi 0 false (.hole 0 0) .int)] := fun h =>
  h 0 (.cons (k := 1) ⟨.hole 1 0, rfl, by simp [holesOf]⟩
    (.edge ⟨.pi 0 false (.hole 0 0) .int, rfl, by simp [holesOf]⟩))
example : (match occursS 10 2 (.hole 0 0) { store := exStore } with | .ok b _ => b | _ => false) = true := by
  decide
example : (match occursS 10 3 (.hole 0 0) { store := exStore } with | .ok b _ => !b | _ => false) = true := by
  decide

end UnifyAcyclic
