import GramModel.Lemmas.CCUnify
import GramModel.Lemmas.Canonical

/-!
# Coherence of evaluation, normalisation and the conversion checks (C06 / C12)

A step of the evaluator is a conversion (`step_conv`), and a weak head normal form convertible with a literal /
boolean IS that literal (`whnf_conv_ground`; both at the end of `Lemmas/Canonical.lean`): so the normalizers find the
ground value the evaluator finds, and the conversion checks decide `Conv` whenever they answer (with
`convX_complete`, `Lemmas/CCUnify.lean`).
-/

namespace ConvCoherence

open CCSubst CCPar WhnfLemmas UnifyAgree TypingSound

protected theorem Steps_holeFree {t t' : Tm} (h : Steps t t') (hf : t.holeFree = true) : t'.holeFree = true :=
  _root_.Steps_holeFree h hf

protected theorem Step_wellScoped {t t' : Tm} (h : Step t t') :
    ∀ (n : Nat), wellScoped n t = true → wellScoped n t' = true :=
  _root_.Step_wellScoped h

theorem whnfX_steps_ground {f : Nat} {Δ : DCtxX} (hD : DHF Δ) (hW : DWF Δ) {t v w : Tm}
    (hf : t.holeFree = true) (hs : Steps t v) (hv : Ground v) (hw : whnfX f Δ t = some w) : w = v :=
  whnf_conv_ground hW (whnfX_holeFree hw hD hf) (whnfX_wx f Δ t w hw hD hf).1 hv
    (.trans (.symm (whnfX_conv hw)) (steps_conv hs Δ))

theorem whnfS_steps_ground {f : Nat} {s s' : St} (hD : DHF s.dctx) (hW : DWF s.dctx) {t v w : Tm}
    (hf : t.holeFree = true) (hs : Steps t v) (hv : Ground v) (hw : whnfS f t s = .ok w s') :
    s' = s ∧ w = v := by
  obtain ⟨e, hwf, _, c, wx, _⟩ := whnfS_ok_all hf hD hw
  exact ⟨e, whnf_conv_ground hW hwf wx hv (.trans (.symm c) (steps_conv hs _))⟩

theorem convX_of_conv {f : Nat} {Δ : DCtxX} {a b : Tm} (ha : a.holeFree = true) (hb : b.holeFree = true)
    (hD : DHF Δ) (hW : DWF Δ) (hc : Conv Δ a b) : convX f Δ a b ≠ some false :=
  convX_complete f Δ a b ha hb hD hW (Conv.join hc hW)

theorem convX_decides {f : Nat} {Δ : DCtxX} {a b : Tm} {r : Bool} (ha : a.holeFree = true)
    (hb : b.holeFree = true) (hD : DHF Δ) (hW : DWF Δ) (h : convX f Δ a b = some r) :
    r = true ↔ Conv Δ a b := by
  constructor
  · intro e; subst e; exact convX_sound f Δ a b ha hb hD h
  · intro hc
    cases r with
    | true => rfl
    | false => exact (convX_of_conv ha hb hD hW hc h).elim

theorem conv_iff_join_closed {a b : Tm} (ha : a.holeFree = true) (hb : b.holeFree = true) :
    Conv [] a b ↔ Join [] 0 (er a) (er b) :=
  ⟨fun h => Conv.join h Canonical.DWF_nil, CheckComplete.join_er_conv ha hb⟩

theorem steps_value_whnfX_ground {f : Nat} {Δ : DCtxX} (hW : DWF Δ) {t v w : Tm}
    (hf : t.holeFree = true) (hs : Steps t v) (hv : isValue v = true) (hg : Ground w)
    (hw : whnfX f Δ t = some w) : v = w :=
  whnf_conv_ground hW (Steps_holeFree hs hf) (value_whnf hv (Steps_holeFree hs hf)) hg
    (.trans (.symm (steps_conv hs Δ)) (whnfX_conv hw))

theorem DSc.dwf {Δ : DCtxX} (h : DSc Δ) : DWF Δ := fun p d off e => (h p d off e).1

theorem DSc_nil : DSc [] := by intro i d off h; simp at h

theorem unifyS_steps {f : Nat} {t t' : Tm} {s s' : St} {r : Bool} (ht : t.holeFree = true)
    (hD : DHF s.dctx) (hW : DWF s.dctx) (hs : Steps t t') (h : unifyS f t t' s = .ok r s') :
    s' = s ∧ r = true :=
  unifyS_ok_true ht (Steps_holeFree hs ht) hD hW (Conv.join (steps_conv hs _) hW) h

theorem unifyS_steps_no_panic (f : Nat) {t t' : Tm} (s : St) (ht : t.holeFree = true)
    (hD : DHF s.dctx) (hS : DSc s.dctx) (hsc : wellScoped s.dctx.length t = true) (hs : Steps t t') :
    ∀ site, unifyS f t t' s ≠ .panic site :=
  unify_no_panic f t t' s ht (Steps_holeFree hs ht) hD hsc (Steps_wellScoped hs _ hsc) hS

end ConvCoherence
