import GramModel.Print

/-! Lemmas about the pure layer of the printer model: what it reads off the de Bruijn indices. -/

theorem atomic_eraseIdx (t : Tm) : atomic (eraseIdx t) = atomic t := by
  cases t <;> rfl

theorem wrapGroup_eraseIdx (t : Tm) : wrapGroup (eraseIdx t) = wrapGroup t := by
  funext s; simp only [wrapGroup, atomic_eraseIdx]

theorem wrapHead_eraseIdx (t : Tm) : wrapHead (eraseIdx t) = wrapHead t := by
  funext s
  cases t <;> rfl

theorem wrapAnnot_eraseIdx (t : Tm) : wrapAnnot (eraseIdx t) = wrapAnnot t := by
  funext s
  cases t <;> rfl

theorem congr_of_eraseIdx {α : Type} {F : Tm → α} (hF : ∀ t, F (eraseIdx t) = F t) {t u : Tm}
    (h : eraseIdx t = eraseIdx u) : F t = F u := by
  rw [← hF t, h, hF]

mutual
theorem printTm_eraseIdx (nm : Name → List Char) : ∀ (t : Tm), noPi t = true →
    printTm nm (eraseIdx t) = printTm nm t
  | .hole .., _ | .type, _ | .int, _ | .bool, _ | .tt, _ | .ff, _ | .lit _, _ | .var .., _ => rfl
  | .pi .., h => nomatch h
  | .lam x im d b, h => by
      simp only [noPi, Bool.and_eq_true] at h
      simp only [eraseIdx, printTm, wrapAnnot_eraseIdx, printTm_eraseIdx nm d h.1,
        printTm_eraseIdx nm b h.2]
  | .app f a, h => by
      simp only [noPi, Bool.and_eq_true] at h
      simp only [eraseIdx, printTm, wrapHead_eraseIdx, wrapGroup_eraseIdx,
        printTm_eraseIdx nm f h.1, printTm_eraseIdx nm a h.2]
  | .letg ds b, h => by
      simp only [noPi, Bool.and_eq_true] at h
      simp only [eraseIdx, printTm, printDefs_eraseIdx nm ds h.1, printTm_eraseIdx nm b h.2]
  | .neg a, h => by
      simp only [noPi] at h
      simp only [eraseIdx, printTm, wrapGroup_eraseIdx, printTm_eraseIdx nm a h]
  | .bin op a b, h => by
      simp only [noPi, Bool.and_eq_true] at h
      simp only [eraseIdx, printTm, wrapGroup_eraseIdx, printTm_eraseIdx nm a h.1,
        printTm_eraseIdx nm b h.2]
  | .ite c a b, h => by
      simp only [noPi, Bool.and_eq_true] at h
      simp only [eraseIdx, printTm, printTm_eraseIdx nm c h.1.1, printTm_eraseIdx nm a h.1.2,
        printTm_eraseIdx nm b h.2]
theorem printDefs_eraseIdx (nm : Name → List Char) : ∀ (ds : Defs), noPiDefs ds = true →
    printDefs nm (eraseIdxDefs ds) = printDefs nm ds
  | .nil, _ => rfl
  | .cons x a d r, h => by
      simp only [noPiDefs, Bool.and_eq_true] at h
      simp only [eraseIdxDefs, printDefs, wrapGroup_eraseIdx, printTm_eraseIdx nm a h.1.1,
        printTm_eraseIdx nm d h.1.2, printDefs_eraseIdx nm r h.2]
end

theorem printTm_eraseIdx_atomic (nm : Name → List Char) : ∀ {t : Tm}, atomic t = true →
    printTm nm (eraseIdx t) = printTm nm t
  | .hole .., _ | .type, _ | .int, _ | .bool, _ | .tt, _ | .ff, _ | .lit _, _ | .var .., _ => rfl
  | .lam .., h | .pi .., h | .app .., h | .letg .., h | .neg _, h | .ite .., h => nomatch h
  | .bin op .., h => by cases op <;> cases h

theorem printTm_congr_atomic (nm : Name → List Char) {t u : Tm} (ht : atomic t = true)
    (h : eraseIdx t = eraseIdx u) : printTm nm t = printTm nm u := by
  have hu : atomic u = true := by rw [← atomic_eraseIdx, ← h, atomic_eraseIdx, ht]
  rw [← printTm_eraseIdx_atomic nm ht, h, printTm_eraseIdx_atomic nm hu]

/-! The general form: the only thing the printer reads off the indices is the verdict
"the bound variable occurs in the codomain" of every function type. -/

mutual
theorem printTm_congr (nm : Name → List Char) : ∀ (t u : Tm), eraseIdx t = eraseIdx u →
    sameDeps t u = true → printTm nm t = printTm nm u
  | .hole .., _, h, _ | .type, _, h, _ | .int, _, h, _ | .bool, _, h, _ | .tt, _, h, _
  | .ff, _, h, _ | .lit _, _, h, _ | .var .., _, h, _ => printTm_congr_atomic nm rfl h
  | .lam x im d b, u, h, hd => by
      cases u with
      | lam y jm d' b' =>
        injection h with hx hi h1 h2
        subst hx hi
        simp only [sameDeps, Bool.and_eq_true] at hd
        simp only [printTm, congr_of_eraseIdx wrapAnnot_eraseIdx h1, printTm_congr nm d d' h1 hd.1,
          printTm_congr nm b b' h2 hd.2]
      | _ => injection h
  | .pi x im d c, u, h, hd => by
      cases u with
      | pi y jm d' c' =>
        injection h with hx hi h1 h2
        subst hx hi
        simp only [sameDeps, Bool.and_eq_true, beq_iff_eq] at hd
        simp only [printTm, hd.1.1, congr_of_eraseIdx wrapAnnot_eraseIdx h1,
          congr_of_eraseIdx wrapHead_eraseIdx h1, printTm_congr nm d d' h1 hd.1.2,
          printTm_congr nm c c' h2 hd.2]
      | _ => injection h
  | .app f a, u, h, hd => by
      cases u with
      | app f' a' =>
        injection h with h1 h2
        simp only [sameDeps, Bool.and_eq_true] at hd
        simp only [printTm, congr_of_eraseIdx wrapHead_eraseIdx h1,
          congr_of_eraseIdx wrapGroup_eraseIdx h2, printTm_congr nm f f' h1 hd.1,
          printTm_congr nm a a' h2 hd.2]
      | _ => injection h
  | .letg ds b, u, h, hd => by
      cases u with
      | letg ds' b' =>
        injection h with h1 h2
        simp only [sameDeps, Bool.and_eq_true] at hd
        simp only [printTm, printDefs_congr nm ds ds' h1 hd.1, printTm_congr nm b b' h2 hd.2]
      | _ => injection h
  | .neg a, u, h, hd => by
      cases u with
      | neg a' =>
        injection h with h1
        simp only [sameDeps] at hd
        simp only [printTm, congr_of_eraseIdx wrapGroup_eraseIdx h1, printTm_congr nm a a' h1 hd]
      | _ => injection h
  | .bin op a b, u, h, hd => by
      cases u with
      | bin op' a' b' =>
        injection h with ho h1 h2
        subst ho
        simp only [sameDeps, Bool.and_eq_true] at hd
        simp only [printTm, congr_of_eraseIdx wrapGroup_eraseIdx h1,
          congr_of_eraseIdx wrapGroup_eraseIdx h2, printTm_congr nm a a' h1 hd.1,
          printTm_congr nm b b' h2 hd.2]
      | _ => injection h
  | .ite c a b, u, h, hd => by
      cases u with
      | ite c' a' b' =>
        injection h with h0 h1 h2
        simp only [sameDeps, Bool.and_eq_true] at hd
        simp only [printTm, printTm_congr nm c c' h0 hd.1.1, printTm_congr nm a a' h1 hd.1.2,
          printTm_congr nm b b' h2 hd.2]
      | _ => injection h
theorem printDefs_congr (nm : Name → List Char) : ∀ (ds es : Defs), eraseIdxDefs ds = eraseIdxDefs es →
    sameDepsDefs ds es = true → printDefs nm ds = printDefs nm es
  | .nil, es, h, _ => by cases es with | nil => rfl | cons => injection h
  | .cons x a d r, es, h, hd => by
      cases es with
      | nil => injection h
      | cons y a' d' r' =>
        injection h with hx h1 h2 h3
        subst hx
        simp only [sameDepsDefs, Bool.and_eq_true] at hd
        simp only [printDefs, congr_of_eraseIdx wrapGroup_eraseIdx h1,
          congr_of_eraseIdx wrapGroup_eraseIdx h2, printTm_congr nm a a' h1 hd.1.1,
          printTm_congr nm d d' h2 hd.1.2, printDefs_congr nm r r' h3 hd.2]
end
