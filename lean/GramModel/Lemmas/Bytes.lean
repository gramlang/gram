import GramModel.Lexer
import GramModel.Listing

/-!
# UTF-8 lengths of prefixes

Source positions are byte offsets.  The tokenizer model measures a text with `bytesOf`, the listing
model with `Listing.utf8Len`; they are the same function (`Listing.utf8Len_eq_bytesOf`), and the facts
about splitting a text at a byte offset are proved here once, for `bytesOf`.
-/

theorem foldl_utf8Size (l : List Char) (n : Nat) :
    l.foldl (fun n c => n + c.utf8Size) n = n + bytesOf l := by
  unfold bytesOf
  induction l generalizing n with
  | nil => rfl
  | cons d l ih => rw [List.foldl_cons, List.foldl_cons, ih, ih (0 + _)]; omega

theorem bytesOf_nil : bytesOf [] = 0 := rfl

theorem bytesOf_cons (c : Char) (cs : List Char) : bytesOf (c :: cs) = c.utf8Size + bytesOf cs := by
  rw [bytesOf, List.foldl_cons, foldl_utf8Size]; omega

theorem bytesOf_one (c : Char) : bytesOf [c] = c.utf8Size := bytesOf_cons c []

theorem bytesOf_append (a b : List Char) : bytesOf (a ++ b) = bytesOf a + bytesOf b := by
  rw [bytesOf, List.foldl_append, foldl_utf8Size]; rfl

theorem bytesOf_pos {l : List Char} (h : l ≠ []) : 0 < bytesOf l := by
  cases l with
  | nil => exact absurd rfl h
  | cons c l => rw [bytesOf_cons]; have := Char.utf8Size_pos c; omega

theorem Listing.utf8Len_eq_bytesOf (l : List Char) : Listing.utf8Len l = bytesOf l := by
  induction l with
  | nil => rfl
  | cons c l ih => rw [Listing.utf8Len, bytesOf_cons, ih]

theorem bytes_prefix_of_le {a b c d : List Char} (h : a ++ b = c ++ d) (hle : bytesOf a ≤ bytesOf c) :
    ∃ x, c = a ++ x ∧ b = x ++ d := by
  rcases List.append_eq_append_iff.mp h with ⟨x, h1, h2⟩ | ⟨x, h1, h2⟩
  · exact ⟨x, h1, h2⟩
  · have hx : x = [] := Classical.byContradiction fun hx => by
      have := bytesOf_pos hx
      rw [h1, bytesOf_append] at hle; omega
    subst hx
    exact ⟨[], by simpa using h1.symm, by simpa using h2.symm⟩

theorem bytes_prefix_unique (a a' b b' : List Char) (h : a ++ b = a' ++ b') (hb : bytesOf a = bytesOf a') :
    a = a' ∧ b = b' := by
  obtain ⟨x, rfl, rfl⟩ := bytes_prefix_of_le h (Nat.le_of_eq hb)
  rw [bytesOf_append] at hb
  cases x with
  | nil => simp
  | cons c x => have := bytesOf_pos (l := c :: x) (by simp); omega

theorem bytesOf_take_le (l : List Char) (k : Nat) : bytesOf (l.take k) ≤ bytesOf l := by
  have := congrArg bytesOf (List.take_append_drop k l)
  rw [bytesOf_append] at this; omega

theorem bytesOf_take_lt (l : List Char) (k : Nat) (h : k < l.length) :
    bytesOf (l.take k) < bytesOf l := by
  have h1 := congrArg bytesOf (List.take_append_drop k l)
  rw [bytesOf_append] at h1
  have := bytesOf_pos (l := l.drop k) (by simpa using h)
  omega
