import GramModel.Lemmas.Eval
import GramModel.Lemmas.Oracle
import GramModel.Lemmas.WhnfRel

/-!
# One-step progress, for any judgement that types the evaluation positions; the independent checker

`EvalTyped J`: what a judgement `J` on terms has to provide for progress — the evaluation positions of a term
inherit it, and a value in such a position has the shape the position asks for.  `EvalTyped.stuck` is the one
descent along `stuckReason`.  Its instances: `inferX` (here, `AccX`: accepted at some fuel in some contexts; the
canonical forms come through `whnfX` / `convX`), the declarative rules (`Canonical.Typed`, `Lemmas/Canonical.lean`)
and their group-free closed fragment (`SoundRun.TypedNL`).  The file declares into the namespace `OracleLemmas` of
`Lemmas/Oracle.lean` what is about `inferX`; `EvalTyped` and `progress_of_stuck` are in the root namespace.
-/

namespace OracleLemmas

theorem value_type_shape (f : Nat) (Γ : TCtxX) (Δ : DCtxX) (v T : Tm) (hv : isValue v = true)
    (h : inferX f Γ Δ v = .ok T) :
    (match v with
     | .lit _ => T = .int
     | .tt | .ff => T = .bool
     | .type | .int | .bool | .pi .. => T = .type
     | .lam x im d _ => ∃ cod, T = .pi x im d cod
     | _ => False) := by
  obtain ⟨f, rfl⟩ := inferX_ok_succ h
  cases v <;> first | (cases hv; done) | (cases h; rfl; done) | skip
  case lam x im d b => obtain ⟨_, cod, _, _, _, e⟩ := inferX_lam_inv h; exact ⟨cod, e⟩
  case pi x im d b => obtain ⟨_, _, _, _, _, _, e⟩ := inferX_pi_inv h; exact e

theorem convX_int_rigid (f : Nat) (Δ : DCtxX) (T : Tm)
    (hT : T = .bool ∨ T = .type ∨ ∃ x im d c, T = .pi x im d c) : convX f Δ T .int ≠ some true := by
  rcases hT with rfl | rfl | ⟨x, im, d, c, rfl⟩ <;>
    (cases f with
     | zero => simp [convX]
     | succ f => cases f <;> simp [convX, sameX, whnfX])

theorem convX_bool_rigid (f : Nat) (Δ : DCtxX) (T : Tm)
    (hT : T = .int ∨ T = .type ∨ ∃ x im d c, T = .pi x im d c) : convX f Δ T .bool ≠ some true := by
  rcases hT with rfl | rfl | ⟨x, im, d, c, rfl⟩ <;>
    (cases f with
     | zero => simp [convX]
     | succ f => cases f <;> simp [convX, sameX, whnfX])

theorem value_expect_int (f : Nat) (Γ : TCtxX) (Δ : DCtxX) (v T : Tm) (e : XErr)
    (hv : isValue v = true) (h : inferX f Γ Δ v = .ok T) (hc : expectX f Δ T .int e = .ok ()) :
    ∃ n, v = .lit n := by
  have hs := value_type_shape f Γ Δ v T hv h
  have key := expectX_ok hc
  cases v <;> simp [isValue] at hv <;> simp only at hs
  case lit => exact ⟨_, rfl⟩
  case lam => obtain ⟨cod, rfl⟩ := hs; exact absurd key (convX_int_rigid _ _ _ (by simp))
  all_goals
    subst hs
    exact absurd key (convX_int_rigid _ _ _ (by simp))

theorem value_expect_bool (f : Nat) (Γ : TCtxX) (Δ : DCtxX) (v T : Tm) (e : XErr)
    (hv : isValue v = true) (h : inferX f Γ Δ v = .ok T) (hc : expectX f Δ T .bool e = .ok ()) :
    v = .tt ∨ v = .ff := by
  have hs := value_type_shape f Γ Δ v T hv h
  have key := expectX_ok hc
  cases v <;> simp [isValue] at hv <;> simp only at hs
  case tt => exact Or.inl rfl
  case ff => exact Or.inr rfl
  case lam => obtain ⟨cod, rfl⟩ := hs; exact absurd key (convX_bool_rigid _ _ _ (by simp))
  all_goals
    subst hs
    exact absurd key (convX_bool_rigid _ _ _ (by simp))

theorem value_whnf_fun (f : Nat) (Γ : TCtxX) (Δ : DCtxX) (v T W : Tm)
    (hv : isValue v = true) (h : inferX f Γ Δ v = .ok T) (hw : whnfX f Δ T = some W)
    (hW : (∃ x im d c, W = .pi x im d c) ∨ (∃ id sh, W = .hole id sh)) :
    ∃ x im d b, v = .lam x im d b := by
  have hs := value_type_shape f Γ Δ v T hv h
  have hr := whnfX_rel _ _ _ _ hw
  cases v <;> simp [isValue] at hv <;> simp only at hs
  case lam => exact ⟨_, _, _, _, rfl⟩
  all_goals
    subst hs
    cases hr
    rcases hW with ⟨_, _, _, _, h⟩ | ⟨_, _, h⟩ <;> cases h

theorem not_not_value {t : Tm} (h : ¬(!isValue t) = true) : isValue t = true := by
  cases hv : isValue t <;> simp [hv] at h ⊢

end OracleLemmas

structure EvalTyped (J : Tm → Prop) : Prop where
  hole : ∀ {i s}, ¬ J (.hole i s)
  app : ∀ {f a}, J (.app f a) → J f ∧ J a ∧ (isValue f = true → ∃ x im d b, f = .lam x im d b)
  letg : ∀ {x ann d r b}, J (.letg (.cons x ann d r) b) → J d
  neg : ∀ {a}, J (.neg a) → J a ∧ (isValue a = true → ∃ n, a = .lit n)
  bin : ∀ {op a b}, J (.bin op a b) →
    (J a ∧ (isValue a = true → ∃ n, a = .lit n)) ∧ J b ∧ (isValue b = true → ∃ n, b = .lit n)
  ite : ∀ {c a b}, J (.ite c a b) → J c ∧ (isValue c = true → c = .tt ∨ c = .ff)

open OracleLemmas (not_not_value) in
/-- a stuck term that `J` accepts is stuck at a division by zero, or at a variable that `J` accepts -/
theorem EvalTyped.stuck {J : Tm → Prop} (H : EvalTyped J) : ∀ (t : Tm) (r : StuckReason),
    stuckReason t = some r → J t → r = .divZero ∨ (r = .variable ∧ ∃ x i, J (.var x i)) := by
  intro t
  fun_induction stuckReason t <;> intro r hs h
  all_goals try (cases hs; done)
  -- the cases left are the arms of `stuckReason` that answer `some _`
  case case1 => exact (H.hole h).elim  -- a hole
  case case2 => cases hs; exact .inr ⟨rfl, _, _, h⟩  -- a variable
  case case4 ih => exact ih r hs (H.app h).1  -- application: stuck in the function
  case case6 ih => exact ih r hs (H.app h).2.1  -- … in the argument
  case case8 hvf _ _ hnl =>  -- … at a function value that is no `λ`
    obtain ⟨x, im, d, b, e⟩ := (H.app h).2.2 (not_not_value hvf)
    exact (hnl x im d b e).elim
  case case11 ih => exact ih r hs (H.letg h)  -- group: stuck in the first definition
  case case14 ih => exact ih r hs (H.neg h).1  -- negation: stuck in the operand
  case case16 _ hva hnl =>  -- … at a value that is no literal
    obtain ⟨n, e⟩ := (H.neg h).2 (not_not_value hva)
    exact (hnl n e).elim
  case case18 ih => exact ih r hs (H.bin h).1.1  -- operator: stuck in the left operand
  case case20 ih => exact ih r hs (H.bin h).2.1  -- … in the right operand
  case case21 => cases hs; exact .inl rfl  -- … two literals: division by zero
  case case23 _ hva _ hvb hnl =>  -- … two values, not both literals
    obtain ⟨n, e1⟩ := (H.bin h).1.2 (not_not_value hva)
    obtain ⟨m, e2⟩ := (H.bin h).2.2 (not_not_value hvb)
    exact (hnl n m e1 e2).elim
  case case25 ih => exact ih r hs (H.ite h).1  -- conditional: stuck in the condition
  case case28 _ hvc hnt hnf =>  -- … at a value that is no boolean
    rcases (H.ite h).2 (not_not_value hvc) with e | e
    · exact (hnt e).elim
    · exact (hnf e).elim

theorem progress_of_stuck {t : Tm}
    (hst : ∀ r, stuckReason t = some r → r = .variable ∨ r = .divZero) :
    isValue t = true ∨ (∃ t', Step t t') ∨ stuckReason t = some .variable ∨
      stuckReason t = some .divZero := by
  cases hv : isValue t with
  | true => exact .inl rfl
  | false =>
    cases hs : step t with
    | some t' => exact .inr (.inl ⟨t', step_sound t t' hs⟩)
    | none =>
      obtain ⟨r, hr⟩ := stuckReason_complete t hs hv
      rcases hst r hr with rfl | rfl
      · exact .inr (.inr (.inl hr))
      · exact .inr (.inr (.inr hr))

namespace OracleLemmas

def AccX (t : Tm) : Prop := t.holeFree = true ∧ ∃ f Γ Δ T, inferX f Γ Δ t = .ok T

theorem AccX.evalTyped : EvalTyped AccX where
  hole h := nomatch h.1
  app := by
    rintro g a ⟨hf, f, Γ, Δ, T, h⟩
    obtain ⟨f, rfl⟩ := inferX_ok_succ h
    simp only [Tm.holeFree, Bool.and_eq_true] at hf
    obtain ⟨gty, W, aty, hg, hw, ha, hW⟩ := inferX_app_inv h
    exact ⟨⟨hf.1, _, _, _, _, hg⟩, ⟨hf.2, _, _, _, _, ha⟩, fun hv =>
      value_whnf_fun f Γ Δ _ gty W hv hg hw
        (hW.imp (fun ⟨x, im, d, c, e, _⟩ => ⟨x, im, d, c, e⟩) (fun ⟨i, s, e, _⟩ => ⟨i, s, e⟩))⟩
  letg := by
    rintro x ann d r b ⟨hf, f, Γ, Δ, T, h⟩
    obtain ⟨f, rfl⟩ := inferX_ok_succ h
    simp only [Tm.holeFree, Defs.holeFree, Bool.and_eq_true] at hf
    obtain ⟨_, hd, _⟩ := inferX_letg_inv h
    obtain ⟨f, rfl⟩ := inferDefsX_ok_succ hd
    obtain ⟨_, dty, _, _, hdd, _⟩ := inferDefsX_cons_inv hd
    exact ⟨hf.1.1.2, _, _, _, _, hdd⟩
  neg := by
    rintro a ⟨hf, f, Γ, Δ, T, h⟩
    obtain ⟨f, rfl⟩ := inferX_ok_succ h
    obtain ⟨aty, ha, he, _⟩ := inferX_neg_inv h
    exact ⟨⟨hf, _, _, _, _, ha⟩, fun hv => value_expect_int f Γ Δ _ aty _ hv ha he⟩
  bin := by
    rintro op a b ⟨hf, f, Γ, Δ, T, h⟩
    obtain ⟨f, rfl⟩ := inferX_ok_succ h
    simp only [Tm.holeFree, Bool.and_eq_true] at hf
    obtain ⟨aty, bty, ha, hea, hb, heb, _⟩ := inferX_bin_inv h
    exact ⟨⟨⟨hf.1, _, _, _, _, ha⟩, fun hv => value_expect_int f Γ Δ _ aty _ hv ha hea⟩,
      ⟨hf.2, _, _, _, _, hb⟩, fun hv => value_expect_int f Γ Δ _ bty _ hv hb heb⟩
  ite := by
    rintro c a b ⟨hf, f, Γ, Δ, T, h⟩
    obtain ⟨f, rfl⟩ := inferX_ok_succ h
    simp only [Tm.holeFree, Bool.and_eq_true] at hf
    obtain ⟨cty, _, hc, he, _⟩ := inferX_ite_inv h
    exact ⟨⟨hf.1.1, _, _, _, _, hc⟩, fun hv => value_expect_bool f Γ Δ _ cty _ hv hc he⟩

/-- **One-step progress for the independent checker.**  A hole-free term accepted by `inferX`
(any fuel, any contexts) that is stuck is stuck at a variable in evaluation position or at a
division by zero. -/
theorem typed_stuck_only_var_or_div : ∀ (t : Tm) (r : StuckReason), stuckReason t = some r →
    ∀ (f : Nat) (Γ : TCtxX) (Δ : DCtxX) (T : Tm), t.holeFree = true → inferX f Γ Δ t = .ok T →
      r = .variable ∨ r = .divZero :=
  fun t r hs f Γ Δ T hf h => (AccX.evalTyped.stuck t r hs ⟨hf, f, Γ, Δ, T, h⟩).symm.imp And.left id

end OracleLemmas
