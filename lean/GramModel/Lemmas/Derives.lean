import GramModel.Generated.Grammar

/-!
# Derivations in a grammar given as a list of productions

The relation with which C07 (every parse is a derivation of `grammar.y`) and C16 (the printed text is a
sentence) are stated.  The productions are a parameter, the terminals are always those of `grammar.y`
(`Generated.grammarTerminals`): `Derives G` is meant for lists `G` of productions of that grammar.
-/

mutual
/-- `Derives G A w`: the nonterminal `A` derives the terminal string `w` in the grammar `G` -/
inductive Derives (G : List (String × List String)) : String → List String → Prop
  | prod {A rhs w} : (A, rhs) ∈ G → DerivesSeq G rhs w → Derives G A w
/-- a sequence of symbols derives the concatenation of what its members derive -/
inductive DerivesSeq (G : List (String × List String)) : List String → List String → Prop
  | nil : DerivesSeq G [] []
  | term {a rest w} : a ∈ Generated.grammarTerminals → DerivesSeq G rest w → DerivesSeq G (a :: rest) (a :: w)
  | nonterm {A rest w1 w2} : Derives G A w1 → DerivesSeq G rest w2 → DerivesSeq G (A :: rest) (w1 ++ w2)
end
