import GramModel.Typing
import GramModel.Lemmas.Natural
import GramModel.Lemmas.Oracle

/-!
# The typing rules gram's checker implements, and the type it computes for a group

`Rules J`: the closure properties of a typing judgement that the checker uses.  Its group rule is the *unfolding*
rule that gram implements: a group `ds; body` with `body : bty` gets `groupTypeX ds bty`, every group variable of
`bty` replaced by the closed term `ds; x`.  That rule is admissible in `HasType` (`groupRuleAdmissible`) because
`ds; bty` and `groupTypeX ds bty` are convertible (`group_type_conv`): both are `bty` under a sequence of substitutions
(`applyOps`), `letTypeS`'s (last definition first) and the normalizer's (first definition first), which replace every
variable by convertible terms (`applyOps_cong`, with the group congruence `Conv.letg`).  Nothing here speaks of the
store layer.  The file declares into `CheckSound`, the namespace of `Lemmas/CheckSound.lean`, which stands on it.
-/

namespace CheckSound

/-- the pure version of `letTypeS` -/
def letTypeX (ds : Defs) : Nat → Nat → Tm → Tm
  | 0, _, acc => acc
  | k+1, i, acc =>
      let n := ds.len
      let amount := n - 1 - i
      let name := match (ds.toList[amount]?) with
        | some (x, _, _) => x
        | none => 0
      letTypeX ds k (i + 1) (openT acc 0 (.letg (ushiftDefs n amount ds) (.var name i)) 0)

/-- the type gram reports for the group `ds; body` when `body : bty` under the group -/
abbrev groupTypeX (ds : Defs) (bty : Tm) : Tm := letTypeX ds ds.len 0 bty

theorem letTypeX_holeFree (ds : Defs) (hds : ds.holeFree = true) : ∀ (k i : Nat) (acc : Tm),
    acc.holeFree = true → (letTypeX ds k i acc).holeFree = true := by
  intro k
  induction k with
  | zero => intro i acc h; exact h
  | succ k ih =>
    intro i acc h
    unfold letTypeX
    refine ih _ _ (openT_holeFree _ _ _ _ h ?_)
    simp only [Tm.holeFree, Bool.and_eq_true, and_true]
    rw [holeFree_ushiftDefs]; exact hds

def DefsJ (J : TCtxX → DCtxX → Tm → Tm → Prop) (Γ : TCtxX) (Δ : DCtxX) : Defs → Prop
  | .nil => True
  | .cons _ a d r => J Γ Δ a .type ∧ J Γ Δ d a ∧ DefsJ J Γ Δ r

/-- The closure properties of a typing judgement that the checker relies on: the rules of
`Typing.lean`, except that the group rule assigns the *unfolded* type `groupTypeX ds bty` (what gram
computes) instead of `.letg ds bty`. -/
structure Rules (J : TCtxX → DCtxX → Tm → Tm → Prop) : Prop where
  type : ∀ Γ Δ, J Γ Δ .type .type
  int : ∀ Γ Δ, J Γ Δ .int .type
  bool : ∀ Γ Δ, J Γ Δ .bool .type
  lit : ∀ Γ Δ n, J Γ Δ (.lit n) .int
  tt : ∀ Γ Δ, J Γ Δ .tt .bool
  ff : ∀ Γ Δ, J Γ Δ .ff .bool
  var : ∀ Γ Δ x i ty off, Γ[i]? = some (ty, off) → off ≤ i + 1 →
    J Γ Δ (.var x i) (ushift 0 (i + 1 - off) ty)
  lam : ∀ Γ Δ x im d b cod, J Γ Δ d .type → J ((d, 0) :: Γ) (none :: Δ) b cod →
    J Γ Δ (.lam x im d b) (.pi x im d cod)
  pi : ∀ Γ Δ x im d c, J Γ Δ d .type → J ((d, 0) :: Γ) (none :: Δ) c .type →
    J Γ Δ (.pi x im d c) .type
  app : ∀ Γ Δ x im g a dom cod, J Γ Δ g (.pi x im dom cod) → J Γ Δ a dom →
    J Γ Δ (.app g a) (openT cod 0 a 0)
  neg : ∀ Γ Δ a, J Γ Δ a .int → J Γ Δ (.neg a) .int
  bin : ∀ Γ Δ op a b, J Γ Δ a .int → J Γ Δ b .int → J Γ Δ (.bin op a b) (binResult op)
  ite : ∀ Γ Δ c a b T, J Γ Δ c .bool → J Γ Δ a T → J Γ Δ b T → J Γ Δ (.ite c a b) T
  conv : ∀ Γ Δ t T T', J Γ Δ t T → Conv Δ T T' → J Γ Δ t T'
  letU : ∀ Γ Δ ds body bty, ds.holeFree = true → body.holeFree = true → bty.holeFree = true →
    DefsJ J (pushGroupX ds 0 (Γ, Δ)).1 (pushGroupX ds 0 (Γ, Δ)).2 ds →
    J (pushGroupX ds 0 (Γ, Δ)).1 (pushGroupX ds 0 (Γ, Δ)).2 body bty →
    J Γ Δ (.letg ds body) (groupTypeX ds bty)

mutual
/-- `HasType` (`Typing.lean`) extended by one rule: a group may also be given the *unfolded* type
`groupTypeX ds bty` that gram computes (every group variable `x` of the body's type replaced by the
closed term `ds; x`), instead of `ds; bty`. -/
inductive HasTypeU : TCtxX → DCtxX → Tm → Tm → Prop
  | type (Γ : TCtxX) (Δ : DCtxX) : HasTypeU Γ Δ .type .type
  | int (Γ : TCtxX) (Δ : DCtxX) : HasTypeU Γ Δ .int .type
  | bool (Γ : TCtxX) (Δ : DCtxX) : HasTypeU Γ Δ .bool .type
  | lit (Γ : TCtxX) (Δ : DCtxX) (n : Int) : HasTypeU Γ Δ (.lit n) .int
  | tt (Γ : TCtxX) (Δ : DCtxX) : HasTypeU Γ Δ .tt .bool
  | ff (Γ : TCtxX) (Δ : DCtxX) : HasTypeU Γ Δ .ff .bool
  | var {Γ : TCtxX} (Δ : DCtxX) (x : Name) (i : Nat) (ty : Tm) (off : Nat) :
      Γ[i]? = some (ty, off) → off ≤ i + 1 → HasTypeU Γ Δ (.var x i) (ushift 0 (i + 1 - off) ty)
  | lam {Γ : TCtxX} {Δ : DCtxX} (x : Name) (im : Bool) {d b cod : Tm} :
      HasTypeU Γ Δ d .type → HasTypeU ((d, 0) :: Γ) (none :: Δ) b cod →
      HasTypeU Γ Δ (.lam x im d b) (.pi x im d cod)
  | pi {Γ : TCtxX} {Δ : DCtxX} (x : Name) (im : Bool) {d c : Tm} :
      HasTypeU Γ Δ d .type → HasTypeU ((d, 0) :: Γ) (none :: Δ) c .type →
      HasTypeU Γ Δ (.pi x im d c) .type
  | app {Γ : TCtxX} {Δ : DCtxX} (x : Name) (im : Bool) {g a dom cod : Tm} :
      HasTypeU Γ Δ g (.pi x im dom cod) → HasTypeU Γ Δ a dom →
      HasTypeU Γ Δ (.app g a) (openT cod 0 a 0)
  | letg {Γ : TCtxX} {Δ : DCtxX} {ds : Defs} {body bty : Tm} :
      DefsOKU (pushGroupX ds 0 (Γ, Δ)).1 (pushGroupX ds 0 (Γ, Δ)).2 ds →
      HasTypeU (pushGroupX ds 0 (Γ, Δ)).1 (pushGroupX ds 0 (Γ, Δ)).2 body bty →
      HasTypeU Γ Δ (.letg ds body) (.letg ds bty)
  /-- the unfolding group rule (what gram's `type_check_rec` builds) -/
  | letU {Γ : TCtxX} {Δ : DCtxX} {ds : Defs} {body bty : Tm} :
      DefsOKU (pushGroupX ds 0 (Γ, Δ)).1 (pushGroupX ds 0 (Γ, Δ)).2 ds →
      HasTypeU (pushGroupX ds 0 (Γ, Δ)).1 (pushGroupX ds 0 (Γ, Δ)).2 body bty →
      HasTypeU Γ Δ (.letg ds body) (groupTypeX ds bty)
  | neg {Γ : TCtxX} {Δ : DCtxX} {a : Tm} : HasTypeU Γ Δ a .int → HasTypeU Γ Δ (.neg a) .int
  | bin {Γ : TCtxX} {Δ : DCtxX} (op : BinOp) {a b : Tm} :
      HasTypeU Γ Δ a .int → HasTypeU Γ Δ b .int → HasTypeU Γ Δ (.bin op a b) (binResult op)
  | ite {Γ : TCtxX} {Δ : DCtxX} {c a b T : Tm} :
      HasTypeU Γ Δ c .bool → HasTypeU Γ Δ a T → HasTypeU Γ Δ b T → HasTypeU Γ Δ (.ite c a b) T
  | conv {Γ : TCtxX} {Δ : DCtxX} {t T T' : Tm} : HasTypeU Γ Δ t T → Conv Δ T T' → HasTypeU Γ Δ t T'
inductive DefsOKU : TCtxX → DCtxX → Defs → Prop
  | nil (Γ : TCtxX) (Δ : DCtxX) : DefsOKU Γ Δ .nil
  | cons {Γ : TCtxX} {Δ : DCtxX} (x : Name) {ann d : Tm} {rest : Defs} :
      HasTypeU Γ Δ ann .type → HasTypeU Γ Δ d ann → DefsOKU Γ Δ rest →
      DefsOKU Γ Δ (.cons x ann d rest)
end

theorem DefsOKU_of_DefsJ {Γ : TCtxX} {Δ : DCtxX} : ∀ (ds : Defs), DefsJ HasTypeU Γ Δ ds → DefsOKU Γ Δ ds
  | .nil, _ => .nil _ _
  | .cons x _ _ r, h => .cons x h.1 h.2.1 (DefsOKU_of_DefsJ r h.2.2)

theorem rules_HasTypeU : Rules HasTypeU where
  type := .type
  int := .int
  bool := .bool
  lit := .lit
  tt := .tt
  ff := .ff
  var := fun _ Δ x i ty off h1 h2 => .var Δ x i ty off h1 h2
  lam := fun _ _ x im _ _ _ h1 h2 => .lam x im h1 h2
  pi := fun _ _ x im _ _ h1 h2 => .pi x im h1 h2
  app := fun _ _ x im _ _ _ _ h1 h2 => .app x im h1 h2
  neg := fun _ _ _ h => .neg h
  bin := fun _ _ op _ _ h1 h2 => .bin op h1 h2
  ite := fun _ _ _ _ _ _ h1 h2 h3 => .ite h1 h2 h3
  conv := fun _ _ _ _ _ h c => .conv h c
  letU := fun _ _ ds _ _ _ _ _ hds hb => .letU (DefsOKU_of_DefsJ ds hds) hb

theorem DefsOK_of_DefsJ {Γ : TCtxX} {Δ : DCtxX} : ∀ (ds : Defs), DefsJ HasType Γ Δ ds → DefsOK Γ Δ ds
  | .nil, _ => .nil _ _
  | .cons x _ _ r, h => .cons x h.1 h.2.1 (DefsOK_of_DefsJ r h.2.2)

/-- The unfolding group rule is admissible in `HasType` — the one fact about `Conv` that separates
`HasTypeU` from `HasType`. -/
def GroupRuleAdmissible : Prop :=
  ∀ (Γ : TCtxX) (Δ : DCtxX) (ds : Defs) (body bty : Tm), ds.holeFree = true → body.holeFree = true →
    bty.holeFree = true →
    DefsOK (pushGroupX ds 0 (Γ, Δ)).1 (pushGroupX ds 0 (Γ, Δ)).2 ds →
    HasType (pushGroupX ds 0 (Γ, Δ)).1 (pushGroupX ds 0 (Γ, Δ)).2 body bty →
    HasType Γ Δ (.letg ds body) (groupTypeX ds bty)

/-- `HasType` is closed under the rules once the unfolding group rule is admissible, which `groupRuleAdmissible` at the
end of the file proves; `C03_checker_sound_modulo_group` is stated in this form. -/
theorem rules_HasType (hadm : GroupRuleAdmissible) : Rules HasType where
  type := .type
  int := .int
  bool := .bool
  lit := .lit
  tt := .tt
  ff := .ff
  var := fun _ Δ x i ty off h1 h2 => .var Δ x i ty off h1 h2
  lam := fun _ _ x im _ _ _ h1 h2 => .lam x im h1 h2
  pi := fun _ _ x im _ _ h1 h2 => .pi x im h1 h2
  app := fun _ _ x im _ _ _ _ h1 h2 => .app x im h1 h2
  neg := fun _ _ _ h => .neg h
  bin := fun _ _ op _ _ h1 h2 => .bin op h1 h2
  ite := fun _ _ _ _ _ _ h1 h2 h3 => .ite h1 h2 h3
  conv := fun _ _ _ _ _ h c => .conv h c
  letU := fun Γ Δ ds body bty h1 h2 h3 hds hb => hadm Γ Δ ds body bty h1 h2 h3 (DefsOK_of_DefsJ ds hds) hb

def noLet : Tm → Bool
  | .lam _ _ d b => noLet d && noLet b
  | .pi _ _ d b => noLet d && noLet b
  | .app f a => noLet f && noLet a
  | .letg _ _ => false
  | .neg a => noLet a
  | .bin _ a b => noLet a && noLet b
  | .ite c t e => noLet c && noLet t && noLet e
  | _ => true

/-- `HasType` on terms without groups: the instance of `Rules` that does not use the group rule -/
def HasTypeNL (Γ : TCtxX) (Δ : DCtxX) (t T : Tm) : Prop := noLet t = true → HasType Γ Δ t T

theorem rules_HasTypeNL : Rules HasTypeNL where
  type := fun _ _ _ => .type _ _
  int := fun _ _ _ => .int _ _
  bool := fun _ _ _ => .bool _ _
  lit := fun _ _ n _ => .lit _ _ n
  tt := fun _ _ _ => .tt _ _
  ff := fun _ _ _ => .ff _ _
  var := fun _ Δ x i ty off h1 h2 _ => .var Δ x i ty off h1 h2
  lam := fun _ _ x im _ _ _ h1 h2 hn => by
    simp only [noLet, Bool.and_eq_true] at hn
    exact .lam x im (h1 hn.1) (h2 hn.2)
  pi := fun _ _ x im _ _ h1 h2 hn => by
    simp only [noLet, Bool.and_eq_true] at hn
    exact .pi x im (h1 hn.1) (h2 hn.2)
  app := fun _ _ x im _ _ _ _ h1 h2 hn => by
    simp only [noLet, Bool.and_eq_true] at hn
    exact .app x im (h1 hn.1) (h2 hn.2)
  neg := fun _ _ _ h hn => by
    simp only [noLet] at hn
    exact .neg (h hn)
  bin := fun _ _ op _ _ h1 h2 hn => by
    simp only [noLet, Bool.and_eq_true] at hn
    exact .bin op (h1 hn.1) (h2 hn.2)
  ite := fun _ _ _ _ _ _ h1 h2 h3 hn => by
    simp only [noLet, Bool.and_eq_true] at hn
    exact .ite (h1 hn.1.1) (h2 hn.1.2) (h3 hn.2)
  conv := fun _ _ _ _ _ h c hn => .conv (h hn) c
  letU := fun _ _ _ _ _ _ _ _ _ _ hn => by simp [noLet] at hn

/-- apply the substitutions `ops` (index, term) one after the other, under `k` binders -/
def applyOps (k : Nat) : List (Nat × Tm) → Tm → Tm
  | [], t => t
  | (i, u) :: ops, t => applyOps k ops (openT t (i + k) u k)
def applyOpsDefs (k : Nat) : List (Nat × Tm) → Defs → Defs
  | [], ds => ds
  | (i, u) :: ops, ds => applyOpsDefs k ops (openDefs ds (i + k) u k)

def _root_.Act.ofOps : List (Nat × Tm) → Act
  | [] => .id
  | (i, u) :: ops => (Act.ofOps ops).comp (.subst i u 0)

theorem applyOps_eq_trav : ∀ (ops : List (Nat × Tm)) (k : Nat) (t : Tm),
    applyOps k ops t = t.trav (.ofOps ops) k
  | [], _, t => (t.trav_id _).symm
  | (i, u) :: ops, k, t => by
      have := openT_add_eq_trav t i u 0 k
      rw [Nat.zero_add] at this
      rw [applyOps, this, applyOps_eq_trav ops, Tm.trav_trav]; rfl

theorem applyOpsDefs_eq_trav : ∀ (ops : List (Nat × Tm)) (k : Nat) (ds : Defs),
    applyOpsDefs k ops ds = ds.trav (.ofOps ops) k
  | [], _, ds => (ds.trav_id _).symm
  | (i, u) :: ops, k, ds => by
      have := openDefs_add_eq_trav ds i u 0 k
      rw [Nat.zero_add] at this
      rw [applyOpsDefs, this, applyOpsDefs_eq_trav ops, Defs.trav_trav]; rfl

theorem applyOpsDefs_len (k : Nat) (ops : List (Nat × Tm)) (ds : Defs) :
    (applyOpsDefs k ops ds).len = ds.len := by
  rw [applyOpsDefs_eq_trav]; exact Defs.len_trav ..

theorem applyOps_lam (x : Name) (im : Bool) (ops : List (Nat × Tm)) (k : Nat) (d b : Tm) :
    applyOps k ops (.lam x im d b) = .lam x im (applyOps k ops d) (applyOps (k+1) ops b) := by
  simp only [applyOps_eq_trav, Tm.trav]
theorem applyOps_pi (x : Name) (im : Bool) (ops : List (Nat × Tm)) (k : Nat) (d b : Tm) :
    applyOps k ops (.pi x im d b) = .pi x im (applyOps k ops d) (applyOps (k+1) ops b) := by
  simp only [applyOps_eq_trav, Tm.trav]
theorem applyOps_app (ops : List (Nat × Tm)) (k : Nat) (f a : Tm) :
    applyOps k ops (.app f a) = .app (applyOps k ops f) (applyOps k ops a) := by
  simp only [applyOps_eq_trav, Tm.trav]
theorem applyOps_neg (ops : List (Nat × Tm)) (k : Nat) (a : Tm) :
    applyOps k ops (.neg a) = .neg (applyOps k ops a) := by
  simp only [applyOps_eq_trav, Tm.trav]
theorem applyOps_bin (op : BinOp) (ops : List (Nat × Tm)) (k : Nat) (a b : Tm) :
    applyOps k ops (.bin op a b) = .bin op (applyOps k ops a) (applyOps k ops b) := by
  simp only [applyOps_eq_trav, Tm.trav]
theorem applyOps_ite (ops : List (Nat × Tm)) (k : Nat) (c a b : Tm) :
    applyOps k ops (.ite c a b) = .ite (applyOps k ops c) (applyOps k ops a) (applyOps k ops b) := by
  simp only [applyOps_eq_trav, Tm.trav]
theorem applyOps_letg (ops : List (Nat × Tm)) (k : Nat) (ds : Defs) (b : Tm) :
    applyOps k ops (.letg ds b) =
      .letg (applyOpsDefs (k + ds.len) ops ds) (applyOps (k + ds.len) ops b) := by
  simp only [applyOps_eq_trav, applyOpsDefs_eq_trav, Tm.trav]
theorem applyOps_const (ops : List (Nat × Tm)) (k : Nat) (t : Tm)
    (h : t = .type ∨ t = .int ∨ t = .bool ∨ t = .tt ∨ t = .ff ∨ ∃ n, t = .lit n) : applyOps k ops t = t := by
  rcases h with rfl | rfl | rfl | rfl | rfl | ⟨n, rfl⟩ <;> simp only [applyOps_eq_trav, Tm.trav]
theorem applyOpsDefs_nil (k : Nat) (ops : List (Nat × Tm)) : applyOpsDefs k ops .nil = .nil := by
  simp only [applyOpsDefs_eq_trav, Defs.trav]
theorem applyOpsDefs_cons (k : Nat) (x : Name) (ops : List (Nat × Tm)) (a d : Tm) (r : Defs) :
    applyOpsDefs k ops (.cons x a d r) =
      .cons x (applyOps k ops a) (applyOps k ops d) (applyOpsDefs k ops r) := by
  simp only [applyOps_eq_trav, applyOpsDefs_eq_trav, Defs.trav]

theorem applyOps_var_lt (x : Name) : ∀ (ops : List (Nat × Tm)) (k j : Nat), j < k →
    applyOps k ops (.var x j) = .var x j
  | [], _, _, _ => rfl
  | (i, u) :: ops, k, j, h => by
      have e : openT (.var x j) (i + k) u k = .var x j := by
        simp only [openT]
        rw [if_neg (by omega), if_neg (by omega)]
      rw [applyOps, e]
      exact applyOps_var_lt x ops k j h

theorem applyOps_ushift : ∀ (ops : List (Nat × Tm)) (k : Nat) (t : Tm),
    applyOps k ops (ushift 0 k t) = ushift 0 k (applyOps 0 ops t)
  | [], _, _ => rfl
  | (i, u) :: ops, k, t => by
      simp only [applyOps]
      have := open_ushift_low t u i 0 k 0 (Nat.zero_le _) (Nat.le_refl _)
      rw [Nat.zero_add] at this
      rw [Nat.add_zero, ← this]
      exact applyOps_ushift ops k _

theorem applyOps_var_ge (x : Name) (ops : List (Nat × Tm)) (k j : Nat) (h : k ≤ j) :
    applyOps k ops (.var x j) = ushift 0 k (applyOps 0 ops (.var x (j - k))) := by
  rw [← applyOps_ushift]
  congr 1
  simp only [ushift]
  rw [if_pos (Nat.zero_le _)]
  congr 1
  omega

/-- the two sequences substitute convertible terms for every variable (pointwise) -/
def PW (ops1 ops2 : List (Nat × Tm)) : Prop :=
  ∀ (Δ : DCtxX) (k : Nat) (x : Name) (j : Nat),
    Conv Δ (applyOps k ops1 (.var x j)) (applyOps k ops2 (.var x j))

mutual
theorem applyOps_cong {ops1 ops2 : List (Nat × Tm)} (pw : PW ops1 ops2) :
    ∀ (t : Tm) (Δ : DCtxX) (k : Nat), t.holeFree = true →
      Conv Δ (applyOps k ops1 t) (applyOps k ops2 t)
  | .hole _ _, _, _, h => by cases h
  | .var x j, Δ, k, _ => pw Δ k x j
  | .type, _, k, _ | .int, _, k, _ | .bool, _, k, _ | .tt, _, k, _ | .ff, _, k, _ | .lit _, _, k, _ => by
      rw [applyOps_const ops1 k _ (by simp), applyOps_const ops2 k _ (by simp)]; exact .refl _ _
  | .lam x im d b, Δ, k, h => by
      simp only [Tm.holeFree, Bool.and_eq_true] at h
      rw [applyOps_lam, applyOps_lam]
      exact .lam _ _ _ _ _ (applyOps_cong pw b _ (k+1) h.2)
  | .pi x im d b, Δ, k, h => by
      simp only [Tm.holeFree, Bool.and_eq_true] at h
      rw [applyOps_pi, applyOps_pi]
      exact .pi _ _ _ (applyOps_cong pw d Δ k h.1) (applyOps_cong pw b _ (k+1) h.2)
  | .app f a, Δ, k, h => by
      simp only [Tm.holeFree, Bool.and_eq_true] at h
      rw [applyOps_app, applyOps_app]
      exact .app (applyOps_cong pw f Δ k h.1) (applyOps_cong pw a Δ k h.2)
  | .neg a, Δ, k, h => by
      simp only [Tm.holeFree] at h
      rw [applyOps_neg, applyOps_neg]
      exact .neg (applyOps_cong pw a Δ k h)
  | .bin op a b, Δ, k, h => by
      simp only [Tm.holeFree, Bool.and_eq_true] at h
      rw [applyOps_bin, applyOps_bin]
      exact .bin op (applyOps_cong pw a Δ k h.1) (applyOps_cong pw b Δ k h.2)
  | .ite c a b, Δ, k, h => by
      simp only [Tm.holeFree, Bool.and_eq_true] at h
      rw [applyOps_ite, applyOps_ite]
      exact .ite (applyOps_cong pw c Δ k h.1.1) (applyOps_cong pw a Δ k h.1.2)
        (applyOps_cong pw b Δ k h.2)
  | .letg ds b, Δ, k, h => by
      simp only [Tm.holeFree, Bool.and_eq_true] at h
      rw [applyOps_letg, applyOps_letg]
      exact .letg (applyOpsDefs_cong pw ds _ _ h.1) (applyOps_cong pw b _ _ h.2)
theorem applyOpsDefs_cong {ops1 ops2 : List (Nat × Tm)} (pw : PW ops1 ops2) :
    ∀ (ds : Defs) (Δ : DCtxX) (k : Nat), ds.holeFree = true →
      ConvDefs Δ (applyOpsDefs k ops1 ds) (applyOpsDefs k ops2 ds)
  | .nil, Δ, k, _ => by rw [applyOpsDefs_nil, applyOpsDefs_nil]; exact .nil _
  | .cons x a d r, Δ, k, h => by
      simp only [Defs.holeFree, Bool.and_eq_true] at h
      rw [applyOpsDefs_cons, applyOpsDefs_cons]
      exact .cons x x (applyOps_cong pw a Δ k h.1.1) (applyOps_cong pw d Δ k h.1.2)
        (applyOpsDefs_cong pw r Δ k h.2)
end

/-- the name `letTypeS` gives the variable it substitutes at step `i` -/
def nameAt (ds : Defs) (i : Nat) : Name :=
  match (ds.toList[ds.len - 1 - i]?) with
  | some (x, _, _) => x
  | none => 0

/-- what `letTypeS` substitutes at step `i`: the whole group with body the `i`-th variable -/
def Lterm (ds : Defs) (i : Nat) : Tm :=
  .letg (ushiftDefs ds.len (ds.len - 1 - i) ds) (.var (nameAt ds i) i)

/-- gram's sequence (`letTypeS`): `k` steps from step `i`, always at index 0 -/
def opsL (ds : Defs) : Nat → Nat → List (Nat × Tm)
  | _, 0 => []
  | i, k+1 => (0, Lterm ds i) :: opsL ds (i+1) k

theorem letTypeX_eq (ds : Defs) : ∀ (k i : Nat) (acc : Tm),
    letTypeX ds k i acc = applyOps 0 (opsL ds i k) acc := by
  intro k
  induction k with
  | zero => intro i acc; rfl
  | succ k ih =>
    intro i acc
    unfold letTypeX
    simp only [opsL, applyOps, Nat.add_zero]
    exact ih _ _

/-- the normalizer's sequence (`letStepX` iterated): definition `0` first, at the highest index.  The first argument is
fuel (`ds.len ≤ m` at every use): the recursion goes through `openDefs`. -/
def opsU : Nat → Defs → List (Nat × Tm)
  | 0, _ => []
  | _+1, .nil => []
  | m+1, .cons x a d r =>
      (r.len, unfoldDef x a d r.len) :: opsU m (openDefs r r.len (unfoldDef x a d r.len) 0)

theorem letg_conv_opsU (Δ : DCtxX) : ∀ (m : Nat) (ds : Defs) (t : Tm), ds.len ≤ m →
    Conv Δ (.letg ds t) (applyOps 0 (opsU m ds) t)
  | 0, .nil, t, _ => .red (.letNil _)
  | 0, .cons .., t, h => by simp at h
  | m+1, .nil, t, _ => .red (.letNil _)
  | m+1, .cons x a d r, t, h => by
      simp only [opsU, applyOps, Nat.add_zero]
      refine .trans (.red (.letStep x a d r t)) ?_
      simp only [letStepX]
      refine letg_conv_opsU Δ m _ _ ?_
      rw [openDefs_len]
      simpa using h

theorem Lterm_step (ds : Defs) (e : Nat) (y : Name) (v : Nat) (hv : v < ds.len) (u : Tm) :
    openT (.letg (ushiftDefs ds.len (e+1) ds) (.var y v)) 0 u 0 =
      .letg (ushiftDefs ds.len e ds) (.var y v) := by
  simp only [openT, ushiftDefs_len, Nat.zero_add]
  rw [if_neg (by omega), if_neg (by omega)]
  congr 1
  have : ushiftDefs ds.len (e+1) ds = ushiftDefs ds.len 1 (ushiftDefs ds.len e ds) := by
    rw [ushiftDefs_ushiftDefs, Nat.add_comm]
  rw [this]
  exact openDefs_ushiftDefs_cancel _ _ _ _

theorem opsL_on_Lterm (ds : Defs) (y : Name) (v : Nat) (hv : v < ds.len) : ∀ (k i e : Nat), k ≤ e →
    applyOps 0 (opsL ds i k) (.letg (ushiftDefs ds.len e ds) (.var y v)) =
      .letg (ushiftDefs ds.len (e - k) ds) (.var y v) := by
  intro k
  induction k with
  | zero => intro i e _; rfl
  | succ k ih =>
    intro i e h
    obtain ⟨e', rfl⟩ : ∃ e', e = e' + 1 := ⟨e - 1, by omega⟩
    simp only [opsL, applyOps, Nat.add_zero]
    rw [Lterm_step ds e' y v hv, ih (i+1) e' (by omega)]
    have e1 : e' + 1 - (k + 1) = e' - k := by omega
    rw [e1]

theorem opsL_var_hit (ds : Defs) (x : Name) : ∀ (k i j : Nat), j < k → i + k ≤ ds.len →
    applyOps 0 (opsL ds i k) (.var x j) =
      .letg (ushiftDefs ds.len (ds.len - i - k) ds) (.var (nameAt ds (i + j)) (i + j)) := by
  intro k
  induction k with
  | zero => intro i j h; omega
  | succ k ih =>
    intro i j hj hik
    simp only [opsL, applyOps, Nat.add_zero]
    cases j with
    | zero =>
      simp only [openT, if_true, ushift_zero, Lterm]
      rw [opsL_on_Lterm ds _ i (by omega) k (i+1) _ (by omega)]
      have e1 : ds.len - 1 - i - k = ds.len - i - (k + 1) := by omega
      rw [e1]
      rfl
    | succ j =>
      have e : openT (.var x (j+1)) 0 (Lterm ds i) 0 = .var x j := by
        simp only [openT]
        rw [if_neg (by omega), if_pos (by omega)]
        rfl
      rw [e, ih (i+1) j (by omega) (by omega)]
      have e2 : i + 1 + j = i + (j + 1) := by omega
      have e3 : ds.len - (i + 1) - k = ds.len - i - (k + 1) := by omega
      rw [e2, e3]

theorem opsL_var_miss (ds : Defs) (x : Name) : ∀ (k i j : Nat), k ≤ j →
    applyOps 0 (opsL ds i k) (.var x j) = .var x (j - k) := by
  intro k
  induction k with
  | zero => intro i j _; rfl
  | succ k ih =>
    intro i j h
    simp only [opsL, applyOps, Nat.add_zero]
    have e : openT (.var x j) 0 (Lterm ds i) 0 = .var x (j - 1) := by
      simp only [openT]
      rw [if_neg (by omega), if_pos (by omega)]
    rw [e, ih (i+1) (j-1) (by omega)]
    congr 1
    omega

theorem opsU_var_miss (x : Name) : ∀ (m : Nat) (ds : Defs) (j : Nat), ds.len ≤ m → ds.len ≤ j →
    applyOps 0 (opsU m ds) (.var x j) = .var x (j - ds.len)
  | 0, .nil, j, _, _ => rfl
  | 0, .cons .., j, h, _ => by simp at h
  | m+1, .nil, j, _, _ => rfl
  | m+1, .cons y a d r, j, hm, hj => by
      simp only [Defs.len_cons] at hm hj
      simp only [opsU, applyOps, Nat.add_zero]
      have e : openT (.var x j) r.len (unfoldDef y a d r.len) 0 = .var x (j - 1) := by
        simp only [openT]
        rw [if_neg (by omega), if_pos (by omega)]
      rw [e, opsU_var_miss x m _ (j-1) (by rw [openDefs_len]; omega) (by rw [openDefs_len]; omega)]
      rw [openDefs_len]
      simp only [Defs.len_cons]
      congr 1
      omega

theorem opsU_ushift : ∀ (m : Nat) (ds : Defs) (t : Tm) (c k : Nat), ds.holeFree = true →
    t.holeFree = true → ds.len ≤ m →
    applyOps 0 (opsU m (ushiftDefs (c + ds.len) k ds)) (ushift (c + ds.len) k t) =
      ushift c k (applyOps 0 (opsU m ds) t)
  | 0, .nil, t, c, k, _, _, _ => rfl
  | 0, .cons .., t, c, k, _, _, h => by simp at h
  | m+1, .nil, t, c, k, _, _, _ => rfl
  | m+1, .cons x a d r, t, c, k, hds, ht, hm => by
      simp only [Defs.holeFree, Bool.and_eq_true] at hds
      simp only [Defs.len_cons] at hm
      have hu := unfoldDef_holeFree x a d r.len hds.1.1 hds.1.2
      have e0 : c + (Defs.cons x a d r).len = (c + r.len) + 1 := by simp only [Defs.len_cons]; omega
      rw [e0]
      simp only [ushiftDefs, opsU, applyOps, Nat.add_zero, ushiftDefs_len]
      rw [← unfoldDef_ushift x a d r.len (c + r.len) k hds.1.1 hds.1.2 (by omega)]
      have e1 := open_ushift_high t (unfoldDef x a d r.len) r.len (c + r.len) k 0 ht (by omega)
      rw [Nat.sub_zero] at e1
      have e2 := openDefs_ushiftDefs_high r (unfoldDef x a d r.len) r.len (c + r.len) k 0 hds.2
        (by omega)
      rw [Nat.sub_zero] at e2
      rw [← e1, ← e2]
      have ih := opsU_ushift m (openDefs r r.len (unfoldDef x a d r.len) 0)
        (openT t r.len (unfoldDef x a d r.len) 0) c k (openDefs_holeFree _ _ _ _ hds.2 hu)
        (openT_holeFree _ _ _ _ ht hu) (by rw [openDefs_len]; omega)
      rw [openDefs_len] at ih
      exact ih

theorem pw_group (ds : Defs) (hds : ds.holeFree = true) :
    PW (opsL ds 0 ds.len) (opsU ds.len ds) := by
  intro Δ k x j
  by_cases hjk : j < k
  · rw [applyOps_var_lt x _ k j hjk, applyOps_var_lt x _ k j hjk]
    exact .refl _ _
  · rw [applyOps_var_ge x _ k j (by omega), applyOps_var_ge x _ k j (by omega)]
    by_cases hjn : j - k < ds.len
    · rw [opsL_var_hit ds x ds.len 0 (j - k) hjn (by omega)]
      have e0 : ds.len - 0 - ds.len = 0 := by omega
      rw [e0, ushiftDefs_zero, Nat.zero_add]
      have hv : ∀ (y : Name), ushift ds.len k (Tm.var y (j - k)) = Tm.var y (j - k) := by
        intro y; simp only [ushift]; rw [if_neg (by omega)]
      have el : ushift 0 k (Tm.letg ds (.var (nameAt ds (j - k)) (j - k))) =
          .letg (ushiftDefs ds.len k ds) (.var (nameAt ds (j - k)) (j - k)) := by
        simp only [ushift, Nat.zero_add]
        rw [if_neg (by omega)]
      have er' := opsU_ushift ds.len ds (.var x (j - k)) 0 k hds rfl (Nat.le_refl _)
      rw [Nat.zero_add, hv] at er'
      rw [el, ← er']
      refine .trans (.same ?_) (letg_conv_opsU Δ ds.len _ _ (by rw [ushiftDefs_len]; exact Nat.le_refl _))
      simp only [sameX, OracleLemmas.sameDefsX_refl, Bool.true_and, beq_self_eq_true]
    · rw [opsL_var_miss ds x ds.len 0 (j - k) (by omega),
        opsU_var_miss x ds.len ds (j - k) (Nat.le_refl _) (by omega)]
      exact .refl _ _

theorem group_type_conv (Δ : DCtxX) (ds : Defs) (bty : Tm) (hds : ds.holeFree = true)
    (hb : bty.holeFree = true) : Conv Δ (.letg ds bty) (groupTypeX ds bty) := by
  show Conv Δ (.letg ds bty) (letTypeX ds ds.len 0 bty)
  rw [letTypeX_eq]
  exact .trans (letg_conv_opsU Δ ds.len ds bty (Nat.le_refl _))
    (.symm (applyOps_cong (pw_group ds hds) bty Δ 0 hb))

theorem groupRuleAdmissible : GroupRuleAdmissible :=
  fun _ Δ ds _ bty hds _ hbty hd hb => .conv (.letg hd hb) (group_type_conv Δ ds bty hds hbty)

end CheckSound
