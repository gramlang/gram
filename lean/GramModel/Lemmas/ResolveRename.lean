import GramModel.Lemmas.Names
import GramModel.Lemmas.ResolveSteps
import GramModel.Lemmas.ReassocChain
import GramModel.Lemmas.Relab
import GramModel.Lemmas.FinishParse

/-!
# Resolution commutes with a consistent renaming of the surface program (C19, first rewrite)

`renameSrc ρ` renames every variable occurrence and every binder of a surface tree.  For a renaming
that is injective on the names that matter (those of the program, those of the initial context, and
the placeholder `_`, which must stay fixed), `resolve_variables` on the renamed tree in the renamed
context does exactly what it does on the original: same success/failure, the same de Bruijn term up to
the name annotations (`renameR ρ`), the same diagnostics (identical ranges, the error list is not
touched by the renaming), the same hole allocator, and the renamed final context (`RnSim`,
`resolve_rename_adm`).

After that: erasing commutes with the renaming (`renameTm` on de Bruijn terms is `Tm.relab (.names ρ)`);
`check_definitions`, `collectErrors` and the re-association passes do not look at names; so every stage of
`finishParse` (Lemmas/FinishParse.lean) commutes with the renaming (`finishParse_rename`, stated for a `ρ` that
is injective on all names: the passes are not shown to keep the set of names of the program).
-/

namespace PModel

def renVar (ρ : Name → Name) (v : SrcVar) : SrcVar := { v with name := ρ v.name }

@[simp] theorem renVar_name (ρ : Name → Name) (v : SrcVar) : (renVar ρ v).name = ρ v.name := rfl
@[simp] theorem renVar_range (ρ : Name → Name) (v : SrcVar) : (renVar ρ v).range = v.range := rfl

mutual
def renameSrc (ρ : Name → Name) : Src → Src
  | .mk r g v es => .mk r g (renameSrcV ρ v) es
def renameSrcV (ρ : Name → Name) : SrcV → SrcV
  | .parseError => .parseError
  | .type => .type
  | .var x => .var (ρ x)
  | .lam v imp dom body => .lam (renVar ρ v) imp (renameOpt ρ dom) (renameSrc ρ body)
  | .pi v imp dom cod => .pi (renVar ρ v) imp (renameSrc ρ dom) (renameSrc ρ cod)
  | .app f a => .app (renameSrc ρ f) (renameSrc ρ a)
  | .let_ v ann defn body =>
      .let_ (renVar ρ v) (renameOpt ρ ann) (renameSrc ρ defn) (renameSrc ρ body)
  | .int => .int
  | .lit n => .lit n
  | .neg a => .neg (renameSrc ρ a)
  | .bin op a b => .bin op (renameSrc ρ a) (renameSrc ρ b)
  | .bool => .bool
  | .tt => .tt
  | .ff => .ff
  | .ite c a b => .ite (renameSrc ρ c) (renameSrc ρ a) (renameSrc ρ b)
def renameOpt (ρ : Name → Name) : OptSrc → OptSrc
  | .none => .none
  | .some t => .some (renameSrc ρ t)
end

mutual
def srcNames : Src → List Name
  | .mk _ _ v _ => srcNamesV v
def srcNamesV : SrcV → List Name
  | .parseError => []
  | .type => []
  | .var x => [x]
  | .lam v _ dom body => v.name :: (srcNamesOpt dom ++ srcNames body)
  | .pi v _ dom cod => v.name :: (srcNames dom ++ srcNames cod)
  | .app f a => srcNames f ++ srcNames a
  | .let_ v ann defn body => v.name :: (srcNamesOpt ann ++ (srcNames defn ++ srcNames body))
  | .int => []
  | .lit _ => []
  | .neg a => srcNames a
  | .bin _ a b => srcNames a ++ srcNames b
  | .bool => []
  | .tt => []
  | .ff => []
  | .ite c a b => srcNames c ++ (srcNames a ++ srcNames b)
def srcNamesOpt : OptSrc → List Name
  | .none => []
  | .some t => srcNames t
end

mutual
def renameR (ρ : Name → Name) : RTm → RTm
  | .mk r v => .mk r (renameRV ρ v)
def renameRV (ρ : Name → Name) : RTmV → RTmV
  | .hole id s => .hole id s
  | .type => .type
  | .int => .int
  | .bool => .bool
  | .tt => .tt
  | .ff => .ff
  | .lit n => .lit n
  | .var x i => .var (ρ x) i
  | .lam x imp d b => .lam (ρ x) imp (renameR ρ d) (renameR ρ b)
  | .pi x imp d b => .pi (ρ x) imp (renameR ρ d) (renameR ρ b)
  | .app f a => .app (renameR ρ f) (renameR ρ a)
  | .letg ds b => .letg (renameRDefs ρ ds) (renameR ρ b)
  | .neg a => .neg (renameR ρ a)
  | .bin o a b => .bin o (renameR ρ a) (renameR ρ b)
  | .ite c a b => .ite (renameR ρ c) (renameR ρ a) (renameR ρ b)
def renameRDefs (ρ : Name → Name) : RDefs → RDefs
  | .nil => .nil
  | .cons x a d r => .cons (ρ x) (renameR ρ a) (renameR ρ d) (renameRDefs ρ r)
end

def renCtx (ρ : Name → Name) (c : Ctx) : Ctx := c.map (fun p => (ρ p.1, p.2))

def renSt (ρ : Name → Name) (st : RState) : RState := { st with ctx := renCtx ρ st.ctx }

@[simp] theorem renSt_errors (ρ : Name → Name) (st : RState) : (renSt ρ st).errors = st.errors := rfl
@[simp] theorem renSt_nextHole (ρ : Name → Name) (st : RState) :
    (renSt ρ st).nextHole = st.nextHole := rfl
@[simp] theorem renSt_ctx (ρ : Name → Name) (st : RState) : (renSt ρ st).ctx = renCtx ρ st.ctx := rfl

def KeysIn (P : Name → Prop) (c : Ctx) : Prop := ∀ p ∈ c, P p.1

/-- `ρ` is admissible on the set `P` of names that matter: injective there, and the placeholder
(which belongs to `P`) is fixed — so no name of `P` is renamed to the placeholder. -/
structure Adm (ρ : Name → Name) (P : Name → Prop) : Prop where
  inj : ∀ x y, P x → P y → ρ x = ρ y → x = y
  zero : ρ placeholder = placeholder
  pz : P placeholder

theorem Adm.eq_iff {ρ : Name → Name} {P : Name → Prop} (h : Adm ρ P) {x y : Name}
    (hx : P x) (hy : P y) : ρ x = ρ y ↔ x = y :=
  ⟨h.inj x y hx hy, fun e => by rw [e]⟩

theorem Adm.beq {ρ : Name → Name} {P : Name → Prop} (h : Adm ρ P) {x y : Name}
    (hx : P x) (hy : P y) : (ρ x == ρ y) = (x == y) := by
  by_cases e : x = y
  · subst e; simp
  · have : ρ x ≠ ρ y := fun e' => e (h.inj x y hx hy e')
    rw [beq_eq_false_iff_ne.mpr this, beq_eq_false_iff_ne.mpr e]

theorem Adm.ph {ρ : Name → Name} {P : Name → Prop} (h : Adm ρ P) {x : Name} (hx : P x) :
    (ρ x != placeholder) = (x != placeholder) := by
  have := h.beq hx h.pz
  rw [h.zero] at this
  show (!(ρ x == placeholder)) = (!(x == placeholder))
  rw [this]

theorem renCtx_get {ρ : Name → Name} {P : Name → Prop} (h : Adm ρ P) :
    ∀ (c : Ctx) (x : Name), KeysIn P c → P x → (renCtx ρ c).get (ρ x) = c.get x
  | [], x, _, _ => rfl
  | (k, v) :: c, x, hk, hx => by
      have hP : P k := hk (k, v) (by simp)
      have hk' : KeysIn P c := fun p hp => hk p (by simp [hp])
      have ih := renCtx_get h c x hk' hx
      simp only [renCtx, Ctx.get] at ih ⊢
      simp only [List.map_cons, List.lookup_cons, h.beq hx hP, ih]

theorem renCtx_remove {ρ : Name → Name} {P : Name → Prop} (h : Adm ρ P)
    (c : Ctx) (x : Name) (hk : KeysIn P c) (hx : P x) :
    (renCtx ρ c).remove (ρ x) = renCtx ρ (c.remove x) := by
  simp only [renCtx, Ctx.remove, List.filter_map]
  congr 1
  apply List.filter_congr
  intro p hp
  simp only [Function.comp, bne, h.beq (hk p hp) hx]

theorem KeysIn.remove {P : Name → Prop} {c : Ctx} (hk : KeysIn P c) (x : Name) :
    KeysIn P (c.remove x) := fun p hp => hk p (List.mem_filter.mp hp).1

theorem KeysIn.insert {P : Name → Prop} {c : Ctx} (hk : KeysIn P c) {x : Name} (hx : P x)
    (d : Nat) : KeysIn P (c.insert x d) := by
  intro p hp
  simp only [Ctx.insert, List.mem_cons] at hp
  rcases hp with rfl | hp
  · exact hx
  · exact hk.remove x p hp

theorem renCtx_insert {ρ : Name → Name} {P : Name → Prop} (h : Adm ρ P)
    (c : Ctx) (x : Name) (d : Nat) (hk : KeysIn P c) (hx : P x) :
    (renCtx ρ c).insert (ρ x) d = renCtx ρ (c.insert x d) := by
  simp only [Ctx.insert, renCtx_remove h c x hk hx]
  simp [renCtx]

theorem renCtx_length (ρ : Name → Name) (c : Ctx) : (renCtx ρ c).length = c.length := by
  simp [renCtx]

/-- `m'` (run in the renamed state) does what `m` does (in the original state), up to `f` on the
result and `renSt ρ` on the final state; failure (`none` = the Rust `panic!`) is preserved, and the
keys of the context stay in `P`. -/
def RnSim (ρ : Name → Name) (P : Name → Prop) {α : Type} (f : α → α) (m m' : ResolveM α) : Prop :=
  ∀ st : RState, KeysIn P st.ctx →
    match m st with
    | none => m' (renSt ρ st) = none
    | some (a, st') => m' (renSt ρ st) = some (f a, renSt ρ st') ∧ KeysIn P st'.ctx

theorem StateT_bind_run {σ α β : Type} (m : StateT σ Option α) (k : α → StateT σ Option β) (s : σ) :
    (m >>= k) s = match m s with
      | none => none
      | some (a, s') => k a s' := by
  rw [StateT_run_bind]
  cases m s <;> rfl

theorem RnSim.bind {ρ : Name → Name} {P : Name → Prop} {α β : Type} {f : α → α} {g : β → β}
    {m m' : ResolveM α} {k k' : α → ResolveM β}
    (h1 : RnSim ρ P f m m') (h2 : ∀ a, RnSim ρ P g (k a) (k' (f a))) :
    RnSim ρ P g (m >>= k) (m' >>= k') := by
  intro st hk
  have h := h1 st hk
  rw [StateT_run_bind, StateT_run_bind]
  cases hm : m st with
  | none => rw [hm] at h; simp only [Option.bind_none] at h ⊢; rw [h]; rfl
  | some p =>
    obtain ⟨a, s'⟩ := p
    rw [hm] at h
    simp only [Option.bind_some] at h ⊢
    rw [h.1]
    exact h2 a s' h.2

theorem RnSim.pure {ρ : Name → Name} {P : Name → Prop} {α : Type} {f : α → α} {a a' : α}
    (h : f a = a') : RnSim ρ P f (pure a) (pure a') := by
  intro st hk
  have e1 : (Pure.pure a : ResolveM α) st = some (a, st) := rfl
  have e2 : (Pure.pure a' : ResolveM α) (renSt ρ st) = some (a', renSt ρ st) := rfl
  rw [e1]
  subst h
  exact ⟨e2, hk⟩

theorem RnSim.fail {ρ : Name → Name} {P : Name → Prop} {α : Type} {f : α → α} :
    RnSim ρ P f (fun _ => (none : Option (α × RState))) (fun _ => none) := by
  intro st _; rfl

theorem RnSim.run_eq {ρ : Name → Name} {P : Name → Prop} {α : Type} {f : α → α} {m m' : ResolveM α}
    (h : RnSim ρ P f m m') {st : RState} (hk : KeysIn P st.ctx) :
    m' (renSt ρ st) = (m st).map fun p => (f p.1, renSt ρ p.2) := by
  have := h st hk
  cases hm : m st with
  | none => rw [hm] at this; exact this
  | some p => rw [hm] at this; exact this.1

theorem freshHole_rnSim {ρ : Name → Name} {P : Name → Prop} (r : Option SourceRange) (s : Nat) :
    RnSim ρ P (renameR ρ) (freshHole r s) (freshHole r s) := by
  intro st hk
  exact ⟨rfl, hk⟩

theorem pushError_rnSim {ρ : Name → Name} {P : Name → Prop} (e : PErr) :
    RnSim ρ P id (pushError e) (pushError e) := by
  intro st hk
  exact ⟨rfl, hk⟩

theorem bindName_rnSim {ρ : Name → Name} {P : Name → Prop} (h : Adm ρ P) (v : SrcVar) (d : Nat)
    (hv : P v.name) : RnSim ρ P id (bindName v d) (bindName (renVar ρ v) d) := by
  intro st hk
  unfold bindName
  simp only [renVar_name, renVar_range, h.ph hv, renSt_ctx, renSt_errors,
    Ctx.containsKey_eq, renCtx_get h _ _ hk hv, renCtx_insert h _ _ _ hk hv]
  by_cases hp : (v.name != placeholder) = true
  · simp only [hp, if_true]
    exact ⟨rfl, hk.insert hv d⟩
  · simp only [hp]
    exact ⟨rfl, hk⟩

theorem unbindName_rnSim {ρ : Name → Name} {P : Name → Prop} (h : Adm ρ P) (x : Name)
    (hx : P x) : RnSim ρ P id (unbindName x) (unbindName (ρ x)) := by
  intro st hk
  unfold unbindName
  simp only [renSt_ctx, renCtx_remove h _ _ hk hx]
  exact ⟨rfl, hk.remove x⟩

def renDef (ρ : Name → Name) (d : SrcVar × OptSrc × Src) : SrcVar × OptSrc × Src :=
  (renVar ρ d.1, renameOpt ρ d.2.1, renameSrc ρ d.2.2)

theorem renameSrc_isLet (ρ : Name → Name) : ∀ t : Src, (renameSrc ρ t).isLet = t.isLet
  | .mk _ _ v _ => by cases v <;> rfl

theorem collectDefinitions_rename (ρ : Name → Name) (t : Src) :
    collectDefinitions (renameSrc ρ t) =
      ((collectDefinitions t).1.map (renDef ρ), renameSrc ρ (collectDefinitions t).2) := by
  induction t using Src.letChain_induction with
  | let_ r g v ann defn body es ih =>
    rw [renameSrc, renameSrcV, collectDefinitions_let, collectDefinitions_let, ih]; rfl
  | other t h =>
    rw [collectDefinitions_of_not_isLet h,
      collectDefinitions_of_not_isLet ((renameSrc_isLet ρ t).trans h)]; rfl

theorem collectDefinitions_srcNames (t : Src) (d : SrcVar × OptSrc × Src)
    (hd : d ∈ (collectDefinitions t).1) : d.1.name ∈ srcNames t := by
  induction t using Src.letChain_induction with
  | let_ r g v ann defn body es ih =>
    simp only [collectDefinitions_let, List.mem_cons] at hd
    rcases hd with rfl | hd
    · simp [srcNames, srcNamesV]
    · simp [srcNames, srcNamesV, ih hd]
  | other t h => rw [collectDefinitions_of_not_isLet h] at hd; cases hd

theorem bindDefinitions_rename {ρ : Name → Name} {P : Name → Prop} (h : Adm ρ P) (depth : Nat) :
    ∀ (ds : List (SrcVar × OptSrc × Src)) (i : Nat), (∀ d ∈ ds, P d.1.name) →
      RnSim ρ P id (bindDefinitions depth ds i) (bindDefinitions depth (ds.map (renDef ρ)) i)
  | [], i, _ => by
      simp only [bindDefinitions, List.map_nil]
      exact RnSim.pure rfl
  | (v, a, d) :: rest, i, hP => by
      simp only [bindDefinitions, List.map_cons, renDef]
      refine RnSim.bind (bindName_rnSim h v (depth + i) (hP (v, a, d) (by simp))) (fun _ => ?_)
      exact bindDefinitions_rename h depth rest (i + 1) (fun d hd => hP d (by simp [hd]))

theorem unbindDefinitions_rename {ρ : Name → Name} {P : Name → Prop} (h : Adm ρ P) :
    ∀ (ds : List (SrcVar × OptSrc × Src)), (∀ d ∈ ds, P d.1.name) →
      RnSim ρ P id (unbindDefinitions ds) (unbindDefinitions (ds.map (renDef ρ)))
  | [], _ => by
      simp only [unbindDefinitions, List.map_nil]
      exact RnSim.pure rfl
  | (v, a, d) :: rest, hP => by
      have hv : P v.name := hP (v, a, d) (by simp)
      have ih := unbindDefinitions_rename h rest (fun d hd => hP d (by simp [hd]))
      simp only [unbindDefinitions, List.map_cons, renDef, renVar_name, h.ph hv]
      by_cases hp : (v.name != placeholder) = true
      · simp only [hp, if_true]
        exact RnSim.bind (unbindName_rnSim h v.name hv) (fun _ => ih)
      · simp only [hp]
        exact ih

def renRes (ρ : Name → Name) (p : RDefs × RTm) : RDefs × RTm := (renameRDefs ρ p.1, renameR ρ p.2)

theorem RnSim.bind_res {ρ : Name → Name} {P : Name → Prop} {β : Type} {g : β → β}
    {m m' : ResolveM (RDefs × RTm)} {k k' : RDefs × RTm → ResolveM β}
    (h1 : RnSim ρ P (renRes ρ) m m')
    (h2 : ∀ ds r, RnSim ρ P g (k (ds, r)) (k' (renameRDefs ρ ds, renameR ρ r))) :
    RnSim ρ P g (m >>= k) (m' >>= k') :=
  RnSim.bind h1 (fun p => h2 p.1 p.2)

theorem lamDomain_rnSim {ρ : Name → Name} {P : Name → Prop} (a : Option RTm) :
    RnSim ρ P (renameR ρ) (lamDomain a) (lamDomain (a.map (renameR ρ))) := by
  cases a with
  | some d => exact RnSim.pure rfl
  | none => exact freshHole_rnSim none 0

theorem lookupVar_rnSim {ρ : Name → Name} {P : Name → Prop} (h : Adm ρ P) (range : SourceRange) (x : Name)
    (depth : Nat) (hx : P x) :
    RnSim ρ P (renRes ρ) (lookupVar range x depth) (lookupVar range (ρ x) depth) := by
  intro st hk
  unfold lookupVar
  simp only [renSt_ctx, renCtx_get h _ _ hk hx, h.ph hx]
  cases hg : st.ctx.get x with
  | some vd => exact ⟨rfl, hk⟩
  | none => exact ⟨rfl, hk⟩

def RenameAt (ρ : Name → Name) (P : Name → Prop) (t : Src) : Prop :=
  ∀ (chain : Option (Nat × Nat)) (depth : Nat), (∀ x ∈ srcNames t, P x) →
    RnSim ρ P (renRes ρ) (resolveAux t chain depth) (resolveAux (renameSrc ρ t) chain depth)

theorem resolveOpt_rename_of {ρ : Name → Name} {P : Name → Prop} {o : OptSrc}
    (ih : o.all (RenameAt ρ P)) {depth : Nat} (hn : ∀ x ∈ srcNamesOpt o, P x) :
    RnSim ρ P (Option.map (renameR ρ)) (resolveOpt o depth) (resolveOpt (renameOpt ρ o) depth) := by
  cases o with
  | none => exact RnSim.pure rfl
  | some t =>
    simp only [renameOpt]; unfold resolveOpt
    refine RnSim.bind_res (ih none depth hn) (fun _ _ => ?_)
    exact RnSim.pure rfl

theorem resolveAnnotation_rename_of {ρ : Name → Name} {P : Name → Prop} {o : OptSrc}
    (ih : o.all (RenameAt ρ P)) {n i newDepth : Nat} (hn : ∀ x ∈ srcNamesOpt o, P x) :
    RnSim ρ P (renameR ρ) (resolveAnnotation o n i newDepth)
      (resolveAnnotation (renameOpt ρ o) n i newDepth) := by
  cases o with
  | none => exact freshHole_rnSim _ _
  | some t =>
    simp only [renameOpt]; unfold resolveAnnotation
    refine RnSim.bind_res (ih none newDepth hn) (fun _ _ => ?_)
    exact RnSim.pure rfl

theorem resolveAux_rename (ρ : Name → Name) (P : Name → Prop) (h : Adm ρ P) (t : Src) :
    RenameAt ρ P t := by
  induction t using Src.induction with
  | parseError =>
    intro chain depth hn
    simp only [renameSrc, renameSrcV]; unfold resolveAux; exact RnSim.fail
  | type | int | bool | tt | ff | lit =>
    intro chain depth hn
    simp only [renameSrc, renameSrcV]; unfold resolveAux; exact RnSim.pure rfl
  | var range g x es =>
    intro chain depth hn
    simp only [renameSrc, renameSrcV, resolveAux_var]
    exact lookupVar_rnSim h range x depth (hn x (by simp [srcNames, srcNamesV]))
  | app range g f a es ihf iha | bin range g _ f a es ihf iha =>
    intro chain depth hn
    have hf : ∀ x ∈ srcNames f, P x := fun x hx => hn x (by simp [srcNames, srcNamesV, hx])
    have ha : ∀ x ∈ srcNames a, P x := fun x hx => hn x (by simp [srcNames, srcNamesV, hx])
    simp only [renameSrc, renameSrcV]; unfold resolveAux
    refine RnSim.bind_res (ihf none depth hf) (fun _ _ => ?_)
    refine RnSim.bind_res (iha none depth ha) (fun _ _ => ?_)
    exact RnSim.pure rfl
  | neg range g a es iha =>
    intro chain depth hn
    simp only [renameSrc, renameSrcV]; unfold resolveAux
    refine RnSim.bind_res (iha none depth hn) (fun _ _ => ?_)
    exact RnSim.pure rfl
  | ite range g c a b es ihc iha ihb =>
    intro chain depth hn
    have hc : ∀ x ∈ srcNames c, P x := fun x hx => hn x (by simp [srcNames, srcNamesV, hx])
    have ha : ∀ x ∈ srcNames a, P x := fun x hx => hn x (by simp [srcNames, srcNamesV, hx])
    have hb : ∀ x ∈ srcNames b, P x := fun x hx => hn x (by simp [srcNames, srcNamesV, hx])
    simp only [renameSrc, renameSrcV]; unfold resolveAux
    refine RnSim.bind_res (ihc none depth hc) (fun _ _ => ?_)
    refine RnSim.bind_res (iha none depth ha) (fun _ _ => ?_)
    refine RnSim.bind_res (ihb none depth hb) (fun _ _ => ?_)
    exact RnSim.pure rfl
  | pi range g v imp dom cod es ihd ihc =>
    intro chain depth hn
    have hv : P v.name := hn _ (by simp [srcNames, srcNamesV])
    have hd : ∀ x ∈ srcNames dom, P x := fun x hx => hn x (by simp [srcNames, srcNamesV, hx])
    have hc : ∀ x ∈ srcNames cod, P x := fun x hx => hn x (by simp [srcNames, srcNamesV, hx])
    simp only [renameSrc, renameSrcV]; unfold resolveAux
    refine RnSim.bind_res (ihd none depth hd) (fun _ _ => ?_)
    refine RnSim.bind (bindName_rnSim h v depth hv) (fun _ => ?_)
    refine RnSim.bind_res (ihc none (depth + 1) hc) (fun _ _ => ?_)
    refine RnSim.bind (unbindName_rnSim h v.name hv) (fun _ => ?_)
    exact RnSim.pure rfl
  | lam range g v imp dom body es ihd ihb =>
    intro chain depth hn
    have hv : P v.name := hn _ (by simp [srcNames, srcNamesV])
    have hd : ∀ x ∈ srcNamesOpt dom, P x := fun x hx => hn x (by simp [srcNames, srcNamesV, hx])
    have hb : ∀ x ∈ srcNames body, P x := fun x hx => hn x (by simp [srcNames, srcNamesV, hx])
    simp only [renameSrc, renameSrcV, resolveAux_lam]
    refine RnSim.bind (resolveOpt_rename_of ihd hd) (fun od => ?_)
    refine RnSim.bind (bindName_rnSim h v depth hv) (fun _ => ?_)
    refine RnSim.bind (lamDomain_rnSim od) (fun _ => ?_)
    refine RnSim.bind_res (ihb none (depth + 1) hb) (fun _ _ => ?_)
    refine RnSim.bind (unbindName_rnSim h v.name hv) (fun _ => ?_)
    exact RnSim.pure rfl
  | let_ range g v ann defn body es iha ihd ihb =>
    intro chain depth hn
    have hv : P v.name := hn _ (by simp [srcNames, srcNamesV])
    have ha : ∀ x ∈ srcNamesOpt ann, P x := fun x hx => hn x (by simp [srcNames, srcNamesV, hx])
    have hd : ∀ x ∈ srcNames defn, P x := fun x hx => hn x (by simp [srcNames, srcNamesV, hx])
    have hb : ∀ x ∈ srcNames body, P x := fun x hx => hn x (by simp [srcNames, srcNamesV, hx])
    cases chain with
    | some c =>
      obtain ⟨n, i⟩ := c
      simp only [renameSrc, renameSrcV]; unfold resolveAux
      refine RnSim.bind (resolveAnnotation_rename_of iha ha) (fun _ => ?_)
      refine RnSim.bind_res (ihd none depth hd) (fun _ _ => ?_)
      refine RnSim.bind_res (ihb (some (n, i + 1)) depth hb) (fun _ _ => ?_)
      exact RnSim.pure rfl
    | none =>
      have hds : ∀ d ∈ (v, ann, defn) :: (collectDefinitions body).1, P d.1.name := by
        intro d hd'
        simp only [List.mem_cons] at hd'
        rcases hd' with rfl | hd'
        · exact hv
        · exact hb _ (collectDefinitions_srcNames body d hd')
      have hmap : (renVar ρ v, renameOpt ρ ann, renameSrc ρ defn) ::
          (collectDefinitions (renameSrc ρ body)).1 =
          ((v, ann, defn) :: (collectDefinitions body).1).map (renDef ρ) := by
        rw [collectDefinitions_rename]; rfl
      simp only [renameSrc, renameSrcV]; unfold resolveAux
      dsimp only
      rw [hmap, List.length_map]
      refine RnSim.bind (bindDefinitions_rename h depth _ 0 hds) (fun _ => ?_)
      refine RnSim.bind (resolveAnnotation_rename_of iha ha) (fun _ => ?_)
      refine RnSim.bind_res (ihd none _ hd) (fun _ _ => ?_)
      refine RnSim.bind_res (ihb (some (_, 1)) _ hb) (fun _ _ => ?_)
      refine RnSim.bind (unbindDefinitions_rename h _ hds) (fun _ => ?_)
      exact RnSim.pure rfl

theorem resolveOpt_rename (ρ : Name → Name) (P : Name → Prop) (h : Adm ρ P) :
    ∀ (o : OptSrc) (depth : Nat), (∀ x ∈ srcNamesOpt o, P x) →
      RnSim ρ P (Option.map (renameR ρ)) (resolveOpt o depth) (resolveOpt (renameOpt ρ o) depth) :=
  fun o _ => resolveOpt_rename_of (OptSrc.all_of_forall (resolveAux_rename ρ P h) o)

theorem resolveAnnotation_rename (ρ : Name → Name) (P : Name → Prop) (h : Adm ρ P) :
    ∀ (o : OptSrc) (n i newDepth : Nat), (∀ x ∈ srcNamesOpt o, P x) →
      RnSim ρ P (renameR ρ) (resolveAnnotation o n i newDepth)
        (resolveAnnotation (renameOpt ρ o) n i newDepth) :=
  fun o _ _ _ => resolveAnnotation_rename_of (OptSrc.all_of_forall (resolveAux_rename ρ P h) o)

def namesOf (s : Src) (c : Ctx) : List Name := srcNames s ++ c.map Prod.fst

/-- `Adm` for the names of the program `s`, the keys of the context `c` and the placeholder.  `nz` does not follow
from `inj` and `zero`: the placeholder need not be among `namesOf s c`. -/
structure Admissible (ρ : Name → Name) (s : Src) (c : Ctx) : Prop where
  inj : ∀ x ∈ namesOf s c, ∀ y ∈ namesOf s c, ρ x = ρ y → x = y
  zero : ρ placeholder = placeholder
  nz : ∀ x ∈ namesOf s c, x ≠ placeholder → ρ x ≠ placeholder

theorem Admissible.adm {ρ : Name → Name} {s : Src} {c : Ctx} (h : Admissible ρ s c) :
    Adm ρ (fun x => x = placeholder ∨ x ∈ namesOf s c) := by
  refine ⟨?_, h.zero, Or.inl rfl⟩
  intro x y hx hy e
  rcases hx with rfl | hx
  · rcases hy with rfl | hy
    · rfl
    · rw [h.zero] at e
      exact Decidable.byContradiction fun ne => h.nz y hy (fun e' => ne e'.symm) e.symm
  · rcases hy with rfl | hy
    · rw [h.zero] at e
      exact Decidable.byContradiction fun ne => h.nz x hx ne e
    · exact h.inj x hx y hy e

theorem resolve_rename_adm {ρ : Name → Name} {P : Name → Prop} (hadm : Adm ρ P) (s : Src)
    (depth : Nat) (st : RState) (hn : ∀ x ∈ srcNames s, P x) (hk : KeysIn P st.ctx) :
    resolve (renameSrc ρ s) depth (renSt ρ st) =
      (resolve s depth st).map (fun p => (renameR ρ p.1, renSt ρ p.2)) := by
  have hsim : RnSim ρ P (renameR ρ) (resolve s depth) (resolve (renameSrc ρ s) depth) :=
    RnSim.bind_res (resolveAux_rename ρ _ hadm s none depth hn) fun _ _ => RnSim.pure rfl
  exact hsim.run_eq hk

theorem resolve_rename (ρ : Name → Name) (s : Src) (depth : Nat) (st : RState)
    (h : Admissible ρ s st.ctx) :
    resolve (renameSrc ρ s) depth (renSt ρ st) =
      (resolve s depth st).map (fun p => (renameR ρ p.1, renSt ρ p.2)) := by
  refine resolve_rename_adm h.adm s depth st (fun x hx => Or.inr (by simp [namesOf, hx])) ?_
  intro p hp
  refine Or.inr ?_
  simp only [namesOf, List.mem_append, List.mem_map]
  exact Or.inr ⟨p, hp, rfl⟩

mutual
def renameTm (ρ : Name → Name) : Tm → Tm
  | .var x i => .var (ρ x) i
  | .lam x im d b => .lam (ρ x) im (renameTm ρ d) (renameTm ρ b)
  | .pi x im d b => .pi (ρ x) im (renameTm ρ d) (renameTm ρ b)
  | .app f a => .app (renameTm ρ f) (renameTm ρ a)
  | .letg ds b => .letg (renameTmDefs ρ ds) (renameTm ρ b)
  | .neg a => .neg (renameTm ρ a)
  | .bin op a b => .bin op (renameTm ρ a) (renameTm ρ b)
  | .ite c a b => .ite (renameTm ρ c) (renameTm ρ a) (renameTm ρ b)
  | .hole i s => .hole i s
  | .type => .type
  | .int => .int
  | .bool => .bool
  | .tt => .tt
  | .ff => .ff
  | .lit n => .lit n
def renameTmDefs (ρ : Name → Name) : Defs → Defs
  | .nil => .nil
  | .cons x a d r => .cons (ρ x) (renameTm ρ a) (renameTm ρ d) (renameTmDefs ρ r)
end

mutual
theorem renameR_erase (ρ : Name → Name) : ∀ (t : RTm), (renameR ρ t).erase = renameTm ρ t.erase
  | .mk _ (.hole _ _) | .mk _ .type | .mk _ .int | .mk _ .bool | .mk _ .tt | .mk _ .ff
  | .mk _ (.lit _) | .mk _ (.var _ _) => by
      simp [renameR, renameRV, RTm.erase, renameTm]
  | .mk _ (.lam x imp d b) | .mk _ (.pi x imp d b) => by
      simp [renameR, renameRV, RTm.erase, renameTm, renameR_erase ρ d, renameR_erase ρ b]
  | .mk _ (.app f a) => by
      simp [renameR, renameRV, RTm.erase, renameTm, renameR_erase ρ f, renameR_erase ρ a]
  | .mk _ (.letg ds b) => by
      simp [renameR, renameRV, RTm.erase, renameTm, renameRDefs_erase ρ ds, renameR_erase ρ b]
  | .mk _ (.neg a) => by
      simp [renameR, renameRV, RTm.erase, renameTm, renameR_erase ρ a]
  | .mk _ (.bin o a b) => by
      simp [renameR, renameRV, RTm.erase, renameTm, renameR_erase ρ a, renameR_erase ρ b]
  | .mk _ (.ite c a b) => by
      simp [renameR, renameRV, RTm.erase, renameTm, renameR_erase ρ c, renameR_erase ρ a,
        renameR_erase ρ b]
theorem renameRDefs_erase (ρ : Name → Name) : ∀ (ds : RDefs),
    (renameRDefs ρ ds).erase = renameTmDefs ρ ds.erase
  | .nil => by simp [renameRDefs, RDefs.erase, renameTmDefs]
  | .cons x a d r => by
      simp [renameRDefs, RDefs.erase, renameTmDefs, renameR_erase ρ a, renameR_erase ρ d,
        renameRDefs_erase ρ r]
end

theorem renameR_range (ρ : Name → Name) : ∀ (t : RTm), (renameR ρ t).range = t.range
  | .mk _ _ => rfl

theorem renameTm_isValue (ρ : Name → Name) (t : Tm) : isValue (renameTm ρ t) = isValue t := by
  cases t <;> simp [renameTm, isValue]

theorem renameTm_eq_relab (ρ : Name → Name) (t : Tm) : renameTm ρ t = t.relab (.names ρ) := by
  induction t using Tm.rec (motive_2 := fun ds => renameTmDefs ρ ds = ds.relab (.names ρ)) with
  | _ => simp only [renameTm, renameTmDefs, Tm.relab, Defs.relab, *] <;> rfl

theorem renameTmDefs_eq_relab (ρ : Name → Name) : ∀ ds : Defs, renameTmDefs ρ ds = ds.relab (.names ρ)
  | .nil => rfl
  | .cons _ a d r => by
      simp only [renameTmDefs, Defs.relab, renameTm_eq_relab ρ a, renameTm_eq_relab ρ d,
        renameTmDefs_eq_relab ρ r]; rfl

theorem renameTm_freeVars (ρ : Name → Name) : ∀ (t : Tm) (c : Nat),
    freeVars (renameTm ρ t) c = freeVars t c := fun t c => by
  rw [renameTm_eq_relab]; exact t.freeVars_relab rfl rfl c
theorem renameTmDefs_freeVars (ρ : Name → Name) : ∀ (ds : Defs) (c : Nat),
    freeVarsDefs (renameTmDefs ρ ds) c = freeVarsDefs ds c := fun ds c => by
  rw [renameTmDefs_eq_relab]; exact ds.freeVars_relab rfl rfl c

/-- Two definition vectors that `check_definition` cannot tell apart. -/
structure ArrEq (A B : Array (Name × RTm × RTm)) : Prop where
  size : A.size = B.size
  val : ∀ i : Nat, isValue (A[i]!).2.2.erase = isValue (B[i]!).2.2.erase
  fv : ∀ i : Nat, freeVars (A[i]!).2.2.erase 0 = freeVars (B[i]!).2.2.erase 0
  rng : ∀ i : Nat, (A[i]!).2.2.range = (B[i]!).2.2.range

theorem checkVariables_arrEq {A B : Array (Name × RTm × RTm)} (h : ArrEq A B) (start : Nat)
    (rec : Nat → CheckSt → Option CheckSt) : ∀ (vars : List Nat) (st : CheckSt),
    checkVariables A start rec vars st = checkVariables B start rec vars st
  | [], st => by simp [checkVariables]
  | var :: rest, (visited, errors) => by
      have ih := checkVariables_arrEq h start rec rest
      simp only [checkVariables, h.size, h.val, h.rng, ih]

theorem checkDefinition_arrEq {A B : Array (Name × RTm × RTm)} (h : ArrEq A B) (start : Nat) :
    ∀ (fuel cur : Nat) (st : CheckSt),
    checkDefinition A start fuel cur st = checkDefinition B start fuel cur st
  | 0, _, _ => by simp [checkDefinition]
  | fuel + 1, cur, st => by
      have ih : checkDefinition A start fuel = checkDefinition B start fuel := by
        funext c s; exact checkDefinition_arrEq h start fuel c s
      simp only [checkDefinition, h.fv, ih, checkVariables_arrEq h]

theorem checkEachDefinition_arrEq {A B : Array (Name × RTm × RTm)} (h : ArrEq A B) :
    ∀ (is : List Nat) (errors : List PErr),
    checkEachDefinition A is errors = checkEachDefinition B is errors
  | [], _ => by simp [checkEachDefinition]
  | i :: rest, errors => by
      have ih := checkEachDefinition_arrEq h rest
      simp only [checkEachDefinition, h.val, h.size, checkDefinition_arrEq h, ih]

def renTriple (ρ : Name → Name) (e : Name × RTm × RTm) : Name × RTm × RTm :=
  (ρ e.1, renameR ρ e.2.1, renameR ρ e.2.2)

theorem renameRDefs_toList (ρ : Name → Name) : ∀ (ds : RDefs),
    (renameRDefs ρ ds).toList = ds.toList.map (renTriple ρ)
  | .nil => by simp [renameRDefs, RDefs.toList]
  | .cons x a d r => by
      simp [renameRDefs, RDefs.toList, renTriple, renameRDefs_toList ρ r]

theorem renameRDefs_len (ρ : Name → Name) : ∀ (ds : RDefs), (renameRDefs ρ ds).len = ds.len
  | .nil => by simp [renameRDefs]
  | .cons _ _ _ r => by simp [renameRDefs, RDefs.len, renameRDefs_len ρ r]

theorem getElem!_map_renTriple (ρ : Name → Name) (l : List (Name × RTm × RTm)) (i : Nat) :
    ((l.map (renTriple ρ)).toArray[i]!).2.2 = renameR ρ (l.toArray[i]!).2.2 := by
  simp only [List.getElem!_toArray, List.getElem!_eq_getElem?_getD, List.getElem?_map]
  cases l[i]? with
  | none => rfl
  | some e => rfl

theorem arrEq_rename (ρ : Name → Name) (ds : RDefs) :
    ArrEq (renameRDefs ρ ds).toList.toArray ds.toList.toArray := by
  rw [renameRDefs_toList]
  refine ⟨by simp, ?_, ?_, ?_⟩
  · intro i; rw [getElem!_map_renTriple, renameR_erase, renameTm_isValue]
  · intro i; rw [getElem!_map_renTriple, renameR_erase, renameTm_freeVars]
  · intro i; rw [getElem!_map_renTriple, renameR_range]

mutual
theorem checkDefinitions_rename (ρ : Name → Name) : ∀ (t : RTm) (depth : Nat) (errors : List PErr),
    checkDefinitions (renameR ρ t) depth errors = checkDefinitions t depth errors
  | .mk _ (.hole _ _), _, _ | .mk _ .type, _, _ | .mk _ .int, _, _ | .mk _ .bool, _, _
  | .mk _ .tt, _, _ | .mk _ .ff, _, _ | .mk _ (.lit _), _, _ | .mk _ (.var _ _), _, _ => by
      simp [renameR, renameRV, checkDefinitions]
  | .mk _ (.lam x imp d b), depth, errors | .mk _ (.pi x imp d b), depth, errors => by
      simp only [renameR, renameRV, checkDefinitions, checkDefinitions_rename ρ d,
        checkDefinitions_rename ρ b]
  | .mk _ (.app f a), depth, errors => by
      simp only [renameR, renameRV, checkDefinitions, checkDefinitions_rename ρ f,
        checkDefinitions_rename ρ a]
  | .mk _ (.letg ds b), depth, errors => by
      simp only [renameR, renameRV, checkDefinitions, checkDefinitionsDefs_rename ρ ds,
        checkDefinitions_rename ρ b, renameRDefs_len,
        checkEachDefinition_arrEq (arrEq_rename ρ ds), (arrEq_rename ρ ds).size]
  | .mk _ (.neg a), depth, errors => by
      simp only [renameR, renameRV, checkDefinitions, checkDefinitions_rename ρ a]
  | .mk _ (.bin o a b), depth, errors => by
      simp only [renameR, renameRV, checkDefinitions, checkDefinitions_rename ρ a,
        checkDefinitions_rename ρ b]
  | .mk _ (.ite c a b), depth, errors => by
      simp only [renameR, renameRV, checkDefinitions, checkDefinitions_rename ρ c,
        checkDefinitions_rename ρ a, checkDefinitions_rename ρ b]
theorem checkDefinitionsDefs_rename (ρ : Name → Name) : ∀ (ds : RDefs) (depth : Nat)
    (errors : List PErr),
    checkDefinitionsDefs (renameRDefs ρ ds) depth errors = checkDefinitionsDefs ds depth errors
  | .nil, _, _ => by simp [renameRDefs, checkDefinitionsDefs]
  | .cons x a d r, depth, errors => by
      simp only [renameRDefs, checkDefinitionsDefs, checkDefinitions_rename ρ d,
        checkDefinitionsDefs_rename ρ r]
end

theorem collectErrorsOpt_rename_of {ρ : Name → Name} {o : OptSrc}
    (ih : o.all fun t => collectErrors (renameSrc ρ t) = collectErrors t) :
    collectErrorsOpt (renameOpt ρ o) = collectErrorsOpt o := by
  cases o with
  | none => rfl
  | some t => exact ih

theorem collectErrors_rename (ρ : Name → Name) (t : Src) :
    collectErrors (renameSrc ρ t) = collectErrors t := by
  induction t using Src.induction with
  | parseError | type | int | bool | tt | ff | lit | var =>
    simp [renameSrc, renameSrcV, collectErrors]
  | lam _ _ _ _ _ _ _ ihd ihb =>
    simp [renameSrc, renameSrcV, collectErrors, collectErrorsOpt_rename_of ihd, ihb]
  | let_ _ _ _ _ _ _ _ iha ihd ihb =>
    simp [renameSrc, renameSrcV, collectErrors, collectErrorsOpt_rename_of iha, ihd, ihb]
  | pi _ _ _ _ _ _ _ ih1 ih2 | app _ _ _ _ _ ih1 ih2 | bin _ _ _ _ _ _ ih1 ih2 =>
    simp [renameSrc, renameSrcV, collectErrors, ih1, ih2]
  | neg _ _ _ _ ih => simp [renameSrc, renameSrcV, collectErrors, ih]
  | ite _ _ _ _ _ _ ih1 ih2 ih3 => simp [renameSrc, renameSrcV, collectErrors, ih1, ih2, ih3]

theorem collectErrorsOpt_rename (ρ : Name → Name) : ∀ (o : OptSrc),
    collectErrorsOpt (renameOpt ρ o) = collectErrorsOpt o :=
  fun o => collectErrorsOpt_rename_of (OptSrc.all_of_forall (collectErrors_rename ρ) o)

@[simp] theorem renameSrc_range (ρ : Name → Name) : ∀ (t : Src), (renameSrc ρ t).range = t.range
  | .mk _ _ _ _ => by simp [renameSrc, Src.range]
@[simp] theorem renameSrc_group (ρ : Name → Name) : ∀ (t : Src), (renameSrc ρ t).group = t.group
  | .mk _ _ _ _ => by simp [renameSrc, Src.group]

def renAcc (ρ : Name → Name) (acc : Option (Src × Link)) : Option (Src × Link) :=
  acc.map (fun p => (renameSrc ρ p.1, p.2))

@[simp] theorem renAcc_none (ρ : Name → Name) : renAcc ρ none = none := rfl
@[simp] theorem renAcc_some (ρ : Name → Name) (ac : Src) (l : Link) :
    renAcc ρ (some (ac, l)) = some (renameSrc ρ ac, l) := rfl
@[simp] theorem renAcc_isSome (ρ : Name → Name) (acc : Option (Src × Link)) :
    (renAcc ρ acc).isSome = acc.isSome := by cases acc <;> rfl

theorem Link.build_rename (ρ : Name → Name) (l : Link) (a b : Src) :
    l.build (renameSrc ρ a) (renameSrc ρ b) = renameSrcV ρ (l.build a b) := by
  cases l <;> simp [Link.build, renameSrcV]

theorem reassocTail_rename (ρ : Name → Name) (acc : Option (Src × Link)) (t t' : Src)
    (h : t' = renameSrc ρ t) :
    reassocTail (renAcc ρ acc) t' = renameSrc ρ (reassocTail acc t) := by
  subst h
  cases acc with
  | none => rfl
  | some p =>
    obtain ⟨ac, l⟩ := p
    simp [reassocTail, renameSrc, Link.build_rename]

theorem chainArm_rename (ρ : Name → Name) (fam : Family) (l : Link) (range : SourceRange)
    (group : Bool) (a b : Src)
    (iha : ∀ acc, reassoc fam (renAcc ρ acc) (renameSrc ρ a) = (reassoc fam acc a).map (renameSrc ρ))
    (ihb : ∀ acc, reassoc fam (renAcc ρ acc) (renameSrc ρ b) = (reassoc fam acc b).map (renameSrc ρ))
    (acc : Option (Src × Link)) :
    chainArm fam l range group (renameSrc ρ a) (renameSrc ρ b) (renAcc ρ acc) =
      (chainArm fam l range group a b acc).map (renameSrc ρ) := by
  have iha0 : reassoc fam none (renameSrc ρ a) = _ := iha none
  have ihb0 : reassoc fam none (renameSrc ρ b) = _ := ihb none
  unfold chainArm
  rw [renameSrc_group]
  by_cases hb : b.group = true
  · simp only [hb, if_true]
    cases acc with
    | none =>
      simp only [renAcc_none, iha0, ihb0]
      cases reassoc fam none a <;> cases reassoc fam none b <;>
        simp [renameSrc, Link.build_rename]
    | some p =>
      obtain ⟨ac, l'⟩ := p
      have e := iha (some (ac, l'))
      rw [renAcc_some] at e
      simp only [renAcc_some, e, ihb0, renameSrc_range]
      cases reassoc fam (some (ac, l')) a <;> cases reassoc fam none b <;>
        simp [renameSrc, Link.build_rename]
  · simp only [hb, Bool.false_eq_true, if_false, iha0]
    cases reassoc fam none a with
    | none => rfl
    | some a' =>
      simp only [Option.map_some]
      cases acc with
      | none => exact ihb (some (a', l))
      | some p =>
        obtain ⟨ac, l'⟩ := p
        have e := ihb (some (Src.mk (span ac.range a.range) true (l'.build ac a') [], l))
        simp only [renAcc_some, renameSrc_range]
        rw [← e]
        simp [renameSrc, Link.build_rename]

theorem chainStep_rename (ρ : Name → Name) (fam : Family) (l : Link) (range : SourceRange)
    (group : Bool) (a b : Src)
    (iha : ∀ acc, reassoc fam (renAcc ρ acc) (renameSrc ρ a) = (reassoc fam acc a).map (renameSrc ρ))
    (ihb : ∀ acc, reassoc fam (renAcc ρ acc) (renameSrc ρ b) = (reassoc fam acc b).map (renameSrc ρ))
    (acc : Option (Src × Link)) :
    chainStep fam l range group (renameSrc ρ a) (renameSrc ρ b) (renAcc ρ acc) =
      (chainStep fam l range group a b acc).map (renameSrc ρ) := by
  unfold chainStep
  rw [renAcc_isSome]
  split
  · have e := chainArm_rename ρ fam l range group a b iha ihb none
    rw [renAcc_none] at e
    rw [e]
    cases chainArm fam l range group a b none with
    | none => rfl
    | some t => exact congrArg some (reassocTail_rename ρ acc t _ rfl)
  · exact chainArm_rename ρ fam l range group a b iha ihb acc

theorem rebuildStep_rename (ρ : Name → Name) (fam : Family) (l : Link) (range : SourceRange)
    (group : Bool) (a b : Src)
    (iha : reassoc fam none (renameSrc ρ a) = (reassoc fam none a).map (renameSrc ρ))
    (ihb : reassoc fam none (renameSrc ρ b) = (reassoc fam none b).map (renameSrc ρ))
    (acc : Option (Src × Link)) :
    rebuildStep fam l range group (renameSrc ρ a) (renameSrc ρ b) (renAcc ρ acc) =
      (rebuildStep fam l range group a b acc).map (renameSrc ρ) := by
  unfold rebuildStep
  rw [iha, ihb]
  cases reassoc fam none a <;> cases reassoc fam none b <;>
    simp only [Option.map_some, Option.map_none, Option.some.injEq]
  exact reassocTail_rename ρ acc _ _ (by simp [renameSrc, Link.build_rename])

def ReassocRenameAt (ρ : Name → Name) (fam : Family) (t : Src) : Prop :=
  ∀ acc, reassoc fam (renAcc ρ acc) (renameSrc ρ t) = (reassoc fam acc t).map (renameSrc ρ)

theorem reassocOpt_rename_of {ρ : Name → Name} {fam : Family} {o : OptSrc}
    (ih : o.all (ReassocRenameAt ρ fam)) :
    reassocOpt fam (renameOpt ρ o) = (reassocOpt fam o).map (renameOpt ρ) := by
  cases o with
  | none => rfl
  | some t =>
    have ih : reassoc fam none (renameSrc ρ t) = _ := ih none
    simp only [renameOpt, reassocOpt, ih]
    cases reassoc fam none t <;> rfl

theorem reassoc_rename (ρ : Name → Name) (fam : Family) (t : Src) : ReassocRenameAt ρ fam t := by
  induction t using Src.induction with
  | parseError => intro acc; simp [renameSrc, renameSrcV, reassoc]
  | type | int | bool | tt | ff | lit | var =>
    intro acc
    simp only [renameSrc, renameSrcV, reassoc, Option.map_some, Option.some.injEq]
    exact reassocTail_rename ρ acc _ _ (by simp [renameSrc, renameSrcV])
  | lam range group v imp dom body es ihd ihb =>
    intro acc
    have ihd := reassocOpt_rename_of ihd
    have ihb : reassoc fam none (renameSrc ρ body) = _ := ihb none
    simp only [renameSrc, renameSrcV, reassoc, ihd, ihb]
    cases reassocOpt fam dom <;> cases reassoc fam none body <;>
      simp only [Option.map_some, Option.map_none, Option.some.injEq]
    exact reassocTail_rename ρ acc _ _ (by simp [renameSrc, renameSrcV])
  | pi range group v imp dom cod es ihd ihc =>
    intro acc
    have ihd : reassoc fam none (renameSrc ρ dom) = _ := ihd none
    have ihc : reassoc fam none (renameSrc ρ cod) = _ := ihc none
    simp only [renameSrc, renameSrcV, reassoc, ihd, ihc]
    cases reassoc fam none dom <;> cases reassoc fam none cod <;>
      simp only [Option.map_some, Option.map_none, Option.some.injEq]
    exact reassocTail_rename ρ acc _ _ (by simp [renameSrc, renameSrcV])
  | let_ range group v ann defn body es iha ihd ihb =>
    intro acc
    have iha := reassocOpt_rename_of iha
    have ihd : reassoc fam none (renameSrc ρ defn) = _ := ihd none
    have ihb : reassoc fam none (renameSrc ρ body) = _ := ihb none
    simp only [renameSrc, renameSrcV, reassoc, iha, ihd, ihb]
    cases reassocOpt fam ann <;> cases reassoc fam none defn <;> cases reassoc fam none body <;>
      simp only [Option.map_some, Option.map_none, Option.some.injEq]
    exact reassocTail_rename ρ acc _ _ (by simp [renameSrc, renameSrcV])
  | neg range group a es iha =>
    intro acc
    have iha : reassoc fam none (renameSrc ρ a) = _ := iha none
    simp only [renameSrc, renameSrcV, reassoc, iha]
    cases reassoc fam none a <;>
      simp only [Option.map_some, Option.map_none, Option.some.injEq]
    exact reassocTail_rename ρ acc _ _ (by simp [renameSrc, renameSrcV])
  | ite range group c a b es ihc iha ihb =>
    intro acc
    have ihc : reassoc fam none (renameSrc ρ c) = _ := ihc none
    have iha : reassoc fam none (renameSrc ρ a) = _ := iha none
    have ihb : reassoc fam none (renameSrc ρ b) = _ := ihb none
    simp only [renameSrc, renameSrcV, reassoc, ihc, iha, ihb]
    cases reassoc fam none c <;> cases reassoc fam none a <;> cases reassoc fam none b <;>
      simp only [Option.map_some, Option.map_none, Option.some.injEq]
    exact reassocTail_rename ρ acc _ _ (by simp [renameSrc, renameSrcV])
  | app range group f a es ihf iha =>
    intro acc
    rw [renameSrc, renameSrcV, reassoc_app, reassoc_app]
    split
    · exact chainStep_rename ρ fam .app range group f a ihf iha acc
    · exact rebuildStep_rename ρ fam .app range group f a (ihf none) (iha none) acc
  | bin range group o a b es iha ihb =>
    intro acc
    rw [renameSrc, renameSrcV, reassoc_bin, reassoc_bin]
    split
    · exact chainStep_rename ρ fam (.op o) range group a b iha ihb acc
    · exact rebuildStep_rename ρ fam (.op o) range group a b (iha none) (ihb none) acc

theorem reassocOpt_rename (ρ : Name → Name) (fam : Family) : ∀ (o : OptSrc),
    reassocOpt fam (renameOpt ρ o) = (reassocOpt fam o).map (renameOpt ρ) :=
  fun o => reassocOpt_rename_of (OptSrc.all_of_forall (reassoc_rename ρ fam) o)

theorem foldl_insert_rename {ρ : Name → Name} {P : Name → Prop} (h : Adm ρ P) :
    ∀ (l : List (Name × Nat)) (c : Ctx), KeysIn P c → (∀ p ∈ l, P p.1) →
      renCtx ρ (l.foldl (fun c p => Ctx.insert c p.1 p.2) c) =
        (l.map (fun p => (ρ p.1, p.2))).foldl (fun c p => Ctx.insert c p.1 p.2) (renCtx ρ c)
  | [], c, _, _ => rfl
  | (x, d) :: l, c, hk, hl => by
      have hx : P x := hl (x, d) (by simp)
      simp only [List.foldl_cons, List.map_cons]
      rw [foldl_insert_rename h l (c.insert x d) (hk.insert hx d)
        (fun p hp => hl p (by simp [hp])), renCtx_insert h c x d hk hx]

theorem initialContext_rename {ρ : Name → Name} {P : Name → Prop} (h : Adm ρ P)
    (context : List Name) (hc : ∀ x ∈ context, P x) :
    initialContext (context.map ρ) = renCtx ρ (initialContext context) := by
  unfold initialContext
  rw [foldl_insert_rename h context.zipIdx [] (fun _ hp => by simp at hp)
    (fun p hp => hc p.1 (List.fst_mem_of_mem_zipIdx hp))]
  simp only [List.zipIdx_map]
  rfl

/-- The renaming on the outcome of `parse`: only an accepted term carries names. -/
def renOutcome (ρ : Name → Name) : ParseOutcome → ParseOutcome
  | .ok t => .ok (renameR ρ t)
  | .errors es => .errors es
  | .panic => .panic
  | .outOfFuel => .outOfFuel

theorem injective_adm {ρ : Name → Name} (hinj : ∀ x y, ρ x = ρ y → x = y)
    (h0 : ρ placeholder = placeholder) : Adm ρ (fun _ => True) :=
  ⟨fun x y _ _ e => hinj x y e, h0, trivial⟩

open RewriteMore

theorem syntaxErrors_rename (ρ : Name → Name) (toks : Array PTok) (term : Src) (next : Nat) :
    syntaxErrors toks (renameSrc ρ term) next = syntaxErrors toks term next := by
  unfold syntaxErrors; rw [collectErrors_rename]

theorem reassocAll_rename (ρ : Name → Name) (t : Src) :
    reassocAll (renameSrc ρ t) = (reassocAll t).map (renameSrc ρ) := by
  have e (fam) (t) : reassoc fam none (renameSrc ρ t) = (reassoc fam none t).map (renameSrc ρ) :=
    reassoc_rename ρ fam t none
  unfold reassocAll reassociateApplications reassociateProductsAndQuotients reassociateSumsAndDifferences
  rw [e]
  cases reassoc .applications none t with
  | none => rfl
  | some t1 =>
    simp only [Option.map_some, e]
    cases reassoc .productsAndQuotients none t1 <;> simp only [Option.map_some, Option.map_none, e]

theorem finishResolved_rename {ρ : Name → Name} (hadm : Adm ρ (fun _ => True)) (context : List Name)
    (t3 : Src) :
    finishResolved (context.map ρ) (renameSrc ρ t3) = renOutcome ρ (finishResolved context t3) := by
  unfold finishResolved
  dsimp only
  rw [initialContext_rename hadm context (fun _ _ => trivial), renCtx_length]
  have e := resolve_rename_adm hadm t3 (initialContext context).length
    { ctx := initialContext context, errors := [], nextHole := 0 } (fun _ _ => trivial) (fun _ _ => trivial)
  simp only [renSt] at e
  rw [e]
  cases resolve t3 (initialContext context).length ⟨initialContext context, [], 0⟩ with
  | none => rfl
  | some p =>
    simp only [Option.map_some, renCtx_length, checkDefinitions_rename]
    cases checkDefinitions p.1 p.2.ctx.length p.2.errors with
    | error f => cases f <;> rfl
    | ok errors => simp only; split <;> rfl

theorem finishParse_rename (ρ : Name → Name) (hinj : ∀ x y, ρ x = ρ y → x = y)
    (h0 : ρ placeholder = placeholder) (toks : Array PTok) (context : List Name) (term : Src)
    (next : Nat) :
    finishParse toks (context.map ρ) (renameSrc ρ term) next =
      renOutcome ρ (finishParse toks context term next) := by
  rw [finishParse_stages, finishParse_stages, syntaxErrors_rename, reassocAll_rename]
  split
  · rfl
  · cases reassocAll term with
    | none => rfl
    | some t3 => exact finishResolved_rename (injective_adm hinj h0) context t3

end PModel
