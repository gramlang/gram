import GramModel.Lemmas.StoreTransparent

/-! The store layer of the printer agrees with the pure layer on hole-free terms, whatever the store,
given fuel proportional to the size of the term. -/

theorem freeAtS_holeFree (t : Tm) (f : Nat) (σ : List (Option Tm)) (i : Nat)
    (h : t.holeFree = true) (hs : t.size < f) : freeAtS f σ t i = some (freeAt t i) :=
  ((StoreTransparent.freeAtS_ans σ f).1 0 t t i (.refl t h)).ok (by omega)

theorem freeAtDefsS_holeFree : ∀ (ds : Defs) (f : Nat) (σ : List (Option Tm)) (i : Nat),
    ds.holeFree = true → ds.size + 1 ≤ f → freeAtDefsS f σ ds i = some (freeAtDefs ds i) :=
  fun ds f σ i h hs => StoreTransparent.freeAtDefsS_hf_ok σ ds f i h hs

section unfold
variable (nm : Name → List Char) (σ : List (Option Tm)) (f : Nat)

theorem printS_lam (x imp d b) : printS nm σ (f+1) (.lam x imp d b) =
    map2O (lamText imp (nm x)) (annotS nm σ f d) (printS nm σ f b) := by simp only [printS]
theorem printS_pi (x imp d c) : printS nm σ (f+1) (.pi x imp d c) =
    (match freeAtS f σ c 0 with
     | none => none
     | some true => map2O (piDepText imp (nm x)) (annotS nm σ f d) (printS nm σ f c)
     | some false =>
        if imp then map2O piImpText (printS nm σ f d) (printS nm σ f c)
        else map2O arrowText (headS nm σ f d) (printS nm σ f c)) := by
  simp only [printS]
  cases freeAtS f σ c 0 with
  | none => rfl
  | some b => cases b <;> rfl
theorem printS_app (g a) : printS nm σ (f+1) (.app g a) =
    map2O appText (headS nm σ f g) (groupS nm σ f a) := by simp only [printS]
theorem printS_letg (ds b) : printS nm σ (f+1) (.letg ds b) =
    map2O (· ++ ·) (printDefsS nm σ f ds) (printS nm σ f b) := by simp only [printS]
theorem printS_neg (a) : printS nm σ (f+1) (.neg a) = (groupS nm σ f a).map negText := by
  simp only [printS]
theorem printS_bin (op a b) : printS nm σ (f+1) (.bin op a b) =
    map2O (binText op) (groupS nm σ f a) (groupS nm σ f b) := by simp only [printS]
theorem printS_ite (c a b) : printS nm σ (f+1) (.ite c a b) =
    map3O iteText (printS nm σ f c) (printS nm σ f a) (printS nm σ f b) := by simp only [printS]
theorem printS_hole (id s) : printS nm σ (f+1) (.hole id s) =
    (match σ[id]? with
     | some (some sub) => printS nm σ f sub
     | _ => some holeText) := by
  simp only [printS]
  cases σ[id]? with
  | none => rfl
  | some c => cases c <;> rfl
theorem printDefsS_cons (x a d r) : printDefsS nm σ (f+1) (.cons x a d r) =
    map3O (fun a' d' r' => defText (nm x) a' d' ++ r')
      (groupS nm σ f a) (groupS nm σ f d) (printDefsS nm σ f r) := by simp only [printDefsS]
theorem groupS_hole (id s) : groupS nm σ (f+1) (.hole id s) =
    (match σ[id]? with
     | some (some sub) => groupS nm σ f sub
     | _ => printS nm σ f (.hole id s)) := by
  simp only [groupS]
  cases σ[id]? with
  | none => rfl
  | some c => cases c <;> rfl
theorem annotS_hole (id s) : annotS nm σ (f+1) (.hole id s) =
    (match σ[id]? with
     | some (some sub) => annotS nm σ f sub
     | _ => printS nm σ f (.hole id s)) := by
  simp only [annotS]
  cases σ[id]? with
  | none => rfl
  | some c => cases c <;> rfl

theorem groupS_succ {t : Tm} (h : ∀ id s, t ≠ .hole id s) :
    groupS nm σ (f+1) t = (printS nm σ f t).map (wrapGroup t) := by
  cases t with
  | hole id s => exact absurd rfl (h id s)
  | _ => rfl
theorem annotS_succ {t : Tm} (h : ∀ id s, t ≠ .hole id s) :
    annotS nm σ (f+1) t = (printS nm σ f t).map (wrapAnnot t) := by
  cases t with
  | hole id s => exact absurd rfl (h id s)
  | _ => rfl
theorem headS_app (g a) : headS nm σ (f+1) (.app g a) = printS nm σ f (.app g a) := rfl
theorem headS_succ {t : Tm} (h : ∀ g a, t ≠ .app g a) : headS nm σ (f+1) t = groupS nm σ f t := by
  cases t with
  | app g a => exact absurd rfl (h g a)
  | _ => rfl

end unfold

theorem Tm.ne_hole_of_holeFree {t : Tm} (h : t.holeFree = true) (id s : Nat) : t ≠ .hole id s := by
  rintro rfl; cases h

/-! ## `group`, `annotation` and the head test of a term that is not itself a hole, once the term prints
as in the pure layer from fuel `n` on -/

section
variable {nm : Name → List Char} {σ : List (Option Tm)} {t : Tm} {n : Nat} (h : ∀ id s, t ≠ .hole id s)
  (ih : ∀ f, n ≤ f → printS nm σ f t = some (printTm nm t))
include h ih

theorem groupS_of : ∀ f, n + 1 ≤ f → groupS nm σ f t = some (groupP nm t)
  | f+1, hf => by rw [groupS_succ nm σ f h, ih f (by omega)]; rfl

theorem annotS_of : ∀ f, n + 1 ≤ f → annotS nm σ f t = some (annotP nm t)
  | f+1, hf => by rw [annotS_succ nm σ f h, ih f (by omega)]; rfl

/-- fuel `n+2`: one for the head test, one for `group` -/
theorem headS_of : ∀ f, n + 2 ≤ f → headS nm σ f t = some (headP nm t)
  | f+2, hf => by
    cases t with
    | app g a => exact (headS_app nm σ (f+1) g a).trans (ih (f+1) (by omega))
    | _ => exact (headS_succ nm σ (f+1) (by intro _ _ e; cases e)).trans (groupS_of h ih (f+1) (by omega))

end

/-! Fuel `2 * size`: a node costs one unit for `printS` and at most one more for the function it is printed through (`group`,
`annotation`); the head test costs a third, which the other operand pays (`size_pos`). -/

mutual
theorem printS_holeFree (nm : Name → List Char) : ∀ (t : Tm) (f : Nat) (σ : List (Option Tm)),
    t.holeFree = true → 2 * t.size ≤ f → printS nm σ f t = some (printTm nm t)
  | t, 0, _, _, hs => by have := t.size_pos; omega
  | .hole _ _, _+1, _, h, _ => nomatch h
  | .type, _+1, _, _, _ | .int, _+1, _, _, _ | .bool, _+1, _, _, _ | .tt, _+1, _, _, _
  | .ff, _+1, _, _, _ | .lit _, _+1, _, _, _ | .var _ _, _+1, _, _, _ => rfl
  | .lam x imp d b, f+1, σ, h, hs => by
      simp only [Tm.holeFree, Bool.and_eq_true, Tm.size] at h hs
      rw [printS_lam, annotS_of (Tm.ne_hole_of_holeFree h.1) (fun f => printS_holeFree nm d f σ h.1) f (by omega),
        printS_holeFree nm b f σ h.2 (by omega)]; rfl
  | .pi x imp d c, f+1, σ, h, hs => by
      simp only [Tm.holeFree, Bool.and_eq_true, Tm.size] at h hs
      have := c.size_pos
      have ihd := fun f => printS_holeFree nm d f σ h.1
      rw [printS_pi, freeAtS_holeFree c f σ 0 h.2 (by omega), annotS_of (Tm.ne_hole_of_holeFree h.1) ihd f (by omega),
        ihd f (by omega), headS_of (Tm.ne_hole_of_holeFree h.1) ihd f (by omega), printS_holeFree nm c f σ h.2 (by omega),
        printTm]
      cases freeAt c 0 <;> cases imp <;>
        simp only [map2O, annotP, headP, if_true, if_false, Bool.false_eq_true]
  | .app g a, f+1, σ, h, hs => by
      simp only [Tm.holeFree, Bool.and_eq_true, Tm.size] at h hs
      have := a.size_pos
      rw [printS_app, headS_of (Tm.ne_hole_of_holeFree h.1) (fun f => printS_holeFree nm g f σ h.1) f (by omega),
        groupS_of (Tm.ne_hole_of_holeFree h.2) (fun f => printS_holeFree nm a f σ h.2) f (by omega)]; rfl
  | .letg ds b, f+1, σ, h, hs => by
      simp only [Tm.holeFree, Bool.and_eq_true, Tm.size] at h hs
      rw [printS_letg, printDefsS_holeFree nm ds f σ h.1 (by omega),
        printS_holeFree nm b f σ h.2 (by omega)]; rfl
  | .neg a, f+1, σ, h, hs => by
      simp only [Tm.holeFree, Tm.size] at h hs
      rw [printS_neg, groupS_of (Tm.ne_hole_of_holeFree h) (fun f => printS_holeFree nm a f σ h) f (by omega)]; rfl
  | .bin op a b, f+1, σ, h, hs => by
      simp only [Tm.holeFree, Bool.and_eq_true, Tm.size] at h hs
      rw [printS_bin, groupS_of (Tm.ne_hole_of_holeFree h.1) (fun f => printS_holeFree nm a f σ h.1) f (by omega),
        groupS_of (Tm.ne_hole_of_holeFree h.2) (fun f => printS_holeFree nm b f σ h.2) f (by omega)]; rfl
  | .ite c a b, f+1, σ, h, hs => by
      simp only [Tm.holeFree, Bool.and_eq_true, Tm.size] at h hs
      rw [printS_ite, printS_holeFree nm c f σ h.1.1 (by omega),
        printS_holeFree nm a f σ h.1.2 (by omega), printS_holeFree nm b f σ h.2 (by omega)]; rfl
theorem printDefsS_holeFree (nm : Name → List Char) : ∀ (ds : Defs) (f : Nat) (σ : List (Option Tm)),
    ds.holeFree = true → 2 * ds.size + 1 ≤ f → printDefsS nm σ f ds = some (printDefs nm ds)
  | _, 0, _, _, hs => nomatch hs
  | .nil, _+1, _, _, _ => rfl
  | .cons x a d r, f+1, σ, h, hs => by
      simp only [Defs.holeFree, Bool.and_eq_true, Defs.size] at h hs
      rw [printDefsS_cons, groupS_of (Tm.ne_hole_of_holeFree h.1.1) (fun f => printS_holeFree nm a f σ h.1.1) f (by omega),
        groupS_of (Tm.ne_hole_of_holeFree h.1.2) (fun f => printS_holeFree nm d f σ h.1.2) f (by omega),
        printDefsS_holeFree nm r f σ h.2 (by omega)]; rfl
end

theorem groupS_holeFree (nm : Name → List Char) (σ : List (Option Tm)) (t : Tm) (f : Nat)
    (h : t.holeFree = true) (hs : 2 * t.size + 1 ≤ f) : groupS nm σ f t = some (groupP nm t) :=
  groupS_of (Tm.ne_hole_of_holeFree h) (fun f => printS_holeFree nm t f σ h) f hs

theorem annotS_holeFree (nm : Name → List Char) (σ : List (Option Tm)) (t : Tm) (f : Nat)
    (h : t.holeFree = true) (hs : 2 * t.size + 1 ≤ f) : annotS nm σ f t = some (annotP nm t) :=
  annotS_of (Tm.ne_hole_of_holeFree h) (fun f => printS_holeFree nm t f σ h) f hs
