import GramModel.Lemmas.LexerRender
import GramModel.Lemmas.PrintItems

/-!
# What the printer prints is tokenized back to the lexemes it was made of (tokenizer half of C16)

The lexeme list `PrintDerives.printItems nm t` is a *rendering* in the sense of
`Lemmas/LexerRender.lean`: every item is a lexeme of its kind and two adjacent lexemes without a
space between them never fuse; the render/tokenize law then gives `print_tokenizes`.

The printer puts two lexemes next to each other without a space at `(`/`{` + anything, anything +
`)`/`}`/`;`, and `-` + operand; the operand of a negation never starts with `>` (it starts with `(`,
`_`, a keyword, a digit, a `-` or a name), so no two printed tokens ever fuse.
-/

/-- What the printer needs of the Unicode classifier beyond `Sane2`; every clause is true of Rust's
`char::is_alphabetic` / `is_alphanumeric`. -/
structure CharClass.PrintSane (cc : CharClass) : Prop extends cc.Sane2 where
  /-- the first letters of the printed keywords `type true then int if bool false else` -/
  kw_start : ∀ c ∈ ['t', 'i', 'b', 'f', 'e'], cc.isAlpha c = true
  /-- the other letters of these keywords -/
  kw_cont : ∀ c ∈ ['y', 'p', 'e', 'n', 't', 'o', 'l', 'r', 'u', 'a', 's', 'f', 'h'],
    cc.isAlnum c = true
  /-- a space does not continue a word -/
  space_cont : cc.isAlnum ' ' = false
  /-- an ASCII digit does not start a word -/
  digit_start : ∀ c, isDigit c = true → cc.isAlpha c = false
  /-- `)`, `}` and `;` (printed directly after the last lexeme of a term) do not continue a word -/
  closer_cont : cc.isAlnum ')' = false ∧ cc.isAlnum '}' = false ∧ cc.isAlnum ';' = false

namespace PrintLex
open PrintDerives

def toLex (it : Item) : LexItem := (it.1, it.2.1, if it.2.2 then [GapItem.blank ' '] else [])

theorem renderItems_toLex : ∀ l : List Item, renderItems (l.map toLex) none = flatten l
  | [] => rfl
  | (s, k, sp) :: r => by
    have ih := renderItems_toLex r
    cases sp <;> simp [toLex, renderItems, flatten, Gap.chars, GapItem.chars, ih]

theorem renderText_toLex (l : List Item) : renderText [] (l.map toLex) none = flatten l := by
  simp [renderText, Gap.chars, renderItems_toLex]

theorem weave_toLex (l : List Item) : weave (lexFlags (l.map toLex)) = kindsOf l := by
  rw [weave_noNL]
  · simp [lexFlags, kindsOf, toLex]
  · intro p hp
    simp only [lexFlags, List.map_map, List.mem_map, Function.comp] at hp
    obtain ⟨it, _, rfl⟩ := hp
    obtain ⟨s, k, sp⟩ := it
    cases sp <;> simp [toLex, Gap.hasNL, GapItem.hasNL]

/-! `SepN cc l nx`: no two adjacent lexemes of `l` without a space between them fuse, and the last one
does not fuse with the lexeme `nx` that follows the list (`[]`: nothing follows). -/

def hdText : List Item → List Char → List Char
  | [], nx => nx
  | (l, _, _) :: _, _ => l

def SepN (cc : CharClass) : List Item → List Char → Prop
  | [], _ => True
  | (l, _, sp) :: r, nx => (sp = true ∨ fusesHead cc l (hdText r nx) = false) ∧ SepN cc r nx

@[simp] theorem hdText_nil (nx) : hdText [] nx = nx := rfl
@[simp] theorem hdText_tk (s k r nx) : hdText (tk s k :: r) nx = s := rfl
@[simp] theorem hdText_tkS (s k r nx) : hdText (tkS s k :: r) nx = s := rfl

@[simp] theorem hdText_append : ∀ (a b : List Item) (nx : List Char),
    hdText (a ++ b) nx = hdText a (hdText b nx)
  | [], _, _ => rfl
  | (_, _, _) :: _, _, _ => rfl

@[simp] theorem hdText_spaced : ∀ (l : List Item) (nx : List Char), hdText (spaced l) nx = hdText l nx
  | [], _ => rfl
  | [(_, _, _)], _ => rfl
  | (_, _, _) :: _ :: _, _ => rfl

@[simp] theorem sepN_nil (cc nx) : SepN cc [] nx = True := rfl

@[simp] theorem sepN_tk (cc : CharClass) (s k r nx) :
    SepN cc (tk s k :: r) nx ↔ fusesHead cc s (hdText r nx) = false ∧ SepN cc r nx := by
  simp [tk, SepN]

@[simp] theorem sepN_tkS (cc : CharClass) (s k r nx) : SepN cc (tkS s k :: r) nx ↔ SepN cc r nx := by
  simp [tkS, SepN]

@[simp] theorem sepN_append (cc : CharClass) : ∀ (a b : List Item) (nx : List Char),
    SepN cc (a ++ b) nx ↔ SepN cc a (hdText b nx) ∧ SepN cc b nx
  | [], b, nx => by simp
  | (l, k, sp) :: r, b, nx => by
    have ih := sepN_append cc r b nx
    simp only [List.cons_append, SepN, ih, hdText_append, and_assoc]

theorem sepN_spaced (cc : CharClass) : ∀ (l : List Item) (nx nx' : List Char),
    SepN cc l nx → SepN cc (spaced l) nx'
  | [], _, _, _ => trivial
  | [(s, k, sp)], _, _, _ => by simp [spaced, SepN]
  | (s, k, sp) :: y :: r, nx, nx', h =>
    ⟨by rw [hdText_spaced]; exact h.1, sepN_spaced cc (y :: r) nx nx' h.2⟩

theorem sepN_sepOK (cc : CharClass) : ∀ l : List Item, SepN cc l [] → SepOK cc (l.map toLex)
  | [], _ => trivial
  | [_], _ => trivial
  | (s, k, sp) :: (s', k', sp') :: r, h =>
    ⟨h.1.imp (fun h1 => by simp [h1]) id, sepN_sepOK cc ((s', k', sp') :: r) h.2⟩

@[simp] theorem fusesHead_nil (cc : CharClass) (a : List Char) : fusesHead cc a [] = false := rfl

/-- a lexeme that may follow the last lexeme of any printed term directly -/
def Safe (cc : CharClass) (nx : List Char) : Prop := ∀ l k, IsLexeme cc l k → fusesHead cc l nx = false

theorem safe_nil (cc : CharClass) : Safe cc [] := fun _ _ _ => rfl

theorem safe_closer {cc : CharClass} (hs : cc.PrintSane) {d : Char}
    (hd : d = ')' ∨ d = '}' ∨ d = ';') : Safe cc [d] := by
  have hc := hs.closer_cont
  intro l _ _
  rcases hd with rfl | rfl | rfl
  · exact fuses_inert (by decide) (by decide) (by simp [identCont, hc.1]) rfl l
  · exact fuses_inert (by decide) (by decide) (by simp [identCont, hc.2.1]) rfl l
  · exact fuses_inert (by decide) (by decide) (by simp [identCont, hc.2.2]) rfl l

def LexAll (cc : CharClass) (l : List Item) : Prop := ∀ it ∈ l, IsLexeme cc it.1 it.2.1

theorem lexAll_spaced (cc : CharClass) : ∀ l : List Item, LexAll cc l → LexAll cc (spaced l)
  | [], h => h
  | [(s, k, _)], h => by simpa [LexAll, spaced] using h
  | x :: y :: r, h =>
    List.forall_mem_cons.2 ⟨h x List.mem_cons_self,
      lexAll_spaced cc (y :: r) fun it hi => h it (List.mem_cons_of_mem _ hi)⟩

/-- the first lexeme does not start with `>` (so it may follow a `-` directly) -/
def HdOK (l : List Item) : Prop := ∃ c w k sp r, l = (c :: w, k, sp) :: r ∧ c ≠ '>'

theorem hdOK_cons {c : Char} {w : List Char} {k : TokKind} {sp : Bool} {r : List Item}
    (h : c ≠ '>') : HdOK ((c :: w, k, sp) :: r) := ⟨c, w, k, sp, r, rfl, h⟩

theorem hdOK_append {a : List Item} (b : List Item) (h : HdOK a) : HdOK (a ++ b) := by
  obtain ⟨c, w, k, sp, r, rfl, hc⟩ := h
  exact hdOK_cons hc

theorem hdOK_spaced {a : List Item} (h : HdOK a) : HdOK (spaced a) := by
  obtain ⟨c, w, k, sp, r, rfl, hc⟩ := h
  cases r <;> exact hdOK_cons hc

theorem sepN_minus (cc : CharClass) {a : List Item} (nx : List Char) (h : HdOK a) :
    fusesHead cc ['-'] (hdText a nx) = false := by
  obtain ⟨c, w, k, sp, r, rfl, hc⟩ := h
  simp [hdText, fusesHead, fuses, hc]

/-- a stretch of printed lexemes that may be followed by any lexeme satisfying `F`.  (`PrintLex.Seg`, `Inv`, `InvD` are
notions of this file; the parser lemmas have their own `PModel.Seg`, `Inv`, `InvD`.) -/
structure Seg (cc : CharClass) (F : List Char → Prop) (l : List Item) : Prop where
  lex : LexAll cc l
  sep : ∀ nx, F nx → SepN cc l nx

/-- what the induction carries for the lexeme list of a term -/
structure Inv (cc : CharClass) (l : List Item) : Prop extends Seg cc (Safe cc) l where
  hd : HdOK l

/-- … and for the lexeme list of the definitions of a group (it ends with `; `) -/
structure InvD (cc : CharClass) (l : List Item) : Prop where
  lex : LexAll cc l
  sep : ∀ nx, SepN cc l nx
  hd : l = [] ∨ HdOK l

section seg
variable {cc : CharClass} {F G : List Char → Prop} {s : List Char} {k : TokKind} {a r : List Item}

theorem Seg.nil : Seg cc F [] := ⟨(fun _ h => nomatch h), fun _ _ => trivial⟩

theorem Seg.tkS (h : IsLexeme cc s k) (hr : Seg cc F r) : Seg cc F (tkS s k :: r) :=
  ⟨List.forall_mem_cons.2 ⟨h, hr.lex⟩, fun nx hnx => (sepN_tkS cc s k r nx).2 (hr.sep nx hnx)⟩

theorem Seg.tk (h : IsLexeme cc s k) (hf : ∀ nx, F nx → fusesHead cc s (hdText r nx) = false)
    (hr : Seg cc F r) : Seg cc F (tk s k :: r) :=
  ⟨List.forall_mem_cons.2 ⟨h, hr.lex⟩,
    fun nx hnx => (sepN_tk cc s k r nx).2 ⟨hf nx hnx, hr.sep nx hnx⟩⟩

theorem Seg.append (ha : Seg cc G a) (hG : ∀ nx, F nx → G (hdText r nx)) (hr : Seg cc F r) :
    Seg cc F (a ++ r) :=
  ⟨List.forall_mem_append.2 ⟨ha.lex, hr.lex⟩,
    fun nx hnx => (sepN_append cc a r nx).2 ⟨ha.sep _ (hG nx hnx), hr.sep nx hnx⟩⟩

theorem Seg.spaced_append (ha : Seg cc (Safe cc) a) (hr : Seg cc F r) : Seg cc F (spaced a ++ r) :=
  Seg.append (G := fun _ => True)
    ⟨lexAll_spaced cc a ha.lex, fun nx _ => sepN_spaced cc a [] nx (ha.sep [] (safe_nil cc))⟩
    (fun _ _ => trivial) hr

theorem Inv.spaced_append (ha : Inv cc a) (hr : Seg cc (Safe cc) r) : Inv cc (spaced a ++ r) :=
  ⟨ha.toSeg.spaced_append hr, hdOK_append _ (hdOK_spaced ha.hd)⟩

end seg

theorem lx_hole (cc : CharClass) : IsLexeme cc holeText (.identifier holeText) := by
  have e : wordKind ['_'] = .identifier ['_'] := by decide
  have := IsLexeme.word (cc := cc) '_' [] (by decide) (by simp [identStart]) (by simp)
  rw [e] at this
  exact this

theorem lx_keyword {cc : CharClass} (hs : cc.PrintSane) (c : Char) (w : List Char)
    (hc : c ∈ ['t', 'i', 'b', 'f', 'e'])
    (hw : ∀ x ∈ w, x ∈ ['y', 'p', 'e', 'n', 't', 'o', 'l', 'r', 'u', 'a', 's', 'f', 'h']) :
    IsLexeme cc (c :: w) (wordKind (c :: w)) := by
  refine .word c w ?_ ?_ ?_
  · revert c; decide
  · simp [identStart, hs.kw_start c hc]
  · intro x hx
    simp [identCont, hs.kw_cont x (hw x hx)]

theorem lx_op (cc : CharClass) (op : BinOp) : IsLexeme cc (opChars op) (opKind op) :=
  .sym _ _ (by cases op <;> decide +kernel)

theorem ident_hd {cc : CharClass} {l n : List Char} (h : IsLexeme cc l (.identifier n)) :
    ∃ c w, l = c :: w ∧ c ≠ '>' := by
  generalize hk : TokKind.identifier n = k at h
  cases h with
  | sym l k h =>
    subst hk
    simp [symTable] at h
  | word c w hc _ _ => exact ⟨c, w, rfl, fun e => hc (e ▸ by decide)⟩
  | number c w _ hd _ => exact ⟨c, w, rfl, digit_ne hd rfl⟩

section formers
variable {cc : CharClass}

theorem inv_single {s : List Char} {k : TokKind} (h : IsLexeme cc s k)
    (hh : ∃ c w, s = c :: w ∧ c ≠ '>') : Inv cc [tk s k] := by
  obtain ⟨c, w, rfl, hc⟩ := hh
  exact ⟨.tk h (fun _ hnx => hnx _ _ h) .nil, hdOK_cons hc⟩

theorem inv_paren (hs : cc.PrintSane) {l : List Item} (h : Inv cc l) : Inv cc (parenI l) :=
  ⟨.tk (.sym _ _ (by decide)) (fun _ _ => fusesHead_bracket cc (.inl rfl) _)
    (h.toSeg.append (fun _ _ => safe_closer hs (.inl rfl))
      (.tk (.sym _ _ (by decide)) (fun _ _ => fusesHead_bracket cc (.inr (.inl rfl)) _) .nil)),
    hdOK_cons (by decide)⟩

theorem inv_wrapGroup (hs : cc.PrintSane) (t : Tm) {l : List Item} (h : Inv cc l) :
    Inv cc (wrapGroupI t l) := by
  unfold wrapGroupI
  split
  · exact h
  · exact inv_paren hs h

theorem inv_wrapHead (hs : cc.PrintSane) (t : Tm) {l : List Item} (h : Inv cc l) :
    Inv cc (wrapHeadI t l) := by
  cases t <;> first
    | exact h
    | exact inv_wrapGroup hs _ h

theorem inv_wrapAnnot (hs : cc.PrintSane) (t : Tm) {l : List Item} (h : Inv cc l) :
    Inv cc (wrapAnnotI t l) := by
  cases t <;> first
    | exact inv_paren hs h
    | exact h

theorem inv_neg {a : List Item} (ha : Inv cc a) : Inv cc (negItems a) :=
  ⟨.tk (.sym _ _ (by decide)) (fun nx _ => sepN_minus cc nx ha.hd) ha.toSeg, hdOK_cons (by decide)⟩

theorem inv_nat (hs : cc.PrintSane) (n : Nat) :
    Inv cc [tk (Nat.toDigits 10 n) (.integerLiteral n)] := by
  have hall := toDigits_isDigit n
  have hval := digitsValue_toDigits n
  cases hd : Nat.toDigits 10 n with
  | nil => exact absurd hd Nat.toDigits_ne_nil
  | cons c w =>
    rw [hd] at hall hval
    have hc : isDigit c = true := hall c (by simp)
    have := IsLexeme.number (cc := cc) c w
      (by simp [identStart, hs.digit_start c hc, (digit_ne hc rfl : c ≠ '_')]) hc
      (fun x hx => hall x (by simp [hx]))
    rw [hval] at this
    exact inv_single this ⟨c, w, rfl, digit_ne hc rfl⟩

theorem inv_int (hs : cc.PrintSane) (n : Int) : Inv cc (intItems n) := by
  cases n with
  | ofNat n => exact inv_nat hs n
  | negSucc n => exact inv_neg (inv_nat hs (n + 1))

/-- `open x : ann close arrow body`: the opener fuses with nothing, the closer may follow any term -/
theorem inv_bracket {o : Char} {c a x : List Char} {ko kc ka : TokKind} {ann body : List Item}
    (ho : IsLexeme cc [o] ko) (hof : ∀ b, fusesHead cc [o] b = false) (ho' : o ≠ '>')
    (hc : IsLexeme cc c kc) (hcs : Safe cc c) (ha : IsLexeme cc a ka)
    (hx : IsLexeme cc x (.identifier x)) (hann : Inv cc ann) (hbody : Inv cc body) :
    Inv cc (tk [o] ko :: tkS x (.identifier x) :: tkS [':'] .colon :: ann ++
      tkS c kc :: tkS a ka :: body) :=
  ⟨.tk ho (fun _ _ => hof _) (.tkS hx (.tkS (.sym _ _ (by decide))
    (hann.toSeg.append (fun _ _ => hcs) (.tkS hc (.tkS ha hbody.toSeg))))), hdOK_cons ho'⟩

/-- `lamItems` and `piDepItems`: the same list but for the arrow `a` -/
theorem inv_binder (hs : cc.PrintSane) (imp : Bool) {a x : List Char} {ka : TokKind}
    {ann body : List Item} (ha : IsLexeme cc a ka) (hx : IsLexeme cc x (.identifier x))
    (hann : Inv cc ann) (hbody : Inv cc body) :
    Inv cc (if imp then
        tk ['{'] .leftCurly :: tkS x (.identifier x) :: tkS [':'] .colon :: ann ++
          tkS ['}'] .rightCurly :: tkS a ka :: body
      else
        tk ['('] .leftParen :: tkS x (.identifier x) :: tkS [':'] .colon :: ann ++
          tkS [')'] .rightParen :: tkS a ka :: body) := by
  cases imp
  · exact inv_bracket (.sym _ _ (by decide)) (fusesHead_bracket cc (.inl rfl)) (by decide)
      (.sym _ _ (by decide)) (safe_closer hs (.inl rfl)) ha hx hann hbody
  · exact inv_bracket (.sym _ _ (by decide)) (fusesHead_bracket cc (.inr (.inr rfl))) (by decide)
      (.sym _ _ (by decide)) (safe_closer hs (.inr (.inl rfl))) ha hx hann hbody

theorem inv_piImp (hs : cc.PrintSane) {dom cod : List Item} (hdom : Inv cc dom) (hcod : Inv cc cod) :
    Inv cc (piImpItems dom cod) :=
  ⟨.tk (.sym _ _ (by decide)) (fun _ _ => fusesHead_bracket cc (.inr (.inr rfl)) _)
    (hdom.toSeg.append (fun _ _ => safe_closer hs (.inr (.inl rfl)))
      (.tkS (.sym _ _ (by decide)) (.tkS (.sym _ _ (by decide)) hcod.toSeg))),
    hdOK_cons (by decide)⟩

theorem inv_ite (hs : cc.PrintSane) {c a b : List Item} (hc : Inv cc c) (ha : Inv cc a)
    (hb : Inv cc b) : Inv cc (iteItems c a b) := by
  rw [iteItems, List.append_assoc]
  exact ⟨.tkS (lx_keyword hs 'i' ['f'] (by decide) (by decide)) (hc.toSeg.spaced_append
    (.tkS (lx_keyword hs 't' ['h', 'e', 'n'] (by decide) (by decide)) (ha.toSeg.spaced_append
      (.tkS (lx_keyword hs 'e' ['l', 's', 'e'] (by decide) (by decide)) hb.toSeg)))),
    hdOK_cons (by decide)⟩

theorem invD_def (hs : cc.PrintSane) {x : List Char} {ann d : List Item}
    (hx : IsLexeme cc x (.identifier x)) (hann : Inv cc ann) (hd : Inv cc d) :
    InvD cc (defItems x ann d) := by
  obtain ⟨c, w, rfl, hc⟩ := ident_hd hx
  have h : Seg cc (fun _ => True) (defItems (c :: w) ann d) := by
    rw [defItems, List.append_assoc]
    exact .tkS hx (.tkS (.sym _ _ (by decide)) (hann.toSeg.spaced_append
      (.tkS (.sym _ _ (by decide)) (hd.toSeg.append (fun _ _ => safe_closer hs (.inr (.inr rfl)))
        (.tkS (.sym _ _ (by decide)) .nil)))))
  exact ⟨h.lex, fun nx => h.sep nx trivial, .inr (hdOK_cons hc)⟩

theorem invD_append {a b : List Item} (ha : InvD cc a) (hb : InvD cc b) : InvD cc (a ++ b) := by
  refine ⟨List.forall_mem_append.2 ⟨ha.lex, hb.lex⟩,
    fun nx => (sepN_append cc a b nx).2 ⟨ha.sep _, hb.sep nx⟩, ?_⟩
  rcases ha.hd with rfl | h
  · exact hb.hd
  · exact .inr (hdOK_append _ h)

theorem inv_let {ds b : List Item} (hds : InvD cc ds) (hb : Inv cc b) : Inv cc (ds ++ b) := by
  refine ⟨Seg.append (G := fun _ => True) ⟨hds.lex, fun nx _ => hds.sep nx⟩ (fun _ _ => trivial)
    hb.toSeg, ?_⟩
  rcases hds.hd with rfl | h
  · exact hb.hd
  · exact hdOK_append _ h

end formers

mutual
/-- the names the printer prints: every variable, every binder of a lambda, of a *dependent*
function type and of a definition (the binder of a non-dependent function type is not printed) -/
def printedNames : Tm → List Name
  | .var x _ => [x]
  | .lam x _ d b => x :: (printedNames d ++ printedNames b)
  | .pi x _ d c => (if freeAt c 0 then [x] else []) ++ (printedNames d ++ printedNames c)
  | .app f a => printedNames f ++ printedNames a
  | .letg ds b => printedNamesDefs ds ++ printedNames b
  | .neg a => printedNames a
  | .bin _ a b => printedNames a ++ printedNames b
  | .ite c a b => printedNames c ++ (printedNames a ++ printedNames b)
  | _ => []
def printedNamesDefs : Defs → List Name
  | .nil => []
  | .cons x a d r => x :: (printedNames a ++ (printedNames d ++ printedNamesDefs r))
end

/-- every printed name is the text of one identifier token (not a keyword): it starts with an
identifier-start character, continues with identifier characters and is not a keyword — what the
tokenizer guarantees for every name that came out of parsing -/
def NamesOK (cc : CharClass) (nm : Name → List Char) (xs : List Name) : Prop :=
  ∀ x ∈ xs, IsLexeme cc (nm x) (.identifier (nm x))

theorem NamesOK.left {cc : CharClass} {nm : Name → List Char} {a b : List Name}
    (h : NamesOK cc nm (a ++ b)) : NamesOK cc nm a := fun x hx => h x (List.mem_append_left _ hx)
theorem NamesOK.right {cc : CharClass} {nm : Name → List Char} {a b : List Name}
    (h : NamesOK cc nm (a ++ b)) : NamesOK cc nm b := fun x hx => h x (List.mem_append_right _ hx)
theorem NamesOK.head {cc : CharClass} {nm : Name → List Char} {x : Name} {b : List Name}
    (h : NamesOK cc nm (x :: b)) : IsLexeme cc (nm x) (.identifier (nm x)) := h x (by simp)
theorem NamesOK.tail {cc : CharClass} {nm : Name → List Char} {x : Name} {b : List Name}
    (h : NamesOK cc nm (x :: b)) : NamesOK cc nm b := fun y hy => h y (List.mem_cons_of_mem _ hy)

mutual
theorem inv_printItems {cc : CharClass} (hs : cc.PrintSane) (nm : Name → List Char) :
    ∀ t : Tm, NamesOK cc nm (printedNames t) → Inv cc (printItems nm t)
  | .hole _ _, _ => inv_single (lx_hole cc) ⟨'_', [], rfl, by decide⟩
  | .type, _ => inv_single (lx_keyword hs 't' ['y', 'p', 'e'] (by decide) (by decide)) ⟨_, _, rfl, by decide⟩
  | .int, _ => inv_single (lx_keyword hs 'i' ['n', 't'] (by decide) (by decide)) ⟨_, _, rfl, by decide⟩
  | .bool, _ => inv_single (lx_keyword hs 'b' ['o', 'o', 'l'] (by decide) (by decide)) ⟨_, _, rfl, by decide⟩
  | .tt, _ => inv_single (lx_keyword hs 't' ['r', 'u', 'e'] (by decide) (by decide)) ⟨_, _, rfl, by decide⟩
  | .ff, _ => inv_single (lx_keyword hs 'f' ['a', 'l', 's', 'e'] (by decide) (by decide)) ⟨_, _, rfl, by decide⟩
  | .lit n, _ => inv_int hs n
  | .var x _, hn => inv_single hn.head (ident_hd hn.head)
  | .lam x imp d b, hn =>
      inv_binder hs imp (.sym _ _ (by decide)) hn.head
        (inv_wrapAnnot hs d (inv_printItems hs nm d hn.tail.left))
        (inv_printItems hs nm b hn.tail.right)
  | .pi x imp d c, hn => by
      rw [printedNames] at hn
      have hd := inv_printItems hs nm d hn.right.left
      have hc := inv_printItems hs nm c hn.right.right
      rw [printItems]
      split
      · rename_i hf
        exact inv_binder hs imp (.sym _ _ (by decide)) (hn x (by simp [hf])) (inv_wrapAnnot hs d hd) hc
      · split
        · exact inv_piImp hs hd hc
        · exact (inv_wrapHead hs d hd).spaced_append (.tkS (.sym _ _ (by decide)) hc.toSeg)
  | .app f a, hn =>
      (inv_wrapHead hs f (inv_printItems hs nm f hn.left)).spaced_append
        (inv_wrapGroup hs a (inv_printItems hs nm a hn.right)).toSeg
  | .letg ds b, hn =>
      inv_let (invD_printDefsItems hs nm ds hn.left) (inv_printItems hs nm b hn.right)
  | .neg a, hn => inv_neg (inv_wrapGroup hs a (inv_printItems hs nm a hn))
  | .bin op a b, hn =>
      (inv_wrapGroup hs a (inv_printItems hs nm a hn.left)).spaced_append
        (.tkS (lx_op cc op) (inv_wrapGroup hs b (inv_printItems hs nm b hn.right)).toSeg)
  | .ite c a b, hn =>
      inv_ite hs (inv_printItems hs nm c hn.left) (inv_printItems hs nm a hn.right.left)
        (inv_printItems hs nm b hn.right.right)
theorem invD_printDefsItems {cc : CharClass} (hs : cc.PrintSane) (nm : Name → List Char) :
    ∀ ds : Defs, NamesOK cc nm (printedNamesDefs ds) → InvD cc (printDefsItems nm ds)
  | .nil, _ => ⟨(fun _ h => nomatch h), fun _ => trivial, .inl rfl⟩
  | .cons _ a d r, hn =>
      invD_append
        (invD_def hs hn.head (inv_wrapGroup hs a (inv_printItems hs nm a hn.tail.left))
          (inv_wrapGroup hs d (inv_printItems hs nm d hn.tail.right.left)))
        (invD_printDefsItems hs nm r hn.tail.right.right)
end

theorem print_rendering {cc : CharClass} (hs : cc.PrintSane) (nm : Name → List Char) (t : Tm)
    (hn : NamesOK cc nm (printedNames t)) :
    Rendering cc [] ((printItems nm t).map toLex) none := by
  have h := inv_printItems hs nm t hn
  refine ⟨by simp [Gap.ok], ?_, eofOK_none, sepN_sepOK cc _ (h.sep [] (safe_nil cc))⟩
  intro it hit
  simp only [List.mem_map] at hit
  obtain ⟨i, hi, rfl⟩ := hit
  refine ⟨h.lex i hi, ?_⟩
  obtain ⟨s, k, sp⟩ := i
  cases sp
  · simp [toLex, Gap.ok]
  · simp only [toLex, if_true, Gap.ok, List.mem_singleton, forall_eq, GapItem.ok]
    refine ⟨hs.space_ws.1, by decide, hs.space_ws.2, ?_, by decide, by decide⟩
    simp [identCont, hs.space_cont]

theorem print_tokenizes {cc : CharClass} (hs : cc.PrintSane) (nm : Name → List Char) (t : Tm)
    (hn : NamesOK cc nm (printedNames t)) :
    ∃ ts, tokenize cc (printTm nm t) = .ok ts ∧ ts.map (·.kind) = printKinds nm t := by
  obtain ⟨ts, h1, h2⟩ := (print_rendering hs nm t hn).law hs.toSane2
  rw [renderText_toLex, ← printTm_eq_flatten] at h1
  rw [weave_toLex] at h2
  exact ⟨ts, h1, h2⟩

end PrintLex
