import GramModel.Lemmas.Lexeme

/-!
# One iteration of the scanning loop as a function, and the counting twins

`lexStep` is the body of `scan`'s loop, with the number of character inspections the iteration makes;
`scan_succ` says that `scan` iterates it, and this is the only place where the loop body of `scan` is
unfolded (`scan_zero`, `scan_nil`: the two ways it ends).  `scanC`, `filterToksC`, `tokenizeC` are the loop, the second pass and `tokenize` with a step
counter; that their first components are the model's own functions, and the bounds on the counts, are in
`Lemmas/CostBounds.lean` (C17).
-/

theorem scan_zero (cc : CharClass) (pos : Nat) (cs : List Char) (s : LexState) :
    scan cc 0 pos cs s = s := rfl

theorem scan_nil (cc : CharClass) (fuel pos : Nat) (s : LexState) : scan cc fuel pos [] s = s := by
  cases fuel <;> rfl

/-- Characters inspected by `spanChars p cs`: the accepted prefix, plus the first rejected
character (if there is one). -/
def spanSteps (p : Char → Bool) : List Char → Nat
  | [] => 0
  | c :: cs => if p c then spanSteps p cs + 1 else 1

/-- Characters inspected by `skipComment cs pos`: the comment's characters, plus the line feed that
ends it (if there is one). -/
def commentSteps : List Char → Nat
  | [] => 0
  | c :: cs => if c == '\n' then 1 else commentSteps cs + 1

/-- The cost of looking at the next character (if there is one). -/
def peekCost : List Char → Nat
  | [] => 0
  | _ :: _ => 1

/-- The outcome of one iteration of the scanning loop: `halt` with `panic := true`, or go on with a new
position, remaining text and state; `cost` = number of character inspections made by the iteration (1 for
the current character + look-ahead + inner loop).  `LexState.panic` is set at a line feed when the table
`Generated.canEnd` regenerated from `tokenizer.rs` has no entry for the last token: the Rust `match` is
exhaustive, so this is a gap of the table, not a panic of the tokenizer, and no run sets it (`scan_panic`). -/
inductive LexStep
  | halt (s : LexState)
  | next (pos : Nat) (rest : List Char) (s : LexState) (cost : Nat)

def lexStep (cc : CharClass) (pos : Nat) (c : Char) (cs : List Char) (s : LexState) : LexStep :=
  let one (k : TokKind) := LexStep.next (pos + 1) cs (s.push k pos (pos + 1)) 1
  let oneP (k : TokKind) := LexStep.next (pos + 1) cs (s.push k pos (pos + 1)) (1 + peekCost cs)
  let two (k : TokKind) (rest : List Char) :=
    LexStep.next (pos + 2) rest (s.push k pos (pos + 2)) 2
  if c == '*' then one .asterisk
  else if c == ':' then one .colon
  else if c == '{' then one .leftCurly
  else if c == '(' then one .leftParen
  else if c == '+' then one .plus
  else if c == '}' then one .rightCurly
  else if c == ')' then one .rightParen
  else if c == '/' then one .slash
  else if c == ';' then one .terminatorSemicolon
  else if c == '\n' then
    match lastCanEnd s with
    | none => .halt { s with panic := true }
    | some true => one .terminatorLineBreak
    | some false => .next (pos + 1) cs s 1
  else if c == '-' then
    match cs with
    | '>' :: r => two .thinArrow r
    | _ => oneP .minus
  else if c == '<' then
    match cs with
    | '=' :: r => two .lessThanOrEqualTo r
    | _ => oneP .lessThan
  else if c == '=' then
    match cs with
    | '=' :: r => two .doubleEquals r
    | '>' :: r => two .thickArrow r
    | _ => oneP .equals
  else if c == '>' then
    match cs with
    | '=' :: r => two .greaterThanOrEqualTo r
    | _ => oneP .greaterThan
  else if identStart cc c then
    let (w, rest) := spanChars (identCont cc) cs
    let stop := pos + c.utf8Size + bytesOf w
    .next stop rest (s.push (wordKind (c :: w)) pos stop) (1 + spanSteps (identCont cc) cs)
  else if isDigit c then
    let (w, rest) := spanChars isDigit cs
    let stop := pos + 1 + bytesOf w
    .next stop rest (s.push (.integerLiteral (digitsValue (c :: w))) pos stop)
      (1 + spanSteps isDigit cs)
  else if cc.isWs c then .next (pos + c.utf8Size) cs s 1
  else if c == '#' then
    let (rest, p) := skipComment cs (pos + 1)
    .next p rest s (1 + commentSteps cs)
  else
    .next (pos + c.utf8Size) cs { s with errs := (pos, cc.graphemeEnd pos) :: s.errs } 1

/-- one arm of the `if` chain shared by `scan` and `lexStep`: when the test holds the two sides agree by
`rfl`, or after splitting the `match` on the next character or on `lastCanEnd` -/
local macro "lex_arm " t:term : tactic =>
  `(tactic| (by_cases h1 : $t
             · rw [if_pos h1, if_pos h1]
               all_goals first
                 | rfl
                 | (split <;> first
                     | rfl
                     | (rename_i h; simp only [h])
                     | (split <;> first | rfl | (exfalso; simp_all)))
             rw [if_neg h1, if_neg h1]; try clear h1))

theorem scan_succ (cc : CharClass) (fuel pos : Nat) (c : Char) (cs : List Char) (s : LexState) :
    scan cc (fuel + 1) pos (c :: cs) s =
      match lexStep cc pos c cs s with
      | .halt s' => s'
      | .next p r s' _ => scan cc fuel p r s' := by
  rw [scan.eq_def]
  unfold lexStep
  dsimp only
  lex_arm (c == '*') = true
  lex_arm (c == ':') = true
  lex_arm (c == '{') = true
  lex_arm (c == '(') = true
  lex_arm (c == '+') = true
  lex_arm (c == '}') = true
  lex_arm (c == ')') = true
  lex_arm (c == '/') = true
  lex_arm (c == ';') = true
  lex_arm (c == '\n') = true
  lex_arm (c == '-') = true
  lex_arm (c == '<') = true
  lex_arm (c == '=') = true
  lex_arm (c == '>') = true
  lex_arm identStart cc c = true
  lex_arm isDigit c = true
  lex_arm cc.isWs c = true
  lex_arm (c == '#') = true

theorem peekCost_le (cs : List Char) : peekCost cs ≤ 1 := by
  cases cs <;> simp [peekCost]

theorem spanSteps_le (p : Char → Bool) : ∀ (cs : List Char),
    spanSteps p cs + (spanChars p cs).2.length ≤ cs.length + 1 ∧
    (spanChars p cs).2.length ≤ cs.length
  | [] => by simp [spanSteps, spanChars]
  | c :: cs => by
      have ih := spanSteps_le p cs
      simp only [spanSteps, spanChars]
      split
      · simp only [List.length_cons]; omega
      · simp; omega

theorem commentSteps_le : ∀ (cs : List Char) (pos : Nat),
    commentSteps cs + (skipComment cs pos).1.length ≤ cs.length + 1 ∧
    (skipComment cs pos).1.length ≤ cs.length
  | [], pos => by simp [commentSteps, skipComment]
  | c :: cs, pos => by
      have ih := commentSteps_le cs (pos + c.utf8Size)
      simp only [commentSteps, skipComment]
      split
      · simp; omega
      · simp only [List.length_cons]; omega

/-- `scan` with a counter: the second component adds up the costs of the iterations (the panic arm counts
as one inspection). -/
def scanC (cc : CharClass) : Nat → Nat → List Char → LexState → LexState × Nat
  | 0, _, _, s => (s, 0)
  | _, _, [], s => (s, 0)
  | fuel + 1, pos, c :: cs, s =>
    match lexStep cc pos c cs s with
    | .halt s' => (s', 1)
    | .next p r s' k => ((scanC cc fuel p r s').1, (scanC cc fuel p r s').2 + k)

def scanSteps (cc : CharClass) (fuel pos : Nat) (cs : List Char) (s : LexState) : Nat :=
  (scanC cc fuel pos cs s).2

/-- `filterToks` with a counter: the number of calls (one per token, plus the call on the empty list). -/
def filterToksC : List Tok → Option (List Tok) × Nat
  | [] => (some [], 1)
  | t :: rest =>
    ((match (filterToksC rest).1 with
      | none => none
      | some rest' =>
        if t.kind = .terminatorLineBreak then
          match rest with
          | [] => some rest'
          | n :: _ =>
            match Generated.canStart n.kind with
            | none => none
            | some true => some (t :: rest')
            | some false => some rest'
        else some (t :: rest')),
     (filterToksC rest).2 + 1)

/-- `tokenize` with a counter: the inspections of the scanning loop, plus the reversal of the token (or error)
list (one step per element), plus the calls of the second pass. -/
def tokenizeC (cc : CharClass) (text : List Char) : LexResult × Nat :=
  let r := scanC cc text.length 0 text { toks := [], errs := [] }
  if r.1.panic then (.panic, r.2)
  else if !r.1.errs.isEmpty then (.err r.1.errs.reverse, r.2 + r.1.errs.length)
  else
    (match (filterToksC r.1.toks.reverse).1 with
      | some ts => .ok ts
      | none => .panic,
     r.2 + r.1.toks.length + (filterToksC r.1.toks.reverse).2)

theorem lexStep_nonsym (cc : CharClass) (pos : Nat) {c : Char} (cs : List Char) (s : LexState)
    (hc : c ∉ symbolChars) :
    lexStep cc pos c cs s =
      if identStart cc c then
        .next (pos + c.utf8Size + bytesOf (spanChars (identCont cc) cs).1)
          (spanChars (identCont cc) cs).2
          (s.push (wordKind (c :: (spanChars (identCont cc) cs).1)) pos
            (pos + c.utf8Size + bytesOf (spanChars (identCont cc) cs).1))
          (1 + spanSteps (identCont cc) cs)
      else if isDigit c then
        .next (pos + 1 + bytesOf (spanChars isDigit cs).1) (spanChars isDigit cs).2
          (s.push (.integerLiteral (digitsValue (c :: (spanChars isDigit cs).1))) pos
            (pos + 1 + bytesOf (spanChars isDigit cs).1))
          (1 + spanSteps isDigit cs)
      else if cc.isWs c then .next (pos + c.utf8Size) cs s 1
      else if c == '#' then
        .next (skipComment cs (pos + 1)).2 (skipComment cs (pos + 1)).1 s (1 + commentSteps cs)
      else .next (pos + c.utf8Size) cs { s with errs := (pos, cc.graphemeEnd pos) :: s.errs } 1 := by
  obtain ⟨h1, h2, h3, h4, h5, h6, h7, h8, h9, h10, h11, h12, h13, h14⟩ := not_sym hc
  unfold lexStep
  simp only [beq_iff_eq, h1, h2, h3, h4, h5, h6, h7, h8, h9, h10, h11, h12, h13, h14, if_false]

/-! On a literal symbol character `lexStep` computes; the line feed and the four characters that may
start a two-character symbol leave a `match`. -/

theorem lexStep_lf (cc : CharClass) (pos : Nat) (cs : List Char) (s : LexState) :
    lexStep cc pos '\n' cs s =
      match lastCanEnd s with
      | none => .halt { s with panic := true }
      | some true => .next (pos + 1) cs (s.push .terminatorLineBreak pos (pos + 1)) 1
      | some false => .next (pos + 1) cs s 1 := rfl

theorem lexStep_minus (cc : CharClass) (pos : Nat) (cs : List Char) (s : LexState) :
    lexStep cc pos '-' cs s =
      match cs with
      | '>' :: r => .next (pos + 2) r (s.push .thinArrow pos (pos + 2)) 2
      | _ => .next (pos + 1) cs (s.push .minus pos (pos + 1)) (1 + peekCost cs) := rfl

theorem lexStep_less (cc : CharClass) (pos : Nat) (cs : List Char) (s : LexState) :
    lexStep cc pos '<' cs s =
      match cs with
      | '=' :: r => .next (pos + 2) r (s.push .lessThanOrEqualTo pos (pos + 2)) 2
      | _ => .next (pos + 1) cs (s.push .lessThan pos (pos + 1)) (1 + peekCost cs) := rfl

theorem lexStep_equals (cc : CharClass) (pos : Nat) (cs : List Char) (s : LexState) :
    lexStep cc pos '=' cs s =
      match cs with
      | '=' :: r => .next (pos + 2) r (s.push .doubleEquals pos (pos + 2)) 2
      | '>' :: r => .next (pos + 2) r (s.push .thickArrow pos (pos + 2)) 2
      | _ => .next (pos + 1) cs (s.push .equals pos (pos + 1)) (1 + peekCost cs) := rfl

theorem lexStep_greater (cc : CharClass) (pos : Nat) (cs : List Char) (s : LexState) :
    lexStep cc pos '>' cs s =
      match cs with
      | '=' :: r => .next (pos + 2) r (s.push .greaterThanOrEqualTo pos (pos + 2)) 2
      | _ => .next (pos + 1) cs (s.push .greaterThan pos (pos + 1)) (1 + peekCost cs) := rfl
