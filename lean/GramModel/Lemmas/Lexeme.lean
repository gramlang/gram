import GramModel.Lexer

/-!
# Lexemes: the text of exactly one token

`IsLexeme cc l k`: the string `l` is the text of one token of kind `k`; `fuses cc l d`: the scanner, having
read `l`, would swallow or combine with a following `d`.  Together (`IsLexeme cc l k` and
`fusesHead cc l rest = false`) they are maximal munch: on `l ++ rest` the scanner reads exactly `l`.
`lexOK` (what a kind says about its text) and `TokShape` (the text and what follows it, class by class)
are the two weaker readings of a lexeme that C09's statements use.
-/

/-- the symbol arms of `tokenizer.rs`; `armLexemes_symTable` (`Lemmas/TokenizerTie.lean`) compares it with the
arms regenerated from the source.  Its characters are those of the model's `symbolChars` (`symTable_shape`),
which also holds the line feed. -/
def symTable : List (List Char × TokKind) :=
  [(['*'], .asterisk), ([':'], .colon), (['{'], .leftCurly), (['('], .leftParen), (['+'], .plus),
   (['}'], .rightCurly), ([')'], .rightParen), (['/'], .slash), ([';'], .terminatorSemicolon),
   (['-'], .minus), (['<'], .lessThan), (['='], .equals), (['>'], .greaterThan),
   (['-', '>'], .thinArrow), (['<', '='], .lessThanOrEqualTo), (['=', '='], .doubleEquals),
   (['=', '>'], .thickArrow), (['>', '='], .greaterThanOrEqualTo)]

/-- The side conditions of `word` and `number` are the order of the arms of `scan`, for a classifier that
may call `*` or `7` alphabetic: a symbol character is never a word start, a word start never a digit. -/
inductive IsLexeme (cc : CharClass) : List Char → TokKind → Prop
  | sym (l : List Char) (k : TokKind) : (l, k) ∈ symTable → IsLexeme cc l k
  | word (c : Char) (w : List Char) : c ∉ symbolChars → identStart cc c = true →
      (∀ x ∈ w, identCont cc x = true) → IsLexeme cc (c :: w) (wordKind (c :: w))
  | number (c : Char) (w : List Char) : identStart cc c = false → isDigit c = true →
      (∀ x ∈ w, isDigit x = true) → IsLexeme cc (c :: w) (.integerLiteral (digitsValue (c :: w)))

def fuses (cc : CharClass) (a : List Char) (next : Char) : Bool :=
  if a = ['-'] then next == '>'
  else if a = ['<'] then next == '='
  else if a = ['='] then (next == '=' || next == '>')
  else if a = ['>'] then next == '='
  else match a with
    | [] => false
    | c :: _ =>
      if c ∈ symbolChars then false
      else if identStart cc c then identCont cc next
      else isDigit next

def fusesHead (cc : CharClass) (a b : List Char) : Bool :=
  match b with
  | [] => false
  | d :: _ => fuses cc a d

def isLexemeB (cc : CharClass) (l : List Char) (k : TokKind) : Bool :=
  symTable.contains (l, k) ||
  match l with
  | [] => false
  | c :: w =>
    (!symbolChars.contains c && identStart cc c && w.all (identCont cc) &&
        decide (k = wordKind (c :: w))) ||
    (!identStart cc c && isDigit c && w.all isDigit &&
        decide (k = .integerLiteral (digitsValue (c :: w))))

theorem isLexemeB_sound {cc : CharClass} {l : List Char} {k : TokKind}
    (h : isLexemeB cc l k = true) : IsLexeme cc l k := by
  unfold isLexemeB at h
  rw [Bool.or_eq_true] at h
  rcases h with h | h
  · exact .sym l k (by simpa using h)
  · cases l with
    | nil => simp at h
    | cons c w =>
      simp only [Bool.or_eq_true, Bool.and_eq_true, Bool.not_eq_true', List.all_eq_true,
        decide_eq_true_eq] at h
      rcases h with ⟨⟨⟨h1, h2⟩, h3⟩, rfl⟩ | ⟨⟨⟨h1, h2⟩, h3⟩, rfl⟩
      · exact .word c w (by simpa using h1) h2 h3
      · exact .number c w h1 h2 h3

theorem symTable_plain : ∀ p ∈ symTable, p.1 ≠ [] ∧ p.2 ≠ .terminatorLineBreak := by decide

theorem isLexeme_ne_nil {cc : CharClass} {l : List Char} {k : TokKind} (h : IsLexeme cc l k) :
    l ≠ [] := by
  cases h with
  | sym l k h => exact (symTable_plain _ h).1
  | word => simp
  | number => simp

theorem fusesHead_cons (cc : CharClass) (a : List Char) (d : Char) (t : List Char) :
    fusesHead cc a (d :: t) = fuses cc a d := rfl

theorem fusesHead_two {cc : CharClass} {c : Char} (hc : c ∈ symbolChars) (d : Char) (rest : List Char) :
    fusesHead cc [c, d] rest = false := by
  cases rest with
  | nil => rfl
  | cons x t => simp [fusesHead, fuses, hc]

theorem fusesHead_bracket (cc : CharClass) {c : Char} (hc : c = '(' ∨ c = ')' ∨ c = '{')
    (b : List Char) : fusesHead cc [c] b = false := by
  rcases hc with rfl | rfl | rfl <;> cases b <;> simp [fusesHead, fuses, symbolChars]

theorem fuses_inert {cc : CharClass} {d : Char} (he : d ≠ '=') (hg : d ≠ '>')
    (hc : identCont cc d = false) (hd : isDigit d = false) (a : List Char) : fuses cc a d = false := by
  unfold fuses
  rw [beq_false_of_ne he, beq_false_of_ne hg, hc, hd]
  cases a <;> simp only [ite_self, Bool.or_self]

/-- `fuses` written with patterns, for reading; `fuses_eq_spec`: it is the same function.  Proofs unfold the
`if`-chain, where each test `a = ['-']` is decided on its own; the patterns are one `match` on the characters
of `a`. -/
def fusesSpec (cc : CharClass) (a : List Char) (next : Char) : Bool :=
  match a with
  | ['-'] => next == '>'
  | ['<'] => next == '='
  | ['='] => next == '=' || next == '>'
  | ['>'] => next == '='
  | c :: _ =>
    if c ∈ symbolChars then false else if identStart cc c then identCont cc next else isDigit next
  | [] => false

theorem fuses_eq_spec (cc : CharClass) (a : List Char) (d : Char) :
    fuses cc a d = fusesSpec cc a d := by
  unfold fusesSpec
  split
  · simp [fuses]
  · simp [fuses]
  · simp [fuses]
  · simp [fuses]
  · rename_i c t h1 h2 h3 h4
    unfold fuses
    rw [if_neg (fun e => by injection e with e1 e2; exact h1 e1 e2),
      if_neg (fun e => by injection e with e1 e2; exact h2 e1 e2),
      if_neg (fun e => by injection e with e1 e2; exact h3 e1 e2),
      if_neg (fun e => by injection e with e1 e2; exact h4 e1 e2)]
  · simp [fuses]

theorem not_sym {c : Char} (h : c ∉ symbolChars) :
    c ≠ '*' ∧ c ≠ ':' ∧ c ≠ '{' ∧ c ≠ '(' ∧ c ≠ '+' ∧ c ≠ '}' ∧ c ≠ ')' ∧ c ≠ '/' ∧ c ≠ ';' ∧
    c ≠ '\n' ∧ c ≠ '-' ∧ c ≠ '<' ∧ c ≠ '=' ∧ c ≠ '>' := by
  simpa only [symbolChars, List.mem_cons, List.not_mem_nil, or_false, not_or] using h

theorem isDigit_utf8Size {c : Char} (h : isDigit c = true) : c.utf8Size = 1 := by
  simp [isDigit, Char.le_def] at h
  unfold Char.utf8Size
  have h2 := h.2
  have : c.val ≤ 127 := UInt32.le_trans h2 (by decide)
  simp [this]

theorem digit_not_sym {c : Char} (h : isDigit c = true) : c ∉ symbolChars := by
  intro hm
  have hf : ∀ x ∈ symbolChars, isDigit x = false := by decide
  rw [hf c hm] at h
  cases h

theorem fuses_plain {cc : CharClass} {c : Char} (w : List Char) (d : Char) (hc : c ∉ symbolChars) :
    fuses cc (c :: w) d = if identStart cc c then identCont cc d else isDigit d := by
  obtain ⟨h1, h2, h3, h4, h5, h6, h7, h8, h9, h10, h11, h12, h13, h14⟩ := not_sym hc
  simp [fuses, h11, h12, h13, h14, hc]

/-- a word does not fuse with what follows exactly when the next character does not continue it -/
theorem fusesHead_word {cc : CharClass} {c : Char} {w rest : List Char} (hc : c ∉ symbolChars)
    (hs : identStart cc c = true) :
    fusesHead cc (c :: w) rest = false ↔ ∀ d t, rest = d :: t → identCont cc d = false := by
  cases rest with
  | nil => exact ⟨fun _ _ _ e => (nomatch e), fun _ => rfl⟩
  | cons d t =>
    rw [fusesHead_cons, fuses_plain w d hc, if_pos hs]
    exact ⟨fun h _ _ e => by cases e; exact h, fun h => h d t rfl⟩

theorem fusesHead_number {cc : CharClass} {c : Char} {w rest : List Char} (hs : identStart cc c = false)
    (hd : isDigit c = true) :
    fusesHead cc (c :: w) rest = false ↔ ∀ d t, rest = d :: t → isDigit d = false := by
  cases rest with
  | nil => exact ⟨fun _ _ _ e => (nomatch e), fun _ => rfl⟩
  | cons d t =>
    rw [fusesHead_cons, fuses_plain w d (digit_not_sym hd), hs, if_neg Bool.false_ne_true]
    exact ⟨fun h _ _ e => by cases e; exact h, fun h => h d t rfl⟩

theorem isDigit_of_charIsDigit {c : Char} (h : c.isDigit = true) : isDigit c = true := by
  simp only [Char.isDigit, Bool.and_eq_true, decide_eq_true_eq] at h
  simp only [isDigit, decide_eq_true_eq, Char.le_def]
  exact h

theorem toDigits_isDigit (n : Nat) : ∀ c ∈ Nat.toDigits 10 n, isDigit c = true := fun _ hc =>
  isDigit_of_charIsDigit (Nat.isDigit_of_mem_toDigits (by decide) (by decide) hc)

theorem digitsValue_eq (l : List Char) : digitsValue l = Nat.ofDigitChars 10 l 0 := by
  unfold digitsValue Nat.ofDigitChars
  congr 1
  funext n d
  simp [Nat.mul_comm]

theorem digitsValue_toDigits (n : Nat) : digitsValue (Nat.toDigits 10 n) = n := by
  rw [digitsValue_eq, Nat.ofDigitChars_ten_toDigits]

theorem digit_ne {c d : Char} (h : isDigit c = true) (hd : isDigit d = false) : c ≠ d :=
  fun e => by rw [e, hd] at h; cases h

def lexOK (k : TokKind) (lex : List Char) : Prop :=
  match k with
  | .identifier w => lex = w
  | .integerLiteral n => digitsValue lex = n ∧ ∀ c ∈ lex, isDigit c = true
  | .terminatorLineBreak => lex = ['\n']
  | _ => True

theorem wordKind_cases (w : List Char) :
    wordKind w = .identifier w ∨ ∃ p ∈ Generated.keywords, wordKind w = p.1 := by
  unfold wordKind
  split
  · rename_i p hp
    exact Or.inr ⟨p, List.mem_of_find?_eq_some hp, rfl⟩
  · exact Or.inl rfl

theorem keywords_plain : ∀ p ∈ Generated.keywords, p.1 ≠ .terminatorLineBreak ∧ ∀ lex, lexOK p.1 lex := by
  intro p hp
  simp only [Generated.keywords, List.mem_cons, List.not_mem_nil, or_false] at hp
  rcases hp with rfl | rfl | rfl | rfl | rfl | rfl | rfl | rfl <;>
    exact ⟨by simp, fun _ => True.intro⟩

theorem wordKind_ne_lineBreak (w : List Char) : wordKind w ≠ .terminatorLineBreak := by
  rcases wordKind_cases w with h | ⟨p, hp, h⟩
  · rw [h]; simp
  · rw [h]; exact (keywords_plain p hp).1

theorem wordKind_lexOK (w : List Char) : lexOK (wordKind w) w := by
  rcases wordKind_cases w with h | ⟨p, hp, h⟩
  · rw [h]; rfl
  · rw [h]; exact (keywords_plain p hp).2 w

def wordish : TokKind → Bool
  | .identifier _ | .boolean | .else_ | .false_ | .if_ | .integer | .then_ | .true_ | .type_ => true
  | _ => false

theorem keywords_wordish : ∀ p ∈ Generated.keywords, wordish p.1 = true := by decide +kernel

theorem wordish_wordKind (w : List Char) : wordish (wordKind w) = true := by
  rcases wordKind_cases w with e | ⟨p, hp, e⟩
  · rw [e]; rfl
  · rw [e]; exact keywords_wordish p hp

/-- Of a symbol the first disjunct says only that its characters are symbol characters, not which symbol it
is: enough for `tokShape_nohash` and C09's maximal munch. -/
def TokShape (cc : CharClass) (k : TokKind) (lex rest : List Char) : Prop :=
  ((∀ x ∈ lex, x ∈ symbolChars) ∧ wordish k = false ∧ ∀ n, k ≠ .integerLiteral n) ∨
  (∃ c w, lex = c :: w ∧ identStart cc c = true ∧ (∀ x ∈ w, identCont cc x = true) ∧
    (∀ d r, rest = d :: r → identCont cc d = false) ∧ k = wordKind lex) ∨
  ((∀ x ∈ lex, isDigit x = true) ∧ (∀ d r, rest = d :: r → isDigit d = false) ∧
    k = .integerLiteral (digitsValue lex))

theorem isLexeme_ne_lineBreak {cc : CharClass} {l : List Char} {k : TokKind} (h : IsLexeme cc l k) :
    k ≠ .terminatorLineBreak := by
  cases h with
  | sym l k h => exact (symTable_plain _ h).2
  | word => exact wordKind_ne_lineBreak _
  | number => simp

/-- a symbol says nothing about its text: its kind is none of identifier (tag 9), integer literal (12),
line-break terminator (22), the three kinds `lexOK` speaks of -/
theorem symTable_shape : ∀ p ∈ symTable, (∀ x ∈ p.1, x ∈ symbolChars) ∧ wordish p.2 = false ∧
    p.2.tag ∉ [9, 12, 22] := by decide

theorem lexOK_of_tag {k : TokKind} (h : k.tag ∉ [9, 12, 22]) (lex : List Char) : lexOK k lex := by
  cases k <;> first | trivial | simp [TokKind.tag] at h

theorem IsLexeme.lexOK {cc : CharClass} {l : List Char} {k : TokKind} (h : IsLexeme cc l k) : lexOK k l := by
  cases h with
  | sym l k hm => exact lexOK_of_tag (symTable_shape _ hm).2.2 _
  | word c w => exact wordKind_lexOK _
  | number c w hs hd hw => exact ⟨rfl, List.forall_mem_cons.2 ⟨hd, hw⟩⟩

theorem IsLexeme.tokShape {cc : CharClass} {l rest : List Char} {k : TokKind} (h : IsLexeme cc l k)
    (hn : fusesHead cc l rest = false) : TokShape cc k l rest := by
  cases h with
  | sym l k hm =>
    obtain ⟨h1, h2, h3⟩ := symTable_shape _ hm
    exact .inl ⟨h1, h2, fun n e => h3 (by rw [e]; exact .tail _ (.head _))⟩
  | word c w hc hs hw =>
    exact .inr (.inl ⟨c, w, rfl, hs, hw, (fusesHead_word hc hs).1 hn, rfl⟩)
  | number c w hs hd hw =>
    exact .inr (.inr ⟨List.forall_mem_cons.2 ⟨hd, hw⟩, (fusesHead_number hs hd).1 hn, rfl⟩)
