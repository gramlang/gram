import GramModel.Lemmas.Eval
import GramModel.Lemmas.StoreCtx
import GramModel.Lemmas.CtxOff

/-!
# What the store-layer functions do to the state (C05, C12, C14, C18)

There are three kinds of statement about the same runs of `whnfS`, `unifyS`, `inferS`, and a property belongs to one:
* *frame* (this file): what a run does to the state at most and where it can panic, nothing about the terms beyond
  `Head r s'` and `p.1 = t`.  A property of this kind is one more relation `P` for the specs below.
* *what the run computes on hole-free input* (`StoreRead`: `X_ans`, `X_P`; `UnifyAgree`: `whnfS_hf`, `unifyS_sim`): the run
  is the oracle's function with the same fuel, the state untouched.
* *an invariant with ghost state* (`CheckNoPanic`: `infer_sp`, a typing of the store).  A property of the type `inferS`
  returns is of this kind and needs its own walk.
With only `… = .ok _ s'` in hand, reach for `whnfS_ok`, `unifyS_ok`, `inferS_ok`.  A new statement about a function that
only reads goes into `Ans` (`Ans.lean`: it answers `v`, the state untouched, out of fuel only below a bound) or, with a
postcondition, into `Sat`; `Hoare`, `WhnfLemmas.Det`, `StoreTransparent.DetAt`, `CheckNoPanic.PS` are instances of `Sat`
under names of their own, not to be reached for.

The specs of `structM`, `unifyS`, `inferS` are generic in a reflexive-transitive relation `P` that allows what the
function does and does not look at the contexts, and in a flag `sc` (offsets of the contexts in range, term scoped:
assumed or not); `Le` is the instance read off here, the guarded stores of C12 and the live sites of C14 are others.

Declared into foreign namespaces: `UnifySound.G2.le`, `G2.empty`; `WhnfLemmas.NotLet`, and at the end
`WhnfLemmas.whnfS_notLet'`, `unifyS_np`, `occursS_state`; `CtxH.of_fr` … `inferS_elab_id` are in the root namespace.
-/

namespace StoreMono

/-- cell `id` is unresolved, or beyond the end of the store -/
def Empty (l : List (Option Tm)) (id : Nat) : Prop := ∀ t, l[id]? ≠ some (some t)

/-- the predicate `storeExtends` of `Props/C05.lean` (`storeExtends_iff`) -/
def StoreLe (a b : List (Option Tm)) : Prop :=
  a.length ≤ b.length ∧ ∀ (id : Nat) (t : Tm), a[id]? = some (some t) → b[id]? = some (some t)

def Le (s s' : St) : Prop := StoreLe s.store s'.store ∧ s.nerrs ≤ s'.nerrs

theorem StoreLe.trans {a b c : List (Option Tm)} (h1 : StoreLe a b) (h2 : StoreLe b c) : StoreLe a c :=
  ⟨Nat.le_trans h1.1 h2.1, fun id t h => h2.2 id t (h1.2 id t h)⟩

instance : RT Le where
  refl _ := ⟨⟨Nat.le_refl _, fun _ _ h => h⟩, Nat.le_refl _⟩
  trans h1 h2 := ⟨h1.1.trans h2.1, Nat.le_trans h1.2 h2.2⟩

theorem Le.of_store_eq {s s' : St} (hs : s'.store = s.store) (hn : s.nerrs ≤ s'.nerrs) : Le s s' :=
  ⟨hs ▸ (RT.refl (P := Le) s).1, hn⟩

open UnifySound (G2)

theorem _root_.UnifySound.G2.le {s s' : St} (h : G2 s s') : Le s s' := by
  obtain ⟨k, rfl⟩ := h
  refine ⟨⟨by simp, fun id t h => ?_⟩, Nat.le_refl _⟩
  have hlt : id < s.store.length := CheckNoPanic.getElem?_lt h
  show (s.store ++ _)[id]? = _
  rw [List.getElem?_append_left hlt]; exact h

theorem _root_.UnifySound.G2.empty {s s' : St} (h : G2 s s') {id : Nat} (he : Empty s.store id) :
    Empty s'.store id := by
  obtain ⟨k, rfl⟩ := h
  intro t ht
  have ht : (s.store ++ List.replicate k none)[id]? = some (some t) := ht
  rcases Nat.lt_or_ge id s.store.length with h' | h'
  · rw [List.getElem?_append_left h'] at ht; exact he t ht
  · rw [List.getElem?_append_right h'] at ht
    rcases Nat.lt_or_ge (id - s.store.length) k with h'' | h''
    · rw [List.getElem?_replicate_of_lt h''] at ht; cases ht
    · rw [List.getElem?_eq_none (by simpa using h'')] at ht; cases ht

/-- reached from `s` within `P`, the two contexts standing at `T`, `D` -/
def At (P : St → St → Prop) (s : St) (T : List (Tm × Nat)) (D : List (Option (Tm × Nat))) (s1 : St) : Prop :=
  s1.tctx = T ∧ s1.dctx = D ∧ P s s1

/-- the two contexts as they were, the rest of the state within `P` -/
def CP (P : St → St → Prop) (s s' : St) : Prop := At P s s.tctx s.dctx s'

instance {P : St → St → Prop} [RT P] : RT (CP P) where
  refl s := ⟨rfl, rfl, RT.refl s⟩
  trans h1 h2 := ⟨h2.1.trans h1.1, h2.2.1.trans h1.2.1, RT.trans h1.2.2 h2.2.2⟩

theorem cellFresh_fr {E : String → Prop} : Fr G2 E cellFresh := fun _ => ⟨1, rfl⟩

theorem ushiftS_frG (f c a t) : Fr G2 Nev (ushiftS f c a t) := (ushiftS_fr f c a t).of_same fun _ h => h

theorem openS_fr : ∀ f,
    (∀ t i u s, Fr G2 Nev (openS f t i u s)) ∧ (∀ ds i u s, Fr G2 Nev (openDefsS f ds i u s)) := by
  intro f
  induction f with
  | zero => exact ⟨fun _ _ _ _ => by rw [openS]; exact .outOfFuel, fun _ _ _ _ => by rw [openDefsS]; exact .outOfFuel⟩
  | succ f ih =>
    obtain ⟨ih1, ih2⟩ := ih
    have hu := ushiftS_frG f
    have hfresh : Fr G2 Nev cellFresh := cellFresh_fr
    constructor
    · intro t i u s
      unfold openS
      repeat fr_step
    · intro ds i u s
      unfold openDefsS
      repeat fr_step

theorem unfoldDefS_fr (f x ann d index) : Fr G2 Nev (unfoldDefS f x ann d index) := by
  have hu := ushiftS_frG f
  have ho := (openS_fr f).1
  unfold unfoldDefS
  exact .bind (hu _ _ _) fun _ => .bind (ho _ _ _ _) fun _ => .bind (hu _ _ _) fun _ =>
    .bind (ho _ _ _ _) fun _ => ho _ _ _ _

theorem substDefsS_fr (f ds idx u) : Fr G2 Nev (substDefsS f ds idx u) := by
  have ho := (openS_fr f).1
  fun_induction substDefsS f ds idx u
  · exact .pure _
  · next ih => exact .bind (ho _ _ _ _) fun _ => .bind (ho _ _ _ _) fun _ => .bind ih fun _ => .pure _

theorem letLoopS_fr (f todo body) : Fr G2 Nev (letLoopS f todo body) := by
  have hd := unfoldDefS_fr
  have ho := fun f => (openS_fr f).1
  have hs := substDefsS_fr
  fun_induction letLoopS f todo body <;> repeat fr_step

theorem letTypeS_fr (f ds k i acc) : Fr G2 Nev (letTypeS f ds k i acc) := by
  have hs : ∀ n (a : Nat), Fr G2 Nev (do
      match ← sshiftDefsS f n (a : Int) ds with
      | some d => pure d
      | none => panicAt "unsigned_shift.unwrap" : M Defs) := fun n a s =>
    .bind_ro ((sshiftS_fr f).2 n (a : Int) ds s) fun r qr => by
      cases r with
      | none => exact absurd rfl (qr (Int.natCast_nonneg _))
      | some x => exact (RT.refl s : G2 s s)
  have ho := (openS_fr f).1
  fun_induction letTypeS f ds k i acc
  · exact .pure _
  · next ih => exact .bind (hs _ _) fun _ => .bind (ho _ _ _ _) fun _ => ih _

def HoleEmpty (r : Tm) (s : St) : Prop := ∀ id sh, r = .hole id sh → Empty s.store id

def _root_.WhnfLemmas.NotLet (r : Tm) : Prop := ∀ ds b, r ≠ .letg ds b

open WhnfLemmas (NotLet)
open CheckNoPanic

/-- what `whnfS` returns: never a group, and a hole only if its cell is empty -/
def Head (r : Tm) (s : St) : Prop := NotLet r ∧ HoleEmpty r s

theorem delta_head {op x y r} (h : delta op x y = some r) (s : St) : Head r s := by
  rcases delta_cases h with ⟨z, rfl⟩ | rfl | rfl <;> exact ⟨nofun, nofun⟩

theorem Head.grow {r : Tm} {s s' : St} (h : Head r s) (g : G2 s s') : Head r s' :=
  ⟨h.1, fun i sh e => g.empty (h.2 i sh e)⟩

/-- `sc`: the offsets of the definitions context are assumed in range. -/
theorem whnfS_spec (sc : Bool) : ∀ (f : Nat) (t : Tm) (s : St), (sc = true → DOff s.dctx) →
    (whnfS f t s).Sat (fun r s' => G2 s s' ∧ Head r s') (Live sc) := by
  intro f
  induction f with
  | zero => intros; rw [whnfS]; trivial
  | succ f ih =>
    intro t s hD
    have ret : ∀ {r : Tm}, (∀ ds b, r ≠ .letg ds b) → (∀ i sh, r ≠ .hole i sh) → ∀ s1 : St,
        ((pure r : M Tm) s1).Sat (fun r s' => G2 s1 s' ∧ Head r s') (Live sc) :=
      fun h1 h2 s1 => ⟨RT.refl _, h1, fun i sh e => (h2 i sh e).elim⟩
    have tail : ∀ (t : Tm) {s1 : St}, G2 s s1 →
        (whnfS f t s1).Sat (fun r s' => G2 s1 s' ∧ Head r s') (Live sc) :=
      fun t _ g => ih t _ fun h => g.dctx ▸ hD h
    -- a recursive call, after the state has moved within `G2`, then `k`
    have rec_ : ∀ (t : Tm) {k : Tm → M Tm} {s1 : St}, G2 s s1 →
        (∀ r s2, G2 s s2 → (k r s2).Sat (fun b s' => G2 s2 s' ∧ Head b s') (Live sc)) →
        ((whnfS f t >>= k) s1).Sat (fun b s' => G2 s1 s' ∧ Head b s') (Live sc) :=
      fun t _ _ g hk => .bind (tail t g) fun r s2 _ h =>
        (hk r s2 (RT.trans g h.1)).post fun _ _ h' => ⟨RT.trans h.1 h'.1, h'.2⟩
    have then_ : ∀ {m : M Tm} {s1 : St}, G2 s s1 → Fr G2 Nev m →
        ((m >>= fun a => whnfS f a) s1).Sat (fun r s' => G2 s1 s' ∧ Head r s') (Live sc) :=
      fun g hm => .bind (hm _).nev fun a s2 _ g2 =>
        (tail a (RT.trans g g2)).post fun _ _ h' => ⟨RT.trans g2 h'.1, h'.2⟩
    have s0 : G2 s s := RT.refl s
    cases t <;> simp only [whnfS]
    case hole id sh =>
      rw [cellGet_bind]
      cases hv : cellVal s.store id with
      | some sub => exact then_ s0 (ushiftS_frG _ _ _ _)
      | none =>
        refine ⟨RT.refl _, nofun, fun i sh' e t ht => ?_⟩
        cases e
        rw [cellVal_some.2 ht] at hv
        cases hv
    case var x i =>
      rw [getSt_bind]
      rcases hdi : s.dctx[i]? with _ | _ | ⟨d, off⟩ <;> dsimp only
      · exact Or.inl rfl
      · exact ret (by nofun) (by nofun) s
      · split
        · exact live_off sc (Or.inr (Or.inl rfl)) fun h => by have := hD h i d off hdi; omega
        · exact then_ s0 (ushiftS_frG _ _ _ _)
    case app g a =>
      refine rec_ g s0 fun g' s1 g1 => ?_
      split
      · exact then_ g1 ((openS_fr f).1 _ _ _ _)
      · exact ret (by nofun) (by nofun) s1
    case letg ds b => exact then_ s0 (letLoopS_fr f ds b)
    case neg a =>
      refine rec_ a s0 fun a' s1 g1 => ?_
      split <;> exact ret (by nofun) (by nofun) s1
    case bin op a b =>
      refine rec_ a s0 fun a' s1 g1 => rec_ b g1 fun b' s2 g2 => ?_
      split
      · rename_i x y
        cases hdl : delta op x y with
        | some r => exact ⟨RT.refl _, delta_head hdl s2⟩
        | none => exact ret (by nofun) (by nofun) s2
      · exact ret (by nofun) (by nofun) s2
    case ite c a b =>
      refine rec_ c s0 fun c' s1 g1 => ?_
      split
      · exact tail _ g1
      · exact tail _ g1
      · exact ret (by nofun) (by nofun) s1
    all_goals exact ret (by nofun) (by nofun) s

theorem whnfS_ok {f t s r s'} (h : whnfS f t s = .ok r s') : G2 s s' ∧ Head r s' :=
  (whnfS_spec false f t s nofun).ok h

theorem StoreLe_set {l : List (Option Tm)} {id : Nat} (t : Tm) (he : Empty l id) :
    StoreLe l (l.set id (some t)) := by
  refine ⟨by simp, fun j u h => ?_⟩
  rw [List.getElem?_set]
  split
  · next e => subst e; exact absurd h (he u)
  · exact h

theorem solveS_sat (f id sh : Nat) (other : Tm) (s : St) {E : String → Prop} :
    (solveS f id sh other s).Sat (fun r s' => (r ≠ some true ∧ s' = s) ∨
      (r = some true ∧ ∃ sol, sshiftS f 0 (-(sh : Int)) other s = .ok (some sol) s ∧
        occursS f id other s = .ok false s ∧ s' = { s with store := s.store.set id (some sol) })) E := by
  unfold solveS
  refine .bind ((sshiftS_fr f).1 0 _ other s).nev fun o s1 e1 h1 => ?_
  obtain ⟨rfl, -⟩ := h1
  cases o with
  | none => exact .inl ⟨nofun, rfl⟩
  | some sol =>
    dsimp only
    refine .bind ((occursS_fr f).1 id other s1).nev fun b s2 e2 h2 => ?_
    cases h2
    cases b
    · simp only [Bool.false_eq_true, if_false]
      refine .bind ((sshiftS_fr f).1 0 _ other s1).nev fun o2 s3 e3 h3 => ?_
      obtain ⟨rfl, -⟩ := h3
      rw [e1] at e3
      cases e3
      exact .inr ⟨rfl, sol, e1, e2, rfl⟩
    · exact .inl ⟨nofun, rfl⟩

theorem solveS_spec {f id sh : Nat} {other : Tm} {s s' : St} {r : Option Bool}
    (h : solveS f id sh other s = .ok r s') :
    (r = none → s' = s) ∧ (Empty s.store id → Le s s') := by
  rcases (solveS_sat f id sh other s (E := Nev)).ok h with ⟨_, rfl⟩ | ⟨rfl, sol, _, _, rfl⟩
  · exact ⟨fun _ => rfl, fun _ => RT.refl _⟩
  · exact ⟨nofun, fun he => ⟨StoreLe_set sol he, Nat.le_refl _⟩⟩

open UnifyAgree (unifyS_succ unifyHead structM rightM unifyHead_eq)

section unify
variable {P : St → St → Prop} [RT P] (hgrow : ∀ {s s'}, G2 s s' → P s s')
  (hctx : ∀ s D, P s { s with dctx := D })
  (hsolve : ∀ {f id sh other s s' r}, solveS f id sh other s = .ok r s' → Empty s.store id → P s s')
include hgrow hctx hsolve

omit hgrow hsolve in
/-- The structural comparison of two heads, given the calls of `unifyS` it makes: `K` is what is known of the state
at every call (kept while the contexts stand, and under a binder), `E` the sites allowed; the two `let` arms are
either allowed to panic or excluded. -/
theorem structM_spec {E : String → Prop} {K : St → Prop} (f : Nat)
    (hK : ∀ {s s'}, CP P s s' → K s → K s') (hKp : ∀ {s}, K s → K { s with dctx := none :: s.dctx })
    (call : ∀ a b s, K s → (unifyS f a b s).Sat (fun _ s' => CP P s s') E)
    {w1 w2 : Tm} (hl : E "unify.let_after_whnf" ∨ (NotLet w1 ∧ NotLet w2)) (s : St) (hs : K s) :
    (structM f w1 w2 s).Sat (fun _ s' => CP P s s') E := by
  have ret : ∀ (r : Bool) (s1 : St), ((pure r : M Bool) s1).Sat (fun _ s' => CP P s1 s') E :=
    fun _ s1 => (RT.refl s1 : CP P s1 s1)
  have under : ∀ a b {s3 : St}, K s3 →
      ((do pushD none; let r ← unifyS f a b; popD; pure r) s3).Sat (fun _ s' => CP P s3 s') E :=
    fun a b s3 k => .under <| (call a b _ (hKp k)).post fun _ s' c' =>
      ⟨c'.1, by show s'.dctx.tail = s3.dctx; rw [c'.2.1]; rfl,
        RT.trans (hctx s3 _) (RT.trans c'.2.2 (hctx s' _))⟩
  have seq : ∀ a b {m : M Bool} {s3 : St}, K s3 → (∀ s4, K s4 → (m s4).Sat (fun _ s' => CP P s4 s') E) →
      ((do if ← unifyS f a b then m else pure false) s3).Sat (fun _ s' => CP P s3 s') E :=
    fun a b _ _ k hm => .andThenR (call a b _ k) fun s4 c4 => hm s4 (hK c4 k)
  fun_cases structM f w1 w2
  iterate 6 exact ret _ s  -- constants and variables
  · exact under _ _ hs  -- λ
  · exact ret _ s
  · exact seq _ _ hs fun _ k4 => under _ _ k4  -- Π
  · exact ret _ s
  · exact seq _ _ hs fun _ k4 => call _ _ _ k4  -- application
  · exact ret _ s
  · exact call _ _ _ hs  -- negation
  · exact seq _ _ hs fun _ k4 => call _ _ _ k4  -- binary operator
  · exact ret _ s
  · exact seq _ _ hs fun _ k4 => seq _ _ k4 fun _ k5 => call _ _ _ k5  -- conditional
  · exact hl.elim id fun n => (n.1 _ _ rfl).elim  -- a `let` on either side
  · exact hl.elim id fun n => (n.2 _ _ rfl).elim
  · exact ret _ s

/-- `solveS` makes the only write to an existing cell, and it is called on holes returned by `whnfS`, whose cells are
empty and stay so while the store only grows; the `let_after_whnf` arm is guarded by what `whnfS` returns. -/
theorem unifyS_spec (sc : Bool) : ∀ (f : Nat) (a b : Tm) (s : St), (sc = true → DOff s.dctx) →
    (unifyS f a b s).Sat (fun _ s' => CP P s s') (Live sc) := by
  intro f
  induction f with
  | zero => intros; rw [unifyS]; trivial
  | succ f ih =>
    intro a b s hD
    have gcp : ∀ {s s' : St}, G2 s s' → CP P s s' := fun g => ⟨g.tctx, g.dctx, hgrow g⟩
    have keep : ∀ {s1 : St}, CP P s s1 → sc = true → DOff s1.dctx := fun c h => c.2.1 ▸ hD h
    have ret : ∀ (r : Bool) (s1 : St), ((pure r : M Bool) s1).Sat (fun _ s' => CP P s1 s') (Live sc) :=
      fun _ s1 => (RT.refl s1 : CP P s1 s1)
    rw [unifyS_succ]
    refine .bind_ro (((synEqS_fr f).1 a b s).post fun _ _ h => ⟨h, trivial⟩).nev fun c _ => ?_
    split
    · exact ret _ s
    refine .bindR ((whnfS_spec sc f a s hD).post fun w1 s1 h => ⟨gcp h.1, h⟩) fun w1 s1 c1 h1 => ?_
    refine .bindR ((whnfS_spec sc f b s1 (keep c1)).post fun w2 s2 h => ⟨gcp h.1, h⟩) fun w2 s2 c2 h2 => ?_
    have c12 := RT.trans c1 c2
    have n1 : NotLet w1 := h1.2.1
    have n2 : NotLet w2 := h2.2.1
    have E1 : HoleEmpty w1 s2 := (h1.2.grow h2.1).2
    have E2 : HoleEmpty w2 s2 := h2.2.2
    clear h1 h2 c1 c2
    have hstruct : ∀ {s3 : St}, CP P s s3 → (structM f w1 w2 s3).Sat (fun _ s' => CP P s3 s') (Live sc) :=
      fun {s3} c => structM_spec hctx f (K := fun s => sc = true → DOff s.dctx) (fun c k h => c.2.1 ▸ k h)
        (fun k h => (k h).push_none) (fun a b s k => ih a b s k) (.inr ⟨n1, n2⟩) s3 (keep c)
    -- a cell is solved at most once, as the last thing `unifyS` does; until then the state is `s2`
    have solve : ∀ {i sh : Nat} {w : Tm} {m : M Bool}, Empty s2.store i →
        (m s2).Sat (fun _ s' => CP P s2 s') (Live sc) →
        ((do match ← solveS f i sh w with
             | some b => pure b
             | none => m) s2).Sat (fun _ s' => CP P s2 s') (Live sc) :=
      fun he hm => .bind (solveS_sat ..) fun o s4 e q => by
        rcases q with ⟨_, rfl⟩ | ⟨rfl, sol, _, _, rfl⟩
        · cases o
          · exact hm
          · exact ret _ _
        · exact ⟨rfl, rfl, hsolve e he⟩
    have hright : (rightM f w1 w2 s2).Sat (fun _ s' => CP P s2 s') (Live sc) := by
      unfold rightM
      split
      · exact solve (E2 _ _ rfl) (hstruct c12)
      · exact hstruct c12
    rw [unifyHead_eq]
    split
    · split
      · exact ret _ s2
      · exact solve (E1 _ _ rfl) hright
    · exact solve (E1 _ _ rfl) hright
    · exact hright

end unify

theorem unifyS_le_ctx (sc : Bool) (f a b s) (hD : sc = true → DOff s.dctx) :
    (unifyS f a b s).Sat (fun _ s' => CP Le s s') (Live sc) :=
  unifyS_spec G2.le (fun _ _ => .of_store_eq rfl (Nat.le_refl _)) (fun h => (solveS_spec h).2) sc f a b s hD

theorem unifyS_ok {f a b s r s'} (h : unifyS f a b s = .ok r s') : CP Le s s' :=
  (unifyS_le_ctx false f a b s nofun).ok h

theorem unifyS_le {f a b s r s'} (h : unifyS f a b s = .ok r s') : Le s s' := (unifyS_ok h).2.2

theorem At.step {P : St → St → Prop} [RT P] {s s1 s2 : St} {T D} (a : At P s T D s1) (c : CP P s1 s2) :
    At P s T D s2 :=
  ⟨c.1.trans a.1, c.2.1.trans a.2.1, RT.trans a.2.2 c.2.2⟩

section infer
variable {P : St → St → Prop} [RT P] (hgrow : ∀ {s s'}, G2 s s' → P s s')
  (hctx : ∀ s T D, P s { s with tctx := T, dctx := D })
  (hsolve : ∀ {f id sh other s s' r}, solveS f id sh other s = .ok r s' → Empty s.store id → P s s')
  (herr : ∀ s, P s { s with nerrs := s.nerrs + 1 })
include hgrow hctx hsolve herr

/-- `sc`: the offsets of the contexts are assumed in range and the term well scoped. -/
theorem inferS_spec (sc : Bool) : ∀ f,
    (∀ (t : Tm) (s : St), (sc = true → COff s.tctx s.dctx) → (sc = true → wellScoped s.tctx.length t = true) →
      (inferS f t s).Sat (fun p s' => CP P s s' ∧ p.1 = t) (Live sc)) ∧
    (∀ (ds : Defs) (s : St), (sc = true → COff s.tctx s.dctx) →
      (sc = true → wellScopedDefs s.tctx.length ds = true) →
      (inferDefsS f ds s).Sat (fun l s' => CP P s s' ∧ Defs.setDefs ds l = ds) (Live sc)) := by
  intro f
  induction f with
  | zero => exact ⟨fun _ _ _ _ => by rw [inferS]; trivial, fun _ _ _ _ => by rw [inferDefsS]; trivial⟩
  | succ f ih =>
    obtain ⟨ih1, ih2⟩ := ih
    have alloc : ∀ {s s1 s2 : St} {T D}, At P s T D s1 → G2 s1 s2 → At P s T D s2 :=
      fun a g => a.step ⟨g.tctx, g.dctx, hgrow g⟩
    have move : ∀ {s s1 : St} {T D} T' D', At P s T D s1 → At P s T' D' { s1 with tctx := T', dctx := D' } :=
      fun {s s1 _ _} T' D' a => ⟨rfl, rfl, RT.trans a.2.2 (hctx s1 T' D')⟩
    have check : ∀ {β} {a b : Tm} {k : M β} {R : β → St → Prop} {s T D} {s1 : St}, At P s T D s1 →
        (sc = true → COff T D) → (∀ s2, At P s T D s2 → (k s2).Sat R (Live sc)) →
        ((do let r ← unifyS f a b
             if (!r) = true then (do reportError; k) else k) s1).Sat R (Live sc) :=
      fun a1 hc hk => .orReport (unifyS_spec hgrow (fun s D => hctx s s.tctx D) hsolve sc f _ _ _
          fun h => a1.2.1 ▸ (hc h).d) (fun _ c2 => hk _ (a1.step c2))
        fun s2 c2 => hk _ ((a1.step c2).step ⟨rfl, rfl, herr s2⟩)
    have infer : ∀ {β} (t : Tm) {k : Tm × Tm → M β} {R : β → St → Prop} {s T D} {s1 : St}, At P s T D s1 →
        (sc = true → COff T D) → (sc = true → wellScoped T.length t = true) →
        (∀ ty s2, At P s T D s2 → (k (t, ty) s2).Sat R (Live sc)) → ((inferS f t >>= k) s1).Sat R (Live sc) :=
      fun t _ _ _ _ _ _ a1 hc hw hk =>
        .bind (ih1 t _ (fun h => a1.1 ▸ a1.2.1 ▸ hc h) fun h => a1.1 ▸ hw h) fun p s2 _ h2 => by
          obtain ⟨t', ty⟩ := p
          cases h2.2
          exact hk ty s2 (a1.step h2.1)
    have push : ∀ {s s1 : St} {T D} ty d, At P s T D s1 →
        At P s (ty :: T) (d :: D) { s1 with tctx := ty :: s1.tctx, dctx := d :: s1.dctx } :=
      fun ty d a => ⟨by rw [← a.1], by rw [← a.2.1], (move _ _ a).2.2⟩
    have pop : ∀ {s s1 : St} {T D ty d}, At P s (ty :: T) (d :: D) s1 →
        At P s T D { s1 with tctx := s1.tctx.tail, dctx := s1.dctx.tail } :=
      fun {_ s1 _ _ _ _} a => ⟨by show s1.tctx.tail = _; rw [a.1]; rfl, by show s1.dctx.tail = _; rw [a.2.1]; rfl,
        (move _ _ a).2.2⟩
    constructor
    · intro t s hc hw
      have a0 : At P s s.tctx s.dctx s := ⟨rfl, rfl, RT.refl s⟩
      have fin : ∀ (p : Tm × Tm) {s1 : St}, At P s s.tctx s.dctx s1 → p.1 = t →
          ((pure p : M (Tm × Tm)) s1).Sat (fun p s' => CP P s s' ∧ p.1 = t) (Live sc) :=
        fun _ _ a e => ⟨a, e⟩
      have hc1 : ∀ ty, sc = true → COff ((ty, 0) :: s.tctx) (none :: s.dctx) := fun ty h => (hc h).push ty
      cases t <;> simp only [inferS]
      all_goals try simp only [wellScoped, Bool.and_eq_true, decide_eq_true_eq, imp_and] at hw
      case var x i =>
        rw [getSt_bind]
        rcases hti : s.tctx[i]? with _ | ⟨ty, off⟩ <;> dsimp only
        · refine live_off sc (Or.inr (Or.inr (Or.inl rfl))) fun hs => ?_
          have := hw hs
          rw [List.getElem?_eq_none_iff] at hti
          omega
        · split
          · exact live_off sc (Or.inr (Or.inr (Or.inr rfl))) fun hs => by
              have := (hc hs).t i ty off hti; omega
          · exact .bind_ro ((ushiftS_fr ..).post fun _ _ h => ⟨h, trivial⟩).nev fun _ _ => fin _ a0 rfl
      case lam x im d b =>
        refine infer d a0 hc hw.1 fun dty s1 a1 => check a1 hc fun s2 a2 => ?_
        rw [pushCtx_bind]
        refine infer b (push _ _ a2) (hc1 d) hw.2 fun cod s3 a3 => ?_
        rw [popCtx_bind]
        exact fin _ (pop a3) rfl
      case pi x im d c =>
        refine infer d a0 hc hw.1 fun dty s1 a1 => check a1 hc fun s2 a2 => ?_
        rw [pushCtx_bind]
        refine infer c (push _ _ a2) (hc1 d) hw.2 fun cty s3 a3 => check a3 (hc1 d) fun s4 a4 => ?_
        rw [popCtx_bind]
        exact fin _ (pop a4) rfl
      case app g a =>
        refine infer g a0 hc hw.1 fun gty s1 a1 => ?_
        rw [cellFresh_bind, cellFresh_bind]
        refine check (alloc (alloc a1 (cellFresh_fr (E := Nev) s1)) (cellFresh_fr (E := Nev) _)) hc fun s2 a2 => ?_
        refine infer a a2 hc hw.2 fun aty s3 a3 => check a3 hc fun s4 a4 => ?_
        exact .bind ((openS_fr f).1 _ _ _ _ s4).nev fun ty s5 _ g5 => fin _ (alloc a4 g5) rfl
      case letg ds body =>
        rw [M.bind_of_ok (pushDefsS_eq ds ds.len s)]
        have hcp : sc = true → COff (pushedT ds ds.len s.tctx) (pushedD ds ds.len s.dctx) :=
          fun hs => ((hc hs).pushed ds).1
        have hl : sc = true → (pushedT ds ds.len s.tctx).length = s.tctx.length + ds.len :=
          fun hs => ((hc hs).pushed ds).2
        refine .bind (ih2 ds _ hcp fun hs => by rw [hl hs]; exact hw.1 hs) fun l s2 _ h2 => ?_
        simp only [h2.2]
        refine infer body ((move _ _ a0).step h2.1) hcp (fun hs => by rw [hl hs]; exact hw.2 hs) fun bty s3 a3 => ?_
        refine .bind (letTypeS_fr f ds ds.len 0 bty s3).nev fun ty s4 _ g4 => ?_
        rw [M.bind_of_ok (popN_eq ds.len s4)]
        have a4 := alloc a3 g4
        exact fin _ ⟨by show List.drop _ _ = _; rw [a4.1, pushedT_drop],
          by show List.drop _ _ = _; rw [a4.2.1, pushedD_drop], (move _ _ a4).2.2⟩ rfl
      case neg a =>
        exact infer a a0 hc hw fun _ s1 a1 => check a1 hc fun s2 a2 => fin _ a2 rfl
      case bin op a b =>
        exact infer a a0 hc hw.1 fun _ s1 a1 => check a1 hc fun s2 a2 =>
          infer b a2 hc hw.2 fun _ s3 a3 => check a3 hc fun s4 a4 => fin _ a4 rfl
      case ite c a b =>
        exact infer c a0 hc hw.1.1 fun _ s1 a1 => check a1 hc fun s2 a2 =>
          infer a a2 hc hw.1.2 fun _ s3 a3 => infer b a3 hc hw.2 fun _ s4 a4 => check a4 hc fun s5 a5 => fin _ a5 rfl
      all_goals exact fin _ a0 rfl
    · intro ds s hc hw
      have a0 : At P s s.tctx s.dctx s := ⟨rfl, rfl, RT.refl s⟩
      cases ds <;> simp only [inferDefsS]
      all_goals try simp only [wellScopedDefs, Bool.and_eq_true, imp_and] at hw
      case nil => exact ⟨RT.refl s, rfl⟩
      case cons x ann d r =>
        refine infer ann a0 hc hw.1.1 fun _ s1 a1 => check a1 hc fun s2 a2 =>
          infer d a2 hc hw.1.2 fun _ s3 a3 => check a3 hc fun s4 a4 => ?_
        refine .bind (ih2 r s4 (fun h => a4.1 ▸ a4.2.1 ▸ hc h) fun h => a4.1 ▸ hw.2 h) fun l s5 _ h5 => ?_
        exact ⟨a4.step h5.1, by simp only [Defs.setDefs, h5.2]⟩

end infer

theorem inferS_le_ctx (sc : Bool) (f : Nat) :
    (∀ (t : Tm) (s : St), (sc = true → COff s.tctx s.dctx) → (sc = true → wellScoped s.tctx.length t = true) →
      (inferS f t s).Sat (fun p s' => CP Le s s' ∧ p.1 = t) (Live sc)) ∧
    (∀ (ds : Defs) (s : St), (sc = true → COff s.tctx s.dctx) →
      (sc = true → wellScopedDefs s.tctx.length ds = true) →
      (inferDefsS f ds s).Sat (fun l s' => CP Le s s' ∧ Defs.setDefs ds l = ds) (Live sc)) :=
  inferS_spec G2.le (fun s _ _ => RT.refl (P := Le) s) (fun h => (solveS_spec h).2)
    (fun s => ⟨(RT.refl (P := Le) s).1, Nat.le_succ _⟩) sc f

theorem inferS_ok {f t s p s'} (h : inferS f t s = .ok p s') : CP Le s s' ∧ p.1 = t :=
  ((inferS_le_ctx false f).1 t s nofun nofun).ok h

theorem inferDefsS_ok {f ds s l s'} (h : inferDefsS f ds s = .ok l s') : CP Le s s' ∧ Defs.setDefs ds l = ds :=
  ((inferS_le_ctx false f).2 ds s nofun nofun).ok h

theorem inferS_le {f t s p s'} (h : inferS f t s = .ok p s') : Le s s' := (inferS_ok h).1.2.2

end StoreMono

open StoreMono

theorem CtxH.of_fr {α} {E : String → Prop} {m : M α} {T D} (h : Fr UnifySound.G2 E m) : CtxH T D m T D :=
  .of_ok fun e => ⟨((h _).ok e).tctx, ((h _).ok e).dctx⟩

theorem openDefsS_ctx (f ds i u s T D) : CtxH T D (openDefsS f ds i u s) T D := .of_fr ((openS_fr f).2 ds i u s)
theorem synEqDefsS_ctx (f ds1 ds2 T D) : CtxH T D (synEqDefsS f ds1 ds2) T D := .of_fr (((synEqS_fr f).2 ds1 ds2).of_same fun _ h => h)
theorem occursDefsS_ctx (f id ds T D) : CtxH T D (occursDefsS f id ds) T D := .of_fr (((occursS_fr f).2 id ds).of_same fun _ h => h)

theorem whnfS_ctx : ∀ (f : Nat) (t : Tm) T D, CtxH T D (whnfS f t) T D := fun _ _ _ _ =>
  .of_ok fun h => ⟨(whnfS_ok h).1.tctx, (whnfS_ok h).1.dctx⟩

theorem unifyS_ctx : ∀ (f : Nat) (t1 t2 : Tm) T D, CtxH T D (unifyS f t1 t2) T D := fun _ _ _ _ _ =>
  .of_ok fun h => ⟨(unifyS_ok h).1, (unifyS_ok h).2.1⟩

theorem inferS_ctx (f t T D) : CtxH T D (inferS f t) T D :=
  .of_ok fun h => ⟨(inferS_ok h).1.1, (inferS_ok h).1.2.1⟩

theorem inferS_elab_id {f : Nat} {t : Tm} {s : St} {p : Tm × Tm} {s' : St}
    (h : inferS f t s = .ok p s') : p.1 = t := (inferS_ok h).2

namespace WhnfLemmas

theorem whnfS_notLet' {f t s r s'} (h : whnfS f t s = .ok r s') : NotLet r :=
  (StoreMono.whnfS_ok h).2.1

theorem unifyS_np (f a b s) : unifyS f a b s ≠ .panic "unify.let_after_whnf" := fun e => by
  rcases (StoreMono.unifyS_le_ctx false f a b s nofun).panic e with h | ⟨_, h | h | h | h⟩ <;>
    exact absurd h (by decide)  -- the site is none of the four lookup sites

theorem occursS_state {f id t s a s'} (h : occursS f id t s = .ok a s') : s' = s :=
  ((occursS_fr f).1 id t s).ok h

end WhnfLemmas
