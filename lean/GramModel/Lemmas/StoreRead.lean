import GramModel.Print
import GramModel.Check
import GramModel.Lemmas.Ans
import GramModel.Lemmas.Zonk
import GramModel.Lemmas.Oracle

/-!
# Reading a term through the store, and what the store-aware functions answer on a readable term

`Reads σ k t z`: through `σ`, `t` reads as the hole-free `z`.  For each of `sshiftS`, `ushiftS`, `openS`
(`Store.lean`) and `freeAtS` (`Print.lean`) one induction on the fuel (`X_ans`, in the form `Ans` of
`Lemmas/Ans.lean`): on a term that reads as `z` the run is the pure function on `z`, out of fuel only below
`k + z.size` (`AnsO`: the same form for the `Option`-valued `freeAtS`).  What is known of these functions on
hole-free or fully solved terms is read off these lemmas.  For `synEqS` (`Check.lean`) the lemma is stated on hole-free
terms, where it answers `sameX` of the independent checker: `synEqS_ans` (with `derefS_holeFree` on the way), and `synEqS_pure`,
`unifyS_refl_holeFree` read off it.
The file declares into `StoreTransparent`, the namespace of `Lemmas/StoreTransparent.lean`, which reads C11 off it;
into `OracleLemmas` for `synEqS_ans` and its corollaries (they speak of `sameX`, and `Props/C06.lean` names them there);
and at its end into `UnifyAgree` (`AnsAll`, the `X_P`: the hole-free case with no bound on the fuel — `sshiftS_P` …
`substDefsS_P`, `occursS_P`, `derefS_P` —, which `Lemmas/UnifyAgree.lean` and `Lemmas/CheckSound.lean` run on).
-/

namespace StoreTransparent

open UnifySound (Leaf)

theorem cellGet_solved {β} {id : Nat} {sub : Tm} {s : St} (k : Option Tm → M β)
    (h : s.store[id]? = some (some sub)) : (cellGet id >>= k) s = k (some sub) s := by
  show k (match s.store[id]? with | some c => c | none => none) s = _
  rw [h]

mutual
theorem ushift_size : ∀ (t : Tm) (c a : Nat), (ushift c a t).size = t.size
  | .var x i, c, a | .hole x i, c, a => by simp only [ushift]; split <;> rfl
  | .lam x im d b, c, a | .pi x im d b, c, a | .app d b, c, a | .bin x d b, c, a => by
      simp only [ushift, Tm.size, ushift_size d, ushift_size b]
  | .letg ds b, c, a => by simp only [ushift, Tm.size, ushiftDefs_size ds, ushift_size b]
  | .neg t, c, a => by simp only [ushift, Tm.size, ushift_size t]
  | .ite t u v, c, a => by simp only [ushift, Tm.size, ushift_size t, ushift_size u, ushift_size v]
  | .type, _, _ | .int, _, _ | .bool, _, _ | .tt, _, _ | .ff, _, _ | .lit _, _, _ => by
      simp only [ushift]
theorem ushiftDefs_size : ∀ (ds : Defs) (c a : Nat), (ushiftDefs c a ds).size = ds.size
  | .nil, _, _ => by simp only [ushiftDefs]
  | .cons x t u r, c, a => by
      simp only [ushiftDefs, Defs.size, ushift_size t, ushift_size u, ushiftDefs_size r]
end

mutual
/-- `Reads σ k t z`: through `σ`, `t` reads as `z`, and no chain of solved cells followed on the way is
longer than `k`.  An unsolved hole has no reading, so `z` is hole-free; a hole-free term reads as itself
with `k = 0`. -/
inductive Reads (σ : List (Option Tm)) : Nat → Tm → Tm → Prop
  | leaf {k t} : Leaf t → Reads σ k t t
  | hole {k id sh sub zs} : σ[id]? = some (some sub) → Reads σ k sub zs →
      Reads σ (k+1) (.hole id sh) (ushift 0 sh zs)
  | lam {k x im d b zd zb} : Reads σ k d zd → Reads σ k b zb →
      Reads σ k (.lam x im d b) (.lam x im zd zb)
  | pi {k x im d b zd zb} : Reads σ k d zd → Reads σ k b zb →
      Reads σ k (.pi x im d b) (.pi x im zd zb)
  | app {k g a zg za} : Reads σ k g zg → Reads σ k a za → Reads σ k (.app g a) (.app zg za)
  | letg {k ds b zs zb} : ReadsD σ k ds zs → Reads σ k b zb → Reads σ k (.letg ds b) (.letg zs zb)
  | neg {k a za} : Reads σ k a za → Reads σ k (.neg a) (.neg za)
  | bin {k op a b za zb} : Reads σ k a za → Reads σ k b zb → Reads σ k (.bin op a b) (.bin op za zb)
  | ite {k c a b zc za zb} : Reads σ k c zc → Reads σ k a za → Reads σ k b zb →
      Reads σ k (.ite c a b) (.ite zc za zb)
inductive ReadsD (σ : List (Option Tm)) : Nat → Defs → Defs → Prop
  | nil {k} : ReadsD σ k .nil .nil
  | cons {k x a d r za zd zr} : Reads σ k a za → Reads σ k d zd → ReadsD σ k r zr →
      ReadsD σ k (.cons x a d r) (.cons x za zd zr)
end

variable {σ : List (Option Tm)}

theorem Reads.up {k : Nat} {t z : Tm} (h : Reads σ k t z) : Reads σ (k+1) t z := by
  induction h using Reads.rec (motive_2 := fun k ds zs _ => ReadsD σ (k+1) ds zs) with
  | leaf h => exact .leaf h
  | hole h _ ih => exact .hole h ih
  | lam _ _ ih1 ih2 => exact .lam ih1 ih2
  | pi _ _ ih1 ih2 => exact .pi ih1 ih2
  | app _ _ ih1 ih2 => exact .app ih1 ih2
  | letg _ _ ih1 ih2 => exact .letg ih1 ih2
  | neg _ ih => exact .neg ih
  | bin _ _ ih1 ih2 => exact .bin ih1 ih2
  | ite _ _ _ ih1 ih2 ih3 => exact .ite ih1 ih2 ih3
  | nil => exact .nil
  | cons _ _ _ ih1 ih2 ih3 => exact .cons ih1 ih2 ih3

theorem ReadsD.up : ∀ {k : Nat} {ds zs : Defs}, ReadsD σ k ds zs → ReadsD σ (k+1) ds zs
  | _, _, _, .nil => .nil
  | _, _, _, .cons a b c => .cons a.up b.up c.up

theorem Reads.holeFree {k : Nat} {t z : Tm} (h : Reads σ k t z) : z.holeFree = true := by
  induction h using Reads.rec (motive_2 := fun _ _ zs _ => zs.holeFree = true) with
  | @leaf _ t h => cases t <;> first | rfl | cases h
  | hole _ _ ih => rw [holeFree_ushift]; exact ih
  | nil => rfl
  | _ => simp only [Tm.holeFree, Defs.holeFree, Bool.and_self, *]

theorem ReadsD.len : ∀ {k ds zs}, ReadsD σ k ds zs → zs.len = ds.len
  | _, _, _, .nil => rfl
  | _, _, _, .cons _ _ c => by simp only [Defs.len, c.len]

mutual
theorem Reads.refl : ∀ (t : Tm), t.holeFree = true → Reads σ 0 t t
  | .hole _ _, h => by cases h
  | .type, _ | .int, _ | .bool, _ | .tt, _ | .ff, _ | .lit _, _ | .var _ _, _ => .leaf (by simp [Leaf])
  | .lam _ _ d b, h => by
      simp only [Tm.holeFree, Bool.and_eq_true] at h; exact .lam (Reads.refl d h.1) (Reads.refl b h.2)
  | .pi _ _ d b, h => by
      simp only [Tm.holeFree, Bool.and_eq_true] at h; exact .pi (Reads.refl d h.1) (Reads.refl b h.2)
  | .app d b, h => by
      simp only [Tm.holeFree, Bool.and_eq_true] at h; exact .app (Reads.refl d h.1) (Reads.refl b h.2)
  | .bin _ d b, h => by
      simp only [Tm.holeFree, Bool.and_eq_true] at h; exact .bin (Reads.refl d h.1) (Reads.refl b h.2)
  | .letg ds b, h => by
      simp only [Tm.holeFree, Bool.and_eq_true] at h; exact .letg (ReadsD.refl ds h.1) (Reads.refl b h.2)
  | .neg a, h => .neg (Reads.refl a h)
  | .ite c a b, h => by
      simp only [Tm.holeFree, Bool.and_eq_true] at h
      exact .ite (Reads.refl c h.1.1) (Reads.refl a h.1.2) (Reads.refl b h.2)
theorem ReadsD.refl : ∀ (ds : Defs), ds.holeFree = true → ReadsD σ 0 ds ds
  | .nil, _ => .nil
  | .cons _ a d r, h => by
      simp only [Defs.holeFree, Bool.and_eq_true] at h
      exact .cons (Reads.refl a h.1.1) (Reads.refl d h.1.2) (ReadsD.refl r h.2)
end

theorem Reads.of_zonk : ∀ n,
    (∀ t z, zonk n σ t = some z → z.holeFree = true → Reads σ n t z) ∧
    (∀ ds zs, zonkDefs n σ ds = some zs → zs.holeFree = true → ReadsD σ n ds zs) := by
  intro n
  induction n with
  | zero => constructor <;> (intro t z h; simp [zonk, zonkDefs] at h)
  | succ n ih =>
    obtain ⟨ih1, ih2⟩ := ih
    constructor
    · intro t z hz hf
      cases t <;> simp only [zonk] at hz
      case hole id sh =>
        split at hz
        · next sub hsub =>
          split at hz <;> cases hz
          rw [holeFree_ushift] at hf
          exact .hole hsub (ih1 _ _ ‹_› hf)
        · cases hz; cases hf
      case lam | pi | app | bin =>
        split at hz <;> cases hz
        simp only [Tm.holeFree, Bool.and_eq_true] at hf
        exact Reads.up (by constructor <;> first | exact ih1 _ _ ‹_› hf.1 | exact ih1 _ _ ‹_› hf.2)
      case letg =>
        split at hz <;> cases hz
        simp only [Tm.holeFree, Bool.and_eq_true] at hf
        exact (Reads.letg (ih2 _ _ ‹_› hf.1) (ih1 _ _ ‹_› hf.2)).up
      case neg =>
        split at hz <;> cases hz
        simp only [Tm.holeFree] at hf
        exact (Reads.neg (ih1 _ _ ‹_› hf)).up
      case ite =>
        split at hz <;> cases hz
        simp only [Tm.holeFree, Bool.and_eq_true] at hf
        exact (Reads.ite (ih1 _ _ ‹_› hf.1.1) (ih1 _ _ ‹_› hf.1.2) (ih1 _ _ ‹_› hf.2)).up
      all_goals
        cases hz
        exact .leaf (by simp [Leaf])
    · intro ds zs hz hf
      cases ds <;> simp only [zonkDefs] at hz
      case nil => cases hz; exact .nil
      case cons =>
        split at hz <;> cases hz
        simp only [Defs.holeFree, Bool.and_eq_true] at hf
        exact (ReadsD.cons (ih1 _ _ ‹_› hf.1.1) (ih1 _ _ ‹_› hf.1.2) (ih2 _ _ ‹_› hf.2)).up

theorem sshiftS_ans (s : St) : ∀ f,
    (∀ k t z c amt, Reads s.store k t z →
      Ans s (f ≤ k + z.size) (sshiftS f c amt t s) (sshift c amt z)) ∧
    (∀ k ds zs c amt, ReadsD s.store k ds zs →
      Ans s (f ≤ k + zs.size) (sshiftDefsS f c amt ds s) (sshiftDefs c amt zs)) := by
  intro f
  induction f with
  | zero => exact ⟨fun _ _ _ _ _ _ => by rw [sshiftS]; exact .fuel (Nat.zero_le _),
      fun _ _ _ _ _ _ => by rw [sshiftDefsS]; exact .fuel (Nat.zero_le _)⟩
  | succ f ih =>
    obtain ⟨ih1, ih2⟩ := ih
    constructor
    · intro k t z c amt h
      cases h
      case leaf hl =>
        cases t <;> first | cases hl | skip
        case var x i =>
          simp only [sshiftS, sshift]
          repeat' split
          all_goals exact .pure _
        all_goals simp only [sshiftS, sshift]; exact .pure _
      case hole k id sh sub zs hsub hr =>
        have hzs := hr.holeFree
        simp only [sshiftS]
        rw [cellGet_solved _ hsub, ushift_size]
        refine .bind ((ih1 _ _ _ 0 sh hr).mono (by omega)) ?_
        rw [sshift_ushift]
        refine (ih1 0 _ _ c amt (Reads.refl _ (by rw [holeFree_ushift]; exact hzs))).mono ?_
        rw [ushift_size]; omega
      case lam x im d b zd zb hd hb | pi x im d b zd zb hd hb | app d b zd zb hd hb | bin op d b zd zb hd hb =>
        simp only [sshiftS, sshift, Tm.size]
        refine .bind ((ih1 _ _ _ _ _ hd).mono (by omega)) ?_
        cases sshift c amt zd with
        | none => exact .pure _
        | some d' =>
          refine .bind ((ih1 _ _ _ _ _ hb).mono (by omega)) ?_
          cases sshift _ amt zb <;> exact .pure _
      case letg ds b zd zb hd hb =>
        simp only [sshiftS, sshift, Tm.size, hd.len]
        refine .bind ((ih2 _ _ _ _ _ hd).mono (by omega)) ?_
        cases sshiftDefs (c + ds.len) amt zd with
        | none => exact .pure _
        | some d' =>
          refine .bind ((ih1 _ _ _ _ _ hb).mono (by omega)) ?_
          cases sshift (c + ds.len) amt zb <;> exact .pure _
      case neg a za ha =>
        simp only [sshiftS, sshift, Tm.size]
        refine .bind ((ih1 _ _ _ _ _ ha).mono (by omega)) ?_
        cases sshift c amt za <;> exact .pure _
      case ite a d b za zd zb ha hd hb =>
        simp only [sshiftS, sshift, Tm.size]
        refine .bind ((ih1 _ _ _ _ _ ha).mono (by omega)) ?_
        cases sshift c amt za with
        | none => exact .pure _
        | some a' =>
          refine .bind ((ih1 _ _ _ _ _ hd).mono (by omega)) ?_
          cases sshift c amt zd with
          | none => exact .pure _
          | some d' =>
            refine .bind ((ih1 _ _ _ _ _ hb).mono (by omega)) ?_
            cases sshift c amt zb <;> exact .pure _
    · intro k ds zs c amt h
      cases h
      case nil => simp only [sshiftDefsS, sshiftDefs]; exact .pure _
      case cons x a d r za zd zr ha hd hr =>
        simp only [sshiftDefsS, sshiftDefs, Defs.size]
        refine .bind ((ih1 _ _ _ _ _ ha).mono (by omega)) ?_
        cases sshift c amt za with
        | none => exact .pure _
        | some a' =>
          refine .bind ((ih1 _ _ _ _ _ hd).mono (by omega)) ?_
          cases sshift c amt zd with
          | none => exact .pure _
          | some d' =>
            refine .bind ((ih2 _ _ _ _ _ hr).mono (by omega)) ?_
            cases sshiftDefs c amt zr <;> exact .pure _

theorem ushiftS_ans {s : St} {k : Nat} {t z : Tm} (f c a : Nat) (h : Reads s.store k t z) :
    Ans s (f ≤ k + z.size) (ushiftS f c a t s) (ushift c a z) := by
  unfold ushiftS
  refine .bind ((sshiftS_ans s f).1 k t z c a h) ?_
  rw [sshift_ushift]
  exact .pure _
theorem openS_ans {s : St} {m : Nat} {u zu : Tm} (hu : Reads s.store m u zu) : ∀ f,
    (∀ k t z i sh, Reads s.store k t z →
      Ans s (f ≤ k + z.size + m + zu.size) (openS f t i u sh s) (openT z i zu sh)) ∧
    (∀ k ds zs i sh, ReadsD s.store k ds zs →
      Ans s (f ≤ k + zs.size + m + zu.size) (openDefsS f ds i u sh s) (openDefs zs i zu sh)) := by
  intro f
  induction f with
  | zero => exact ⟨fun _ _ _ _ _ _ => by rw [openS]; exact .fuel (Nat.zero_le _),
      fun _ _ _ _ _ _ => by rw [openDefsS]; exact .fuel (Nat.zero_le _)⟩
  | succ f ih =>
    obtain ⟨ih1, ih2⟩ := ih
    constructor
    · intro k t z i sh h
      cases h
      case leaf hl =>
        cases t <;> first | cases hl | skip
        case var x j =>
          simp only [openS, openT, Tm.size]
          split
          · exact (ushiftS_ans f 0 sh hu).mono (by omega)
          · split <;> exact .pure _
        all_goals simp only [openS, openT]; exact .pure _
      case hole k id j sub zs hsub hr =>
        simp only [openS]
        rw [cellGet_solved _ hsub, ushift_size]
        refine .bind ((ushiftS_ans f 0 j hr).mono (by omega)) ?_
        refine (ih1 0 _ _ i sh (Reads.refl _ (by rw [holeFree_ushift]; exact hr.holeFree))).mono ?_
        rw [ushift_size]; omega
      case lam x im d b zd zb hd hb | pi x im d b zd zb hd hb | app d b zd zb hd hb | bin op d b zd zb hd hb =>
        simp only [openS, openT, Tm.size]
        exact .bind ((ih1 _ _ _ _ _ hd).mono (by omega))
          (.bind ((ih1 _ _ _ _ _ hb).mono (by omega)) (.pure _))
      case letg ds b zd zb hd hb =>
        simp only [openS, openT, Tm.size, hd.len]
        exact .bind ((ih2 _ _ _ _ _ hd).mono (by omega))
          (.bind ((ih1 _ _ _ _ _ hb).mono (by omega)) (.pure _))
      case neg a za ha =>
        simp only [openS, openT, Tm.size]
        exact .bind ((ih1 _ _ _ _ _ ha).mono (by omega)) (.pure _)
      case ite a d b za zd zb ha hd hb =>
        simp only [openS, openT, Tm.size]
        exact .bind ((ih1 _ _ _ _ _ ha).mono (by omega)) (.bind ((ih1 _ _ _ _ _ hd).mono (by omega))
          (.bind ((ih1 _ _ _ _ _ hb).mono (by omega)) (.pure _)))
    · intro k ds zs i sh h
      cases h
      case nil => simp only [openDefsS, openDefs]; exact .pure _
      case cons x a d r za zd zr ha hd hr =>
        simp only [openDefsS, openDefs, Defs.size]
        exact .bind ((ih1 _ _ _ _ _ ha).mono (by omega)) (.bind ((ih1 _ _ _ _ _ hd).mono (by omega))
          (.bind ((ih2 _ _ _ _ _ hr).mono (by omega)) (.pure _)))

def AnsO {α} (small : Prop) (x : Option α) (v : α) : Prop := x = some v ∨ (small ∧ x = none)

theorem AnsO.orO {p : Prop} {a b : Option Bool} {x y : Bool} (ha : AnsO p a x) (hb : AnsO p b y) :
    AnsO p (orO a b) (x || y) := by
  rcases ha with rfl | ⟨hp, rfl⟩
  · rcases hb with rfl | ⟨hp, rfl⟩
    · exact .inl rfl
    · exact .inr ⟨hp, rfl⟩
  · exact .inr ⟨hp, by cases b <;> rfl⟩

theorem AnsO.mono {α} {p q : Prop} {x : Option α} {v : α} (h : AnsO p x v) (hpq : p → q) : AnsO q x v :=
  h.imp id fun ⟨a, b⟩ => ⟨hpq a, b⟩

theorem AnsO.ok {α} {p : Prop} {x : Option α} {v : α} (h : AnsO p x v) (hp : ¬ p) : x = some v :=
  h.resolve_right fun ⟨a, _⟩ => hp a

theorem AnsO.inv {α} {p : Prop} {x : Option α} {v a : α} (h : AnsO p x v) (e : x = some a) : a = v := by
  rcases h with h | ⟨_, h⟩ <;> rw [h] at e <;> cases e
  rfl

theorem freeAtS_ans (σ : List (Option Tm)) : ∀ f,
    (∀ k t z i, Reads σ k t z → AnsO (f ≤ k + z.size) (freeAtS f σ t i) (freeAt z i)) ∧
    (∀ k ds zs i, ReadsD σ k ds zs → AnsO (f ≤ k + zs.size) (freeAtDefsS f σ ds i) (freeAtDefs zs i)) := by
  intro f
  induction f with
  | zero => exact ⟨fun _ _ _ _ _ => .inr ⟨Nat.zero_le _, by rw [freeAtS]⟩,
      fun _ _ _ _ _ => .inr ⟨Nat.zero_le _, by rw [freeAtDefsS]⟩⟩
  | succ f ih =>
    obtain ⟨ih1, ih2⟩ := ih
    constructor
    · intro k t z i h
      cases h
      case leaf hl =>
        cases t <;> first | cases hl | skip
        all_goals simp only [freeAtS, freeAt]; exact .inl rfl
      case hole k id sh sub zs hsub hr =>
        simp only [freeAtS, hsub]
        rw [ushift_size]
        rcases (sshiftS_ans { store := σ } f).1 k sub zs 0 sh hr with e | ⟨hp, e⟩
        · rw [e, sshift_ushift]
          refine (ih1 0 _ _ i (Reads.refl _ (by rw [holeFree_ushift]; exact hr.holeFree))).mono ?_
          rw [ushift_size]; omega
        · rw [e]; exact .inr ⟨by omega, rfl⟩
      case lam x im d b zd zb hd hb | pi x im d b zd zb hd hb | app d b zd zb hd hb
          | bin op d b zd zb hd hb =>
        simp only [freeAtS, freeAt, Tm.size]
        exact .orO ((ih1 _ _ _ _ hd).mono (by omega)) ((ih1 _ _ _ _ hb).mono (by omega))
      case letg ds b zd zb hd hb =>
        simp only [freeAtS, freeAt, Tm.size, hd.len]
        exact .orO ((ih2 _ _ _ _ hd).mono (by omega)) ((ih1 _ _ _ _ hb).mono (by omega))
      case neg a za ha =>
        simp only [freeAtS, freeAt, Tm.size]
        exact (ih1 _ _ _ _ ha).mono (by omega)
      case ite a d b za zd zb ha hd hb =>
        simp only [freeAtS, freeAt, Tm.size]
        exact .orO (.orO ((ih1 _ _ _ _ ha).mono (by omega)) ((ih1 _ _ _ _ hd).mono (by omega)))
          ((ih1 _ _ _ _ hb).mono (by omega))
    · intro k ds zs i h
      cases h
      case nil => simp only [freeAtDefsS, freeAtDefs]; exact .inl rfl
      case cons x a d r za zd zr ha hd hr =>
        simp only [freeAtDefsS, freeAtDefs, Defs.size]
        exact .orO (.orO ((ih1 _ _ _ _ ha).mono (by omega)) ((ih1 _ _ _ _ hd).mono (by omega)))
          ((ih2 _ _ _ _ hr).mono (by omega))

end StoreTransparent

namespace OracleLemmas

theorem pure_bind_M {α β} (a : α) (g : α → M β) : (pure a >>= g) = g a := rfl

theorem derefS_holeFree (f : Nat) (t : Tm) (h : t.holeFree = true) : derefS (f+1) t = pure t := by
  unfold derefS
  cases t <;> first | rfl | simp [Tm.holeFree] at h

set_option hygiene false in
/-- common prelude: two units of fuel, both `derefS` are the identity -/
local macro "syn_pre" ha:ident hb:ident hf:ident : tactic => `(tactic| (
  obtain ⟨f, rfl⟩ : ∃ g, f = g + 2 := ⟨f - 2, by simp only [Tm.size] at $hf:ident; omega⟩
  unfold synEqS
  rw [derefS_holeFree _ _ $ha, derefS_holeFree _ _ $hb]
  simp only [pure_bind_M]
  simp only [Tm.holeFree, Bool.and_eq_true] at $ha:ident
  simp only [Tm.size] at $hf:ident))

open StoreTransparent (Ans) in
/-- On hole-free terms `synEqS` answers `sameX` and leaves the state alone; it can run out of fuel only while
the fuel does not exceed the size of the left term. -/
theorem synEqS_ans (s : St) : ∀ f,
    (∀ a b : Tm, a.holeFree = true → b.holeFree = true →
      Ans s (f ≤ a.size) (synEqS f a b s) (sameX a b)) ∧
    (∀ a b : Defs, a.holeFree = true → b.holeFree = true →
      Ans s (f ≤ a.size) (synEqDefsS f a b s) (sameDefsX a b)) := by
  intro f
  induction f with
  | zero => exact ⟨fun _ _ _ _ => by rw [synEqS]; exact .fuel (Nat.zero_le _),
      fun _ _ _ _ => by rw [synEqDefsS]; exact .fuel (Nat.zero_le _)⟩
  | succ f ih =>
    obtain ⟨ih1, ih2⟩ := ih
    constructor
    · intro a b ha hb
      unfold synEqS
      cases f with
      | zero =>
        rw [derefS]
        exact .fuel (Tm.size_pos a)
      | succ g =>
        rw [derefS_holeFree g a ha, derefS_holeFree g b hb]
        simp only [pure_bind_M]
        fun_cases sameX a b
        all_goals try simp only [Tm.holeFree, Bool.and_eq_true, Bool.false_eq_true] at ha hb
        all_goals try simp only [Tm.size]
        all_goals try dsimp only
        case case9 => exact .if_and _ ((ih1 _ _ ha.2 hb.2).mono (by omega))  -- λ
        case case10 =>  -- Π
          rw [Bool.and_assoc]
          exact .if_and _ (.seq_and ((ih1 _ _ ha.1 hb.1).mono (by omega))
            ((ih1 _ _ ha.2 hb.2).mono (by omega)))
        case case11 =>  -- application
          exact .seq_and ((ih1 _ _ ha.1 hb.1).mono (by omega)) ((ih1 _ _ ha.2 hb.2).mono (by omega))
        case case12 ds1 b1 ds2 b2 =>  -- let: `sameDefsX` already compares the lengths
          have := Ans.if_and (ds1.len == ds2.len)
            (.seq_and ((ih2 _ _ ha.1 hb.1).mono (q := g + 1 + 1 ≤ ds1.size + b1.size + 1) (by omega))
              ((ih1 _ _ ha.2 hb.2).mono (q := g + 1 + 1 ≤ ds1.size + b1.size + 1) (by omega)))
          have e : (ds1.len == ds2.len && (sameDefsX ds1 ds2 && sameX b1 b2)) =
              (sameDefsX ds1 ds2 && sameX b1 b2) := by
            cases hd : sameDefsX ds1 ds2
            · simp
            · simp [sameDefsX_len ds1 ds2 hd]
          rw [e] at this
          exact this
        case case13 => exact (ih1 _ _ ha hb).mono (by omega)  -- negation
        case case14 =>  -- binary operator
          rw [Bool.and_assoc]
          exact .if_and _ (.seq_and ((ih1 _ _ ha.1 hb.1).mono (by omega))
            ((ih1 _ _ ha.2 hb.2).mono (by omega)))
        case case15 =>  -- conditional
          rw [Bool.and_assoc]
          exact .seq_and ((ih1 _ _ ha.1.1 hb.1.1).mono (by omega))
            (.seq_and ((ih1 _ _ ha.1.2 hb.1.2).mono (by omega)) ((ih1 _ _ ha.2 hb.2).mono (by omega)))
        -- equal constants, variables, literals; different heads
        all_goals exact .pure _
    · intro a b ha hb
      unfold synEqDefsS
      cases a <;> cases b <;>
        simp only [Defs.holeFree, Bool.and_eq_true] at ha hb <;>
        dsimp only <;> simp only [sameDefsX] <;> try exact .pure _
      simp only [Defs.size]
      exact .seq_and ((ih1 _ _ ha.1.2 hb.1.2).mono (by omega)) ((ih2 _ _ ha.2 hb.2).mono (by omega))

theorem synEqS_pure : ∀ (a b : Tm) (f : Nat), a.holeFree = true → b.holeFree = true →
    a.size + 1 ≤ f → synEqS f a b = pure (sameX a b) :=
  fun a b f ha hb hf => funext fun s => ((synEqS_ans s f).1 a b ha hb).ok (by omega)
theorem synEqDefsS_pure : ∀ (a b : Defs) (f : Nat), a.holeFree = true → b.holeFree = true →
    a.size + 1 ≤ f → synEqDefsS f a b = pure (sameDefsX a b) :=
  fun a b f ha hb hf => funext fun s => ((synEqS_ans s f).2 a b ha hb).ok (by omega)

theorem unifyS_refl_holeFree (t : Tm) (f : Nat) (h : t.holeFree = true) (hf : t.size + 2 ≤ f) :
    unifyS f t t = pure true := by
  obtain ⟨f, rfl⟩ : ∃ g, f = g + 1 := ⟨f - 1, by omega⟩
  unfold unifyS
  rw [synEqS_pure t t f h h (by omega)]
  simp only [pure_bind_M, sameX_refl, if_true]

end OracleLemmas

namespace UnifyAgree

abbrev AnsAll {α} (m : M α) (v : α) : Prop := ∀ s, StoreTransparent.Ans s True (m s) v

theorem AnsAll.pure {α} (a : α) : AnsAll (pure a : M α) a := fun _ => .pure a

theorem AnsAll.bind {α β} {m : M α} {f : α → M β} {v : α} {w : β} (hm : AnsAll m v)
    (hf : AnsAll (f v) w) : AnsAll (m >>= f) w := fun s => (hm s).bind (hf s)

/-! A hole-free term reads as itself through any store (`Reads.refl`): the `X_ans` with the bound on the fuel
dropped. -/

open StoreTransparent (Reads ReadsD sshiftS_ans ushiftS_ans openS_ans) in
theorem sshiftS_P (f : Nat) :
    (∀ c amt t, t.holeFree = true → AnsAll (sshiftS f c amt t) (sshift c amt t)) ∧
    (∀ c amt ds, ds.holeFree = true → AnsAll (sshiftDefsS f c amt ds) (sshiftDefs c amt ds)) :=
  ⟨fun c amt t hf s => ((sshiftS_ans s f).1 0 t t c amt (.refl t hf)).mono fun _ => trivial,
    fun c amt ds hf s => ((sshiftS_ans s f).2 0 ds ds c amt (.refl ds hf)).mono fun _ => trivial⟩

theorem ushiftS_P (f c a : Nat) (t : Tm) (hf : t.holeFree = true) :
    AnsAll (ushiftS f c a t) (ushift c a t) :=
  fun _ => (StoreTransparent.ushiftS_ans f c a (.refl t hf)).mono fun _ => trivial

theorem openS_P (f : Nat) (t : Tm) (i : Nat) (u : Tm) (s : Nat) (hf : t.holeFree = true)
    (hu : u.holeFree = true) : AnsAll (openS f t i u s) (openT t i u s) :=
  fun _ => ((StoreTransparent.openS_ans (.refl u hu) f).1 0 t t i s (.refl t hf)).mono fun _ => trivial

theorem unfoldDefS_P (f : Nat) (x : Name) (ann d : Tm) (index : Nat) (ha : ann.holeFree = true)
    (hd : d.holeFree = true) : AnsAll (unfoldDefS f x ann d index) (unfoldDef x ann d index) := by
  unfold unfoldDefS unfoldDef
  have hself : (Tm.var x 0).holeFree = true := rfl
  have ha1 : (ushift 0 1 ann).holeFree = true := by rw [holeFree_ushift]; exact ha
  have hd1 : (ushift 0 1 d).holeFree = true := by rw [holeFree_ushift]; exact hd
  refine AnsAll.bind (ushiftS_P f 0 1 ann ha) ?_
  refine AnsAll.bind (openS_P f _ _ _ _ ha1 hself) ?_
  refine AnsAll.bind (ushiftS_P f 0 1 d hd) ?_
  refine AnsAll.bind (openS_P f _ _ _ _ hd1 hself) ?_
  refine openS_P f _ _ _ _ hd ?_
  simp only [Tm.holeFree, Defs.holeFree, Bool.and_eq_true, Bool.and_true]
  exact ⟨openT_holeFree _ _ _ _ ha1 hself, openT_holeFree _ _ _ _ hd1 hself⟩

theorem substDefsS_P (f : Nat) : ∀ (ds : Defs) (idx : Nat) (u : Tm), ds.holeFree = true →
    u.holeFree = true → AnsAll (substDefsS f ds idx u) (openDefs ds idx u 0)
  | .nil, idx, u, _, _ => by unfold substDefsS openDefs; exact AnsAll.pure _
  | .cons x a d r, idx, u, hf, hu => by
      simp only [Defs.holeFree, Bool.and_eq_true] at hf
      unfold substDefsS openDefs
      refine AnsAll.bind (openS_P f _ _ _ _ hf.1.1 hu) ?_
      refine AnsAll.bind (openS_P f _ _ _ _ hf.1.2 hu) ?_
      refine AnsAll.bind (substDefsS_P f r idx u hf.2 hu) ?_
      exact AnsAll.pure _

theorem occursS_P : ∀ f,
    (∀ id t, t.holeFree = true → AnsAll (occursS f id t) false) ∧
    (∀ id ds, ds.holeFree = true → AnsAll (occursDefsS f id ds) false) := by
  intro f
  induction f with
  | zero =>
    constructor
    · intro _ _ _ s; rw [occursS]; exact .fuel trivial
    · intro _ _ _ s; rw [occursDefsS]; exact .fuel trivial
  | succ f ih =>
    obtain ⟨ih1, ih2⟩ := ih
    -- `if ← m then pure true else n`: `m` answers `false`, so the answer is `n`'s
    have step : ∀ {m n : M Bool}, AnsAll m false → AnsAll n false →
        AnsAll (m >>= fun c => if c = true then pure true else n) false :=
      fun hm hn s => .bind (hm s) (by simpa only [Bool.false_eq_true, if_false] using hn s)
    constructor
    · intro id t hf
      cases t <;> simp only [Tm.holeFree, Bool.and_eq_true] at hf <;> unfold occursS <;>
        dsimp only
      case hole => cases hf
      case lam | pi | app | bin => exact step (ih1 _ _ hf.1) (ih1 _ _ hf.2)
      case letg => exact step (ih2 _ _ hf.1) (ih1 _ _ hf.2)
      case neg => exact ih1 _ _ hf
      case ite => exact step (ih1 _ _ hf.1.1) (step (ih1 _ _ hf.1.2) (ih1 _ _ hf.2))
      all_goals exact AnsAll.pure _
    · intro id ds hf
      cases ds <;> simp only [Defs.holeFree, Bool.and_eq_true] at hf <;> unfold occursDefsS <;>
        dsimp only
      · exact AnsAll.pure _
      · exact step (ih1 _ _ hf.1.1) (step (ih1 _ _ hf.1.2) (ih2 _ _ hf.2))

theorem derefS_P (f : Nat) (t : Tm) (h : t.holeFree = true) : AnsAll (derefS f t) t := fun _ => by
  cases f with
  | zero => rw [derefS]; exact .fuel trivial
  | succ f => rw [OracleLemmas.derefS_holeFree f t h]; exact .pure _

end UnifyAgree
