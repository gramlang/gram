import GramModel.Lemmas.RewriteTyping

/-!
# Subject reduction, part 1: hole removal, function-style contexts, the hole-free judgements

`Conv`/`HasType` allow arbitrary (also hole-containing) intermediate types, but the De Bruijn algebra
(`open_ushift_high`) — hence weakening of conversion — is only valid on hole-free terms.  We therefore
work with copies `Cv`/`HT` of the two judgements in which every term is hole-free, over contexts that
are *lookup functions returning the entry already lifted into the current scope*.  `dh` (replace every
hole by `type`) maps `Conv`/`HasType` derivations to `Cv`/`HT` derivations, and `Cv`/`HT` embed back
(`Lemmas/PreservationBridge.lean`; up to there the development uses neither list contexts nor confluence).
Namespace `Pres`, for all the `Preservation*` files; `Relab.dh` is declared into the root namespace `Relab`.
-/

namespace Pres

open WhnfLemmas OracleLemmas

-- a hole becomes the closed hole-free constant `type`: `Cv`/`HT` have no holes
mutual
def dh : Tm → Tm
  | .hole _ _ => .type
  | .lam x im d b => .lam x im (dh d) (dh b)
  | .pi x im d b => .pi x im (dh d) (dh b)
  | .app f a => .app (dh f) (dh a)
  | .letg ds b => .letg (dhDefs ds) (dh b)
  | .neg a => .neg (dh a)
  | .bin op a b => .bin op (dh a) (dh b)
  | .ite c t e => .ite (dh c) (dh t) (dh e)
  | .var x i => .var x i
  | .type => .type
  | .int => .int
  | .bool => .bool
  | .tt => .tt
  | .ff => .ff
  | .lit n => .lit n
def dhDefs : Defs → Defs
  | .nil => .nil
  | .cons x a d r => .cons x (dh a) (dh d) (dhDefs r)
end

def _root_.Relab.dh : Relab := { nm := fun x => x, hole := none, ann := true }

theorem dh_eq_relab_both : (∀ t : Tm, dh t = t.relab .dh) ∧ ∀ ds : Defs, dhDefs ds = ds.relab .dh := by
  apply Tm.rec_both <;> intros <;> simp only [dh, dhDefs, Tm.relab, Defs.relab, *] <;> rfl

theorem dh_eq_relab (t : Tm) : dh t = t.relab .dh := dh_eq_relab_both.1 t
theorem dhDefs_eq_relab (ds : Defs) : dhDefs ds = ds.relab .dh := dh_eq_relab_both.2 ds

theorem dhDefs_len (ds : Defs) : (dhDefs ds).len = ds.len := by
  rw [dhDefs_eq_relab, Defs.len_relab]

theorem dh_holeFree (t : Tm) : (dh t).holeFree = true := by
  rw [dh_eq_relab]; exact t.holeFree_relab rfl

theorem dhDefs_holeFree (ds : Defs) : (dhDefs ds).holeFree = true := by
  rw [dhDefs_eq_relab]; exact ds.holeFree_relab rfl

theorem ushift_hf {t : Tm} (h : t.holeFree = true) (c a : Nat) : (ushift c a t).holeFree = true :=
  (holeFree_ushift t c a).trans h

theorem dh_id (t : Tm) (h : t.holeFree = true) : dh t = t := by
  rw [dh_eq_relab]; exact (t.relab_congr (R := .dh) (S := .id) rfl rfl h).trans t.relab_id

theorem dhDefs_id : ∀ (ds : Defs), ds.holeFree = true → dhDefs ds = ds := fun ds h => by
  rw [dhDefs_eq_relab]; exact (ds.relab_congr (R := .dh) (S := .id) rfl rfl h).trans ds.relab_id

theorem dh_ushift (t : Tm) (c a : Nat) : dh (ushift c a t) = ushift c a (dh t) := by
  simp only [dh_eq_relab]; exact t.relab_ushift _ c a

theorem dhDefs_ushiftDefs : ∀ (ds : Defs) (c a : Nat), dhDefs (ushiftDefs c a ds) = ushiftDefs c a (dhDefs ds) := by
  intro ds c a
  simp only [dhDefs_eq_relab]; exact ds.relab_ushiftDefs _ c a

theorem dh_openT (t : Tm) (i : Nat) (u : Tm) (s : Nat) :
    dh (openT t i u s) = openT (dh t) i (dh u) s := by
  simp only [dh_eq_relab]; exact t.relab_openT _ i u s

theorem dhDefs_openDefs (ds : Defs) (i : Nat) (u : Tm) (s : Nat) :
    dhDefs (openDefs ds i u s) = openDefs (dhDefs ds) i (dh u) s := by
  simp only [dhDefs_eq_relab, dh_eq_relab]; exact ds.relab_openDefs _ i u s

theorem dh_unfoldDef (x : Name) (a d : Tm) (idx : Nat) :
    dh (unfoldDef x a d idx) = unfoldDef x (dh a) (dh d) idx := by
  simp only [unfoldDef, dh_openT, dh_ushift, dh, dhDefs]


theorem eraseX_dh (t : Tm) : eraseX (dh t) = dh (eraseX t) := by
  simp only [eraseX_eq_relab, dh_eq_relab, Tm.relab_relab]; rfl

theorem eraseDefsX_dhDefs (ds : Defs) : eraseDefsX (dhDefs ds) = dhDefs (eraseDefsX ds) := by
  simp only [eraseDefsX_eq_relab, dhDefs_eq_relab, Defs.relab_relab]; rfl

theorem sameX_dh (a b : Tm) (h : sameX a b = true) : sameX (dh a) (dh b) = true := by
  rw [sameX_iff] at h ⊢
  rw [eraseX_dh, eraseX_dh, h]

theorem sameDefsX_dh : ∀ (a b : Defs), sameDefsX a b = true → sameDefsX (dhDefs a) (dhDefs b) = true := by
  intro a b h
  rw [sameDefsX_iff] at h ⊢
  rw [eraseDefsX_dhDefs, eraseDefsX_dhDefs, h]

theorem eraseX_openT (t : Tm) (i : Nat) (u : Tm) (s : Nat) :
    eraseX (openT t i u s) = openT (eraseX t) i (eraseX u) s := by
  simp only [eraseX_eq_relab]; exact t.relab_openT _ i u s

theorem eraseDefsX_openDefs (ds : Defs) (i : Nat) (u : Tm) (s : Nat) :
    eraseDefsX (openDefs ds i u s) = openDefs (eraseDefsX ds) i (eraseX u) s := by
  simp only [eraseDefsX_eq_relab, eraseX_eq_relab]; exact ds.relab_openDefs _ i u s

theorem sameX_openT {a b u v : Tm} (i s : Nat) (h : sameX a b = true) (h' : sameX u v = true) :
    sameX (openT a i u s) (openT b i v s) = true := by
  rw [sameX_iff] at h h' ⊢
  rw [eraseX_openT, eraseX_openT, h, h']

theorem sameDefsX_openDefs {a b : Defs} {u v : Tm} (i s : Nat) (h : sameDefsX a b = true)
    (h' : sameX u v = true) : sameDefsX (openDefs a i u s) (openDefs b i v s) = true := by
  rw [sameDefsX_iff] at h ⊢
  rw [sameX_iff] at h'
  rw [eraseDefsX_openDefs, eraseDefsX_openDefs, h, h']

theorem sameDefsX_ushiftDefs {a b : Defs} (c n : Nat) (h : sameDefsX a b = true) :
    sameDefsX (ushiftDefs c n a) (ushiftDefs c n b) = true := by
  rw [sameDefsX_iff] at h ⊢
  rw [RewriteTyping.eraseDefsX_ushift, RewriteTyping.eraseDefsX_ushift, h]

/-! `Cv.letg` compares TWO groups, whose entries only positions relate (`comps`); `HT.letg` speaks of ONE
group, so membership in `Defs.toList` is enough; `annAt` / `defAt` serve the contexts `annF` / `defF`. -/

/-- annotations and definitions of a group, in order -/
def comps : Defs → List Tm
  | .nil => []
  | .cons _ a d r => a :: d :: comps r

theorem rel_cons_getElem? {α : Type} {R : α → α → Prop} {a b : α} {l1 l2 : List α} (h : R a b)
    (ht : ∀ (i : Nat) (t1 t2 : α), l1[i]? = some t1 → l2[i]? = some t2 → R t1 t2) :
    ∀ (i : Nat) (t1 t2 : α), (a :: l1)[i]? = some t1 → (b :: l2)[i]? = some t2 → R t1 t2
  | 0, _, _, e1, e2 => by
      simp only [List.getElem?_cons_zero, Option.some.injEq] at e1 e2
      subst e1 e2
      exact h
  | i+1, t1, t2, e1, e2 => by
      rw [List.getElem?_cons_succ] at e1 e2
      exact ht i t1 t2 e1 e2

theorem comps_length : ∀ (ds : Defs), (comps ds).length = 2 * ds.len
  | .nil => rfl
  | .cons _ _ _ r => by simp only [comps, List.length_cons, comps_length r, Defs.len_cons]; omega

theorem comps_trav (F : Act) (n : Nat) : ∀ (ds : Defs), comps (ds.trav F n) = (comps ds).map (·.trav F n)
  | .nil => rfl
  | .cons _ _ _ r => by simp only [Defs.trav, comps, List.map_cons, comps_trav F n r]

theorem comps_dhDefs : ∀ (ds : Defs), comps (dhDefs ds) = (comps ds).map dh
  | .nil => rfl
  | .cons _ _ _ r => by simp only [dhDefs, comps, List.map_cons, comps_dhDefs r]

theorem comps_holeFree : ∀ (ds : Defs), ds.holeFree = true → ∀ t ∈ comps ds, t.holeFree = true
  | .nil, _, t, h => by simp [comps] at h
  | .cons _ a d r, hf, t, h => by
      simp only [Defs.holeFree, Bool.and_eq_true] at hf
      simp only [comps, List.mem_cons] at h
      rcases h with rfl | rfl | h
      · exact hf.1.1
      · exact hf.1.2
      · exact comps_holeFree r hf.2 t h

theorem holeFree_of_comps : ∀ (ds : Defs), (∀ t ∈ comps ds, t.holeFree = true) → ds.holeFree = true
  | .nil, _ => rfl
  | .cons _ a d r, h => by
      simp only [Defs.holeFree, Bool.and_eq_true]
      refine ⟨⟨h a (by simp [comps]), h d (by simp [comps])⟩, holeFree_of_comps r ?_⟩
      intro t ht
      exact h t (by simp [comps, ht])

/-- the annotation of the group variable with index `v` -/
def annAt : Defs → Nat → Option Tm
  | .nil, _ => none
  | .cons _ a _ r, v => if v = r.len then some a else annAt r v

/-- the same function as `CCPar.defAt` (`Lemmas/CCPar.lean`, which this file does not import); the two meet in
`defAt_eq`, `Lemmas/PreservationBridge.lean` -/
def defAt : Defs → Nat → Option Tm
  | .nil, _ => none
  | .cons _ _ d r, v => if v = r.len then some d else defAt r v

theorem annAt_lt : ∀ (ds : Defs) (v : Nat) (a : Tm), annAt ds v = some a → v < ds.len
  | .nil, _, _, h => by simp [annAt] at h
  | .cons _ _ _ r, v, a, h => by
      simp only [annAt] at h
      simp only [Defs.len_cons]
      split at h
      · omega
      · have := annAt_lt r v a h; omega

theorem defAt_lt : ∀ (ds : Defs) (v : Nat) (a : Tm), defAt ds v = some a → v < ds.len
  | .nil, _, _, h => by simp [defAt] at h
  | .cons _ _ _ r, v, a, h => by
      simp only [defAt] at h
      simp only [Defs.len_cons]
      split at h
      · omega
      · have := defAt_lt r v a h; omega

theorem annAt_none : ∀ (ds : Defs) (v : Nat), ds.len ≤ v → annAt ds v = none
  | .nil, _, _ => rfl
  | .cons _ _ _ r, v, h => by
      simp only [Defs.len_cons] at h
      simp only [annAt]
      rw [if_neg (by omega)]
      exact annAt_none r v (by omega)

theorem defAt_none : ∀ (ds : Defs) (v : Nat), ds.len ≤ v → defAt ds v = none
  | .nil, _, _ => rfl
  | .cons _ _ _ r, v, h => by
      simp only [Defs.len_cons] at h
      simp only [defAt]
      rw [if_neg (by omega)]
      exact defAt_none r v (by omega)

theorem annAt_mem : ∀ (ds : Defs) (v : Nat) (a : Tm), annAt ds v = some a →
    ∃ x d, (x, a, d) ∈ ds.toList ∧ defAt ds v = some d
  | .nil, _, _, h => by simp [annAt] at h
  | .cons x a' d r, v, a, h => by
      simp only [annAt] at h
      simp only [Defs.toList, defAt]
      split at h
      · next hv => cases h; exact ⟨x, d, List.mem_cons_self, by rw [if_pos hv]⟩
      · next hv =>
        obtain ⟨y, e, hm, hd⟩ := annAt_mem r v a h
        exact ⟨y, e, List.mem_cons_of_mem _ hm, by rw [if_neg hv]; exact hd⟩

theorem annAt_map (f : Tm → Tm) (g : Defs → Defs) (hl : ∀ ds, (g ds).len = ds.len)
    (hn : g .nil = .nil) (hc : ∀ x a d r, g (.cons x a d r) = .cons x (f a) (f d) (g r)) :
    ∀ (ds : Defs) (v : Nat), annAt (g ds) v = (annAt ds v).map f
  | .nil, v => by rw [hn]; rfl
  | .cons x a d r, v => by
      rw [hc]
      simp only [annAt, hl]
      split
      · rfl
      · exact annAt_map f g hl hn hc r v

theorem defAt_map (f : Tm → Tm) (g : Defs → Defs) (hl : ∀ ds, (g ds).len = ds.len)
    (hn : g .nil = .nil) (hc : ∀ x a d r, g (.cons x a d r) = .cons x (f a) (f d) (g r)) :
    ∀ (ds : Defs) (v : Nat), defAt (g ds) v = (defAt ds v).map f
  | .nil, v => by rw [hn]; rfl
  | .cons x a d r, v => by
      rw [hc]
      simp only [defAt, hl]
      split
      · rfl
      · exact defAt_map f g hl hn hc r v

theorem annAt_trav (F : Act) (n : Nat) (ds : Defs) (v : Nat) :
    annAt (ds.trav F n) v = (annAt ds v).map (·.trav F n) :=
  annAt_map (·.trav F n) (·.trav F n) (Defs.len_trav F n) rfl (fun _ _ _ _ => rfl) ds v
theorem defAt_trav (F : Act) (n : Nat) (ds : Defs) (v : Nat) :
    defAt (ds.trav F n) v = (defAt ds v).map (·.trav F n) :=
  defAt_map (·.trav F n) (·.trav F n) (Defs.len_trav F n) rfl (fun _ _ _ _ => rfl) ds v
theorem annAt_openDefs (ds : Defs) (i : Nat) (u : Tm) (s v : Nat) :
    annAt (openDefs ds i u s) v = (annAt ds v).map (fun t => openT t i u s) :=
  annAt_map (fun t => openT t i u s) (fun ds => openDefs ds i u s) (fun ds => openDefs_len ds i u s) rfl
    (fun _ _ _ _ => rfl) ds v
theorem defAt_openDefs (ds : Defs) (i : Nat) (u : Tm) (s v : Nat) :
    defAt (openDefs ds i u s) v = (defAt ds v).map (fun t => openT t i u s) :=
  defAt_map (fun t => openT t i u s) (fun ds => openDefs ds i u s) (fun ds => openDefs_len ds i u s) rfl
    (fun _ _ _ _ => rfl) ds v
theorem annAt_dhDefs (ds : Defs) (v : Nat) : annAt (dhDefs ds) v = (annAt ds v).map dh :=
  annAt_map dh dhDefs dhDefs_len rfl (fun _ _ _ _ => rfl) ds v
theorem defAt_dhDefs (ds : Defs) (v : Nat) : defAt (dhDefs ds) v = (defAt ds v).map dh :=
  defAt_map dh dhDefs dhDefs_len rfl (fun _ _ _ _ => rfl) ds v

theorem defAt_holeFree : ∀ (ds : Defs) (v : Nat) (a : Tm), ds.holeFree = true → defAt ds v = some a →
    a.holeFree = true
  | .nil, _, _, _, h => by simp [defAt] at h
  | .cons _ _ d' r, v, a, hf, h => by
      simp only [Defs.holeFree, Bool.and_eq_true] at hf
      simp only [defAt] at h
      split at h
      · cases h; exact hf.1.2
      · exact defAt_holeFree r v a hf.2 h

theorem toList_holeFree : ∀ (ds : Defs), ds.holeFree = true → ∀ x a d, (x, a, d) ∈ ds.toList →
    a.holeFree = true ∧ d.holeFree = true
  | .nil, _, _, _, _, h => by simp [Defs.toList] at h
  | .cons _ a' d' r, hf, x, a, d, h => by
      simp only [Defs.holeFree, Bool.and_eq_true] at hf
      simp only [Defs.toList, List.mem_cons, Prod.mk.injEq] at h
      rcases h with ⟨_, rfl, rfl⟩ | h
      · exact hf.1
      · exact toList_holeFree r hf.2 x a d h

theorem annAt_holeFree (ds : Defs) (v : Nat) (a : Tm) (hf : ds.holeFree = true) (h : annAt ds v = some a) :
    a.holeFree = true :=
  let ⟨x, d, hm, _⟩ := annAt_mem ds v a h
  (toList_holeFree ds hf x a d hm).1

theorem toList_trav (F : Act) (n : Nat) : ∀ (ds : Defs),
    (ds.trav F n).toList = ds.toList.map (fun p => (p.1, p.2.1.trav F n, p.2.2.trav F n))
  | .nil => rfl
  | .cons _ _ _ r => by simp only [Defs.trav, Defs.toList, List.map_cons, toList_trav F n r]

theorem toList_openDefs : ∀ (ds : Defs) (i : Nat) (u : Tm) (s : Nat),
    (openDefs ds i u s).toList = ds.toList.map (fun p => (p.1, openT p.2.1 i u s, openT p.2.2 i u s))
  | .nil, _, _, _ => rfl
  | .cons _ _ _ r, i, u, s => by simp only [openDefs, Defs.toList, List.map_cons, toList_openDefs r]

theorem toList_dhDefs : ∀ (ds : Defs),
    (dhDefs ds).toList = ds.toList.map (fun p => (p.1, dh p.2.1, dh p.2.2))
  | .nil => rfl
  | .cons _ _ _ r => by simp only [dhDefs, Defs.toList, List.map_cons, toList_dhDefs r]

/-- a context: the entry of variable `i`, already lifted into the current scope -/
abbrev Ctx := Nat → Option Tm

/-- `n` new innermost variables with entries `F` (given in the extended scope) -/
def ext (n : Nat) (F : Nat → Option Tm) (G : Ctx) : Ctx :=
  fun i => if i < n then F i else (G (i - n)).map (ushift 0 n)

def noneF : Nat → Option Tm := fun _ => none

theorem ext_lt {n : Nat} {F : Nat → Option Tm} {G : Ctx} {i : Nat} (h : i < n) : ext n F G i = F i := by
  simp only [ext, if_pos h]

theorem ext_ge {n : Nat} {F : Nat → Option Tm} {G : Ctx} {i : Nat} (h : n ≤ i) :
    ext n F G i = (G (i - n)).map (ushift 0 n) := by
  simp only [ext, if_neg (Nat.not_lt.2 h)]

theorem ext_zero (F : Nat → Option Tm) (G : Ctx) : ext 0 F G = G := by
  funext i
  simp only [ext, Nat.not_lt_zero, if_false, Nat.sub_zero]
  cases G i <;> simp [ushift_zero]

def CHF (G : Ctx) : Prop := ∀ i t, G i = some t → t.holeFree = true

theorem CHF_ext {n : Nat} {F : Nat → Option Tm} {G : Ctx} (hF : ∀ i t, i < n → F i = some t → t.holeFree = true)
    (hG : CHF G) : CHF (ext n F G) := by
  intro i t h
  by_cases hi : i < n
  · rw [ext_lt hi] at h; exact hF i t hi h
  · rw [ext_ge (Nat.not_lt.1 hi)] at h
    cases e : G (i - n) with
    | none => rw [e] at h; cases h
    | some t0 =>
      rw [e] at h
      simp only [Option.map_some, Option.some.injEq] at h
      subst h
      rw [holeFree_ushift]
      exact hG _ _ e

theorem CHF_noneF {n : Nat} {G : Ctx} (hG : CHF G) : CHF (ext n noneF G) :=
  CHF_ext (fun _ _ _ h => by cases h) hG

/-- Convertibility of hole-free terms under a function-style definitions context (a copy of `Conv`
in which every term is hole-free). -/
inductive Cv : Ctx → Tm → Tm → Prop
  | refl {D : Ctx} {a : Tm} : a.holeFree = true → Cv D a a
  | symm {D : Ctx} {a b : Tm} : Cv D a b → Cv D b a
  | trans {D : Ctx} {a b c : Tm} : Cv D a b → Cv D b c → Cv D a c
  | beta {D : Ctx} (x : Name) (im : Bool) (d body a : Tm) : d.holeFree = true → body.holeFree = true →
      a.holeFree = true → Cv D (.app (.lam x im d body) a) (openT body 0 a 0)
  | delta {D : Ctx} (x : Name) (i : Nat) (d : Tm) : D i = some d → d.holeFree = true → Cv D (.var x i) d
  | letStep {D : Ctx} (x : Name) (a d : Tm) (rest : Defs) (body : Tm) : a.holeFree = true →
      d.holeFree = true → rest.holeFree = true → body.holeFree = true →
      Cv D (.letg (.cons x a d rest) body)
        (.letg (openDefs rest rest.len (unfoldDef x a d rest.len) 0)
          (openT body rest.len (unfoldDef x a d rest.len) 0))
  | letNil {D : Ctx} (body : Tm) : body.holeFree = true → Cv D (.letg .nil body) body
  | negLit {D : Ctx} (n : Int) : Cv D (.neg (.lit n)) (.lit (-n))
  | arith {D : Ctx} (op : BinOp) (x y : Int) (r : Tm) : delta op x y = some r →
      Cv D (.bin op (.lit x) (.lit y)) r
  | iteT {D : Ctx} (a b : Tm) : a.holeFree = true → b.holeFree = true → Cv D (.ite .tt a b) a
  | iteF {D : Ctx} (a b : Tm) : a.holeFree = true → b.holeFree = true → Cv D (.ite .ff a b) b
  | same {D : Ctx} {a b : Tm} : sameX a b = true → a.holeFree = true → b.holeFree = true → Cv D a b
  | lam {D : Ctx} (x y : Name) (im : Bool) (d1 d2 : Tm) {b1 b2 : Tm} : d1.holeFree = true →
      d2.holeFree = true → Cv (ext 1 noneF D) b1 b2 → Cv D (.lam x im d1 b1) (.lam y im d2 b2)
  | pi {D : Ctx} (x y : Name) (im : Bool) {d1 d2 c1 c2 : Tm} :
      Cv D d1 d2 → Cv (ext 1 noneF D) c1 c2 → Cv D (.pi x im d1 c1) (.pi y im d2 c2)
  | app {D : Ctx} {f1 f2 a1 a2 : Tm} : Cv D f1 f2 → Cv D a1 a2 → Cv D (.app f1 a1) (.app f2 a2)
  | neg {D : Ctx} {a1 a2 : Tm} : Cv D a1 a2 → Cv D (.neg a1) (.neg a2)
  | bin {D : Ctx} (op : BinOp) {a1 a2 b1 b2 : Tm} :
      Cv D a1 a2 → Cv D b1 b2 → Cv D (.bin op a1 b1) (.bin op a2 b2)
  | ite {D : Ctx} {c1 c2 a1 a2 b1 b2 : Tm} :
      Cv D c1 c2 → Cv D a1 a2 → Cv D b1 b2 → Cv D (.ite c1 a1 b1) (.ite c2 a2 b2)
  | letg {D : Ctx} {ds1 ds2 : Defs} {b1 b2 : Tm} : ds1.len = ds2.len → ds1.holeFree = true →
      ds2.holeFree = true →
      (∀ (i : Nat) (t1 t2 : Tm), (comps ds1)[i]? = some t1 → (comps ds2)[i]? = some t2 →
        Cv (ext ds1.len noneF D) t1 t2) →
      Cv (ext ds1.len noneF D) b1 b2 → Cv D (.letg ds1 b1) (.letg ds2 b2)

theorem Cv.hf {D : Ctx} {a b : Tm} (h : Cv D a b) : a.holeFree = true ∧ b.holeFree = true := by
  induction h with
  | refl h => exact ⟨h, h⟩
  | symm _ ih => exact ⟨ih.2, ih.1⟩
  | trans _ _ ih1 ih2 => exact ⟨ih1.1, ih2.2⟩
  | beta x im d body a hd hb ha =>
    exact ⟨by simp [Tm.holeFree, hd, hb, ha], openT_holeFree _ _ _ _ hb ha⟩
  | delta x i d _ hd => exact ⟨rfl, hd⟩
  | letStep x a d rest body ha hd hr hb =>
    have hu := unfoldDef_holeFree x a d rest.len ha hd
    exact ⟨by simp [Tm.holeFree, Defs.holeFree, ha, hd, hr, hb],
      by simp [Tm.holeFree, openDefs_holeFree _ _ _ _ hr hu, openT_holeFree _ _ _ _ hb hu]⟩
  | letNil body hb => exact ⟨by simp [Tm.holeFree, Defs.holeFree, hb], hb⟩
  | negLit n => exact ⟨rfl, rfl⟩
  | arith op x y r hr => exact ⟨rfl, delta_holeFree hr⟩
  | iteT a b ha hb => exact ⟨by simp [Tm.holeFree, ha, hb], ha⟩
  | iteF a b ha hb => exact ⟨by simp [Tm.holeFree, ha, hb], hb⟩
  | same _ ha hb => exact ⟨ha, hb⟩
  | lam x y im d1 d2 h1 h2 _ ih => exact ⟨by simp [Tm.holeFree, h1, ih.1], by simp [Tm.holeFree, h2, ih.2]⟩
  | pi x y im _ _ ih1 ih2 =>
    exact ⟨by simp [Tm.holeFree, ih1.1, ih2.1], by simp [Tm.holeFree, ih1.2, ih2.2]⟩
  | app _ _ ih1 ih2 => exact ⟨by simp [Tm.holeFree, ih1.1, ih2.1], by simp [Tm.holeFree, ih1.2, ih2.2]⟩
  | neg _ ih => exact ⟨by simp [Tm.holeFree, ih.1], by simp [Tm.holeFree, ih.2]⟩
  | bin op _ _ ih1 ih2 => exact ⟨by simp [Tm.holeFree, ih1.1, ih2.1], by simp [Tm.holeFree, ih1.2, ih2.2]⟩
  | ite _ _ _ ih0 ih1 ih2 =>
    exact ⟨by simp [Tm.holeFree, ih0.1, ih1.1, ih2.1], by simp [Tm.holeFree, ih0.2, ih1.2, ih2.2]⟩
  | letg _ h1 h2 _ _ _ ih => exact ⟨by simp [Tm.holeFree, h1, ih.1], by simp [Tm.holeFree, h2, ih.2]⟩

def annF (ds : Defs) : Nat → Option Tm := fun i => annAt ds i
def defF (ds : Defs) : Nat → Option Tm := fun i => defAt ds i

/-- The typing judgement on hole-free terms under function-style contexts (a copy of `HasType` in
which every term and type is hole-free). -/
inductive HT : Ctx → Ctx → Tm → Tm → Prop
  | type (G D : Ctx) : HT G D .type .type
  | int (G D : Ctx) : HT G D .int .type
  | bool (G D : Ctx) : HT G D .bool .type
  | lit (G D : Ctx) (n : Int) : HT G D (.lit n) .int
  | tt (G D : Ctx) : HT G D .tt .bool
  | ff (G D : Ctx) : HT G D .ff .bool
  | var {G : Ctx} (D : Ctx) (x : Name) (i : Nat) (ty : Tm) : G i = some ty → ty.holeFree = true →
      HT G D (.var x i) ty
  | lam {G D : Ctx} (x : Name) (im : Bool) {d b cod : Tm} :
      HT G D d .type → HT (ext 1 (fun _ => some (ushift 0 1 d)) G) (ext 1 noneF D) b cod →
      HT G D (.lam x im d b) (.pi x im d cod)
  | pi {G D : Ctx} (x : Name) (im : Bool) {d c : Tm} :
      HT G D d .type → HT (ext 1 (fun _ => some (ushift 0 1 d)) G) (ext 1 noneF D) c .type →
      HT G D (.pi x im d c) .type
  | app {G D : Ctx} (x : Name) (im : Bool) {g a dom cod : Tm} :
      HT G D g (.pi x im dom cod) → HT G D a dom → HT G D (.app g a) (openT cod 0 a 0)
  | letg {G D : Ctx} {ds : Defs} {body bty : Tm} : ds.holeFree = true →
      (∀ x a d, (x, a, d) ∈ ds.toList → HT (ext ds.len (annF ds) G) (ext ds.len (defF ds) D) a .type) →
      (∀ x a d, (x, a, d) ∈ ds.toList → HT (ext ds.len (annF ds) G) (ext ds.len (defF ds) D) d a) →
      HT (ext ds.len (annF ds) G) (ext ds.len (defF ds) D) body bty →
      HT G D (.letg ds body) (.letg ds bty)
  | neg {G D : Ctx} {a : Tm} : HT G D a .int → HT G D (.neg a) .int
  | bin {G D : Ctx} (op : BinOp) {a b : Tm} :
      HT G D a .int → HT G D b .int → HT G D (.bin op a b) (binResult op)
  | ite {G D : Ctx} {c a b T : Tm} : HT G D c .bool → HT G D a T → HT G D b T → HT G D (.ite c a b) T
  | conv {G D : Ctx} {t T T' : Tm} : HT G D t T → Cv D T T' → HT G D t T'

theorem binResult_hf (op : BinOp) : (binResult op).holeFree = true := by cases op <;> rfl

theorem HT.hf {G D : Ctx} {t T : Tm} (h : HT G D t T) : t.holeFree = true ∧ T.holeFree = true := by
  induction h with
  | type | int | bool | lit | tt | ff => exact ⟨rfl, rfl⟩
  | var D x i ty _ hty => exact ⟨rfl, hty⟩
  | lam x im _ _ ih1 ih2 => exact ⟨by simp [Tm.holeFree, ih1.1, ih2.1], by simp [Tm.holeFree, ih1.1, ih2.2]⟩
  | pi x im _ _ ih1 ih2 => exact ⟨by simp [Tm.holeFree, ih1.1, ih2.1], rfl⟩
  | app x im _ _ ih1 ih2 =>
    have := ih1.2
    simp only [Tm.holeFree, Bool.and_eq_true] at this
    exact ⟨by simp [Tm.holeFree, ih1.1, ih2.1], openT_holeFree _ _ _ _ this.2 ih2.1⟩
  | letg hds _ _ _ _ _ ih => exact ⟨by simp [Tm.holeFree, hds, ih.1], by simp [Tm.holeFree, hds, ih.2]⟩
  | neg _ ih => exact ⟨by simp [Tm.holeFree, ih.1], rfl⟩
  | bin op _ _ ih1 ih2 => exact ⟨by simp [Tm.holeFree, ih1.1, ih2.1], binResult_hf op⟩
  | ite _ _ _ ih0 ih1 ih2 => exact ⟨by simp [Tm.holeFree, ih0.1, ih1.1, ih2.1], ih1.2⟩
  | conv _ hc ih => exact ⟨ih.1, hc.hf.2⟩

end Pres
