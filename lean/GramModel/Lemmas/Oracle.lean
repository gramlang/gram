import GramModel.Oracle
import GramModel.Typing
import GramModel.Lemmas.Relab

/-!
# Lemmas about the independent checker (`Oracle.lean`)

* `sameX` is the kernel of the erasure `eraseX` (names, parameter annotations of `λ`, annotations of
  definitions are forgotten): hence an equivalence relation.
* `convX_succ`: one step of `convX` is the syntactic shortcut, normalisation of both sides, and the comparison of
  the two heads (`convHead`); the proofs that walk the comparison of the heads go through it (here: `convX_symm`).
* the laws of `Except.bind`/`Except.map` used throughout; the arms of `inferX` as equations in the `Except` monad,
  and what an answer consists of, for each form of term; scoping of accepted hole-free terms.
* `Relab.eraseX` is declared into the root namespace `Relab`.  Nothing here speaks of the store layer: what `synEqS`
  answers on hole-free terms (`OracleLemmas.synEqS_ans` … `unifyS_refl_holeFree`) stands in `Lemmas/StoreRead.lean`.
-/

namespace OracleLemmas

mutual
def eraseX : Tm → Tm
  | .lam _ im _ b => .lam 0 im .type (eraseX b)
  | .pi _ im d b => .pi 0 im (eraseX d) (eraseX b)
  | .app f a => .app (eraseX f) (eraseX a)
  | .letg ds b => .letg (eraseDefsX ds) (eraseX b)
  | .neg a => .neg (eraseX a)
  | .bin op a b => .bin op (eraseX a) (eraseX b)
  | .ite c t e => .ite (eraseX c) (eraseX t) (eraseX e)
  | .var _ i => .var 0 i
  | .hole i s => .hole i s
  | .type => .type
  | .int => .int
  | .bool => .bool
  | .tt => .tt
  | .ff => .ff
  | .lit n => .lit n
def eraseDefsX : Defs → Defs
  | .nil => .nil
  | .cons _ _ d r => .cons 0 .type (eraseX d) (eraseDefsX r)
end

def _root_.Relab.eraseX : Relab := { nm := fun _ => 0, hole := some fun i => i, ann := false }

theorem eraseX_eq_relab_both :
    (∀ t : Tm, eraseX t = t.relab .eraseX) ∧ ∀ ds : Defs, eraseDefsX ds = ds.relab .eraseX := by
  apply Tm.rec_both <;> intros <;> simp only [eraseX, eraseDefsX, Tm.relab, Defs.relab, *] <;> rfl

theorem eraseX_eq_relab (t : Tm) : eraseX t = t.relab .eraseX := eraseX_eq_relab_both.1 t
theorem eraseDefsX_eq_relab (ds : Defs) : eraseDefsX ds = ds.relab .eraseX := eraseX_eq_relab_both.2 ds

mutual
theorem sameX_iff : ∀ (a b : Tm), sameX a b = true ↔ eraseX a = eraseX b
  | .hole .., t | .type, t | .int, t | .bool, t | .tt, t | .ff, t | .lit _, t | .var .., t => by
      cases t <;> simp [sameX, eraseX]
  | .lam x im d b, t => by cases t <;> simp [sameX, eraseX, sameX_iff b]
  | .pi x im d b, t | .bin x d b, t => by
      cases t <;> simp [sameX, eraseX, sameX_iff d, sameX_iff b, and_assoc]
  | .app f a, t => by cases t <;> simp [sameX, eraseX, sameX_iff f, sameX_iff a]
  | .letg ds b, t => by cases t <;> simp [sameX, eraseX, sameDefsX_iff ds, sameX_iff b]
  | .neg a, t => by cases t <;> simp [sameX, eraseX, sameX_iff a]
  | .ite c a b, t => by
      cases t <;> simp [sameX, eraseX, sameX_iff c, sameX_iff a, sameX_iff b, and_assoc]
theorem sameDefsX_iff : ∀ (a b : Defs), sameDefsX a b = true ↔ eraseDefsX a = eraseDefsX b
  | .nil, t => by cases t <;> simp [sameDefsX, eraseDefsX]
  | .cons x a d r, t => by
      cases t <;> simp [sameDefsX, eraseDefsX, sameX_iff d, sameDefsX_iff r]
end

theorem sameX_refl (t : Tm) : sameX t t = true := (sameX_iff t t).2 rfl
theorem sameDefsX_refl (t : Defs) : sameDefsX t t = true := (sameDefsX_iff t t).2 rfl

theorem sameX_symm (a b : Tm) : sameX a b = sameX b a := by
  rw [Bool.eq_iff_iff, sameX_iff, sameX_iff]
  exact eq_comm

theorem sameX_trans {a b c : Tm} (h1 : sameX a b = true) (h2 : sameX b c = true) :
    sameX a c = true :=
  (sameX_iff a c).2 (((sameX_iff a b).1 h1).trans ((sameX_iff b c).1 h2))

/-! An answer of `whnfX`, arm by arm: `.1` inverts a run at fuel `f + 1` into runs at fuel `f`, `.2` builds one. -/

theorem whnfX_var_some {f : Nat} {Δ : DCtxX} {x : Name} {i : Nat} {r : Tm} :
    whnfX (f+1) Δ (.var x i) = some r ↔
      (Δ[i]? = some none ∧ r = .var x i) ∨
      ∃ d off, Δ[i]? = some (some (d, off)) ∧ ¬ i + 1 < off ∧ whnfX f Δ (ushift 0 (i + 1 - off) d) = some r := by
  simp only [whnfX]
  split
  · rename_i hg; simp [hg]
  · rename_i hg; simp [hg, eq_comm]
  · rename_i d off hg
    rw [hg]
    constructor
    · intro h
      split at h
      · cases h
      · exact .inr ⟨d, off, rfl, ‹_›, h⟩
    · rintro (⟨e, -⟩ | ⟨d', off', e, hlt, h⟩)
      · cases e
      · cases e; rw [if_neg hlt]; exact h

theorem whnfX_app_some {f : Nat} {Δ : DCtxX} {g a r : Tm} :
    whnfX (f+1) Δ (.app g a) = some r ↔ ∃ g', whnfX f Δ g = some g' ∧
      ((∃ x im d body, g' = .lam x im d body ∧ whnfX f Δ (openT body 0 a 0) = some r) ∨
       ((∀ x im d body, g' ≠ .lam x im d body) ∧ r = .app g' a)) := by
  simp only [whnfX]
  cases whnfX f Δ g with
  | none => simp
  | some g' =>
    simp only [Option.some.injEq, exists_eq_left']
    constructor
    · intro h
      cases g' <;> first | exact .inl ⟨_, _, _, _, rfl, h⟩ | exact .inr ⟨nofun, (Option.some.inj h).symm⟩
    · rintro (⟨x, im, d, body, rfl, h⟩ | ⟨hn, rfl⟩)
      · exact h
      · cases g' <;> first | rfl | exact (hn _ _ _ _ rfl).elim

theorem whnfX_letg_some {f : Nat} {Δ : DCtxX} {ds : Defs} {b r : Tm} :
    whnfX (f+1) Δ (.letg ds b) = some r ↔ ∃ b', letAllX (f+1) ds b = some b' ∧ whnfX f Δ b' = some r := by
  simp only [whnfX]
  cases letAllX (f+1) ds b <;> simp

theorem whnfX_neg_some {f : Nat} {Δ : DCtxX} {a r : Tm} :
    whnfX (f+1) Δ (.neg a) = some r ↔ ∃ a', whnfX f Δ a = some a' ∧
      ((∃ n, a' = .lit n ∧ r = .lit (-n)) ∨ ((∀ n, a' ≠ .lit n) ∧ r = .neg a')) := by
  simp only [whnfX]
  cases whnfX f Δ a with
  | none => simp
  | some a' =>
    simp only [Option.some.injEq, exists_eq_left']
    constructor
    · intro h
      cases a' <;> first | exact .inl ⟨_, rfl, (Option.some.inj h).symm⟩ | exact .inr ⟨nofun, (Option.some.inj h).symm⟩
    · rintro (⟨n, rfl, rfl⟩ | ⟨hn, rfl⟩)
      · rfl
      · cases a' <;> first | rfl | exact (hn _ rfl).elim

theorem whnfX_bin_some {f : Nat} {Δ : DCtxX} {op : BinOp} {a b r : Tm} :
    whnfX (f+1) Δ (.bin op a b) = some r ↔ ∃ a' b', whnfX f Δ a = some a' ∧ whnfX f Δ b = some b' ∧
      ((∃ x y, a' = .lit x ∧ b' = .lit y ∧ delta op x y = some r) ∨
       ((∀ x y, a' = .lit x → b' = .lit y → delta op x y = none) ∧ r = .bin op a' b')) := by
  simp only [whnfX]
  cases whnfX f Δ a with
  | none => simp
  | some a' =>
    cases whnfX f Δ b with
    | none => cases a' <;> simp
    | some b' =>
      constructor
      · intro h
        refine ⟨a', b', rfl, rfl, ?_⟩
        split at h
        · rename_i x y e1 e2
          cases e1; cases e2
          split at h
          · rename_i rr hd; cases h; exact .inl ⟨x, y, rfl, rfl, hd⟩
          · rename_i hd; cases h; exact .inr ⟨fun _ _ e1 e2 => by cases e1; cases e2; exact hd, rfl⟩
        · rename_i a'' b'' hn e1 e2
          cases e1; cases e2; cases h
          exact .inr ⟨fun x y e1 e2 => (hn x y (by rw [e1]) (by rw [e2])).elim, rfl⟩
        · rename_i hn; exact (hn _ _ rfl rfl).elim
      · rintro ⟨a'', b'', e1, e2, hr⟩
        cases e1; cases e2
        rcases hr with ⟨x, y, rfl, rfl, hd⟩ | ⟨hn, rfl⟩
        · simp only [hd]
        · split
          · rename_i x y e1 e2
            cases e1; cases e2
            rw [hn x y rfl rfl]
          · rename_i e1 e2; cases e1; cases e2; rfl
          · rename_i hn'; exact (hn' _ _ rfl rfl).elim

theorem whnfX_ite_some {f : Nat} {Δ : DCtxX} {c a b r : Tm} :
    whnfX (f+1) Δ (.ite c a b) = some r ↔ ∃ c', whnfX f Δ c = some c' ∧
      ((c' = .tt ∧ whnfX f Δ a = some r) ∨ (c' = .ff ∧ whnfX f Δ b = some r) ∨
       (c' ≠ .tt ∧ c' ≠ .ff ∧ r = .ite c' a b)) := by
  simp only [whnfX]
  cases whnfX f Δ c with
  | none => simp
  | some c' =>
    simp only [Option.some.injEq, exists_eq_left']
    constructor
    · intro h
      cases c' <;> first
        | exact .inl ⟨rfl, h⟩ | exact .inr (.inl ⟨rfl, h⟩)
        | exact .inr (.inr ⟨nofun, nofun, (Option.some.inj h).symm⟩)
    · rintro (⟨rfl, h⟩ | ⟨rfl, h⟩ | ⟨h1, h2, rfl⟩)
      · exact h
      · exact h
      · cases c' <;> first | rfl | exact (h1 rfl).elim | exact (h2 rfl).elim

/-- what `convX (f+1)` does with the two weak head normal forms (verbatim); with `convX_succ`: one step of `convX` is
the syntactic shortcut, normalisation of both sides, and this comparison of the heads -/
def convHead (f : Nat) (Δ : DCtxX) (wa wb : Tm) : Option Bool :=
      match wa, wb with
      | .hole .., _ => some true
      | _, .hole .. => some true
      | .type, .type | .int, .int | .bool, .bool | .tt, .tt | .ff, .ff => some true
      | .lit n, .lit m => some (n == m)
      | .var _ i, .var _ j => some (i == j)
      | .lam _ im _ b1, .lam _ jm _ b2 => if im == jm then convX f (none :: Δ) b1 b2 else some false
      | .pi _ im d1 c1, .pi _ jm d2 c2 =>
          if im == jm then
            match convX f Δ d1 d2 with
            | some true => convX f (none :: Δ) c1 c2
            | r => r
          else some false
      | .app f1 a1, .app f2 a2 =>
          match convX f Δ f1 f2 with
          | some true => convX f Δ a1 a2
          | r => r
      | .neg a1, .neg a2 => convX f Δ a1 a2
      | .bin o1 a1 b1, .bin o2 a2 b2 =>
          if o1 == o2 then
            match convX f Δ a1 a2 with
            | some true => convX f Δ b1 b2
            | r => r
          else some false
      | .ite c1 a1 b1, .ite c2 a2 b2 =>
          match convX f Δ c1 c2 with
          | some true =>
            match convX f Δ a1 a2 with
            | some true => convX f Δ b1 b2
            | r => r
          | r => r
      | _, _ => some false

theorem convX_succ (f : Nat) (Δ : DCtxX) (a b : Tm) :
    convX (f+1) Δ a b =
      if sameX a b then some true else
      match whnfX f Δ a, whnfX f Δ b with
      | some wa, some wb => convHead f Δ wa wb
      | _, _ => none := by
  unfold convX convHead
  rfl

/-- the two ways `convHead` combines answers: in sequence, and behind a test -/
theorem seq_eq_true {x y : Option Bool} :
    (match x with | some true => y | r => r) = some true ↔ x = some true ∧ y = some true := by
  rcases x with _ | _ | _ <;> simp

theorem seq_ne_false {x y : Option Bool} : x ≠ some false → y ≠ some false →
    (match x with | some true => y | r => r) ≠ some false := by
  intro hx hy
  cases x with
  | none => simp
  | some b => cases b <;> simp_all

theorem guard_eq_true {c : Bool} {x : Option Bool} :
    (if c = true then x else some false) = some true ↔ c = true ∧ x = some true := by
  cases c <;> simp

/-- an answer of `convX` at fuel `f + 1`: by the syntactic shortcut, or by the heads of the two normal forms -/
theorem convX_some {f : Nat} {Δ : DCtxX} {a b : Tm} {r : Bool} : convX (f+1) Δ a b = some r ↔
    (sameX a b = true ∧ r = true) ∨
    (sameX a b = false ∧ ∃ wa wb, whnfX f Δ a = some wa ∧ whnfX f Δ b = some wb ∧ convHead f Δ wa wb = some r) := by
  rw [convX_succ]
  cases sameX a b
  · simp only [Bool.false_eq_true, if_false, false_and, false_or, true_and]
    cases whnfX f Δ a <;> cases whnfX f Δ b <;> simp
  · simp [eq_comm]

/-- `convX` is symmetric (holes included: the two hole arms are symmetric as a pair) -/
theorem convX_symm : ∀ (f : Nat) (Δ : DCtxX) (a b : Tm), convX f Δ a b = convX f Δ b a := by
  intro f
  induction f with
  | zero => intro Δ a b; simp [convX]
  | succ f ih =>
    intro Δ a b
    rw [convX_succ, convX_succ, sameX_symm b a]
    split
    · rfl
    · cases whnfX f Δ a with
      | none => cases whnfX f Δ b <;> rfl
      | some wa =>
        cases whnfX f Δ b with
        | none => rfl
        | some wb =>
          simp only
          cases wa <;> cases wb <;> simp only [convHead]
          case lit.lit n m => rw [BEq.comm (a := n)]
          case var.var x i y j => rw [BEq.comm (a := i)]
          case lam.lam x1 i1 d1 b1 x2 i2 d2 b2 =>
            rw [BEq.comm (a := i1), ih (none :: Δ) b1 b2]
          case pi.pi x1 i1 d1 b1 x2 i2 d2 b2 =>
            rw [BEq.comm (a := i1), ih Δ d1 d2, ih (none :: Δ) b1 b2]
          case app.app f1 a1 f2 a2 => rw [ih Δ f1 f2, ih Δ a1 a2]
          case neg.neg a1 a2 => exact ih Δ a1 a2
          case bin.bin o1 a1 b1 o2 a2 b2 =>
            rw [BEq.comm (a := o1), ih Δ a1 a2, ih Δ b1 b2]
          case ite.ite c1 a1 b1 c2 a2 b2 => rw [ih Δ c1 c2, ih Δ a1 a2, ih Δ b1 b2]

/-! `inferX` is a program in the `Except` monad: one equation per arm (the constants and the variable arm hold by
`rfl`); answers are read off through `bind_eq_ok`, a map of the answer is pushed through by `map_bind` / `bind_map`. -/

theorem bind_eq_ok {ε α β} {x : Except ε α} {k : α → Except ε β} {r : β} :
    x.bind k = .ok r ↔ ∃ v, x = .ok v ∧ k v = .ok r := by
  cases x <;> simp [Except.bind]

theorem map_bind {ε α β γ} (x : Except ε α) (k : α → Except ε β) (g : β → γ) :
    (x.bind k).map g = x.bind fun v => (k v).map g := by cases x <;> rfl

theorem bind_map {ε α β γ} (x : Except ε α) (g : α → β) (k : β → Except ε γ) :
    (x.map g).bind k = x.bind fun v => k (g v) := by cases x <;> rfl

theorem bind_ok {ε α β} (x : Except ε α) (g : α → β) : (x.bind fun v => .ok (g v)) = x.map g := by
  cases x <;> rfl

theorem map_id' {ε α} (r : Except ε α) : r.map (fun x => x) = r := by cases r <;> rfl

theorem map_map' {ε α β γ} (g : β → γ) (h : α → β) (r : Except ε α) :
    (r.map h).map g = r.map (fun x => g (h x)) := by cases r <;> rfl

theorem map_inj {ε α β} {g : α → β} (hg : ∀ a b, g a = g b → a = b) {r s : Except ε α}
    (h : r.map g = s.map g) : r = s := by
  cases r <;> cases s <;> simp only [Except.map] at h
  · injection h with h; rw [h]
  · cases h
  · cases h
  · injection h with h; rw [hg _ _ h]

section Arms
variable (f : Nat) (Γ : TCtxX) (Δ : DCtxX)

theorem inferX_var (x : Name) (i : Nat) : inferX (f+1) Γ Δ (.var x i) =
    match Γ[i]? with
    | none => .error .scope
    | some (ty, off) => if i + 1 < off then .error .scope else .ok (ushift 0 (i + 1 - off) ty) := rfl

theorem inferX_lam (x : Name) (im : Bool) (d b : Tm) : inferX (f+1) Γ Δ (.lam x im d b) =
    (inferX f Γ Δ d).bind fun dty => (isTypeX f Δ dty).bind fun _ =>
      (inferX f ((d, 0) :: Γ) (none :: Δ) b).bind fun cod => .ok (.pi x im d cod) := by
  rw [inferX]
  cases inferX f Γ Δ d <;> try rfl
  dsimp only [Except.bind]
  cases isTypeX f Δ _ <;> try rfl
  dsimp only
  cases inferX f ((d, 0) :: Γ) (none :: Δ) b <;> rfl

theorem inferX_pi (x : Name) (im : Bool) (d c : Tm) : inferX (f+1) Γ Δ (.pi x im d c) =
    (inferX f Γ Δ d).bind fun dty => (isTypeX f Δ dty).bind fun _ =>
      (inferX f ((d, 0) :: Γ) (none :: Δ) c).bind fun cty =>
        (isTypeX f (none :: Δ) cty).bind fun _ => .ok .type := by
  rw [inferX]
  cases inferX f Γ Δ d <;> try rfl
  dsimp only [Except.bind]
  cases isTypeX f Δ _ <;> try rfl
  dsimp only
  cases inferX f ((d, 0) :: Γ) (none :: Δ) c <;> try rfl
  dsimp only
  cases isTypeX f (none :: Δ) _ <;> rfl

theorem inferX_app (g a : Tm) : inferX (f+1) Γ Δ (.app g a) =
    (inferX f Γ Δ g).bind fun gty =>
      match whnfX f Δ gty with
      | none => .error .fuel
      | some (.pi _ _ dom cod) =>
          (inferX f Γ Δ a).bind fun aty => (expectX f Δ aty dom .argMismatch).bind fun _ =>
            .ok (openT cod 0 a 0)
      | some (.hole id sh) => (inferX f Γ Δ a).bind fun _ => .ok (.hole id sh)
      | some _ => .error .notFunction := by
  rw [inferX]
  cases inferX f Γ Δ g <;> try rfl
  dsimp only [Except.bind]
  cases whnfX f Δ _ with
  | none => rfl
  | some w =>
    cases w <;> try rfl
    · cases inferX f Γ Δ a <;> rfl
    · cases inferX f Γ Δ a <;> try rfl
      dsimp only
      cases expectX f Δ _ _ _ <;> rfl

theorem inferX_letg (ds : Defs) (b : Tm) : inferX (f+1) Γ Δ (.letg ds b) =
    (inferDefsX f (pushGroupX ds 0 (Γ, Δ)).1 (pushGroupX ds 0 (Γ, Δ)).2 ds).bind fun _ =>
      (inferX f (pushGroupX ds 0 (Γ, Δ)).1 (pushGroupX ds 0 (Γ, Δ)).2 b).bind fun bty =>
        .ok (.letg ds bty) := by
  rw [inferX]
  dsimp only
  cases inferDefsX f (pushGroupX ds 0 (Γ, Δ)).1 (pushGroupX ds 0 (Γ, Δ)).2 ds <;> try rfl
  dsimp only [Except.bind]
  cases inferX f (pushGroupX ds 0 (Γ, Δ)).1 (pushGroupX ds 0 (Γ, Δ)).2 b <;> rfl

theorem inferX_neg (a : Tm) : inferX (f+1) Γ Δ (.neg a) =
    (inferX f Γ Δ a).bind fun aty => (expectX f Δ aty .int .notInt).bind fun _ => .ok .int := by
  rw [inferX]
  cases inferX f Γ Δ a <;> try rfl
  dsimp only [Except.bind]
  cases expectX f Δ _ _ _ <;> rfl

theorem inferX_bin (op : BinOp) (a b : Tm) : inferX (f+1) Γ Δ (.bin op a b) =
    (inferX f Γ Δ a).bind fun aty => (expectX f Δ aty .int .notInt).bind fun _ =>
      (inferX f Γ Δ b).bind fun bty => (expectX f Δ bty .int .notInt).bind fun _ =>
        .ok (binResult op) := by
  conv => lhs; unfold inferX
  dsimp only
  cases inferX f Γ Δ a <;> try rfl
  dsimp only [Except.bind]
  cases expectX f Δ _ _ _ <;> try rfl
  dsimp only
  cases inferX f Γ Δ b <;> try rfl
  dsimp only
  cases expectX f Δ _ _ _ with
  | error _ => rfl
  | ok _ => cases op <;> rfl

theorem inferX_ite (c a b : Tm) : inferX (f+1) Γ Δ (.ite c a b) =
    (inferX f Γ Δ c).bind fun cty => (expectX f Δ cty .bool .notBool).bind fun _ =>
      (inferX f Γ Δ a).bind fun aty => (inferX f Γ Δ b).bind fun bty =>
        (expectX f Δ aty bty .branches).bind fun _ => .ok aty := by
  rw [inferX]
  cases inferX f Γ Δ c <;> try rfl
  dsimp only [Except.bind]
  cases expectX f Δ _ _ _ <;> try rfl
  dsimp only
  cases inferX f Γ Δ a <;> try rfl
  dsimp only
  cases inferX f Γ Δ b <;> try rfl
  dsimp only
  cases expectX f Δ _ _ _ <;> rfl

theorem inferDefsX_cons (x : Name) (ann d : Tm) (r : Defs) : inferDefsX (f+1) Γ Δ (.cons x ann d r) =
    (inferX f Γ Δ ann).bind fun annTy => (isTypeX f Δ annTy).bind fun _ =>
      (inferX f Γ Δ d).bind fun dty => (expectX f Δ dty ann .defMismatch).bind fun _ =>
        inferDefsX f Γ Δ r := by
  rw [inferDefsX]
  cases inferX f Γ Δ ann <;> try rfl
  dsimp only [Except.bind]
  cases isTypeX f Δ _ <;> try rfl
  dsimp only
  cases inferX f Γ Δ d <;> try rfl
  dsimp only
  cases expectX f Δ _ _ _ <;> rfl

end Arms

section Inversion
variable {f : Nat} {Γ : TCtxX} {Δ : DCtxX} {T : Tm}

theorem inferX_ok_succ {t : Tm} (h : inferX f Γ Δ t = .ok T) : ∃ f', f = f' + 1 := by
  cases f with
  | zero => cases h
  | succ f' => exact ⟨f', rfl⟩

theorem inferDefsX_ok_succ {ds : Defs} {u : Unit} (h : inferDefsX f Γ Δ ds = .ok u) : ∃ f', f = f' + 1 := by
  cases f with
  | zero => cases h
  | succ f' => exact ⟨f', rfl⟩

theorem inferX_var_inv {x : Name} {i : Nat} (h : inferX (f+1) Γ Δ (.var x i) = .ok T) :
    ∃ ty off, Γ[i]? = some (ty, off) ∧ ¬ i + 1 < off ∧ T = ushift 0 (i + 1 - off) ty := by
  rw [inferX_var] at h
  repeat (split at h <;> try (cases h; done))
  cases h
  exact ⟨_, _, ‹_›, ‹_›, rfl⟩

theorem inferX_lam_inv {x : Name} {im : Bool} {d b : Tm}
    (h : inferX (f+1) Γ Δ (.lam x im d b) = .ok T) :
    ∃ dty cod, inferX f Γ Δ d = .ok dty ∧ isTypeX f Δ dty = .ok () ∧
      inferX f ((d, 0) :: Γ) (none :: Δ) b = .ok cod ∧ T = .pi x im d cod := by
  simp only [inferX_lam, bind_eq_ok, Except.ok.injEq] at h
  obtain ⟨dty, h1, _, h2, cod, h3, rfl⟩ := h
  exact ⟨dty, cod, h1, h2, h3, rfl⟩

theorem inferX_pi_inv {x : Name} {im : Bool} {d c : Tm}
    (h : inferX (f+1) Γ Δ (.pi x im d c) = .ok T) :
    ∃ dty cty, inferX f Γ Δ d = .ok dty ∧ isTypeX f Δ dty = .ok () ∧
      inferX f ((d, 0) :: Γ) (none :: Δ) c = .ok cty ∧ isTypeX f (none :: Δ) cty = .ok () ∧
      T = .type := by
  simp only [inferX_pi, bind_eq_ok, Except.ok.injEq] at h
  obtain ⟨dty, h1, _, h2, cty, h3, _, h4, rfl⟩ := h
  exact ⟨dty, cty, h1, h2, h3, h4, rfl⟩

theorem inferX_app_inv {g a : Tm} (h : inferX (f+1) Γ Δ (.app g a) = .ok T) :
    ∃ gty W aty, inferX f Γ Δ g = .ok gty ∧ whnfX f Δ gty = some W ∧ inferX f Γ Δ a = .ok aty ∧
      ((∃ x im dom cod, W = .pi x im dom cod ∧ expectX f Δ aty dom .argMismatch = .ok () ∧
          T = openT cod 0 a 0) ∨
        (∃ id sh, W = .hole id sh ∧ T = .hole id sh)) := by
  rw [inferX_app, bind_eq_ok] at h
  obtain ⟨gty, h1, h⟩ := h
  split at h
  · cases h
  · simp only [bind_eq_ok, Except.ok.injEq] at h
    obtain ⟨aty, h2, _, h3, rfl⟩ := h
    exact ⟨_, _, _, h1, ‹_›, h2, .inl ⟨_, _, _, _, rfl, h3, rfl⟩⟩
  · simp only [bind_eq_ok, Except.ok.injEq] at h
    obtain ⟨aty, h2, rfl⟩ := h
    exact ⟨_, _, _, h1, ‹_›, h2, .inr ⟨_, _, rfl, rfl⟩⟩
  · cases h

theorem inferX_letg_inv {ds : Defs} {b : Tm} (h : inferX (f+1) Γ Δ (.letg ds b) = .ok T) :
    ∃ bty, inferDefsX f (pushGroupX ds 0 (Γ, Δ)).1 (pushGroupX ds 0 (Γ, Δ)).2 ds = .ok () ∧
      inferX f (pushGroupX ds 0 (Γ, Δ)).1 (pushGroupX ds 0 (Γ, Δ)).2 b = .ok bty ∧
      T = .letg ds bty := by
  simp only [inferX_letg, bind_eq_ok, Except.ok.injEq] at h
  obtain ⟨_, h1, bty, h2, rfl⟩ := h
  exact ⟨bty, h1, h2, rfl⟩

theorem inferX_neg_inv {a : Tm} (h : inferX (f+1) Γ Δ (.neg a) = .ok T) :
    ∃ aty, inferX f Γ Δ a = .ok aty ∧ expectX f Δ aty .int .notInt = .ok () ∧ T = .int := by
  simp only [inferX_neg, bind_eq_ok, Except.ok.injEq] at h
  obtain ⟨aty, h1, _, h2, rfl⟩ := h
  exact ⟨aty, h1, h2, rfl⟩

theorem inferX_bin_inv {op : BinOp} {a b : Tm} : inferX (f+1) Γ Δ (.bin op a b) = .ok T →
    ∃ aty bty, inferX f Γ Δ a = .ok aty ∧ expectX f Δ aty .int .notInt = .ok () ∧
      inferX f Γ Δ b = .ok bty ∧ expectX f Δ bty .int .notInt = .ok () ∧
      T = binResult op := by
  intro h
  simp only [inferX_bin, bind_eq_ok, Except.ok.injEq] at h
  obtain ⟨aty, h1, _, h2, bty, h3, _, h4, rfl⟩ := h
  exact ⟨aty, bty, h1, h2, h3, h4, rfl⟩

theorem inferX_ite_inv {c a b : Tm} (h : inferX (f+1) Γ Δ (.ite c a b) = .ok T) :
    ∃ cty bty, inferX f Γ Δ c = .ok cty ∧ expectX f Δ cty .bool .notBool = .ok () ∧
      inferX f Γ Δ a = .ok T ∧ inferX f Γ Δ b = .ok bty ∧
      expectX f Δ T bty .branches = .ok () := by
  simp only [inferX_ite, bind_eq_ok, Except.ok.injEq] at h
  obtain ⟨cty, h1, _, h2, aty, h3, bty, h4, _, h5, rfl⟩ := h
  exact ⟨cty, bty, h1, h2, h3, h4, h5⟩

theorem inferDefsX_cons_inv {x : Name} {ann d : Tm} {r : Defs}
    (h : inferDefsX (f+1) Γ Δ (.cons x ann d r) = .ok ()) :
    ∃ annTy dty, inferX f Γ Δ ann = .ok annTy ∧ isTypeX f Δ annTy = .ok () ∧
      inferX f Γ Δ d = .ok dty ∧ expectX f Δ dty ann .defMismatch = .ok () ∧
      inferDefsX f Γ Δ r = .ok () := by
  simp only [inferDefsX_cons, bind_eq_ok] at h
  obtain ⟨annTy, h1, _, h2, dty, h3, _, h4, h5⟩ := h
  exact ⟨annTy, dty, h1, h2, h3, h4, h5⟩
end Inversion

theorem expectX_ok {f : Nat} {Δ : DCtxX} {a b : Tm} {e : XErr} {u : Unit}
    (h : expectX f Δ a b e = .ok u) : convX f Δ a b = some true := by
  unfold expectX at h
  split at h <;> first | assumption | cases h

theorem isTypeX_ok {f : Nat} {Δ : DCtxX} {ty : Tm} {u : Unit} (h : isTypeX f Δ ty = .ok u) :
    convX f Δ ty .type = some true :=
  expectX_ok (e := .notType) h

theorem pushGroupX_go_length : ∀ (ds : Defs) (k : Nat) (Γ : TCtxX) (Δ : DCtxX),
    (pushGroupX.go ds k (Γ, Δ)).1.length = Γ.length + ds.len ∧
    (pushGroupX.go ds k (Γ, Δ)).2.length = Δ.length + ds.len
  | .nil, k, Γ, Δ => by simp [pushGroupX.go]
  | .cons x a d r, k, Γ, Δ => by
      have ih := pushGroupX_go_length r (k - 1) ((a, k) :: Γ) (some (d, k) :: Δ)
      simp only [pushGroupX.go, Defs.len_cons]
      simp only [List.length_cons] at ih
      omega

theorem pushGroupX_length (ds : Defs) (n : Nat) (Γ Γ' : TCtxX) (Δ Δ' : DCtxX)
    (h : pushGroupX ds n (Γ, Δ) = (Γ', Δ')) :
    Γ'.length = Γ.length + ds.len ∧ Δ'.length = Δ.length + ds.len := by
  have := pushGroupX_go_length ds ds.len Γ Δ
  have e : pushGroupX ds n (Γ, Δ) = pushGroupX.go ds ds.len (Γ, Δ) := rfl
  rw [← e, h] at this
  exact this

theorem inferX_scoped_aux : ∀ (f : Nat),
    (∀ (Γ : TCtxX) (Δ : DCtxX) (t T : Tm), t.holeFree = true → inferX f Γ Δ t = .ok T →
      wellScoped Γ.length t = true) ∧
    (∀ (Γ : TCtxX) (Δ : DCtxX) (ds : Defs), ds.holeFree = true → inferDefsX f Γ Δ ds = .ok () →
      wellScopedDefs Γ.length ds = true) := by
  intro f
  induction f with
  | zero =>
    constructor
    · intro Γ Δ t T _ h; cases h
    · intro Γ Δ ds _ h; cases h
  | succ f ih =>
    obtain ⟨ih1, ih2⟩ := ih
    constructor
    · intro Γ Δ t T hf h
      cases t <;> simp only [Tm.holeFree, Bool.and_eq_true] at hf <;>
        simp only [wellScoped, Bool.and_eq_true]
      case hole => cases hf
      case var x i =>
        obtain ⟨ty, off, hg, _⟩ := inferX_var_inv h
        rcases Nat.lt_or_ge i Γ.length with hlt | hge
        · simpa using hlt
        · rw [List.getElem?_eq_none hge] at hg; cases hg
      case lam x im d b =>
        obtain ⟨_, _, h1, _, h3, _⟩ := inferX_lam_inv h
        exact ⟨ih1 _ _ d _ hf.1 h1, ih1 _ _ b _ hf.2 h3⟩
      case pi x im d b =>
        obtain ⟨_, _, h1, _, h3, _⟩ := inferX_pi_inv h
        exact ⟨ih1 _ _ d _ hf.1 h1, ih1 _ _ b _ hf.2 h3⟩
      case app g a =>
        obtain ⟨_, _, _, h1, _, h3, _⟩ := inferX_app_inv h
        exact ⟨ih1 _ _ g _ hf.1 h1, ih1 _ _ a _ hf.2 h3⟩
      case letg ds b =>
        obtain ⟨_, h1, h2, _⟩ := inferX_letg_inv h
        rw [← (pushGroupX_length ds 0 Γ _ Δ _ rfl).1]
        exact ⟨ih2 _ _ ds hf.1 h1, ih1 _ _ b _ hf.2 h2⟩
      case neg a =>
        obtain ⟨_, h1, _⟩ := inferX_neg_inv h
        exact ih1 _ _ a _ hf h1
      case bin op a b =>
        obtain ⟨_, _, h1, _, h3, _⟩ := inferX_bin_inv h
        exact ⟨ih1 _ _ a _ hf.1 h1, ih1 _ _ b _ hf.2 h3⟩
      case ite c a b =>
        obtain ⟨_, _, h1, _, h3, h4, _⟩ := inferX_ite_inv h
        exact ⟨⟨ih1 _ _ c _ hf.1.1 h1, ih1 _ _ a _ hf.1.2 h3⟩, ih1 _ _ b _ hf.2 h4⟩
    · intro Γ Δ ds hf h
      cases ds <;> simp only [Defs.holeFree, Bool.and_eq_true] at hf <;>
        simp only [wellScopedDefs, Bool.and_eq_true]
      case cons x a d r =>
        obtain ⟨_, _, h1, _, h3, _, h5⟩ := inferDefsX_cons_inv h
        exact ⟨⟨ih1 _ _ a _ hf.1.1 h1, ih1 _ _ d _ hf.1.2 h3⟩, ih2 _ _ r hf.2 h5⟩

theorem sameDefsX_len : ∀ (a b : Defs), sameDefsX a b = true → a.len = b.len
  | .nil, .nil, _ => rfl
  | .nil, .cons .., h => by simp [sameDefsX] at h
  | .cons .., .nil, h => by simp [sameDefsX] at h
  | .cons _ _ _ r, .cons _ _ _ s, h => by
      simp [sameDefsX] at h
      simp [sameDefsX_len r s h.2]

end OracleLemmas
