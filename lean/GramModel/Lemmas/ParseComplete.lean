import GramModel.Lemmas.ParserRet
import GramModel.Lemmas.Tower

/-! # Completeness of the parser model w.r.t. `SegT` (the grammar as written out in `Lemmas/ParserGood.lean`)

For every tower nonterminal `A`: if `SegT toks A a b t` and the token at `b` is not in the extension
set of `A` (the segment is maximal), `parse_A(tokens, a)` returns `t`, `next = b`, confident — by
induction on the length of the segment and up the tower; at each ordered choice the alternatives
tried before the right one fail.  Two of them do not fail on their first token.  `parse_non_dependent_pi`
is tried before `parse_giant_term` and starts with `parse_small_term`: `Comp2` carries what
`parse_small_term` returned at the same start (`SmallInfo`) up the tower: no `->` follows it.
`( x : A ) => …` and `( x : A ) -> …` are tried before a parenthesised group `( x : A = d ; b )`: they parse
`A` as a `jumbo_term` and meet `=` (`CompGJ`: a `giant_term` maximal w.r.t. `extGJ`), so they fail at
every atom (`NB`, `NBAtoms`). -/

namespace PModel
open Unamb

section
variable {toks : Array PTok}

theorem atomStartK_eq_isF (k : PKind) : atomStartK k = isF k := by cases k <;> rfl

/-- the token at `b` is not in `e`; true when `b` is the end of the input -/
def NoExt (toks : Array PTok) (b : Nat) (e : PKind → Bool) : Prop := ∀ k, KAt toks b k → e k = false

theorem NoExt.not {b : Nat} {e : PKind → Bool} (h : NoExt toks b e) {k : PKind} (hk : e k = true) :
    ¬KAt toks b k := fun h' => by rw [h k h'] at hk; cases hk

theorem NoExt.mono {b : Nat} {e e' : PKind → Bool} (h : NoExt toks b e)
    (he : ∀ k, e' k = true → e k = true) : NoExt toks b e' := fun k hk => by
  cases h' : e' k with
  | false => rfl
  | true => have := he k h'; rw [h k hk] at this; cases this

theorem NoExt.of_kat {b : Nat} {e : PKind → Bool} {k : PKind} (h : KAt toks b k) (hk : e k = false) :
    NoExt toks b e := fun k' h' => by rw [← KAt.unique h h']; exact hk

theorem NoExt.follow {b : Nat} (h : NoExt toks b isF) : Follow toks b (fun k => !atomStartK k) :=
  fun k hk => by show (!atomStartK k) = true; rw [atomStartK_eq_isF, h k hk]; rfl

def Comp (toks : Array PTok) (A : NT) (n : Nat) : Prop :=
  ∀ a b t, b - a ≤ n → SegT toks A a b t → NoExt toks b (ext A) →
    RetN toks A a ⟨t, b, true⟩ ∧ ∃ r0, RetN toks .smallTerm a r0

/-- the alternative `X` fails on the first token alone when that token has the kind `k` -/
def rejects : NT → PKind → Bool
  | .type, .type_ | .integer, .integer | .boolean, .boolean | .true_, .true_ | .false_, .false_
  | .variable, .identifier _ | .integerLiteral, .integerLiteral _
  | .lambda, .identifier _ | .let_, .identifier _
  | .lambdaImplicit, .leftCurly | .annotatedLambdaImplicit, .leftCurly | .piImplicit, .leftCurly
  | .annotatedLambda, .leftParen | .pi, .leftParen | .group, .leftParen
  | .if_, .if_ | .negation, .minus => false
  | .type, _ | .integer, _ | .boolean, _ | .true_, _ | .false_, _ | .variable, _ | .integerLiteral, _
  | .lambda, _ | .let_, _ | .lambdaImplicit, _ | .annotatedLambdaImplicit, _ | .piImplicit, _
  | .annotatedLambda, _ | .pi, _ | .group, _ | .if_, _ | .negation, _ => true
  | _, _ => false

theorem rejects_fails {a : Nat} {k : PKind} (h : KAt toks a k) :
    ∀ {X : NT}, rejects X k = true → FailsN toks X a
  | .type, hr => leaf_fail rfl (h.ne (fun e => by subst e; cases hr))
  | .integer, hr => leaf_fail rfl (h.ne (fun e => by subst e; cases hr))
  | .boolean, hr => leaf_fail rfl (h.ne (fun e => by subst e; cases hr))
  | .true_, hr => leaf_fail rfl (h.ne (fun e => by subst e; cases hr))
  | .false_, hr => leaf_fail rfl (h.ne (fun e => by subst e; cases hr))
  | .variable, hr => variable_fail (fun x => h.ne (fun e => by subst e; cases hr))
  | .integerLiteral, hr => literal_fail (fun n => h.ne (fun e => by subst e; cases hr))
  | .lambda, hr => lambda_fail (Or.inl fun x => h.ne (fun e => by subst e; cases hr))
  | .let_, hr => let_fail (Or.inl fun x => h.ne (fun e => by subst e; cases hr))
  | .lambdaImplicit, hr => lambdaImplicit_fail (Or.inl (h.ne (fun e => by subst e; cases hr)))
  | .annotatedLambdaImplicit, hr => binder_fail_start bp_ali (Or.inl (h.ne (fun e => by subst e; cases hr)))
  | .piImplicit, hr => binder_fail_start bp_pii (Or.inl (h.ne (fun e => by subst e; cases hr)))
  | .annotatedLambda, hr => binder_fail_start bp_al (Or.inl (h.ne (fun e => by subst e; cases hr)))
  | .pi, hr => binder_fail_start bp_pi (Or.inl (h.ne (fun e => by subst e; cases hr)))
  | .group, hr => group_fail (h.ne (fun e => by subst e; cases hr))
  | .if_, hr => if_fail (h.ne (fun e => by subst e; cases hr))
  | .negation, hr => negation_fail (h.ne (fun e => by subst e; cases hr))

theorem rejects_isFM {k : PKind} (hk : isFM k = true) :
    ∀ X ∈ [NT.lambdaImplicit, .annotatedLambdaImplicit, .piImplicit, .if_], rejects X k = true := by
  intro X hX
  simp only [List.mem_cons, List.mem_nil_iff, or_false] at hX
  rcases hX with rfl | rfl | rfl | rfl <;> cases k <;> first | rfl | cases hk

theorem pre_fail {a : Nat} {k : PKind} (h : KAt toks a k) (pre : List NT)
    (hp : pre.all (rejects · k) = true) : ∀ X ∈ pre, FailsN toks X a :=
  fun X hX => rejects_fails h (List.all_eq_true.mp hp X hX)

theorem atom_leaf_complete {a : Nat} {k : PKind} (h : KAt toks a k) (hl : isLeafK k = true) :
    RetN toks .atom a ⟨leafTree toks a k, a + 1, true⟩ := by
  cases k <;> simp [isLeafK] at hl
  · exact choice_ok [.type, .variable, .integer, .integerLiteral] _ rfl (pre_fail h _ rfl)
      (leaf_ok (nt := .boolean) rfl h) rfl
  · exact choice_ok [.type, .variable, .integer, .integerLiteral, .boolean, .true_] _ rfl
      (pre_fail h _ rfl) (leaf_ok (nt := .false_) rfl h) rfl
  · exact choice_ok [.type] _ rfl (pre_fail h _ rfl) (variable_ok h) rfl
  · exact choice_ok [.type, .variable] _ rfl (pre_fail h _ rfl) (leaf_ok (nt := .integer) rfl h) rfl
  · exact choice_ok [.type, .variable, .integer] _ rfl (pre_fail h _ rfl) (literal_ok h) rfl
  · exact choice_ok [.type, .variable, .integer, .integerLiteral, .boolean] _ rfl (pre_fail h _ rfl)
      (leaf_ok (nt := .true_) rfl h) rfl
  · exact choice_ok [] _ rfl (pre_fail h _ rfl) (leaf_ok (nt := .type) rfl h) rfl

theorem atom_group_complete {a m : Nat} {inner : Src} (h0 : KAt toks a .leftParen)
    (hin : RetN toks .term (a + 1) ⟨inner, m, true⟩) (hi : SegT toks .term (a + 1) m inner)
    (hc : KAt toks m .rightParen) :
    RetN toks .atom a ⟨.mk (rng toks a (m + 1)) true inner.variant [], m + 1, true⟩ := by
  have hf := segT_facts hi
  have hg := group_ok h0 hin hf.2 hc
  rw [show (⟨inner, m, true⟩ : PResult).term.errors = [] from hf.1] at hg
  exact choice_ok [.type, .variable, .integer, .integerLiteral, .boolean, .true_, .false_] [] rfl
    (pre_fail h0 _ rfl) hg hf.2

end

section
variable {toks : Array PTok}

/-- completeness of `parse_A` on maximal segments of length at most `n` -/
def Comp1 (toks : Array PTok) (A : NT) (n : Nat) : Prop :=
  ∀ a b t, b - a ≤ n → SegT toks A a b t → NoExt toks b (ext A) → RetN toks A a ⟨t, b, true⟩

def isOp (k : PKind) : Bool := isMul k || isAdd k || isCmp k

/-- what `parse_small_term` returned at the start of the segment `a … b`: a failure, or a result that
ends at `b` or before an infix operator -/
def SmallInfo (toks : Array PTok) (b : Nat) (r0 : PResult) : Prop :=
  r0.term.isParseError = true ∨ r0.next = b ∨ ∃ k, KAt toks r0.next k ∧ isOp k = true

theorem SmallInfo.step {b m : Nat} {r0 : PResult} {op : PKind} (h : SmallInfo toks m r0)
    (k1 : KAt toks m op) (hop : isOp op = true) : SmallInfo toks b r0 := by
  rcases h with h | h | h
  · exact Or.inl h
  · exact Or.inr (Or.inr ⟨op, h ▸ k1, hop⟩)
  · exact Or.inr (Or.inr h)

/-- completeness of `parse_A` as `Comp1`, together with what `parse_small_term` returned at the same start -/
def Comp2 (toks : Array PTok) (A : NT) (n : Nat) : Prop :=
  ∀ a b t, b - a ≤ n → SegT toks A a b t → NoExt toks b (ext A) →
    RetN toks A a ⟨t, b, true⟩ ∧ ∃ r0, RetN toks .smallTerm a r0 ∧ SmallInfo toks b r0

theorem comp_atom {n : Nat} (hT : Comp1 toks .term n) : Comp1 toks .atom (n + 1) := by
  intro a b t hl h _
  rcases inv_atom h with ⟨k, k1, lk, rfl, rfl⟩ | ⟨m, inner, p1, i1, q1, rfl, rfl⟩
  · exact atom_leaf_complete k1 lk
  · have := i1.lt
    exact atom_group_complete p1 (hT _ _ _ (by omega) i1 (NoExt.of_kat q1 rfl)) i1 q1

theorem comp_small {n : Nat} (hA : Comp1 toks .atom (n + 1)) (hS : Comp1 toks .smallTerm n) :
    Comp1 toks .smallTerm (n + 1) := by
  intro a b t hl h hf
  rcases inv_small h with h1 | ⟨m, f, x, h1, h2, rfl⟩
  · have r := hA _ _ _ hl h1 (fun _ _ => rfl)
    exact r.up_small (segT_facts h1).2 (NoExt.follow hf)
  · have l1 := h1.lt
    have l2 := h2.lt
    have r1 := hA _ _ _ (by omega) h1 (fun _ _ => rfl)
    have r2 := hS _ _ _ (by omega) h2 hf
    have := (application_ok r1 (segT_facts h1).2 r2 (segT_facts h2).2).range (h1.span_seg h2)
    exact choice_ok [] [.atom] rfl (fun _ hX => by cases hX) this rfl

theorem Comp2.comp1 {A : NT} {n : Nat} (h : Comp2 toks A n) : Comp1 toks A n :=
  fun a b t hl hs hf => (h a b t hl hs hf).1

theorem Comp2.anti {A : NT} {n m : Nat} (h : Comp2 toks A n) (hm : m ≤ n) : Comp2 toks A m :=
  fun a b t hl => h a b t (by omega)

theorem comp2_small {n : Nat} (hS : Comp1 toks .smallTerm n) : Comp2 toks .smallTerm n :=
  fun a b t hl h hf => ⟨hS a b t hl h hf, _, hS a b t hl h hf, Or.inr (Or.inl rfl)⟩

/-- Completeness at an operator level: every alternative parses the same `Y` first; the alternatives
before the right one then meet another operator, and when the segment is a bare `Y` no operator
follows it at all. -/
theorem _root_.PModel.Unamb.OpLevel.Ok.comp {L : OpLevel} (hL : L.Ok) {n : Nat}
    (halts : altsOf L.X = L.alts.map (·.1) ++ [L.Y]) (hnd : (L.alts.map (·.2)).Nodup)
    (hop : ∀ p ∈ L.alts, isOp p.2 = true)
    (hY : Comp2 toks L.Y (n + 1)) (hR : Comp1 toks L.R n) : Comp2 toks L.X (n + 1) := by
  intro a b t hl h hf
  rcases hL.inv h with h1 | ⟨m, op, x, y, o1, h1, k1, h2, rfl⟩
  · obtain ⟨r, rs⟩ := hY _ _ _ hl h1 (hf.mono hL.eY)
    refine ⟨choice_ok _ [] halts (fun B hB => ?_) r (segT_facts h1).2, rs⟩
    obtain ⟨p, hp, rfl⟩ := List.mem_map.mp hB
    exact binary_fail_op (hL.prods p hp) r (segT_facts h1).2 (hf.not (hL.sep p hp).1)
  · obtain ⟨p, hp, rfl⟩ := hL.ops_iff.mp o1
    have l1 := h1.lt
    have l2 := h2.lt
    obtain ⟨r1, r0, hr0, hi0⟩ := hY _ _ _ (by omega) h1 (NoExt.of_kat k1 (hL.sep p hp).2)
    have r2 := hR _ _ _ (by omega) h2 (hf.mono hL.eR)
    have nx := (segT_facts h1).2
    have hok := (binary_ok (hL.prods p hp) r1 nx k1 r2).range (h1.span_seg h2)
    rw [(bin_head (hL.prods p hp)).2] at hok
    obtain ⟨pre, post, e⟩ := List.append_of_mem hp
    refine ⟨choice_ok (pre.map (·.1)) (post.map (·.1) ++ [L.Y]) (by rw [halts, e]; simp)
      (fun B hB => ?_) hok rfl, r0, hr0, hi0.step k1 (hop p hp)⟩
    obtain ⟨q, hq, rfl⟩ := List.mem_map.mp hB
    refine binary_fail_op (hL.prods q (by rw [e]; simp [hq])) r1 nx (k1.ne fun e' => ?_)
    rw [e, List.map_append, List.map_cons] at hnd
    exact (List.nodup_append.mp hnd).2.2 _ (List.mem_map_of_mem hq) _ (by simp) e'.symm

theorem comp_medium {n : Nat} (hS : Comp1 toks .smallTerm (n + 1)) (hL : Comp2 toks .largeTerm n) :
    Comp2 toks .mediumTerm (n + 1) :=
  mediumLevel_ok.comp rfl (by decide) (by decide) (comp2_small hS) hL.comp1

theorem comp_large {n : Nat} (hM : Comp2 toks .mediumTerm (n + 1)) (hL : Comp2 toks .largeTerm n) :
    Comp2 toks .largeTerm (n + 1) := by
  intro a b t hl h hf
  rcases inv_large h with h1 | ⟨x, k1, h1, rfl⟩
  · obtain ⟨r, rs⟩ := hM _ _ _ hl h1 hf
    obtain ⟨k, k0, hk⟩ := first_medium h1
    exact ⟨r.up_large (segT_facts h1).2 (k0.ne (by intro e; subst e; simp [isF] at hk)), rs⟩
  · have l1 := h1.lt
    have r1 := (hL _ _ _ (by omega) h1 hf).1
    have := (negation_ok k1 r1).range h1.span_tok
    refine ⟨choice_ok [] [.mediumTerm] rfl (fun _ hX => by cases hX) this rfl, ?_⟩
    obtain ⟨r0, h0, hpe⟩ := small_fails (toks := toks) (b := a) (Follow.of_kat k1 rfl)
    exact ⟨r0, h0, Or.inl hpe⟩

theorem comp_huge {n : Nat} (hL : Comp2 toks .largeTerm (n + 1)) (hH : Comp2 toks .hugeTerm n) :
    Comp2 toks .hugeTerm (n + 1) :=
  hugeLevel_ok.comp rfl (by decide) (by decide) hL hH.comp1

theorem comp_giant {n : Nat} (hH : Comp2 toks .hugeTerm (n + 1)) :
    Comp2 toks .giantTerm (n + 1) :=
  giantLevel_ok.comp rfl (by decide) (by decide) hH (hH.anti (Nat.le_succ n)).comp1

end

/-- leaves, parentheses, the nine binary operators -/
def simpleK : PKind → Bool
  | .type_ | .identifier _ | .integer | .integerLiteral _ | .boolean | .true_ | .false_
  | .leftParen | .rightParen | .asterisk | .slash | .plus | .minus | .lessThan
  | .lessThanOrEqualTo | .doubleEquals | .greaterThan | .greaterThanOrEqualTo => true
  | _ => false

section General
variable {toks : Array PTok}

/-- a `giant_term` that is maximal w.r.t. `extGJ` is what `parse_jumbo_term` returns (the annotation of a
definition is such a segment: it is followed by `=`) -/
def CompGJ (toks : Array PTok) (n : Nat) : Prop :=
  ∀ a b t, b - a ≤ n → SegT toks .giantTerm a b t → NoExt toks b extGJ →
    RetN toks .jumboTerm a ⟨t, b, true⟩

/-- the two `(`-binder functions fail at the start of every atom of length at most `n` -/
def NBAtoms (toks : Array PTok) (n : Nat) : Prop :=
  ∀ a m f, m - a ≤ n → SegT toks .atom a m f → NB toks a

theorem nb_atoms {n : Nat} (hgj : CompGJ toks n) : NBAtoms toks (n + 1) := by
  intro a m f hl h
  rcases inv_atom h with ⟨k, k1, lk, _, _⟩ | ⟨m', inner, p1, i1, q1, rfl, _⟩
  · exact NB.of_start (Or.inl (k1.ne (by intro e; subst e; simp [isLeafK] at lk)))
  · by_cases hx : ∃ x, KAt toks (a + 1) (.identifier x)
    · obtain ⟨x, hx⟩ := hx
      by_cases hc : KAt toks (a + 1 + 1) .colon
      · have li := i1.lt
        rcases inv_term i1 with j | l
        · have := jumbo_ident_next hx hc rfl j
          subst this
          exact absurd (KAt.unique hc q1) (by decide)
        · rcases l.inv with ⟨x', tm, m2, defn, body, k1, k2, d1, k3, b1, _⟩ |
            ⟨x', tm, p, m2, ann, defn, body, k1, k2, s1, k3, d1, k4, b1, _⟩
          · exact absurd (KAt.unique hc k2) (by decide)
          · have l1 := s1.lt
            have l2 := d1.lt
            have l3 := b1.lt
            have hj := hgj _ _ _ (by omega) s1.up (NoExt.of_kat k3 rfl)
            exact NB.of_close hj (segT_facts s1).2 (k3.ne (by decide))
      · exact NB.of_start (Or.inr (Or.inr hc))
    · exact NB.of_start (Or.inr (Or.inl (fun x hx' => hx ⟨x, hx'⟩)))

theorem comp_gj {n : Nat} (hG : Comp2 toks .giantTerm (n + 1)) (hNB : NBAtoms toks (n + 1)) :
    CompGJ toks (n + 1) := by
  intro a b t hl g hf
  have lg := g.lt
  obtain ⟨r, r0, hr0, hi0⟩ := hG _ _ _ hl g (hf.mono (fun k hk => by
    simp only [extGJ, Bool.or_eq_true]; exact Or.inl hk))
  obtain ⟨k, k0, hk⟩ := first_giant g
  refine choice_ok (A := .jumboTerm) [.lambda, .lambdaImplicit, .annotatedLambda, .annotatedLambdaImplicit, .pi,
    .piImplicit, .nonDependentPi, .if_] [] rfl ?_ r (segT_facts g).2
  have hnb : NB toks a := by
    by_cases hp : KAt toks a .leftParen
    · obtain ⟨m, f, hm, hat⟩ := lead_atom g hp rfl
      exact hNB a m f (by omega) hat
    · exact NB.of_start (Or.inl hp)
  intro X hX
  simp only [List.mem_cons, List.mem_nil_iff, or_false] at hX
  rcases hX with rfl | rfl | rfl | rfl | rfl | rfl | rfl | rfl
  · refine lambda_fail ?_
    by_cases hx : ∃ x, KAt toks a (.identifier x)
    · obtain ⟨x, k1⟩ := hx
      right
      intro k2
      exact hf.not (k := .thickArrow) rfl (giant_ident_next k1 k2 rfl g ▸ k2)
    · exact Or.inl (fun x hx' => hx ⟨x, hx'⟩)
  · exact rejects_fails k0 (rejects_isFM hk _ (by decide))
  · exact hnb.1
  · exact rejects_fails k0 (rejects_isFM hk _ (by decide))
  · exact hnb.2
  · exact rejects_fails k0 (rejects_isFM hk _ (by decide))
  · rcases hi0 with h | h | ⟨k', k1', hop⟩
    · exact ndpi_fail_small ⟨r0, hr0, h⟩
    · by_cases hpe : r0.term.isParseError = true
      · exact ndpi_fail_small ⟨r0, hr0, hpe⟩
      · exact ndpi_fail_arrow hr0 (by simpa using hpe) (h ▸ hf.not rfl)
    · by_cases hpe : r0.term.isParseError = true
      · exact ndpi_fail_small ⟨r0, hr0, hpe⟩
      · exact ndpi_fail_arrow hr0 (by simpa using hpe)
          (k1'.ne (by intro e; subst e; simp [isOp, isMul, isAdd, isCmp] at hop))
  · exact rejects_fails k0 (rejects_isFM hk _ (by decide))

theorem extTerm_close {c : PKind} (h : c = .rightParen ∨ c = .rightCurly) : extTerm c = false := by
  rcases h with rfl | rfl <;> rfl

theorem comp_jumbo {n : Nat} (hT : Comp1 toks .term n) (hJ : Comp1 toks .jumboTerm n)
    (hSm : Comp1 toks .smallTerm (n + 1)) (hGJ : CompGJ toks (n + 1))
    (hNB : NBAtoms toks (n + 1)) : Comp1 toks .jumboTerm (n + 1) := by
  intro a b t hl h hf
  have hf' : NoExt toks b extTerm := hf
  rcases inv_jumbo h with g | o
  · exact hGJ _ _ _ hl g (hf'.mono (fun k hk => by
      simp only [extTerm, Bool.or_eq_true]; exact Or.inl hk))
  · rcases o with ⟨x, body, j1, j2, hb, rfl⟩ | ⟨x, body, j1, j2, j3, j4, hb, rfl⟩ |
      ⟨A, o, c, ar, x, m, dom, body, hm, j1, j2, j3, hd, j4, j5, hb, rfl⟩ |
      ⟨m, dom, cod, s, j1, hc, rfl⟩ | ⟨m, c, x, y, z, j1, h1, j2, h2, j3, h3, rfl⟩
    · -- x => T
      have lb := hb.lt
      have rb := hT _ _ _ (by omega) hb hf'
      have := (lambda_ok j1 j2 rb).range hb.span_tok
      exact choice_ok (A := .jumboTerm) [] _ rfl (fun _ hX => by cases hX) this rfl
    · -- {x} => T
      have lb := hb.lt
      have rb := hT _ _ _ (by omega) hb hf'
      have := (lambdaImplicit_ok j1 j2 j3 j4 rb).range hb.span_tok
      exact choice_ok (A := .jumboTerm) [.lambda] _ rfl (pre_fail j1 _ rfl) this rfl
    · -- the four binders
      have ld := hd.lt
      have lb := hb.lt
      have hcl := extTerm_close ((binder_open hm).imp (·.2) (·.2))
      have rd := hJ _ _ _ (by omega) hd (NoExt.of_kat j4 hcl)
      have rb := hT _ _ _ (by omega) hb hf'
      have nd := (segT_facts hd).2
      have hok := (binder_ok hm j1 j2 j3 rd nd j4 j5 rb).range hb.span_tok
      simp only [binderProds, List.mem_cons, Prod.mk.injEq, List.mem_nil_iff, or_false] at hm
      rcases hm with ⟨rfl, rfl, rfl, rfl⟩ | ⟨rfl, rfl, rfl, rfl⟩ | ⟨rfl, rfl, rfl, rfl⟩ |
        ⟨rfl, rfl, rfl, rfl⟩
      · exact choice_ok (A := .jumboTerm) [.lambda, .lambdaImplicit] _ rfl (pre_fail j1 _ rfl) hok rfl
      · refine choice_ok (A := .jumboTerm) [.lambda, .lambdaImplicit, .annotatedLambda] _ rfl ?_ hok rfl
        intro X hX
        simp only [List.mem_cons, List.mem_nil_iff, or_false] at hX
        rcases hX with rfl | rfl | rfl
        · exact rejects_fails j1 rfl
        · exact lambdaImplicit_fail (Or.inr (j3.ne (by decide)))
        · exact rejects_fails j1 rfl
      · refine choice_ok (A := .jumboTerm) [.lambda, .lambdaImplicit, .annotatedLambda, .annotatedLambdaImplicit] _ rfl
          ?_ hok rfl
        intro X hX
        simp only [List.mem_cons, List.mem_nil_iff, or_false] at hX
        rcases hX with rfl | rfl | rfl | rfl
        · exact rejects_fails j1 rfl
        · exact rejects_fails j1 rfl
        · exact binder_fail_close bp_al rd nd (Or.inr (j5.ne (by decide)))
        · exact rejects_fails j1 rfl
      · refine choice_ok (A := .jumboTerm) [.lambda, .lambdaImplicit, .annotatedLambda, .annotatedLambdaImplicit, .pi] _
          rfl ?_ hok rfl
        intro X hX
        simp only [List.mem_cons, List.mem_nil_iff, or_false] at hX
        rcases hX with rfl | rfl | rfl | rfl | rfl
        · exact rejects_fails j1 rfl
        · exact lambdaImplicit_fail (Or.inr (j3.ne (by decide)))
        · exact rejects_fails j1 rfl
        · exact binder_fail_close bp_ali rd nd (Or.inr (j5.ne (by decide)))
        · exact rejects_fails j1 rfl
    · -- S -> T
      have ls := s.lt
      have lc := hc.lt
      have rs := hSm _ _ _ (by omega) s (NoExt.of_kat j1 rfl)
      have rc := hT _ _ _ (by omega) hc hf'
      have ns := (segT_facts s).2
      have hok := (ndpi_ok rs ns j1 rc).range (s.span_seg hc)
      obtain ⟨k, k0, hk⟩ := first_small s
      have hnb : NB toks a := by
        rcases inv_small s with hat | ⟨m1, f, x, hat, h5, _⟩
        · exact hNB a m _ (by omega) hat
        · have := h5.lt
          exact hNB a m1 f (by omega) hat
      refine choice_ok (A := .jumboTerm) [.lambda, .lambdaImplicit, .annotatedLambda, .annotatedLambdaImplicit, .pi,
        .piImplicit] _ rfl ?_ hok rfl
      intro X hX
      simp only [List.mem_cons, List.mem_nil_iff, or_false] at hX
      rcases hX with rfl | rfl | rfl | rfl | rfl | rfl
      · refine lambda_fail ?_
        by_cases hx : ∃ x, KAt toks a (.identifier x)
        · obtain ⟨x, k1⟩ := hx
          right
          intro k2
          have := small_ident_next k1 k2 rfl s
          subst this
          exact absurd (KAt.unique j1 k2) (by decide)
        · exact Or.inl (fun x hx' => hx ⟨x, hx'⟩)
      · exact rejects_fails k0 (rejects_isFM (isFM_of_isF hk) _ (by decide))
      · exact hnb.1
      · exact rejects_fails k0 (rejects_isFM (isFM_of_isF hk) _ (by decide))
      · exact hnb.2
      · exact rejects_fails k0 (rejects_isFM (isFM_of_isF hk) _ (by decide))
    · -- if
      have l1 := h1.lt
      have l2 := h2.lt
      have l3 := h3.lt
      have r1 := hT _ _ _ (by omega) h1 (NoExt.of_kat j2 rfl)
      have r2 := hT _ _ _ (by omega) h2 (NoExt.of_kat j3 rfl)
      have r3 := hT _ _ _ (by omega) h3 hf'
      have hok := (if_ok j1 r1 j2 r2 j3 r3).range h3.span_tok
      refine choice_ok (A := .jumboTerm) ([.lambda, .lambdaImplicit, .annotatedLambda, .annotatedLambdaImplicit,
        .pi, .piImplicit] ++ [.nonDependentPi]) _ rfl (fun X hX => ?_) hok rfl
      rcases List.mem_append.1 hX with hX | hX
      · exact pre_fail j1 _ rfl X hX
      · cases List.mem_singleton.1 hX
        exact ndpi_fail_small (small_fails (Follow.of_kat j1 rfl))

theorem comp_term {n : Nat} (hT : Comp1 toks .term n) (hS : Comp1 toks .smallTerm n)
    (hJ : Comp1 toks .jumboTerm (n + 1)) : Comp1 toks .term (n + 1) := by
  intro a b t hl h hf
  have hf' : NoExt toks b extTerm := hf
  rcases inv_term h with j | l
  · refine (hJ _ _ _ hl j hf).up_term (segT_facts j).2 (let_fail ?_)
    by_cases hx : ∃ x, KAt toks a (.identifier x)
    · obtain ⟨x, k1⟩ := hx
      right
      have key : ∀ k, isDef k = true → ¬KAt toks (a + 1) k := by
        intro k hk k2
        have := jumbo_ident_next k1 k2 hk j
        subst this
        exact hf'.not (k := k) (by simp [extTerm, hk]) k2
      exact ⟨key _ rfl, key _ rfl⟩
    · exact Or.inl (fun x hx' => hx ⟨x, hx'⟩)
  · rcases l.inv with ⟨x, tm, m, defn, body, k1, k2, d1, k3, b1, rfl⟩ |
      ⟨x, tm, p, m, ann, defn, body, k1, k2, s1, k3, d1, k4, b1, rfl⟩
    · have l1 := d1.lt
      have l2 := b1.lt
      have rd := hT _ _ _ (by omega) d1 (NoExt.of_kat k3 (by cases tm <;> rfl))
      have rb := hT _ _ _ (by omega) b1 hf'
      have hok := (let_plain_ok k1 k2 rd k3 rb).range b1.span_tok
      exact choice_ok (A := .term) [] [.jumboTerm] rfl (fun _ hX => by cases hX) hok rfl
    · have l0 := s1.lt
      have l1 := d1.lt
      have l2 := b1.lt
      have rs := hS _ _ _ (by omega) s1 (NoExt.of_kat k3 rfl)
      have rd := hT _ _ _ (by omega) d1 (NoExt.of_kat k4 (by cases tm <;> rfl))
      have rb := hT _ _ _ (by omega) b1 hf'
      have hok := (let_ok k1 k2 rs (segT_facts s1).2 k3 rd k4 rb).range b1.span_tok
      exact choice_ok (A := .term) [] [.jumboTerm] rfl (fun _ hX => by cases hX) hok rfl

/-- what the induction on the length carries: completeness at every level, and `CompGJ` -/
structure CompG (toks : Array PTok) (n : Nat) : Prop where
  atom : Comp1 toks .atom n
  small : Comp1 toks .smallTerm n
  medium : Comp2 toks .mediumTerm n
  large : Comp2 toks .largeTerm n
  huge : Comp2 toks .hugeTerm n
  giant : Comp2 toks .giantTerm n
  gj : CompGJ toks n
  jumbo : Comp1 toks .jumboTerm n
  term : Comp1 toks .term n

theorem compG : ∀ n, CompG toks n
  | 0 => by
    refine ⟨?_, ?_, ?_, ?_, ?_, ?_, ?_, ?_, ?_⟩ <;>
      (intro a b t hl h _; have := h.lt; omega)
  | n + 1 => by
    have ih := compG n
    -- up the tower: a level takes what it starts with at length `n + 1`, what follows a token at length `n`
    have hA := comp_atom ih.term
    have hSm := comp_small hA ih.small
    have hM := comp_medium hSm ih.large
    have hL := comp_large hM ih.large
    have hH := comp_huge hL ih.huge
    have hG := comp_giant hH
    have hNB := nb_atoms ih.gj
    have hGJ := comp_gj hG hNB
    have hJ := comp_jumbo ih.term ih.jumbo hSm hGJ hNB
    exact ⟨hA, hSm, hM, hL, hH, hG, hGJ, hJ, comp_term ih.term ih.small hJ⟩

theorem comp_tower {A : NT} (hA : A ∈ tower) (n : Nat) : Comp1 toks A n := by
  have G := compG (toks := toks) n
  simp only [tower, List.mem_cons, List.not_mem_nil, or_false] at hA
  rcases hA with rfl | rfl | rfl | rfl | rfl | rfl | rfl | rfl
  · exact G.atom
  · exact G.small
  · exact G.medium.comp1
  · exact G.large.comp1
  · exact G.huge.comp1
  · exact G.giant.comp1
  · exact G.jumbo
  · exact G.term

end General

theorem parse_complete {toks : Array PTok} {t : Src} (h : SegT toks .term 0 toks.size t) :
    ∃ r st, runParser toks = some (r, st) ∧ r.term = t ∧ r.next = toks.size ∧
      collectErrors r.term = [] ∧ r.confident = true := by
  have hr := (compG (toks := toks) toks.size).term 0 toks.size t (by omega) h
    (fun k ⟨hlt, _⟩ => absurd hlt (by omega))
  obtain ⟨F, hF⟩ := hr
  obtain ⟨st, hst⟩ := runParser_eq_pure (hF F (Nat.le_refl _) PState.init)
  exact ⟨_, st, hst, rfl, rfl, ce_segT h, rfl⟩

theorem accepted_iff_sentence (toks : Array PTok) :
    ((∃ r st, runParser toks = some (r, st) ∧ r.next = toks.size ∧ collectErrors r.term = []) ↔
      ∃ t, SegT toks .term 0 toks.size t) ∧
    (∀ r st t, runParser toks = some (r, st) → SegT toks .term 0 toks.size t → r.term = t) := by
  refine ⟨⟨?_, ?_⟩, ?_⟩
  · rintro ⟨r, st, hr, hn, hce⟩
    exact ⟨_, hn ▸ runParser_spans hr hce⟩
  · rintro ⟨t, h⟩
    obtain ⟨r, st, hr, _, hn, hce, _⟩ := parse_complete h
    exact ⟨r, st, hr, hn, hce⟩
  · intro r st t hr h
    obtain ⟨r', st', hr', ht, _⟩ := parse_complete h
    cases hr.symm.trans hr'
    exact ht

/-- completeness at the eight tower nonterminals, for segments of length at most `n` -/
structure CompAll (toks : Array PTok) (n : Nat) : Prop where
  atom : Comp1 toks .atom n
  small : Comp1 toks .smallTerm n
  medium : Comp2 toks .mediumTerm n
  large : Comp2 toks .largeTerm n
  huge : Comp2 toks .hugeTerm n
  giant : Comp2 toks .giantTerm n
  jumbo : Comp1 toks .jumboTerm n
  term : Comp1 toks .term n

/-- `parse_complete` with the hypothesis of the operator sublanguage, as `C16_parse_complete_operators` states it -/
theorem parse_complete_simple {toks : Array PTok} {t : Src}
    (_ : ∀ i k, KAt toks i k → simpleK k = true) (h : SegT toks .term 0 toks.size t) :
    ∃ r st, runParser toks = some (r, st) ∧ r.term = t ∧ r.next = toks.size ∧
      collectErrors r.term = [] ∧ r.confident = true :=
  parse_complete h

end PModel
