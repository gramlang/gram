import GramModel.Lemmas.Names
import GramModel.Lemmas.ResolveSteps
import GramModel.Lemmas.ParserNoPanicDefs

/-! Name resolution (`PModel.resolve`) "panics" only on a `ParseError` node, and every hole it
creates outside let-annotations has shift 0 (`resolve_clean`). -/

namespace PModel

/-- `m` never panics, and its result satisfies `P` (from any state). -/
def ROk {α : Type} (m : ResolveM α) (P : α → Prop) : Prop :=
  ∀ st, ∃ a st', m st = some (a, st') ∧ P a

theorem ROk.bind {α β : Type} {m : ResolveM α} {f : α → ResolveM β} {P : α → Prop}
    {Q : β → Prop} (h1 : ROk m P) (h2 : ∀ a, P a → ROk (f a) Q) : ROk (m >>= f) Q := by
  intro st
  obtain ⟨a, s1, e1, pa⟩ := h1 st
  obtain ⟨b, s2, e2, qb⟩ := h2 a pa s1
  exact ⟨b, s2, (StateT_bind_some _ _ _ _ _).2 ⟨a, s1, e1, e2⟩, qb⟩

theorem ROk.pure {α : Type} {a : α} {P : α → Prop} (h : P a) : ROk (Pure.pure a : ResolveM α) P := by
  intro st
  exact ⟨a, st, (StateT_pure_some _ _ _ _).2 ⟨rfl, rfl⟩, h⟩

theorem ROk.mono {α : Type} {m : ResolveM α} {P Q : α → Prop} (h : ROk m P)
    (hpq : ∀ a, P a → Q a) : ROk m Q := by
  intro st
  obtain ⟨a, s1, e1, pa⟩ := h st
  exact ⟨a, s1, e1, hpq a pa⟩

theorem bindName_total (v : SrcVar) (d : Nat) (st : RState) :
    ∃ st', bindName v d st = some ((), st') := by
  unfold bindName
  split
  · exact ⟨_, rfl⟩
  · exact ⟨_, rfl⟩

theorem unbindName_total (x : Name) (st : RState) :
    ∃ st', unbindName x st = some ((), st') := ⟨_, rfl⟩

theorem freshHole_total (r : Option SourceRange) (s : Nat) (st : RState) :
    ∃ st', freshHole r s st = some (.mk r (.hole st.nextHole s), st') := ⟨_, rfl⟩

theorem pushError_total (e : PErr) (st : RState) :
    ∃ st', pushError e st = some ((), st') := ⟨_, rfl⟩

theorem bindName_ok (v : SrcVar) (d : Nat) : ROk (bindName v d) (fun _ => True) := by
  intro st
  obtain ⟨st', h⟩ := bindName_total v d st
  exact ⟨(), st', h, trivial⟩

theorem unbindName_ok (x : Name) : ROk (unbindName x) (fun _ => True) :=
  fun _ => ⟨(), _, rfl, trivial⟩

theorem freshHole_ok (r : Option SourceRange) (s : Nat) :
    ROk (freshHole r s) (fun t => s = 0 → Clean t) := by
  intro st
  refine ⟨_, _, rfl, ?_⟩
  intro h
  simp [Clean, h]

theorem bindDefinitions_ok (depth : Nat) : ∀ (ds : List (SrcVar × OptSrc × Src)) (i : Nat),
    ROk (bindDefinitions depth ds i) (fun _ => True)
  | [], i => by
      simp only [bindDefinitions]; exact ROk.pure trivial
  | (v, _, _) :: rest, i => by
      simp only [bindDefinitions]
      exact (bindName_ok v _).bind (fun _ _ => bindDefinitions_ok depth rest (i + 1))

theorem unbindDefinitions_ok : ∀ (ds : List (SrcVar × OptSrc × Src)),
    ROk (unbindDefinitions ds) (fun _ => True)
  | [] => by
      simp only [unbindDefinitions]; exact ROk.pure trivial
  | (v, _, _) :: rest => by
      simp only [unbindDefinitions]
      split
      · exact (unbindName_ok _).bind (fun _ _ => unbindDefinitions_ok rest)
      · exact unbindDefinitions_ok rest

theorem bindDefinitions_total (depth : Nat) (ds : List (SrcVar × OptSrc × Src)) (i : Nat)
    (st : RState) : ∃ st', bindDefinitions depth ds i st = some ((), st') := by
  obtain ⟨u, st', h, _⟩ := bindDefinitions_ok depth ds i st
  exact ⟨st', h⟩

theorem unbindDefinitions_total (ds : List (SrcVar × OptSrc × Src)) (st : RState) :
    ∃ st', unbindDefinitions ds st = some ((), st') := by
  obtain ⟨u, st', h, _⟩ := unbindDefinitions_ok ds st
  exact ⟨st', h⟩

def CleanRes (res : RDefs × RTm) : Prop := CleanDefs res.1 ∧ Clean res.2

theorem cleanRes_nil {t : RTm} (h : Clean t) : CleanRes (.nil, t) := by
  simp [CleanRes, CleanDefs, h]

theorem ROk.bind_res {β : Type} {m : ResolveM (RDefs × RTm)} {f : RDefs × RTm → ResolveM β}
    {Q : β → Prop} (h1 : ROk m CleanRes) (h2 : ∀ ds r, CleanDefs ds → Clean r → ROk (f (ds, r)) Q) :
    ROk (m >>= f) Q :=
  h1.bind fun p hp => h2 p.1 p.2 hp.1 hp.2

theorem lamDomain_ok {a : Option RTm} (h : ∀ d, a = some d → Clean d) : ROk (lamDomain a) Clean := by
  cases a with
  | some d => exact .pure (h d rfl)
  | none => exact (freshHole_ok none 0).mono fun _ ha => ha rfl

theorem lookupVar_ok (range : SourceRange) (x : Name) (depth : Nat) :
    ROk (lookupVar range x depth) CleanRes := by
  intro st; unfold lookupVar
  cases st.ctx.get x <;> exact ⟨_, _, rfl, cleanRes_nil (by simp [Clean])⟩

def ROkAt (t : Src) : Prop :=
  ∀ (chain : Option (Nat × Nat)) (depth : Nat), NoPE t → ROk (resolveAux t chain depth) CleanRes

theorem resolveOpt_rok_of {o : OptSrc} (ih : o.all ROkAt) (depth : Nat) (h : NoPEOpt o) :
    ROk (resolveOpt o depth) (fun res => ∀ d, res = some d → Clean d) := by
  unfold resolveOpt
  cases o with
  | none => exact .pure nofun
  | some t => exact (ih none depth h).bind_res fun _ _ _ h1 => .pure fun _ hd => Option.some.inj hd ▸ h1

theorem resolveAnnotation_rok_of {o : OptSrc} (ih : o.all ROkAt) (n i newDepth : Nat) (h : NoPEOpt o) :
    ROk (resolveAnnotation o n i newDepth) (fun _ => True) := by
  unfold resolveAnnotation
  cases o with
  | none => exact (freshHole_ok none (n - i)).mono fun _ _ => trivial
  | some t => exact (ih none newDepth h).bind_res fun _ _ _ _ => .pure trivial

theorem resolveAux_rok (t : Src) : ROkAt t := by
  induction t using Src.induction with
  | parseError => exact fun _ _ h => (by simp [NoPE] at h)
  | type | int | bool | tt | ff | lit =>
    intro _ _ _; unfold resolveAux; exact .pure (cleanRes_nil (by simp [Clean]))
  | var range g x es => exact fun _ _ _ => resolveAux_var .. ▸ lookupVar_ok range x _
  | app range g f a es ihf iha | bin range g _ f a es ihf iha =>
    intro _ depth h
    simp only [NoPE] at h
    unfold resolveAux
    exact (ihf none depth h.1).bind_res fun _ _ _ h1 => (iha none depth h.2).bind_res fun _ _ _ h2 =>
      .pure (cleanRes_nil (by simp [Clean, h1, h2]))
  | neg range g a es iha =>
    intro _ depth h
    simp only [NoPE] at h
    unfold resolveAux
    exact (iha none depth h).bind_res fun _ _ _ h1 => .pure (cleanRes_nil (by simp [Clean, h1]))
  | ite range g c a b es ihc iha ihb =>
    intro _ depth h
    simp only [NoPE] at h
    unfold resolveAux
    exact (ihc none depth h.1).bind_res fun _ _ _ h0 => (iha none depth h.2.1).bind_res fun _ _ _ h1 =>
      (ihb none depth h.2.2).bind_res fun _ _ _ h2 => .pure (cleanRes_nil (by simp [Clean, h0, h1, h2]))
  | pi range g x imp dom cod es ihd ihc =>
    intro _ depth h
    simp only [NoPE] at h
    unfold resolveAux
    exact (ihd none depth h.1).bind_res fun _ _ _ h1 => (bindName_ok x depth).bind fun _ _ =>
      (ihc none (depth + 1) h.2).bind_res fun _ _ _ h2 => (unbindName_ok x.name).bind fun _ _ =>
      .pure (cleanRes_nil (by simp [Clean, h1, h2]))
  | lam range g x imp dom body es ihd ihb =>
    intro _ depth h
    simp only [NoPE] at h
    rw [resolveAux_lam]
    exact (resolveOpt_rok_of ihd depth h.1).bind fun _ hd => (bindName_ok x depth).bind fun _ _ =>
      (lamDomain_ok hd).bind fun _ h1 => (ihb none (depth + 1) h.2).bind_res fun _ _ _ h2 =>
      (unbindName_ok x.name).bind fun _ _ => .pure (cleanRes_nil (by simp [Clean, h1, h2]))
  | let_ range g x ann defn body es iha ihd ihb =>
    intro chain depth h
    simp only [NoPE] at h
    unfold resolveAux
    cases chain with
    | some c =>
      exact (resolveAnnotation_rok_of iha c.1 c.2 depth h.1).bind fun _ _ =>
        (ihd none depth h.2.1).bind_res fun _ _ _ h1 =>
        (ihb (some (c.1, c.2 + 1)) depth h.2.2).bind_res fun _ _ hr h2 =>
        .pure (by simp [CleanRes, CleanDefs, h1, hr, h2])
    | none =>
      exact (bindDefinitions_ok _ _ _).bind fun _ _ => (resolveAnnotation_rok_of iha _ 0 _ h.1).bind fun _ _ =>
        (ihd none _ h.2.1).bind_res fun _ _ _ h1 => (ihb (some (_, 1)) _ h.2.2).bind_res fun _ _ hr h2 =>
        (unbindDefinitions_ok _).bind fun _ _ => .pure (cleanRes_nil (by simp [Clean, CleanDefs, h1, hr, h2]))

theorem resolveAux_ok (t : Src) (chain : Option (Nat × Nat)) (depth : Nat) (st : RState)
    (h : NoPE t) :
    ∃ res st', resolveAux t chain depth st = some (res, st') ∧ CleanDefs res.1 ∧ Clean res.2 :=
  resolveAux_rok t chain depth h st

theorem resolveOpt_ok (o : OptSrc) (depth : Nat) (st : RState) (h : NoPEOpt o) :
    ∃ res st', resolveOpt o depth st = some (res, st') ∧ (∀ d, res = some d → Clean d) :=
  resolveOpt_rok_of (OptSrc.all_of_forall resolveAux_rok o) depth h st

theorem resolveAnnotation_ok (o : OptSrc) (n i newDepth : Nat) (st : RState) (h : NoPEOpt o) :
    ∃ res st', resolveAnnotation o n i newDepth st = some (res, st') := by
  obtain ⟨res, st', e, _⟩ :=
    resolveAnnotation_rok_of (OptSrc.all_of_forall resolveAux_rok o) n i newDepth h st
  exact ⟨res, st', e⟩

theorem resolve_clean (t : Src) (depth : Nat) (st : RState) (h : NoPE t) :
    ∃ r st', resolve t depth st = some (r, st') ∧ Clean r := by
  have : ROk (resolve t depth) Clean := by
    unfold resolve
    refine (resolveAux_rok t none depth h).bind ?_
    intro ⟨ds, t'⟩ h1
    dsimp only
    exact ROk.pure h1.2
  exact this st

end PModel
