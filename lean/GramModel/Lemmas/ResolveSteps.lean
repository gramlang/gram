import GramModel.Parser

/-! Induction over the surface tree, for every traversal of it (re-association, resolution, spans):
`Src.induction` with `SrcV` and `OptSrc` folded in (one case per variant), and `Src.letChain_induction` for the
body chain of nested lets (`collect_definitions` and everything defined like it recurses only through the body
of a `let`: two cases, not one per variant).  Then two arms of `resolveAux` as named steps, `lamDomain` and
`lookupVar`: they are not part of the model, `resolveAux_lam` and `resolveAux_var` tie them to it.

A property of a traversal is proved in four pieces: a definition `XAt t` (the statement at `t`, at every chain
position and depth), lemmas `…_of` that take `o.all XAt` to the statement for an optional child (`resolveOpt`,
`resolveAnnotation`), the walk `∀ t, XAt t` by `Src.induction` (`resolveAux_x`, `reassoc_x`; `xAt` for the
inductions on the specification in Props/C08), and last the statements for the two optional children with the
`all` discharged: these are for a user outside the walk, the walks themselves use the `…_of` forms only. -/

namespace PModel

def OptSrc.all (P : Src → Prop) : OptSrc → Prop
  | .none => True
  | .some t => P t

theorem OptSrc.all_of_forall {P : Src → Prop} (h : ∀ t, P t) : ∀ o : OptSrc, o.all P
  | .none => trivial
  | .some t => h t

theorem Src.induction {P : Src → Prop}
    (parseError : ∀ r g es, P (.mk r g .parseError es))
    (type : ∀ r g es, P (.mk r g .type es))
    (int : ∀ r g es, P (.mk r g .int es))
    (bool : ∀ r g es, P (.mk r g .bool es))
    (tt : ∀ r g es, P (.mk r g .tt es))
    (ff : ∀ r g es, P (.mk r g .ff es))
    (lit : ∀ r g n es, P (.mk r g (.lit n) es))
    (var : ∀ r g x es, P (.mk r g (.var x) es))
    (lam : ∀ r g x imp dom body es, dom.all P → P body → P (.mk r g (.lam x imp dom body) es))
    (pi : ∀ r g x imp dom cod es, P dom → P cod → P (.mk r g (.pi x imp dom cod) es))
    (app : ∀ r g f a es, P f → P a → P (.mk r g (.app f a) es))
    (let_ : ∀ r g x ann defn body es, ann.all P → P defn → P body →
      P (.mk r g (.let_ x ann defn body) es))
    (neg : ∀ r g a es, P a → P (.mk r g (.neg a) es))
    (bin : ∀ r g o a b es, P a → P b → P (.mk r g (.bin o a b) es))
    (ite : ∀ r g c a b es, P c → P a → P b → P (.mk r g (.ite c a b) es)) : ∀ t, P t :=
  let rec go : ∀ t, P t
    | .mk r g .parseError es => parseError r g es
    | .mk r g .type es => type r g es
    | .mk r g .int es => int r g es
    | .mk r g .bool es => bool r g es
    | .mk r g .tt es => tt r g es
    | .mk r g .ff es => ff r g es
    | .mk r g (.lit n) es => lit r g n es
    | .mk r g (.var x) es => var r g x es
    | .mk r g (.lam x imp .none body) es => lam r g x imp .none body es trivial (go body)
    | .mk r g (.lam x imp (.some d) body) es => lam r g x imp (.some d) body es (go d) (go body)
    | .mk r g (.pi x imp dom cod) es => pi r g x imp dom cod es (go dom) (go cod)
    | .mk r g (.app f a) es => app r g f a es (go f) (go a)
    | .mk r g (.let_ x .none defn body) es =>
      let_ r g x .none defn body es trivial (go defn) (go body)
    | .mk r g (.let_ x (.some d) defn body) es =>
      let_ r g x (.some d) defn body es (go d) (go defn) (go body)
    | .mk r g (.neg a) es => neg r g a es (go a)
    | .mk r g (.bin o a b) es => bin r g o a b es (go a) (go b)
    | .mk r g (.ite c a b) es => ite r g c a b es (go c) (go a) (go b)
  go

def Src.isLet : Src → Bool
  | .mk _ _ (.let_ ..) _ => true
  | _ => false

theorem Src.isLet_eq_false_iff {r : SourceRange} {g : Bool} {v : SrcV} {es : List PErr} :
    (Src.mk r g v es).isLet = false ↔ ∀ x a d b, v ≠ .let_ x a d b := by
  cases v <;> simp [Src.isLet]

theorem Src.letChain_induction {P : Src → Prop}
    (let_ : ∀ r g v ann defn body es, P body → P (.mk r g (.let_ v ann defn body) es))
    (other : ∀ t, t.isLet = false → P t) : ∀ t, P t
  | .mk r g (.let_ v ann defn body) es => let_ r g v ann defn body es (letChain_induction let_ other body)
  | .mk _ _ .parseError _ | .mk _ _ .type _ | .mk _ _ (.var _) _ | .mk _ _ (.lam ..) _
  | .mk _ _ (.pi ..) _ | .mk _ _ (.app ..) _ | .mk _ _ .int _ | .mk _ _ (.lit _) _
  | .mk _ _ (.neg _) _ | .mk _ _ (.bin ..) _ | .mk _ _ .bool _ | .mk _ _ .tt _ | .mk _ _ .ff _
  | .mk _ _ (.ite ..) _ => other _ rfl

theorem collectDefinitions_let (r : SourceRange) (g : Bool) (v : SrcVar) (ann : OptSrc)
    (defn body : Src) (es : List PErr) :
    collectDefinitions (.mk r g (.let_ v ann defn body) es) =
      ((v, ann, defn) :: (collectDefinitions body).1, (collectDefinitions body).2) := by
  rw [collectDefinitions]

theorem collectDefinitions_of_not_isLet : ∀ {t : Src}, t.isLet = false → collectDefinitions t = ([], t)
  | .mk _ _ v _, h => by cases v <;> first | rfl | cases h

def lamDomain (a : Option RTm) : ResolveM RTm :=
  match a with
  | some d => pure d
  | none => freshHole none 0

/-- In the λ arm of `resolveAux` the `match` on the resolved annotation (`resolveAux.match_3`) has
swallowed the rest of the arm; this gives the arm back as a sequence like the others.  `match_3` is a
generated name: it moves when an arm of `resolveAux` before the λ arm gains or loses a `match`; `resolveAux_lam`,
the one place that applies this lemma, then makes no progress. -/
theorem lamDomain_bind {β : Type} (a : Option RTm) (k : RTm → ResolveM β) :
    resolveAux.match_3 (fun _ => ResolveM β) a (fun d => pure d >>= k)
      (fun _ => freshHole none 0 >>= k) = lamDomain a >>= k := by
  cases a <;> rfl

/-- The λ arm as the sequence of its steps. -/
theorem resolveAux_lam (range : SourceRange) (g : Bool) (x : SrcVar) (imp : Bool) (dom : OptSrc) (body : Src)
    (es : List PErr) (chain : Option (Nat × Nat)) (depth : Nat) :
    resolveAux (.mk range g (.lam x imp dom body) es) chain depth = (do
      let dom' ← resolveOpt dom depth
      bindName x depth
      let dom'' ← lamDomain dom'
      let (_, body') ← resolveAux body none (depth + 1)
      unbindName x.name
      pure (.nil, .mk (some range) (.lam x.name imp dom'' body'))) := by
  conv => lhs; unfold resolveAux
  simp only [lamDomain_bind]

/-- The `Variable` arm of `resolveAux`: the index of a bound name; otherwise a fresh hole, and a
diagnostic unless the name is the placeholder. -/
def lookupVar (range : SourceRange) (x : Name) (depth : Nat) : ResolveM (RDefs × RTm) := fun st =>
  match st.ctx.get x with
  | some variableDepth => some ((.nil, .mk (some range) (.var x (depth - 1 - variableDepth))), st)
  | none =>
    some ((.nil, .mk (some range) (.hole st.nextHole 0)),
      { st with errors := if x != placeholder then st.errors ++ [[range]] else st.errors,
                nextHole := st.nextHole + 1 })

theorem resolveAux_var (range : SourceRange) (g : Bool) (x : Name) (es : List PErr)
    (chain : Option (Nat × Nat)) (depth : Nat) :
    resolveAux (.mk range g (.var x) es) chain depth = lookupVar range x depth := by
  funext st; unfold resolveAux lookupVar; dsimp only; cases st.ctx.get x <;> rfl

end PModel
