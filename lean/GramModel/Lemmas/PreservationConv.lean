import GramModel.Lemmas.PreservationBase

/-!
# Subject reduction, part 2: the substitution lemma for conversion (`Cv`)

`Cv.trav`: a natural traversal `F` (`Lemmas/Natural.lean`) maps conversions to conversions, given a relation between
the two definitions contexts that is sound for `F` and kept under binders.  It is used twice: with insertion of
variables (`WkC`), which gives weakening `Cv.wk`; then, using weakening, with `CtxRel F` ("`F` maps every definition of
the context to a term convertible with what it puts for the variable"), which gives `Cv.sub` and from it substitution
for a variable `Cv.subst` and change of the definitions context `Cv.ctx`.  Congruence in the substituted term is
`cv_arg`.
-/

namespace Pres

open WhnfLemmas OracleLemmas

/-- `D'` is `D` with `m` new variables inserted at position `k` (their entries are irrelevant) -/
def WkC (k m : Nat) (D D' : Ctx) : Prop :=
  ∀ i, D' (if i < k then i else i + m) = (D i).map (ushift k m)

theorem WkC.under {k m : Nat} {D D' : Ctx} (h : WkC k m D D') (n : Nat) (F F' : Nat → Option Tm)
    (hF : ∀ i, i < n → F' i = (F i).map (ushift (k + n) m)) :
    WkC (k + n) m (ext n F D) (ext n F' D') := by
  intro i
  by_cases hi : i < n
  · rw [if_pos (by omega), ext_lt hi, ext_lt hi]; exact hF i hi
  · have hi' : n ≤ i := Nat.not_lt.1 hi
    rw [ext_ge hi']
    by_cases hk : i < k + n
    · rw [if_pos hk, ext_ge hi']
      have := h (i - n)
      rw [if_pos (by omega)] at this
      rw [this]
      cases D (i - n) with
      | none => rfl
      | some t =>
        simp only [Option.map_some]
        rw [ushift_comm t 0 k n m (Nat.zero_le _)]
    · rw [if_neg hk, ext_ge (by omega)]
      have := h (i - n)
      rw [if_neg (by omega)] at this
      rw [show i + m - n = i - n + m by omega, this]
      cases D (i - n) with
      | none => rfl
      | some t =>
        simp only [Option.map_some]
        rw [ushift_comm t 0 k n m (Nat.zero_le _)]

theorem WkC.push (n : Nat) (F : Nat → Option Tm) (D : Ctx) : WkC 0 n D (ext n F D) := by
  intro i
  rw [if_neg (by omega), ext_ge (by omega), Nat.add_sub_cancel]

theorem WkC.more {s : Nat} {D D1 : Ctx} (h : WkC 0 s D D1) (n : Nat) (F : Nat → Option Tm) :
    WkC 0 (s + n) D (ext n F D1) := by
  intro i
  have := h i
  rw [if_neg (by omega)] at this ⊢
  rw [ext_ge (by omega), show i + (s + n) - n = i + s by omega, this]
  cases D i with
  | none => rfl
  | some t => simp only [Option.map_some]; rw [ushift_ushift, Nat.add_comm]

/-- **The substitution lemma for conversion.**  `R n D D'` is any relation between definitions contexts that makes
`F`, met under `n` binders, map every definition of `D` to a term convertible in `D'` with what it puts for the
variable (`hR`), and that is kept under binders (`hE`). -/
theorem Cv.trav {F : Act} (hF : F.Natural) (hN : F.NameBlind) (R : Nat → Ctx → Ctx → Prop)
    (hR : ∀ {n D D'}, R n D D' → ∀ i d x, D i = some d → d.holeFree = true →
      Cv D' (F.var n x i) (d.trav F n))
    (hE : ∀ {n D D'} (m : Nat), R n D D' → R (n + m) (ext m noneF D) (ext m noneF D'))
    {D : Ctx} {a b : Tm} (h : Cv D a b) :
    ∀ (n : Nat) (D' : Ctx), R n D D' → Cv D' (a.trav F n) (b.trav F n) := by
  induction h with
  | refl h => intro n D' _; exact .refl (hF.trav_hf h n)
  | symm _ ih => intro n D' H; exact .symm (ih n D' H)
  | trans _ _ ih1 ih2 => intro n D' H; exact .trans (ih1 n D' H) (ih2 n D' H)
  | beta x im d body a hd hb ha =>
    intro n D' _
    have e := hF.trav_open hb ha n 0
    rw [Nat.add_zero] at e
    rw [e]
    exact .beta x im _ _ _ (hF.trav_hf hd _) (hF.trav_hf hb _) (hF.trav_hf ha _)
  | delta x i d hi hd => intro n D' H; exact hR H i d x hi hd
  | letStep x a d rest body ha hd hr hb =>
    intro n D' _
    have hU := unfoldDef_holeFree x a d rest.len ha hd
    simp only [Tm.trav, Defs.trav, Defs.len_cons, openDefs_len]
    rw [hF.trav_open hb hU, hF.travDefs_open hr hU, hF.unfoldDef_trav x ha hd]
    have := Cv.letStep (D := D') x (a.trav F (n + rest.len + 1)) (d.trav F (n + rest.len + 1))
      (rest.trav F (n + rest.len + 1)) (body.trav F (n + rest.len + 1)) (hF.trav_hf ha _) (hF.trav_hf hd _)
      (hF.travDefs_hf hr _) (hF.trav_hf hb _)
    rw [Defs.len_trav] at this
    exact this
  | letNil body hb => intro n D' _; exact .letNil _ (hF.trav_hf hb _)
  | negLit k => intro n D' _; exact .negLit k
  | arith op x y r hr => intro n D' _; rw [delta_trav hr]; exact .arith op x y r hr
  | iteT a b ha hb => intro n D' _; exact .iteT _ _ (hF.trav_hf ha _) (hF.trav_hf hb _)
  | iteF a b ha hb => intro n D' _; exact .iteF _ _ (hF.trav_hf ha _) (hF.trav_hf hb _)
  | same hs ha hb =>
    intro n D' _; exact .same (RewriteTyping.sameX_trav hN hs n) (hF.trav_hf ha _) (hF.trav_hf hb _)
  | lam x y im d1 d2 h1 h2 _ ih =>
    intro n D' H
    exact .lam x y im _ _ (hF.trav_hf h1 _) (hF.trav_hf h2 _) (ih (n + 1) _ (hE 1 H))
  | pi x y im _ _ ih1 ih2 => intro n D' H; exact .pi x y im (ih1 n D' H) (ih2 (n + 1) _ (hE 1 H))
  | app _ _ ih1 ih2 => intro n D' H; exact .app (ih1 n D' H) (ih2 n D' H)
  | neg _ ih => intro n D' H; exact .neg (ih n D' H)
  | bin op _ _ ih1 ih2 => intro n D' H; exact .bin op (ih1 n D' H) (ih2 n D' H)
  | ite _ _ _ ih0 ih1 ih2 => intro n D' H; exact .ite (ih0 n D' H) (ih1 n D' H) (ih2 n D' H)
  | @letg D ds1 ds2 b1 b2 hl h1 h2 _ _ ihc ihb =>
    intro n D' H
    have H' := hE ds1.len H
    simp only [Tm.trav, ← hl]
    refine .letg (by rw [Defs.len_trav, Defs.len_trav]; exact hl) (hF.travDefs_hf h1 _) (hF.travDefs_hf h2 _)
      ?_ ?_
    · intro i t1 t2 e1 e2
      rw [comps_trav, List.getElem?_map, Option.map_eq_some_iff] at e1 e2
      obtain ⟨u1, f1, rfl⟩ := e1
      obtain ⟨u2, f2, rfl⟩ := e2
      rw [Defs.len_trav]
      exact ihc i u1 u2 f1 f2 _ _ H'
    · rw [Defs.len_trav]
      exact ihb _ _ H'

theorem WkC.look {k m n : Nat} {C C' : Ctx} (H : WkC (k + n) m C C') {i : Nat} {d : Tm} (hi : C i = some d) :
    C' (liftIdx k m n i) = some (d.trav (.lift k m) n) := by
  have := H i
  rw [hi, Option.map_some, ushift_add_eq_trav] at this
  refine Eq.trans (congrArg C' ?_) this
  unfold liftIdx; split <;> split <;> omega

theorem Cv.wk {D : Ctx} {a b : Tm} (h : Cv D a b) (k m : Nat) (D' : Ctx) (H : WkC k m D D') :
    Cv D' (ushift k m a) (ushift k m b) := by
  rw [ushift_eq_trav, ushift_eq_trav]
  refine h.trav (Act.lift_natural k m) (Act.lift_nameBlind k m) (fun n D D' => WkC (k + n) m D D') ?_ ?_ 0 D' H
  · intro n D D' H i d x hi hd
    exact .delta x _ _ (H.look hi) ((Act.lift_natural k m).trav_hf hd n)
  · intro n D D' p H
    rw [← Nat.add_assoc]; exact H.under p noneF noneF fun _ _ => rfl

theorem Cv.push {D : Ctx} {a b : Tm} (h : Cv D a b) (n : Nat) (F : Nat → Option Tm) :
    Cv (ext n F D) (ushift 0 n a) (ushift 0 n b) :=
  h.wk 0 n _ (WkC.push n F D)

def mapF (F : Act) (n : Nat) (E : Nat → Option Tm) : Nat → Option Tm := fun i => (E i).map (·.trav F n)

theorem ext_some {m : Nat} {E : Nat → Option Tm} {C : Ctx} {i : Nat} {t : Tm} (h : ext m E C i = some t) :
    (i < m ∧ E i = some t) ∨ (m ≤ i ∧ ∃ t0, C (i - m) = some t0 ∧ t = ushift 0 m t0) := by
  by_cases hi : i < m
  · rw [ext_lt hi] at h; exact .inl ⟨hi, h⟩
  · rw [ext_ge (Nat.not_lt.1 hi)] at h
    cases e0 : C (i - m) with
    | none => rw [e0] at h; cases h
    | some t0 =>
      rw [e0] at h
      simp only [Option.map_some, Option.some.injEq] at h
      exact .inr ⟨Nat.not_lt.1 hi, t0, rfl, h.symm⟩

/-- under `n` binders, `F` maps the definitions of `D` into `D'` -/
def CtxRel (F : Act) (n : Nat) (D D' : Ctx) : Prop :=
  ∀ i d (x : Name), D i = some d → d.holeFree = true → Cv D' (F.var n x i) (d.trav F n)

theorem CtxRel.under {F : Act} (hF : F.Natural) {n : Nat} {D D' : Ctx} (h : CtxRel F n D D') (m : Nat)
    (E : Nat → Option Tm) : CtxRel F (n + m) (ext m E D) (ext m (mapF F (n + m) E) D') := by
  intro i d x e hd
  rcases ext_some e with ⟨hi, e1⟩ | ⟨hi, d0, e0, rfl⟩
  · rw [hF.bound _ x i (by omega)]
    exact .delta x i _ (by rw [ext_lt hi]; simp only [mapF, e1, Option.map_some]) (hF.trav_hf hd _)
  · have hd0 : d0.holeFree = true := (holeFree_ushift d0 0 m).symm.trans hd
    have := (h (i - m) d0 x e0 hd0).push m (mapF F (n + m) E)
    rwa [← hF.var_ge x hi, ← hF.trav_ushift0 hd0] at this

theorem Cv.sub {F : Act} (hF : F.Natural) (hN : F.NameBlind) {D D' : Ctx} {a b : Tm} (h : Cv D a b) {n : Nat}
    (H : CtxRel F n D D') : Cv D' (a.trav F n) (b.trav F n) :=
  h.trav hF hN (CtxRel F) (fun H => H) (fun m H => H.under hF m noneF) n D' H

/-- `D'` is `D` with variable `k` removed and `v` (a term of the new scope) substituted for it -/
def SbC (k : Nat) (v : Tm) (D D' : Ctx) : Prop :=
  ∀ i, i ≠ k → D' (if i < k then i else i - 1) = (D i).map (fun t => openT t k v 0)

theorem SbC.look {k : Nat} {v : Tm} {C C' : Ctx} (H : SbC k v C C') {i : Nat} {d : Tm} (hik : i ≠ k)
    (hi : C i = some d) : C' (lowerIdx k 0 i) = some (openT d k v 0) := by
  have := H i hik
  rw [hi] at this
  refine Eq.trans (congrArg C' ?_) this
  unfold lowerIdx; split <;> split <;> omega

theorem subst_var0 (k : Nat) (v : Tm) (x : Name) (i : Nat) :
    (Act.subst k v 0).var 0 x i = if i = k then v else .var x (lowerIdx k 0 i) := by
  show (if i = k + 0 then ushift 0 (0 + 0) v else _) = _
  rw [Nat.add_zero, Nat.add_zero, ushift_zero]

theorem Cv.subst {D : Ctx} {a b : Tm} (h : Cv D a b) (k : Nat) (v : Tm) (D' : Ctx)
    (hv : v.holeFree = true) (H : SbC k v D D') (hd : ∀ d, D k = some d → Cv D' v (openT d k v 0)) :
    Cv D' (openT a k v 0) (openT b k v 0) := by
  rw [openT_eq_trav, openT_eq_trav]
  refine h.sub (Act.subst_natural k hv) (Act.subst_nameBlind k v 0) ?_
  intro i d x hi hdf
  rw [← openT_eq_trav, subst_var0]
  split
  · next hik => subst hik; exact hd d hi
  · next hik => exact .delta x _ _ (H.look hik hi) (openT_holeFree _ _ _ _ hdf hv)

theorem cv_arg_both {D : Ctx} {v v' : Tm} (hvv : Cv D v v') :
    (∀ (t : Tm) (i s : Nat) (D1 : Ctx), t.holeFree = true → WkC 0 s D D1 →
      Cv D1 (openT t i v s) (openT t i v' s)) ∧
    ∀ (ds : Defs) (i s : Nat) (D1 : Ctx), ds.holeFree = true → WkC 0 s D D1 →
      ∀ (j : Nat) (t1 t2 : Tm), (comps (openDefs ds i v s))[j]? = some t1 →
        (comps (openDefs ds i v' s))[j]? = some t2 → Cv D1 t1 t2 := by
  apply Tm.rec_both
  case var =>
    intro x j i s D1 _ H
    simp only [openT]
    by_cases h : j = i
    · rw [if_pos h, if_pos h]; exact hvv.wk 0 s D1 H
    · rw [if_neg h, if_neg h]; split <;> exact .refl rfl
  case hole => intro _ _ _ _ _ hf; cases hf
  case lam =>
    intro x im d b _ ihb i s D1 hf H
    simp only [Tm.holeFree, Bool.and_eq_true] at hf
    exact .lam x x im _ _ (openT_holeFree _ _ _ _ hf.1 hvv.hf.1) (openT_holeFree _ _ _ _ hf.1 hvv.hf.2)
      (ihb (i+1) (s+1) _ hf.2 (H.more 1 noneF))
  case pi =>
    intro x im d b ihd ihb i s D1 hf H
    simp only [Tm.holeFree, Bool.and_eq_true] at hf
    exact .pi x x im (ihd i s D1 hf.1 H) (ihb (i+1) (s+1) _ hf.2 (H.more 1 noneF))
  case app =>
    intro f a ihf iha i s D1 hf H
    simp only [Tm.holeFree, Bool.and_eq_true] at hf
    exact .app (ihf i s D1 hf.1 H) (iha i s D1 hf.2 H)
  case letg =>
    intro ds b ihd ihb i s D1 hf H
    simp only [Tm.holeFree, Bool.and_eq_true] at hf
    refine .letg (by rw [openDefs_len, openDefs_len]) (openDefs_holeFree _ _ _ _ hf.1 hvv.hf.1)
      (openDefs_holeFree _ _ _ _ hf.1 hvv.hf.2) ?_ ?_
    · rw [openDefs_len]
      exact ihd (i + ds.len) (s + ds.len) _ hf.1 (H.more ds.len noneF)
    · rw [openDefs_len]
      exact ihb (i + ds.len) (s + ds.len) _ hf.2 (H.more ds.len noneF)
  case neg => exact fun a ih i s D1 hf H => .neg (ih i s D1 hf H)
  case bin =>
    intro op a b iha ihb i s D1 hf H
    simp only [Tm.holeFree, Bool.and_eq_true] at hf
    exact .bin op (iha i s D1 hf.1 H) (ihb i s D1 hf.2 H)
  case ite =>
    intro c a b ihc iha ihb i s D1 hf H
    simp only [Tm.holeFree, Bool.and_eq_true] at hf
    exact .ite (ihc i s D1 hf.1.1 H) (iha i s D1 hf.1.2 H) (ihb i s D1 hf.2 H)
  case nil => intro _ _ _ _ _ _ _ _ e1; cases e1
  case cons =>
    intro x a d r iha ihd ihr i s D1 hf H
    simp only [Defs.holeFree, Bool.and_eq_true] at hf
    exact rel_cons_getElem? (iha i s D1 hf.1.1 H) (rel_cons_getElem? (ihd i s D1 hf.1.2 H)
      (ihr i s D1 hf.2 H))
  all_goals intros; exact .refl rfl

theorem cv_arg {D : Ctx} {v v' : Tm} (hvv : Cv D v v') (t : Tm) : ∀ (i s : Nat) (D1 : Ctx),
    t.holeFree = true → WkC 0 s D D1 → Cv D1 (openT t i v s) (openT t i v' s) := (cv_arg_both hvv).1 t

theorem cv_argDefs {D : Ctx} {v v' : Tm} (hvv : Cv D v v') : ∀ (ds : Defs) (i s : Nat) (D1 : Ctx),
    ds.holeFree = true → WkC 0 s D D1 →
    ∀ (j : Nat) (t1 t2 : Tm), (comps (openDefs ds i v s))[j]? = some t1 →
      (comps (openDefs ds i v' s))[j]? = some t2 → Cv D1 t1 t2 := (cv_arg_both hvv).2

/-- every definition of `D` is, in `D'`, convertible with its variable -/
def CtxCv (D D' : Ctx) : Prop := ∀ i d (x : Name), D i = some d → Cv D' (.var x i) d

theorem CtxCv.rel {D D' : Ctx} (h : CtxCv D D') : CtxRel .id 0 D D' :=
  fun i d x hi _ => by rw [Tm.trav_id]; exact h i d x hi

theorem Cv.ctx {D : Ctx} {a b : Tm} (h : Cv D a b) (D' : Ctx) (H : CtxCv D D') : Cv D' a b := by
  have := h.sub Act.id_natural Act.id_nameBlind H.rel
  rwa [Tm.trav_id, Tm.trav_id] at this

theorem Cv.congr {D D' : Ctx} {a b : Tm} (h : Cv D a b) (e : ∀ i, D i = D' i) : Cv D' a b := by
  have : D = D' := funext e
  rw [← this]; exact h

end Pres
