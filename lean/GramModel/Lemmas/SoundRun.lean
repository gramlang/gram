import GramModel.Lemmas.CheckSound
import GramModel.Lemmas.PreservationMain

/-!
# Type soundness along evaluation on the group-free fragment (C01 / C04)

`Canonical.evalFuel_typed` / `Canonical.checker_sound_run` take subject reduction for *all* closed terms as
a hypothesis, which is false (`C04_preservation_refuted`).  Here the same statements are proved outright
for `CheckSound.noLet` terms: `noLet` and hole-freeness are preserved by `Step`, subject reduction holds
on the fragment (`Pres.preservation` with `Pres.stepOK_of_noLet`), and a closed well typed group-free
term is never stuck at a variable (the evaluation context of a group-free term crosses no binder, and the
empty context types no variable).  `Canonical.checker_sound_run` itself is declared here, at the head of the file, in
its namespace `Canonical`.
-/

namespace Canonical

/-- type soundness of the checker model on hole-free programs IF subject reduction held for the
declarative rules at the empty contexts (`pres`).  It does not (`C04_preservation_refuted`), so as it
stands this is the reduction of soundness to subject reduction, not a result about gram; the
group-free instance with `pres` proved is `C01_checker_sound_run_nolet`. -/
theorem checker_sound_run
    (pres : ∀ (t t' T : Tm), t.holeFree = true → HasType [] [] t T → Step t t' → HasType [] [] t' T)
    (fuel n : Nat) (t e ty : Tm) (s : St) (ht : t.holeFree = true)
    (h : inferS fuel t {} = .ok (e, ty) s) (hn : s.nerrs = 0) :
    isValue (evalFuel n t) = true ∨ (∃ r', Step (evalFuel n t) r') ∨
      stuckReason (evalFuel n t) = some .variable ∨ stuckReason (evalFuel n t) = some .divZero := by
  obtain ⟨_, _, j⟩ := CheckSound.checker_sound_generic
    (CheckSound.rules_HasType CheckSound.groupRuleAdmissible) ht h hn
  exact progress DWF_nil (evalFuel_typed pres n t ty ht j).2

end Canonical

namespace SoundRun
open CheckSound


theorem noLet_trav {F : Act} (hv : ∀ n x i, noLet (F.var n x i) = true)
    (hh : ∀ n id s, noLet (F.hole n id s) = true) : ∀ (t : Tm) (n : Nat), noLet (t.trav F n) = noLet t
  | .var x i, n => hv n x i
  | .hole id s, n => hh n id s
  | .lam _ _ d b, n | .pi _ _ d b, n => by
      simp only [Tm.trav, noLet, noLet_trav hv hh d, noLet_trav hv hh b]
  | .app f g, n | .bin _ f g, n => by simp only [Tm.trav, noLet, noLet_trav hv hh f, noLet_trav hv hh g]
  | .neg t, n => by simp only [Tm.trav, noLet, noLet_trav hv hh t]
  | .ite t v w, n => by
      simp only [Tm.trav, noLet, noLet_trav hv hh t, noLet_trav hv hh v, noLet_trav hv hh w]
  | .letg .., _ | .type, _ | .int, _ | .bool, _ | .tt, _ | .ff, _ | .lit _, _ => rfl

theorem noLet_ushift (t : Tm) (c a : Nat) : noLet (ushift c a t) = noLet t := by
  rw [ushift_eq_trav]
  exact noLet_trav (fun _ _ _ => rfl) (fun _ _ _ => rfl) t 0

theorem noLet_openT {u : Tm} (hu : noLet u = true) (t : Tm) (i s : Nat) :
    noLet (openT t i u s) = noLet t := by
  rw [openT_eq_trav]
  exact noLet_trav (fun n x k => Act.subst_var_cases (P := (noLet · = true)) i u s n x k
    ((noLet_ushift ..).trans hu) rfl) (fun _ _ _ => rfl) t 0

theorem delta_noLet {op : BinOp} {x y : Int} {r : Tm} (h : delta op x y = some r) : noLet r = true := by
  rcases delta_cases h with ⟨z, rfl⟩ | rfl | rfl <;> rfl

theorem Step_noLet {t t' : Tm} (h : Step t t') : noLet t = true → noLet t' = true := by
  induction h with
  | appL _ ih => intro hn; simp only [noLet, Bool.and_eq_true] at hn ⊢; exact ⟨ih hn.1, hn.2⟩
  | appR _ _ ih => intro hn; simp only [noLet, Bool.and_eq_true] at hn ⊢; exact ⟨hn.1, ih hn.2⟩
  | beta _ =>
    intro hn; simp only [noLet, Bool.and_eq_true] at hn; exact (noLet_openT hn.2 _ _ _).trans hn.1.2
  | negC _ ih => intro hn; simp only [noLet] at hn ⊢; exact ih hn
  | negL => intro _; rfl
  | binL _ ih => intro hn; simp only [noLet, Bool.and_eq_true] at hn ⊢; exact ⟨ih hn.1, hn.2⟩
  | binR _ _ ih => intro hn; simp only [noLet, Bool.and_eq_true] at hn ⊢; exact ⟨hn.1, ih hn.2⟩
  | delta h => intro _; exact delta_noLet h
  | iteC _ ih => intro hn; simp only [noLet, Bool.and_eq_true] at hn ⊢; exact ⟨⟨ih hn.1.1, hn.1.2⟩, hn.2⟩
  | iteT => intro hn; simp only [noLet, Bool.and_eq_true] at hn; exact hn.1.2
  | iteF => intro hn; simp only [noLet, Bool.and_eq_true] at hn; exact hn.2
  | letNil => intro hn; simp [noLet] at hn
  | letD _ _ => intro hn; simp [noLet] at hn
  | letU _ => intro hn; simp [noLet] at hn


theorem no_var_nil {Γ : TCtxX} {Δ : DCtxX} {t T : Tm} (h : HasType Γ Δ t T) :
    Γ = [] → ∀ (x : Name) (i : Nat), t ≠ .var x i := by
  induction h using HasType.rec (motive_2 := fun _ _ _ _ => True) with
  | var _ _ _ _ _ h => intro e; subst e; cases h
  | conv _ _ ih => exact ih
  | nil | cons => trivial
  | _ => intro _ _ _ et; cases et

/-- closed, group-free and well typed under the declarative rules (offsets of the definitions context in range) -/
def TypedNL (t : Tm) : Prop := noLet t = true ∧ ∃ Δ T, CCPar.DWF Δ ∧ HasType [] Δ t T

open Canonical in
theorem TypedNL.evalTyped : EvalTyped TypedNL where
  hole := by rintro i s ⟨-, Δ, T, -, h⟩; exact (gen h).choose_spec.2
  app := by
    rintro f a ⟨hn, Δ, T, hW, h⟩
    simp only [noLet, Bool.and_eq_true] at hn
    obtain ⟨_, -, x, im, dom, cod, hg, ha⟩ := gen h
    exact ⟨⟨hn.1, _, _, hW, hg⟩, ⟨hn.2, _, _, hW, ha⟩, fun hv => canonical_pi hW hv hg (.refl _ _)⟩
  letg := by rintro x ann d r b ⟨hn, -⟩; cases hn
  neg := by
    rintro a ⟨hn, Δ, T, hW, h⟩
    obtain ⟨_, -, g⟩ := gen h
    exact ⟨⟨hn, _, _, hW, g⟩, fun hv => canonical_int hW hv g (.refl _ _)⟩
  bin := by
    rintro op a b ⟨hn, Δ, T, hW, h⟩
    simp only [noLet, Bool.and_eq_true] at hn
    obtain ⟨_, -, ga, gb⟩ := gen h
    exact ⟨⟨⟨hn.1, _, _, hW, ga⟩, fun hv => canonical_int hW hv ga (.refl _ _)⟩,
      ⟨hn.2, _, _, hW, gb⟩, fun hv => canonical_int hW hv gb (.refl _ _)⟩
  ite := by
    rintro c a b ⟨hn, Δ, T, hW, h⟩
    simp only [noLet, Bool.and_eq_true] at hn
    obtain ⟨_, -, g⟩ := gen h
    exact ⟨⟨hn.1.1, _, _, hW, g⟩, fun hv => canonical_bool hW hv g (.refl _ _)⟩

theorem not_stuck_var {t : Tm} (hs : stuckReason t = some .variable) (hn : noLet t = true) {Δ : DCtxX} {T : Tm}
    (hW : CCPar.DWF Δ) (h : HasType [] Δ t T) : False := by
  rcases TypedNL.evalTyped.stuck t _ hs ⟨hn, Δ, T, hW, h⟩ with e | ⟨-, x, i, -, Δ', T', -, hv⟩
  · cases e
  · exact no_var_nil hv rfl x i rfl

theorem progress_nolet {t T : Tm} (hn : noLet t = true) (h : HasType [] [] t T) :
    isValue t = true ∨ (∃ t', Step t t') ∨ stuckReason t = some .divZero := by
  rcases Canonical.progress Canonical.DWF_nil h with hv | hs | hx | hd
  · exact .inl hv
  · exact .inr (.inl hs)
  · exact (not_stuck_var hx hn Canonical.DWF_nil h).elim
  · exact .inr (.inr hd)

theorem pres_nolet {t t' T : Tm} (ht : t.holeFree = true) (hTy : T.holeFree = true)
    (hn : noLet t = true) (h : HasType [] [] t T) (hs : Step t t') : HasType [] [] t' T :=
  Pres.preservation ht hTy (fun _ he => by cases he) (fun _ he => by cases he)
    (fun _ _ _ e => by simp at e) Canonical.DWF_nil h (Pres.stepOK_of_noLet hs hn [] [])

theorem evalFuel_typed_nolet : ∀ (n : Nat) (t T : Tm), t.holeFree = true → T.holeFree = true →
    noLet t = true → HasType [] [] t T →
    (evalFuel n t).holeFree = true ∧ noLet (evalFuel n t) = true ∧ HasType [] [] (evalFuel n t) T
  | 0, t, T, hf, _, hn, h => ⟨hf, hn, h⟩
  | n+1, t, T, hf, hTy, hn, h => by
      unfold evalFuel
      cases hs : step t with
      | none => exact ⟨hf, hn, h⟩
      | some t' =>
        have st := step_sound t t' hs
        exact evalFuel_typed_nolet n t' T (Step_holeFree st hf) hTy (Step_noLet st hn)
          (pres_nolet hf hTy hn h st)

theorem accepted_typed {fuel : Nat} {t e ty : Tm} {s : St} (ht : t.holeFree = true)
    (hnl : noLet t = true) (h : inferS fuel t {} = .ok (e, ty) s) (hn : s.nerrs = 0) :
    e = t ∧ ty.holeFree = true ∧ HasType [] [] t ty := by
  obtain ⟨he, hty, j⟩ := CheckSound.checker_sound_generic CheckSound.rules_HasTypeNL ht h hn
  exact ⟨he, hty, j hnl⟩

theorem checker_sound_run_nolet (fuel n : Nat) (t e ty : Tm) (s : St) (ht : t.holeFree = true)
    (hnl : noLet t = true) (h : inferS fuel t {} = .ok (e, ty) s) (hn : s.nerrs = 0) :
    isValue (evalFuel n t) = true ∨ (∃ r', Step (evalFuel n t) r') ∨
      stuckReason (evalFuel n t) = some .divZero := by
  obtain ⟨_, hty, j⟩ := accepted_typed ht hnl h hn
  obtain ⟨_, hn', j'⟩ := evalFuel_typed_nolet n t ty ht hty hnl j
  exact progress_nolet hn' j'

theorem value_inhabits_type_nolet (fuel n : Nat) (t e ty zty : Tm) (s : St) (ht : t.holeFree = true)
    (hnl : noLet t = true) (h : inferS fuel t {} = .ok (e, ty) s) (hn : s.nerrs = 0)
    (hz : zonk fuel s.store ty = some zty) (hv : isValue (evalFuel n t) = true) :
    HasType [] [] (evalFuel n t) zty ∧
    (Conv [] zty .int → ∃ k, evalFuel n t = .lit k) ∧
    (Conv [] zty .bool → evalFuel n t = .tt ∨ evalFuel n t = .ff) := by
  obtain ⟨_, hty, j⟩ := accepted_typed ht hnl h hn
  obtain ⟨_, _, j'⟩ := evalFuel_typed_nolet n t ty ht hty hnl j
  rw [UnifySound.Zk_holeFree_eq hty ⟨_, hz⟩]
  exact ⟨j', fun hc => Canonical.canonical_int Canonical.DWF_nil hv j' hc,
    fun hc => Canonical.canonical_bool Canonical.DWF_nil hv j' hc⟩

/-- the hypotheses of `value_inhabits_type_nolet` (those of `checker_sound_run_nolet` among them) for the
program `t`, checker fuel `fuel`, `n` evaluation steps and zonked type `zty`, together with two facts the
theorems do not need: `t` is closed, and the value reached is `v` — as a Boolean -/
def demoOK (fuel n : Nat) (t zty v : Tm) : Bool :=
  t.holeFree && wellScoped 0 t && noLet t &&
  (match inferS fuel t {} with
   | .ok (_, ty) s => s.nerrs == 0 && decide (zonk fuel s.store ty = some zty)
   | _ => false) &&
  isValue (evalFuel n t) && decide (evalFuel n t = v)

theorem demoOK_spec {fuel n : Nat} {t zty v : Tm} (h : demoOK fuel n t zty v = true) :
    ∃ (e ty : Tm) (s : St), t.holeFree = true ∧ wellScoped 0 t = true ∧ noLet t = true ∧
      inferS fuel t {} = .ok (e, ty) s ∧ s.nerrs = 0 ∧ zonk fuel s.store ty = some zty ∧
      isValue (evalFuel n t) = true ∧ evalFuel n t = v := by
  unfold demoOK at h
  simp only [Bool.and_eq_true, decide_eq_true_eq] at h
  obtain ⟨⟨⟨⟨⟨h1, h2⟩, h3⟩, h4⟩, h5⟩, h6⟩ := h
  split at h4
  · rename_i e ty s heq
    simp only [Bool.and_eq_true, beq_iff_eq, decide_eq_true_eq] at h4
    exact ⟨_, ty, s, h1, h2, h3, heq, h4.1, h4.2, h5, h6⟩
  · cases h4

/-- `((a : type) => (x : a) => x) int 3`: the polymorphic identity, instantiated and applied -/
def idProg : Tm :=
  .app (.app (.lam 1 false .type (.lam 2 false (.var 1 0) (.var 2 0))) .int) (.lit 3)

/-- `((f : int -> int) => (b : bool) => if b then f (2 * 3) else 0 - 1) ((y : int) => y + 1) (1 < 2)` -/
def iteProg : Tm :=
  .app (.app
    (.lam 1 false (.pi 0 false .int .int) (.lam 2 false .bool
      (.ite (.var 2 0) (.app (.var 1 1) (.bin .prod (.lit 2) (.lit 3))) (.bin .diff (.lit 0) (.lit 1)))))
    (.lam 3 false .int (.bin .sum (.var 3 0) (.lit 1))))
    (.bin .lt (.lit 1) (.lit 2))

theorem idProg_ok : demoOK 40 5 idProg .int (.lit 3) = true := by decide +kernel
theorem iteProg_ok : demoOK 40 10 iteProg .int (.lit 7) = true := by decide +kernel

end SoundRun
