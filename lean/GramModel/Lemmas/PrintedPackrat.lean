import GramModel.Lemmas.PrintedSentence
import GramModel.Lemmas.ParseComplete

/-! # Printed terms at the level of the packrat functions

`shape` keeps the recorded errors and the expected tree `srcOf` records none (`ce_srcOf`); `parse_let` on a printed definition
group, definition by definition (`def_term`, `mainDefs`, with the failure of the binder functions in front of a parenthesised
group), stated with `Parses` and `stopK`.  Declares into `PModel`, the parser model's namespace. -/

namespace PModel
open PrintDerives Unamb

theorem collectErrorsOpt_shape_of {o : OptSrc} (ih : o.all fun t => collectErrors (shape t) = collectErrors t) :
    collectErrorsOpt (shapeO o) = collectErrorsOpt o := by
  cases o with
  | none => rfl
  | some t => exact ih

theorem collectErrors_shape (t : Src) : collectErrors (shape t) = collectErrors t := by
  induction t using Src.induction with
  | lam _ _ _ _ _ _ _ ihd ihb | let_ _ _ _ _ _ _ _ ihd ihb ihc =>
    simp [shape, shapeV, collectErrors, collectErrorsOpt_shape_of ihd, *]
  | _ => simp [shape, shapeV, collectErrors, *]

theorem collectErrorsOpt_shape : ∀ o : OptSrc, collectErrorsOpt (shapeO o) = collectErrorsOpt o :=
  fun o => collectErrorsOpt_shape_of (OptSrc.all_of_forall collectErrors_shape o)

theorem ce_setG (e : Src) : collectErrors (setG e) = collectErrors e := by
  obtain ⟨r, g, v, es⟩ := e
  cases v <;> simp [setG, collectErrors]

theorem ce_nestL : ∀ (l : List Src), (∀ e ∈ l, collectErrors e = []) → l ≠ [] →
    collectErrors (nestL l) = []
  | [e], h, _ => h e (by simp)
  | e :: e' :: l, h, _ => by
    have ih := ce_nestL (e' :: l) (fun x hx => h x (by simp [hx])) (by simp)
    simp [nestL, mk0, collectErrors, ih, h e (by simp)]

section
variable (I : List Char → Name) (nm : Name → List Char)

theorem ce_grpS {t : Tm} (h : collectErrors (srcOf I nm t) = []) :
    collectErrors (grpS I nm t) = [] := by
  unfold grpS; split
  · exact h
  · rw [ce_setG]; exact h

theorem ce_annS {t : Tm} (h : collectErrors (srcOf I nm t) = []) :
    collectErrors (annS I nm t) = [] := by
  unfold annS; split
  · rw [ce_setG]; exact h
  · exact h

theorem ce_headAtoms {t : Tm} (h : collectErrors (srcOf I nm t) = [])
    (h' : ∀ e ∈ atomsOf I nm t, collectErrors e = []) :
    ∀ e ∈ headAtoms I nm t, collectErrors e = [] := by
  intro e he
  unfold headAtoms at he
  split at he
  · exact h' e he
  · simp only [List.mem_cons, List.mem_nil_iff, or_false] at he; subst he; exact ce_grpS I nm h

mutual
theorem ce_srcOf : ∀ t : Tm,
    collectErrors (srcOf I nm t) = [] ∧ (∀ e ∈ atomsOf I nm t, collectErrors e = [])
  | .hole _ _ | .var _ _ | .type | .int | .bool | .tt | .ff | .lit _ => by
      simp [srcOf, atomsOf, mk0, collectErrors]
  | .lam x imp d b => by
      have hd := ce_srcOf d
      have hb := ce_srcOf b
      rw [srcOf_lam]
      simp [mk0, collectErrors, collectErrorsOpt, ce_annS I nm hd.1, hb.1, atomsOf]
  | .pi x imp d c => by
      have hd := ce_srcOf d
      have hc := ce_srcOf c
      cases hf : freeAt c 0 with
      | true =>
        rw [srcOf_pi_dep I nm x imp d c hf]
        simp [mk0, collectErrors, ce_annS I nm hd.1, hc.1, atomsOf]
      | false =>
        rw [srcOf_arrow I nm x imp d c hf]
        have := ce_nestL _ (ce_headAtoms I nm hd.1 hd.2) (headAtoms_ne_nil I nm d)
        simp [mk0, collectErrors, this, hc.1, atomsOf]
  | .letg ds b => by
      have hb := ce_srcOf b
      rw [srcOf_letg]
      exact ⟨ce_srcDefs ds _ hb.1, by simp [atomsOf]⟩
  | .app f x => by
      have hf := ce_srcOf f
      have hx := ce_srcOf x
      have hall : ∀ e ∈ headAtoms I nm f ++ [grpS I nm x], collectErrors e = [] := by
        intro e he
        rcases List.mem_append.mp he with he | he
        · exact ce_headAtoms I nm hf.1 hf.2 e he
        · simp only [List.mem_cons, List.mem_nil_iff, or_false] at he; subst he
          exact ce_grpS I nm hx.1
      rw [srcOf_app, atomsOf_app]
      exact ⟨ce_nestL _ hall (by simp), hall⟩
  | .neg x => by
      have hx := ce_srcOf x
      rw [srcOf_neg]
      simp [mk0, collectErrors, ce_grpS I nm hx.1, atomsOf]
  | .bin op x y => by
      have hx := ce_srcOf x
      have hy := ce_srcOf y
      rw [srcOf_bin]
      simp [mk0, collectErrors, ce_grpS I nm hx.1, ce_grpS I nm hy.1, atomsOf]
  | .ite c x y => by
      have hc := ce_srcOf c
      have hx := ce_srcOf x
      have hy := ce_srcOf y
      rw [srcOf_ite]
      simp [mk0, collectErrors, hc.1, hx.1, hy.1, atomsOf]
theorem ce_srcDefs : ∀ (ds : Defs) (e : Src), collectErrors e = [] →
    collectErrors (srcDefs I nm ds e) = []
  | .nil, e, h => by rw [srcDefs_nil]; exact h
  | .cons x a d r, e, h => by
      have ha := ce_srcOf a
      have hd := ce_srcOf d
      have hr := ce_srcDefs r e h
      rw [srcDefs_cons]
      simp [mk0, collectErrors, collectErrorsOpt, ce_grpS I nm ha.1, ce_grpS I nm hd.1, hr]
end

end

/-- the kinds that can follow a printed term in a bare position -/
def stopK : PKind → Bool
  | .rightParen | .rightCurly | .then_ | .else_ | .terminator _ => true
  | _ => false

/-- a successful parse with a given shape -/
def Parses (toks : Array PTok) (nt : NT) (a b : Nat) (e : Src) : Prop :=
  ∃ tr, RetN toks nt a ⟨tr, b, true⟩ ∧ shape tr = e

/-- an operand (a leaf token, or a parenthesised term) as the packrat functions see it: `parse_atom`
returns a tree of shape `e` and stops at `b`; the binder functions fail at its first token -/
structure AtomOK (toks : Array PTok) (a b : Nat) (e : Src) : Prop where
  parses : Parses toks .atom a b e
  notPE : e.isParseError = false
  start : ∃ k, KAt toks a k ∧ atomStartK k = true
  nb : NB toks a
  ident : ∀ x, KAt toks a (.identifier x) → b = a + 1
  lt : a < b

/-- every alternative of `parse_jumbo_term` other than `parse_non_dependent_pi` and `parse_giant_term` fails at
`a`, and no `-` is there -/
structure PreFails (toks : Array PTok) (a : Nat) : Prop where
  lambda : FailsN toks .lambda a
  lambdaImplicit : FailsN toks .lambdaImplicit a
  annotatedLambda : FailsN toks .annotatedLambda a
  annotatedLambdaImplicit : FailsN toks .annotatedLambdaImplicit a
  pi : FailsN toks .pi a
  piImplicit : FailsN toks .piImplicit a
  if_ : FailsN toks .if_ a
  noMinus : ¬KAt toks a .minus

section
variable {toks : Array PTok}

/-- `parse_let` on one definition `x : A = d ; rest`; the binder functions fail at a parenthesis before it
(they parse `x : A` and meet `=`) -/
theorem def_term {a m1 m2 b : Nat} {x : Name} {ea ed eb : Src}
    (hx : KAt toks a (.identifier x)) (hc : KAt toks (a + 1) .colon)
    (ANN : Par toks .atom (a + 1 + 1) m1 ea) (heq : KAt toks m1 .equals)
    (DD : Par toks .atom (m1 + 1) m2 ed) (hterm : KAt toks m2 (.terminator .semicolon))
    (B : Parses toks .term (m2 + 1) b eb) :
    Parses toks .term a b (mk0 false (.let_ ⟨⟨0, 0⟩, x⟩ (.some ea) ed eb)) ∧
      (∀ p, p + 1 = a → NB toks p) := by
  obtain ⟨ta, sa, rfl⟩ := ANN
  obtain ⟨td, sd, rfl⟩ := DD
  obtain ⟨tb, hb, sb⟩ := B
  have G := compG (toks := toks) m2
  have l1 := sa.lt
  have l2 := sd.lt
  have ra := (segT_facts sa).2
  have ha := G.small _ _ _ (by omega) sa.up (NoExt.of_kat heq rfl)
  have hd := G.term _ _ _ (by omega) (atom_up (by decide) sd) (NoExt.of_kat hterm rfl)
  have hok := let_ok hx hc ha ra heq hd hterm hb
  refine ⟨⟨_, choice_ok (A := .term) [] [.jumboTerm] rfl (fun _ h => by cases h) hok rfl, ?_⟩, ?_⟩
  · simp [shape, shapeV, shapeO, sb, mk0]
  · intro p hp
    subst hp
    have hj := G.gj _ _ _ (by omega) sa.up (NoExt.of_kat heq rfl)
    exact NB.of_close hj ra (heq.ne (by decide))

variable (toks) (I : List Char → Name) (nm : Name → List Char)

/-- The printed definitions `ds` stand at `a … mb-1` and `parse_term` reads a body of shape `e` from `mb` to `b`: then it
reads the nested `let`s `srcDefs ds e` from `a` to `b`; and if the group is closed by `)` at `b`, the binder functions fail at
the parenthesis in front of it (given that they do in front of the body). -/
theorem mainDefs : ∀ (ds : Defs), noImplicitArrowDefs ds = true → noNegLitDefs ds = true →
    ∀ (a mb b : Nat) (e : Src), Sub toks a (pkDefs I nm ds) → mb = a + (pkDefs I nm ds).length →
      mb < b → (Follow toks b stopK → Parses toks .term mb b e) → e.isParseError = false →
      (KAt toks b .rightParen → ∀ p, p + 1 = mb → NB toks p) →
      (Follow toks b stopK → Parses toks .term a b (srcDefs I nm ds e)) ∧
      (KAt toks b .rightParen → ∀ p, p + 1 = a → NB toks p) ∧
      (srcDefs I nm ds e).isParseError = false
  | .nil, _, _, a, mb, b, e, _, hmb, _, hB, hpe, hnb => by
      have : mb = a := by rw [hmb, pkDefs_nil]; rfl
      subst this
      rw [srcDefs_nil]
      exact ⟨hB, hnb, hpe⟩
  | .cons x ann d r, h1, h2, a, mb, b, e, hs, hmb, hlt, hB, hpe, hnb => by
      simp only [noImplicitArrowDefs, noNegLitDefs, Bool.and_eq_true] at h1 h2
      rw [pkDefs_cons] at hs hmb
      obtain ⟨hx, hc, hs⟩ := hs
      rw [Sub_append] at hs
      obtain ⟨hsa, heq, hs⟩ := hs
      rw [Sub_append] at hs
      obtain ⟨hsd, hterm, hsr⟩ := hs
      have ANN := group_par (KSeg.of_sub hsa) (sentence toks I nm ann h1.1.1 h2.1.1)
      have DD := group_par (KSeg.of_sub hsd) (sentence toks I nm d h1.1.2 h2.1.2)
      have hmb' : mb = a + 1 + 1 + (groupK I nm ann).length + 1 + (groupK I nm d).length + 1
          + (pkDefs I nm r).length := by
        rw [hmb]; simp; omega
      generalize a + 1 + 1 + (groupK I nm ann).length = m1 at ANN DD heq hterm hsr hmb'
      generalize m1 + 1 + (groupK I nm d).length = m2 at DD hterm hsr hmb'
      have ih := mainDefs r h1.2 h2.2 (m2 + 1) mb b e hsr hmb' hlt hB hpe hnb
      rw [srcDefs_cons]
      refine ⟨fun hf => (def_term hx hc ANN heq DD hterm (ih.1 hf)).1, fun hb p hp => ?_, rfl⟩
      have hfb : Follow toks b stopK := Follow.of_kat hb rfl
      exact (def_term hx hc ANN heq DD hterm (ih.1 hfb)).2 p hp

end

end PModel
