import GramModel.Lemmas.CCJoin
import GramModel.Lemmas.Eval
import GramModel.Lemmas.Progress

/-!
# Consistency of conversion, canonical forms and progress for the declarative rules (C01 / C04)

Consistency comes from confluence (`Lemmas/CCPar.lean`, `Lemmas/CCJoin.lean`): convertible terms have
joinable erasures, and joinable weak head normal forms keep their head constructor — in *every*
definitions context whose offsets are in range (δ-unfolding of context definitions is a reduction of
`Par`).  So canonical forms and progress hold under any such context, in particular under the
definitions of a group, where the evaluator works on the first definition.  `Typed t`: well typed in some such
context; `headOf` / `valHead`: the type former at the head of a type / of the type of a value.  The file ends with
`step_conv`, `steps_conv` (a step of the evaluator is a conversion) and `whnf_conv_ground` (a weak head normal form
convertible with a literal / boolean IS that literal; `Ground`, `value_whnf`), declared into `ConvCoherence`, the
namespace of `Lemmas/ConvCoherence.lean`: what of that namespace needs no model of gram's checker.
-/

namespace Canonical
open CCSubst CCPar CheckSound

inductive Head | type | int | bool | pi
deriving DecidableEq

/-- head of a type in weak head normal form -/
def headOf : Tm → Option Head
  | .type => some .type
  | .int => some .int
  | .bool => some .bool
  | .pi .. => some .pi
  | _ => none

theorem headOf_er (A : Tm) (h : Head) (e : headOf A = some h) : headOf (er A) = some h := by
  cases A <;> simp [headOf] at e <;> simp [er, headOf, e]

theorem whnf_of_head {Δ : DCtxX} {n : Nat} {A : Tm} {h : Head} (e : headOf A = some h) : Whnf Δ n A := by
  cases A <;> simp [headOf] at e <;> constructor

theorem parsH_head {Δ : DCtxX} {n : Nat} {a c : Tm} (h : ParsH Δ n a c) : headOf a = headOf c := by
  cases h <;> rfl

/-- **Consistency of conversion**: convertible types with type-former heads have the same head. -/
theorem conv_heads {Δ : DCtxX} {A B : Tm} {h1 h2 : Head} (hc : Conv Δ A B) (hW : DWF Δ)
    (e1 : headOf A = some h1) (e2 : headOf B = some h2) : h1 = h2 := by
  have j := Conv.join hc hW
  have e1' := headOf_er A h1 e1
  have e2' := headOf_er B h2 e2
  obtain ⟨c, p1, p2⟩ := Join.heads (whnf_of_head e1') (whnf_of_head e2') j
  have := parsH_head p1
  have := parsH_head p2
  simp_all

/-- what canonical forms and progress need of the last non-conversion rule of a derivation of `t`: the type of a
value, the typing of the evaluation positions (`Pres.Gen` is the full form, for `HT`) -/
def Gen (Γ : TCtxX) (Δ : DCtxX) (t T0 : Tm) : Prop :=
  match t with
  | .hole .. => False
  | .var .. => True
  | .type | .int | .bool | .pi .. => T0 = .type
  | .lit _ => T0 = .int
  | .tt | .ff => T0 = .bool
  | .lam x im d _ => ∃ cod, T0 = .pi x im d cod
  | .app g a => ∃ x im dom cod, HasType Γ Δ g (.pi x im dom cod) ∧ HasType Γ Δ a dom
  | .neg a => HasType Γ Δ a .int
  | .bin _ a b => HasType Γ Δ a .int ∧ HasType Γ Δ b .int
  | .ite c _ _ => HasType Γ Δ c .bool
  | .letg ds _ => DefsOK (pushGroupX ds 0 (Γ, Δ)).1 (pushGroupX ds 0 (Γ, Δ)).2 ds

/-- generation (inversion up to conversion): only the conversion rule needs the induction -/
theorem gen {Γ : TCtxX} {Δ : DCtxX} {t T : Tm} (h : HasType Γ Δ t T) :
    ∃ T0, Conv Δ T0 T ∧ Gen Γ Δ t T0 := by
  induction h using HasType.rec (motive_2 := fun _ _ _ _ => True) with
  | conv _ hc ih =>
      obtain ⟨T0, c0, g⟩ := ih
      exact ⟨T0, .trans c0 hc, g⟩
  | nil | cons => trivial
  | var => exact ⟨_, .refl _ _, trivial⟩
  | lam => exact ⟨_, .refl _ _, _, rfl⟩
  | app x im hg ha => exact ⟨_, .refl _ _, x, im, _, _, hg, ha⟩
  | letg hd => exact ⟨_, .refl _ _, hd⟩
  | neg ha => exact ⟨_, .refl _ _, ha⟩
  | bin _ ha hb => exact ⟨_, .refl _ _, ha, hb⟩
  | ite hc => exact ⟨_, .refl _ _, hc⟩
  | _ => exact ⟨_, .refl _ _, rfl⟩

/-- head of the type of a value -/
def valHead : Tm → Option Head
  | .lit _ => some .int
  | .tt | .ff => some .bool
  | .type | .int | .bool | .pi .. => some .type
  | .lam .. => some .pi
  | _ => none

theorem value_gen_head {Γ : TCtxX} {Δ : DCtxX} {v T0 : Tm} (hv : isValue v = true) (g : Gen Γ Δ v T0) :
    ∃ h, headOf T0 = some h ∧ valHead v = some h := by
  cases v <;> simp [isValue] at hv <;> simp only [Gen] at g
  case lam => obtain ⟨cod, rfl⟩ := g; exact ⟨_, rfl, rfl⟩
  all_goals (subst g; exact ⟨_, rfl, rfl⟩)

/-- **Canonical forms, generic**: in any context whose offsets are in range, if the type of a value is
convertible with a type whose head is a type former, that type former is the one the value's shape
dictates. -/
theorem canonical {Γ : TCtxX} {Δ : DCtxX} {v T X : Tm} {h : Head} (hW : DWF Δ) (hv : isValue v = true)
    (ht : HasType Γ Δ v T) (hc : Conv Δ T X) (hX : headOf X = some h) : valHead v = some h := by
  obtain ⟨T0, c0, g⟩ := gen ht
  obtain ⟨h0, e0, ev⟩ := value_gen_head hv g
  have := conv_heads (.trans c0 hc) hW e0 hX
  rw [← this]; exact ev

theorem canonical_int {Γ : TCtxX} {Δ : DCtxX} {v T : Tm} (hW : DWF Δ) (hv : isValue v = true)
    (ht : HasType Γ Δ v T) (hc : Conv Δ T .int) : ∃ n, v = .lit n := by
  have := canonical (h := .int) hW hv ht hc rfl
  cases v <;> simp [valHead] at this
  exact ⟨_, rfl⟩

theorem canonical_bool {Γ : TCtxX} {Δ : DCtxX} {v T : Tm} (hW : DWF Δ) (hv : isValue v = true)
    (ht : HasType Γ Δ v T) (hc : Conv Δ T .bool) : v = .tt ∨ v = .ff := by
  have := canonical (h := .bool) hW hv ht hc rfl
  cases v <;> simp [valHead] at this <;> simp

theorem canonical_pi {Γ : TCtxX} {Δ : DCtxX} {v T : Tm} {x : Name} {im : Bool} {d c : Tm} (hW : DWF Δ)
    (hv : isValue v = true) (ht : HasType Γ Δ v T) (hc : Conv Δ T (.pi x im d c)) :
    ∃ y jm e b, v = .lam y jm e b := by
  have := canonical (h := .pi) hW hv ht hc rfl
  cases v <;> simp [valHead] at this
  exact ⟨_, _, _, _, rfl⟩

theorem canonical_type {Γ : TCtxX} {Δ : DCtxX} {v T : Tm} (hW : DWF Δ) (hv : isValue v = true)
    (ht : HasType Γ Δ v T) (hc : Conv Δ T .type) :
    v = .type ∨ v = .int ∨ v = .bool ∨ ∃ x im d c, v = .pi x im d c := by
  have := canonical (h := .type) hW hv ht hc rfl
  cases v <;> simp [valHead] at this <;> simp

theorem DWF_nil : DWF [] := CCPar.DWF_nil

theorem DWF_pushGroupX {Γ : TCtxX} {Δ : DCtxX} (ds : Defs) (hW : DWF Δ) : DWF (pushGroupX ds 0 (Γ, Δ)).2 := by
  rw [pushGroupX_eq]; exact DWF_pushed hW ds

def Typed (t : Tm) : Prop := ∃ Γ Δ T, DWF Δ ∧ HasType Γ Δ t T

theorem Typed.evalTyped : EvalTyped Typed where
  hole := by rintro i s ⟨Γ, Δ, T, -, h⟩; exact (gen h).choose_spec.2
  app := by
    rintro f a ⟨Γ, Δ, T, hW, h⟩
    obtain ⟨_, -, x, im, dom, cod, hg, ha⟩ := gen h
    exact ⟨⟨_, _, _, hW, hg⟩, ⟨_, _, _, hW, ha⟩, fun hv => canonical_pi hW hv hg (.refl _ _)⟩
  letg := by
    rintro x ann d r b ⟨Γ, Δ, T, hW, h⟩
    obtain ⟨_, -, g⟩ := gen h
    cases g with
    | cons _ _ hd _ => exact ⟨_, _, _, DWF_pushGroupX _ hW, hd⟩
  neg := by
    rintro a ⟨Γ, Δ, T, hW, h⟩
    obtain ⟨_, -, g⟩ := gen h
    exact ⟨⟨_, _, _, hW, g⟩, fun hv => canonical_int hW hv g (.refl _ _)⟩
  bin := by
    rintro op a b ⟨Γ, Δ, T, hW, h⟩
    obtain ⟨_, -, ga, gb⟩ := gen h
    exact ⟨⟨⟨_, _, _, hW, ga⟩, fun hv => canonical_int hW hv ga (.refl _ _)⟩,
      ⟨_, _, _, hW, gb⟩, fun hv => canonical_int hW hv gb (.refl _ _)⟩
  ite := by
    rintro c a b ⟨Γ, Δ, T, hW, h⟩
    obtain ⟨_, -, g⟩ := gen h
    exact ⟨⟨_, _, _, hW, g⟩, fun hv => canonical_bool hW hv g (.refl _ _)⟩

/-- **One-step progress for the declarative rules**, in any context whose offsets are in range: a well
typed term that is stuck is stuck at a variable in evaluation position or at a division by zero. -/
theorem stuck_only_var_or_div : ∀ (t : Tm) (r : StuckReason), stuckReason t = some r →
    ∀ (Γ : TCtxX) (Δ : DCtxX) (T : Tm), DWF Δ → HasType Γ Δ t T → r = .variable ∨ r = .divZero :=
  fun t r hs Γ Δ T hW h => (Typed.evalTyped.stuck t r hs ⟨Γ, Δ, T, hW, h⟩).symm.imp And.left id

theorem progress {Γ : TCtxX} {Δ : DCtxX} {t T : Tm} (hW : DWF Δ) (h : HasType Γ Δ t T) :
    isValue t = true ∨ (∃ t', Step t t') ∨ stuckReason t = some .variable ∨ stuckReason t = some .divZero :=
  progress_of_stuck fun r hr => stuck_only_var_or_div t r hr Γ Δ T hW h

/-- under the same hypothesis `pres` as `checker_sound_run` (`Lemmas/SoundRun.lean`) -/
theorem evalFuel_typed
    (pres : ∀ (t t' T : Tm), t.holeFree = true → HasType [] [] t T → Step t t' → HasType [] [] t' T) :
    ∀ (n : Nat) (t T : Tm), t.holeFree = true → HasType [] [] t T →
      (evalFuel n t).holeFree = true ∧ HasType [] [] (evalFuel n t) T
  | 0, t, T, hf, h => ⟨hf, h⟩
  | n+1, t, T, hf, h => by
      unfold evalFuel
      cases hs : step t with
      | none => exact ⟨hf, h⟩
      | some t' =>
        have st := step_sound t t' hs
        exact evalFuel_typed pres n t' T (Step_holeFree st hf) (pres t t' T hf h st)

end Canonical

namespace ConvCoherence

/-- in every definitions context: the evaluator never looks at the context; its `let` rule is the `letStep` head
reduction, its congruence rule for the first definition of a group is the group congruence of `Conv`, whose
premises live under opaque group variables -/
theorem step_conv {t t' : Tm} (h : Step t t') : ∀ (Δ : DCtxX), Conv Δ t t' := by
  induction h with
  | appL _ ih => intro Δ; exact .app (ih Δ) (.refl _ _)
  | appR _ _ ih => intro Δ; exact .app (.refl _ _) (ih Δ)
  | @beta x im d b a _ => intro Δ; exact .red (.beta x im d b a)
  | negC _ ih => intro Δ; exact .neg (ih Δ)
  | @negL n => intro Δ; exact .red (.neg n)
  | binL _ ih => intro Δ; exact .bin _ (ih Δ) (.refl _ _)
  | binR _ _ ih => intro Δ; exact .bin _ (.refl _ _) (ih Δ)
  | @delta op x y r h => intro Δ; exact .red (.arith op x y r h)
  | iteC _ ih => intro Δ; exact .ite (ih Δ) (.refl _ _) (.refl _ _)
  | @iteT a b => intro Δ; exact .red (.iteTrue a b)
  | @iteF a b => intro Δ; exact .red (.iteFalse a b)
  | @letNil b => intro Δ; exact .red (.letNil b)
  | @letD x ann d d' rest b _ ih =>
    intro Δ
    refine .letg (.cons x x (.refl _ _) (ih _) ?_) (.refl _ _)
    exact convDefs_refl _ rest
  | @letU x ann d rest b _ => intro Δ; exact .red (.letStep x ann d rest b)
where
  convDefs_refl : ∀ (Δ : DCtxX) (ds : Defs), ConvDefs Δ ds ds
    | Δ, .nil => .nil Δ
    | Δ, .cons x _ _ r => .cons x x (.refl _ _) (.refl _ _) (convDefs_refl Δ r)

theorem steps_conv {t t' : Tm} (h : Steps t t') (Δ : DCtxX) : Conv Δ t t' := by
  induction h with
  | refl => exact .refl _ _
  | head h _ ih => exact .trans (step_conv h Δ) ih

open CCSubst CCPar

/-- what `gram run` prints for a program of type `int` / `bool` -/
def Ground (v : Tm) : Prop := (∃ k, v = .lit k) ∨ v = .tt ∨ v = .ff

theorem Ground.er {v : Tm} (h : Ground v) : er v = v := by
  rcases h with ⟨k, rfl⟩ | rfl | rfl <;> rfl

/-- **Consistency, ground form**: a hole-free term whose erasure is a weak head normal form and which is
convertible with a ground value is that value. -/
theorem whnf_conv_ground {Δ : DCtxX} (hW : DWF Δ) {w v : Tm} (hf : w.holeFree = true)
    (hw : Whnf (erD Δ) 0 (er w)) (hv : Ground v) (hc : Conv Δ w v) : w = v := by
  rcases hv with ⟨k, rfl⟩ | rfl | rfl <;>
    cases Join.heads_er hf rfl hw (by constructor) (Conv.join hc hW) <;> rfl

theorem value_whnf {Δ : DCtxX} {n : Nat} {v : Tm} (hv : isValue v = true) (hf : v.holeFree = true) :
    Whnf Δ n (er v) := by
  cases v <;> simp only [isValue] at hv <;> first | (cases hv; done) | (cases hf; done) | skip
  all_goals simp only [er]
  all_goals constructor

end ConvCoherence
