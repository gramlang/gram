import GramModel.Lemmas.PrintedTree
import GramModel.Lemmas.ReassocPasses

/-! # The re-association passes on trees of the shape `srcOf I nm t`

`lsrc I nm t` is the surface tree of `t` itself: applications left-nested, no layout.  On every tree whose shape is
`srcOf I nm t` (what the parse phase returns: application chains right-nested) the applications pass returns `lsrc I nm t`
up to layout and a fully parenthesised tree (`appsPass_printed`), on which the two operator passes are the identity
(`reassocAll_shape`).  Declares into namespace `PModel`. -/

namespace PModel
open RewriteMore PrintDerives

theorem shape_app_inv {s e1 e2 : Src} (h : shape s = mk0 false (.app e1 e2)) :
    ∃ r x y, s = .mk r false (.app x y) [] ∧ shape x = e1 ∧ shape y = e2 := by
  obtain ⟨r, g, v, es⟩ := s
  cases v <;> simp [shape, shapeV, mk0] at h
  obtain ⟨rfl, ⟨rfl, rfl⟩, rfl⟩ := h
  exact ⟨r, _, _, rfl, rfl, rfl⟩

theorem isChain_of_shape : ∀ (atoms : List Src) (s : Src), atoms ≠ [] → shape s = nestL atoms →
    ∃ l, IsChain s l ∧ l.map shape = atoms
  | [e], s, _, h => ⟨[s], .one s, by simpa [nestL] using h⟩
  | e :: e' :: l, s, _, h => by
    obtain ⟨r, x, y, rfl, hx, hy⟩ := shape_app_inv (by simpa [nestL] using h)
    obtain ⟨l1, hc, hl1⟩ := isChain_of_shape (e' :: l) y (by simp) hy
    cases l1 with
    | nil => simp at hl1
    | cons y0 l1 => exact ⟨x :: y0 :: l1, .cons r [] x y y0 l1 hc, by simp [hx, hl1]⟩

/-- an operand shape: parenthesised, or not an application -/
def atomish (e : Src) : Prop := e.group = true ∨ inFam .applications e.variant = false

theorem atomish_of_shape {x e : Src} (h : shape x = e) (he : atomish e) :
    Opaque .applications x := by
  obtain ⟨r, g, v, es⟩ := x
  subst h
  refine opaque_of _ r g v es ?_
  rcases he with he | he
  · exact Or.inl he
  · right
    cases v <;> first | rfl | (simp [shape, shapeV, Src.variant, inFam] at he)

section
variable (I : List Char → Name) (nm : Name → List Char)

theorem grpS_atomish (t : Tm) : atomish (grpS I nm t) := by
  unfold grpS
  split
  · rename_i h
    right
    cases t <;> first
      | (simp [atomic, Tm.former, Former.bare] at h; done)
      | (rename_i op _ _; cases op <;> simp [atomic, Tm.former, Former.bare, Former.ofOp] at h; done)
      | (rw [srcOf]; rfl)
  · left
    generalize srcOf I nm t = e
    obtain ⟨r, g, v, es⟩ := e; rfl

theorem atomsOf_atomish : ∀ t : Tm, ∀ e ∈ atomsOf I nm t, atomish e
  | .app f a => by
    intro e he
    rw [atomsOf_app] at he
    rcases List.mem_append.mp he with he | he
    · unfold headAtoms at he
      split at he
      · exact atomsOf_atomish f e he
      · simp only [List.mem_cons, List.mem_nil_iff, or_false] at he; subst he
        exact grpS_atomish I nm f
    · simp only [List.mem_cons, List.mem_nil_iff, or_false] at he; subst he
      exact grpS_atomish I nm a
  | .hole _ _ | .type | .int | .bool | .tt | .ff | .lit _ | .var _ _ | .lam _ _ _ _ | .pi _ _ _ _
  | .letg _ _ | .neg _ | .bin _ _ _ | .ite _ _ _ => by simp [atomsOf]

end

section DefinitionGroups
variable (I : List Char → Name) (nm : Name → List Char)

mutual
/-- the surface tree of `t` itself, `l`eft-nested (an application is `.app (lsrc f) (lsrc a)`), without layout -/
def lsrc : Tm → Src
  | .hole _ _ => mk00 (.var (I holeText))
  | .type => mk00 .type
  | .int => mk00 .int
  | .bool => mk00 .bool
  | .tt => mk00 .tt
  | .ff => mk00 .ff
  | .lit n => mk00 (.lit n)
  | .var x _ => mk00 (.var (I (nm x)))
  | .lam x imp d b => mk00 (.lam ⟨⟨0, 0⟩, I (nm x)⟩ imp (.some (lsrc d)) (lsrc b))
  | .pi x imp d c =>
      if freeAt c 0 then mk00 (.pi ⟨⟨0, 0⟩, I (nm x)⟩ imp (lsrc d) (lsrc c))
      else mk00 (.pi ⟨⟨0, 0⟩, placeholder⟩ false (lsrc d) (lsrc c))
  | .app f a => mk00 (.app (lsrc f) (lsrc a))
  | .letg ds b => lsrcDefs ds (lsrc b)
  | .neg a => mk00 (.neg (lsrc a))
  | .bin op a b => mk00 (.bin op (lsrc a) (lsrc b))
  | .ite c a b => mk00 (.ite (lsrc c) (lsrc a) (lsrc b))
def lsrcDefs : Defs → Src → Src
  | .nil, body => body
  | .cons x a d r, body =>
      mk00 (.let_ ⟨⟨0, 0⟩, I (nm x)⟩ (.some (lsrc a)) (lsrc d) (lsrcDefs r body))
end

def latomsOf : Tm → List Src
  | .app f a => (if isApp f then latomsOf f else [lsrc I nm f]) ++ [lsrc I nm a]
  | _ => []

def lheads (t : Tm) : List Src := if isApp t then latomsOf I nm t else [lsrc I nm t]

theorem latomsOf_app (f a : Tm) :
    latomsOf I nm (.app f a) = lheads I nm f ++ [lsrc I nm a] := by
  rw [latomsOf]; rfl

theorem chainRes_latoms : ∀ t : Tm, isApp t = true →
    chainRes none (latomsOf I nm t) = lsrc I nm t
  | .app f a, _ => by
    rw [latomsOf_app, lsrc]
    unfold lheads
    by_cases hf : isApp f = true
    · simp only [hf, if_true]
      have ih := chainRes_latoms f hf
      cases hl : latomsOf I nm f with
      | nil => rw [hl] at ih; cases f <;> simp [isApp] at hf; rw [latomsOf_app] at hl; simp at hl
      | cons y l =>
        rw [hl] at ih
        simp only [chainRes, List.cons_append] at ih ⊢
        rw [leftN_snoc, ih]
    · simp only [hf, if_false, Bool.false_eq_true]
      rfl
  | .hole _ _, h | .type, h | .int, h | .bool, h | .tt, h | .ff, h | .lit _, h | .var _ _, h
  | .lam _ _ _ _, h | .pi _ _ _ _, h | .letg _ _, h | .neg _, h | .bin _ _ _, h | .ite _ _ _, h => by
    simp [isApp] at h

end DefinitionGroups

theorem shape_neg_inv {s e : Src} (h : shape s = mk0 false (.neg e)) :
    ∃ r x, s = .mk r false (.neg x) [] ∧ shape x = e := by
  obtain ⟨r, g, v, es⟩ := s
  cases v <;> simp [shape, shapeV, mk0] at h
  obtain ⟨rfl, rfl, rfl⟩ := h
  exact ⟨r, _, rfl, rfl⟩

theorem shape_bin_inv {s e1 e2 : Src} {o : BinOp} (h : shape s = mk0 false (.bin o e1 e2)) :
    ∃ r x y, s = .mk r false (.bin o x y) [] ∧ shape x = e1 ∧ shape y = e2 := by
  obtain ⟨r, g, v, es⟩ := s
  cases v <;> simp [shape, shapeV, mk0] at h
  obtain ⟨rfl, ⟨rfl, rfl, rfl⟩, rfl⟩ := h
  exact ⟨r, _, _, rfl, rfl, rfl⟩

theorem shape_ite_inv {s e1 e2 e3 : Src} (h : shape s = mk0 false (.ite e1 e2 e3)) :
    ∃ r x y z, s = .mk r false (.ite x y z) [] ∧ shape x = e1 ∧ shape y = e2 ∧ shape z = e3 := by
  obtain ⟨r, g, v, es⟩ := s
  cases v <;> simp [shape, shapeV, mk0] at h
  obtain ⟨rfl, ⟨rfl, rfl, rfl⟩, rfl⟩ := h
  exact ⟨r, _, _, _, rfl, rfl, rfl, rfl⟩

theorem shape_pi_inv {s e1 e2 : Src} {x : Name} {imp : Bool}
    (h : shape s = mk0 false (.pi ⟨⟨0, 0⟩, x⟩ imp e1 e2)) :
    ∃ r vr a b, s = .mk r false (.pi ⟨vr, x⟩ imp a b) [] ∧ shape a = e1 ∧ shape b = e2 := by
  obtain ⟨r, g, v, es⟩ := s
  cases v <;> simp [shape, shapeV, mk0] at h
  rename_i v imp' a b
  obtain ⟨vr, vn⟩ := v
  obtain ⟨rfl, ⟨hv, rfl, rfl, rfl⟩, rfl⟩ := h
  simp at hv; subst hv
  exact ⟨r, vr, _, _, rfl, rfl, rfl⟩

theorem shape_lam_inv {s e1 e2 : Src} {x : Name} {imp : Bool}
    (h : shape s = mk0 false (.lam ⟨⟨0, 0⟩, x⟩ imp (.some e1) e2)) :
    ∃ r vr a b, s = .mk r false (.lam ⟨vr, x⟩ imp (.some a) b) [] ∧ shape a = e1 ∧ shape b = e2 := by
  obtain ⟨r, g, v, es⟩ := s
  cases v <;> simp [shape, shapeV, mk0] at h
  rename_i v imp' dom b
  obtain ⟨vr, vn⟩ := v
  obtain ⟨rfl, ⟨hv, rfl, hd, rfl⟩, rfl⟩ := h
  simp at hv; subst hv
  cases dom with
  | none => simp [shapeO] at hd
  | some a => simp [shapeO] at hd; exact ⟨r, vr, a, _, rfl, hd, rfl⟩

theorem shape_let_inv {s e1 e2 e3 : Src} {x : Name}
    (h : shape s = mk0 false (.let_ ⟨⟨0, 0⟩, x⟩ (.some e1) e2 e3)) :
    ∃ r vr a d b, s = .mk r false (.let_ ⟨vr, x⟩ (.some a) d b) [] ∧ shape a = e1 ∧ shape d = e2 ∧
      shape b = e3 := by
  obtain ⟨r, g, v, es⟩ := s
  cases v <;> simp [shape, shapeV, mk0] at h
  rename_i v ann d b
  obtain ⟨vr, vn⟩ := v
  obtain ⟨rfl, ⟨hv, ha, rfl, rfl⟩, rfl⟩ := h
  simp at hv; subst hv
  cases ann with
  | none => simp [shapeO] at ha
  | some a => simp [shapeO] at ha; exact ⟨r, vr, a, _, _, rfl, ha, rfl, rfl⟩

theorem Res2.of_setG {e E : Src} (ih : ∀ s, shape s = e → Res2 s E) {x : Src}
    (h : shape x = setG e) : Res2 x E := by
  obtain ⟨r, g, v, es⟩ := x
  obtain ⟨re, ge, ve, ese⟩ := e
  simp only [shape, setG, Src.mk.injEq] at h
  obtain ⟨hr, _, hv, hes⟩ := h
  exact (ih (.mk r ge v es) (by simp [shape, hr, hv, hes])).flag

section
variable (I : List Char → Name) (nm : Name → List Char)

theorem atomic_lsrc_notbin {u : Tm} (h : atomic u = true) : isBinV (lsrc I nm u).variant = false := by
  cases u <;> first
    | (simp [atomic, Tm.former, Former.bare] at h; done)
    | (rename_i op _ _; cases op <;> simp [atomic, Tm.former, Former.bare, Former.ofOp] at h; done)
    | (rw [lsrc]; rfl)

theorem res2_grp {u : Tm} (ih : ∀ s, shape s = srcOf I nm u → Res2 s (lsrc I nm u)) {x : Src}
    (h : shape x = grpS I nm u) :
    Res2 x (lsrc I nm u) ∧ Opaque .applications x ∧
      (∀ x1, reassoc .applications none x = some x1 → At23 x1) := by
  have hop := atomish_of_shape h (grpS_atomish I nm u)
  unfold grpS at h
  split at h
  · rename_i hat
    have hr := ih x h
    exact ⟨hr, hop, hr.at23 (Or.inr (atomic_lsrc_notbin I nm hat))⟩
  · have hr := Res2.of_setG ih h
    refine ⟨hr, hop, hr.at23 (Or.inl ?_)⟩
    obtain ⟨r, g, v, es⟩ := x
    generalize srcOf I nm u = e at h
    obtain ⟨re, ge, ve, ese⟩ := e
    simp only [shape, setG, Src.mk.injEq] at h
    exact h.2.1

theorem res2_ann {u : Tm} (ih : ∀ s, shape s = srcOf I nm u → Res2 s (lsrc I nm u)) {x : Src}
    (h : shape x = annS I nm u) : Res2 x (lsrc I nm u) := by
  unfold annS at h
  split at h
  · exact Res2.of_setG ih h
  · exact ih x h

theorem res2_leaf {s : Src} {v : SrcV} (h : shape s = mk0 false v)
    (hv : v = .type ∨ (∃ x, v = .var x) ∨ v = .int ∨ (∃ n, v = .lit n) ∨ v = .bool ∨ v = .tt ∨ v = .ff) :
    Res2 s (mk00 v) := by
  obtain ⟨r, g, v', es⟩ := s
  have hv' : v' = v := by
    simp only [shape, mk0, Src.mk.injEq] at h
    rcases hv with rfl | ⟨x, rfl⟩ | rfl | ⟨n, rfl⟩ | rfl | rfl | rfl <;>
      cases v' <;> simp [shapeV] at h <;> simp [h]
  subst hv'
  have hk := kept_atom .applications r g v' es hv
  have hnb : isBinV v' = false := by
    rcases hv with rfl | ⟨x, rfl⟩ | rfl | ⟨n, rfl⟩ | rfl | rfl | rfl <;> rfl
  refine ⟨_, hk none, ?_, ?_, by simp [Src.variant, mk00, hnb],
    fun hb => by simp [Src.variant, hnb] at hb⟩
  · simp only [reassocTail, strip, mk00]
    rcases hv with rfl | ⟨x, rfl⟩ | rfl | ⟨n, rfl⟩ | rfl | rfl | rfl <;> rfl
  · simp only [reassocTail]
    rw [OK23]
    rcases hv with rfl | ⟨x, rfl⟩ | rfl | ⟨n, rfl⟩ | rfl | rfl | rfl <;> (rw [OK23V]; trivial)

mutual
theorem appsPass_printed : ∀ t : Tm,
    (∀ s, shape s = srcOf I nm t → Res2 s (lsrc I nm t)) ∧
    (∀ l : List Src, l.map shape = atomsOf I nm t → AtomsRes2 l (latomsOf I nm t))
  | .hole _ _ | .var _ _ | .type | .int | .bool | .tt | .ff | .lit _ =>
    ⟨fun s h => by rw [srcOf] at h; rw [lsrc]; exact res2_leaf h (by simp),
      fun l h => by simp [atomsOf] at h; subst h; simp only [latomsOf]; exact .nil⟩
  | .lam x imp d b => by
    refine ⟨fun s h => ?_,
      fun l h => by simp [atomsOf] at h; subst h; simp only [latomsOf]; exact .nil⟩
    rw [srcOf_lam] at h
    obtain ⟨r, vr, xd, xb, rfl, hd, hb⟩ := shape_lam_inv h
    obtain ⟨d1, hd1, sd, okd, _⟩ := res2_ann I nm (appsPass_printed d).1 hd
    obtain ⟨b1, hb1, sb, okb, _⟩ := (appsPass_printed b).1 xb hb
    rw [lsrc]
    refine ⟨.mk r false (.lam ⟨vr, I (nm x)⟩ imp (.some d1) b1) [],
      reassoc_lam_some.2 ⟨_, _, by rw [reassocOpt, hd1], hb1, rfl⟩,
      by simp [strip, stripV, stripO, sd, sb, mk00],
      by rw [OK23, OK23V, OK23O]; exact ⟨okd, okb⟩, rfl, fun hb => by simp [isBinV, Src.variant] at hb⟩
  | .pi x imp d c => by
    refine ⟨fun s h => ?_,
      fun l h => by simp [atomsOf] at h; subst h; simp only [latomsOf]; exact .nil⟩
    cases hf : freeAt c 0 with
    | true =>
      rw [srcOf_pi_dep I nm x imp d c hf] at h
      obtain ⟨r, vr, xd, xc, rfl, hd, hc⟩ := shape_pi_inv h
      obtain ⟨d1, hd1, sd, okd, _⟩ := res2_ann I nm (appsPass_printed d).1 hd
      obtain ⟨c1, hc1, sc, okc, _⟩ := (appsPass_printed c).1 xc hc
      rw [lsrc]
      simp only [hf, if_true]
      refine ⟨.mk r false (.pi ⟨vr, I (nm x)⟩ imp d1 c1) [],
        reassoc_pi_some.2 ⟨_, _, hd1, hc1, rfl⟩,
        by simp [strip, stripV, sd, sc, mk00],
        by rw [OK23, OK23V]; exact ⟨okd, okc⟩, rfl, fun hb => by simp [isBinV, Src.variant] at hb⟩
    | false =>
      rw [srcOf_arrow I nm x imp d c hf] at h
      obtain ⟨r, vr, xd, xc, rfl, hd, hc⟩ := shape_pi_inv h
      have hdres : Res2 xd (lsrc I nm d) := by
        unfold headAtoms at hd
        split at hd
        · rename_i hap
          rw [← srcOf_isApp I nm hap] at hd
          exact (appsPass_printed d).1 xd hd
        · exact (res2_grp I nm (appsPass_printed d).1 (by simpa [nestL] using hd)).1
      obtain ⟨d1, hd1, sd, okd, _⟩ := hdres
      obtain ⟨c1, hc1, sc, okc, _⟩ := (appsPass_printed c).1 xc hc
      rw [lsrc]
      simp only [hf, if_false, Bool.false_eq_true]
      refine ⟨.mk r false (.pi ⟨vr, placeholder⟩ false d1 c1) [],
        reassoc_pi_some.2 ⟨_, _, hd1, hc1, rfl⟩,
        by simp [strip, stripV, sd, sc, mk00],
        by rw [OK23, OK23V]; exact ⟨okd, okc⟩, rfl, fun hb => by simp [isBinV, Src.variant] at hb⟩
  | .app f a => by
    -- the operands of the chain: the argument, and the head or (an application) its own operands; each is `Res2`
    have hatoms : ∀ l : List Src, l.map shape = atomsOf I nm (.app f a) →
        AtomsRes2 l (latomsOf I nm (.app f a)) := by
      intro l h
      rw [atomsOf_app] at h
      rw [latomsOf_app]
      obtain ⟨l1, l2, rfl, h1, h2⟩ := List.map_eq_append_iff.mp h
      obtain ⟨xa, rfl, hxa⟩ := List.map_eq_singleton_iff.mp h2
      have ha := res2_grp I nm (appsPass_printed a).1 hxa
      refine AtomsRes2.append ?_ (.cons ha.2.1 ha.1 .nil)
      unfold headAtoms at h1
      unfold lheads
      split at h1
      · rename_i hap
        simp only [hap, if_true]
        exact (appsPass_printed f).2 l1 h1
      · rename_i hap
        simp only [hap]
        obtain ⟨xf, rfl, hxf⟩ := List.map_eq_singleton_iff.mp h1
        have hf := res2_grp I nm (appsPass_printed f).1 hxf
        exact .cons hf.2.1 hf.1 .nil
    refine ⟨fun s h => ?_, hatoms⟩
    -- `s` is the right-nested chain of these operands, all opaque: the pass left-nests it
    rw [srcOf_isApp I nm (t := .app f a) rfl] at h
    have hne : atomsOf I nm (.app f a) ≠ [] := by rw [atomsOf_app]; simp
    obtain ⟨l, hc, hl⟩ := isChain_of_shape _ s hne h
    obtain ⟨l', hops, hl', hok'⟩ := (hatoms l hl).ops
    obtain ⟨s1, hr, hres⟩ := reassoc_chainS hc l' hops none (Or.inl rfl)
    have hstrip : strip s1 = chainRes none (latomsOf I nm (.app f a)) := hl' ▸ hres.strip
    -- a left-nested application of `OK23` operands is `OK23`
    have hok : OK23 s1 := by
      cases l' with
      | nil => exact hres.elim
      | cons x' rest =>
        exact LApp.ok23 hres (hok' x' (by simp)) (fun y hy => hok' y (by simp [hy]))
    have hsv : isBinV s.variant = false := by
      have hlen : 2 ≤ l.length := by
        have : l.length = (atomsOf I nm (.app f a)).length := by rw [← hl]; simp
        rw [this, atomsOf_app]
        have : headAtoms I nm f ≠ [] := headAtoms_ne_nil I nm f
        have := List.length_pos_iff.mpr this
        simp; omega
      cases hc with
      | one _ => simp at hlen
      | cons _ _ _ _ _ _ _ => rfl
    refine ⟨s1, hr, by rw [hstrip]; exact chainRes_latoms I nm (.app f a) rfl, hok, ?_,
      fun hb => by rw [hsv] at hb; cases hb⟩
    rw [hsv, lsrc]; rfl
  | .letg ds b => by
    refine ⟨fun s h => ?_,
      fun l h => by simp [atomsOf] at h; subst h; simp only [latomsOf]; exact .nil⟩
    rw [srcOf_letg] at h
    rw [lsrc]
    exact a2defs ds _ _ (appsPass_printed b).1 s h
  | .neg a => by
    refine ⟨fun s h => ?_,
      fun l h => by simp [atomsOf] at h; subst h; simp only [latomsOf]; exact .nil⟩
    rw [srcOf_neg] at h
    obtain ⟨r, x, rfl, hx⟩ := shape_neg_inv h
    obtain ⟨x1, hx1, sx, okx, _⟩ := (res2_grp I nm (appsPass_printed a).1 hx).1
    rw [lsrc]
    refine ⟨.mk r false (.neg x1) [], reassoc_neg_some.2 ⟨_, hx1, rfl⟩,
      by simp [strip, stripV, sx, mk00], by rw [OK23, OK23V]; exact okx, rfl,
      fun hb => by simp [isBinV, Src.variant] at hb⟩
  | .bin op a b => by
    refine ⟨fun s h => ?_,
      fun l h => by simp [atomsOf] at h; subst h; simp only [latomsOf]; exact .nil⟩
    rw [srcOf_bin] at h
    obtain ⟨r, x, y, rfl, hx, hy⟩ := shape_bin_inv h
    have gx := res2_grp I nm (appsPass_printed a).1 hx
    have gy := res2_grp I nm (appsPass_printed b).1 hy
    obtain ⟨x1, hx1, sx, okx, _⟩ := gx.1
    obtain ⟨y1, hy1, sy, oky, _⟩ := gy.1
    rw [lsrc]
    refine ⟨.mk r false (.bin op x1 y1) [], by rw [reassoc]; simp [hx1, hy1]; rfl,
      by simp [strip, stripV, sx, sy, mk00],
      by rw [OK23, OK23V]; exact ⟨⟨gx.2.2 x1 hx1, gy.2.2 y1 hy1⟩, okx, oky⟩, rfl, fun _ => rfl⟩
  | .ite c a b => by
    refine ⟨fun s h => ?_,
      fun l h => by simp [atomsOf] at h; subst h; simp only [latomsOf]; exact .nil⟩
    rw [srcOf_ite] at h
    obtain ⟨r, x, y, z, rfl, hx, hy, hz⟩ := shape_ite_inv h
    obtain ⟨x1, hx1, sx, okx, _⟩ := (appsPass_printed c).1 x hx
    obtain ⟨y1, hy1, sy, oky, _⟩ := (appsPass_printed a).1 y hy
    obtain ⟨z1, hz1, sz, okz, _⟩ := (appsPass_printed b).1 z hz
    rw [lsrc]
    refine ⟨.mk r false (.ite x1 y1 z1) [], reassoc_ite_some.2 ⟨_, _, _, hx1, hy1, hz1, rfl⟩,
      by simp [strip, stripV, sx, sy, sz, mk00], by rw [OK23, OK23V]; exact ⟨okx, oky, okz⟩, rfl,
      fun hb => by simp [isBinV, Src.variant] at hb⟩
/-- `appsPass_printed` for the nested `let`s of a definition group (`a2`: the applications pass, with `Res2`) -/
theorem a2defs : ∀ (ds : Defs) (e E : Src), (∀ s, shape s = e → Res2 s E) →
    ∀ s, shape s = srcDefs I nm ds e → Res2 s (lsrcDefs I nm ds E)
  | .nil, e, E, ih, s, h => by
    rw [srcDefs_nil] at h
    rw [lsrcDefs]
    exact ih s h
  | .cons x a d r, e, E, ih, s, h => by
    rw [srcDefs_cons] at h
    obtain ⟨rr, vr, xa, xd, xb, rfl, ha, hd, hb⟩ := shape_let_inv h
    obtain ⟨a1', ha1, sa, oka, _⟩ := (res2_grp I nm (appsPass_printed a).1 ha).1
    obtain ⟨d1, hd1, sd, okd, _⟩ := (res2_grp I nm (appsPass_printed d).1 hd).1
    obtain ⟨b1, hb1, sb, okb, _⟩ := a2defs r e E ih xb hb
    rw [lsrcDefs]
    refine ⟨.mk rr false (.let_ ⟨vr, I (nm x)⟩ (.some a1') d1 b1) [],
      reassoc_let_some.2 ⟨_, _, _, by rw [reassocOpt, ha1], hd1, hb1, rfl⟩,
      by simp [strip, stripV, stripO, sa, sd, sb, mk00],
      by rw [OK23, OK23V, OK23O]; exact ⟨oka, okd, okb⟩, rfl,
      fun hb => by simp [isBinV, Src.variant] at hb⟩
end

end

theorem reassocAll_shape (I : List Char → Name) (nm : Name → List Char) (t : Tm) (s : Src)
    (h : shape s = srcOf I nm t) :
    ∃ s3, reassocAll s = some s3 ∧ strip s3 = lsrc I nm t := by
  obtain ⟨s1, h1, hs1, ok1, _⟩ := (appsPass_printed I nm t).1 s h
  obtain ⟨s2, h2, hs2, ok2, _⟩ := pass23 .productsAndQuotients (by decide) s1 ok1
  obtain ⟨s3, h3, hs3, _, _⟩ := pass23 .sumsAndDifferences (by decide) s2 ok2
  refine ⟨s3, ?_, by rw [hs3, hs2, hs1]⟩
  simp [reassocAll, reassociateApplications, reassociateProductsAndQuotients,
    reassociateSumsAndDifferences, h1, h2, h3]

section
variable (I : List Char → Name) (nm : Name → List Char)

/-- `a2defs` with the weaker `Res1` for the body, in and out. -/
theorem a1defs : ∀ (ds : Defs) (e E : Src), (∀ s, shape s = e → Res1 s E) →
    ∀ s, shape s = srcDefs I nm ds e → Res1 s (lsrcDefs I nm ds E)
  | .nil, e, E, ih, s, h => by
    rw [srcDefs_nil] at h
    rw [lsrcDefs]
    exact ih s h
  | .cons x a d r, e, E, ih, s, h => by
    rw [srcDefs_cons] at h
    obtain ⟨rr, vr, xa, xd, xb, rfl, ha, hd, hb⟩ := shape_let_inv h
    obtain ⟨a1', ha1, sa⟩ := (res2_grp I nm (appsPass_printed I nm a).1 ha).1.res1
    obtain ⟨d1, hd1, sd⟩ := (res2_grp I nm (appsPass_printed I nm d).1 hd).1.res1
    obtain ⟨b1, hb1, sb⟩ := a1defs r e E ih xb hb
    refine ⟨_, reassoc_let_some.2 ⟨_, _, _, by rw [reassocOpt, ha1], hd1, hb1, rfl⟩, ?_⟩
    rw [lsrcDefs]
    simp [reassocTail, strip, stripV, stripO, sa, sd, sb, mk00]

end

theorem reassoc_apps_shape (I : List Char → Name) (nm : Name → List Char) (t : Tm) (s : Src)
    (h : shape s = srcOf I nm t) :
    ∃ s1, reassociateApplications s = some s1 ∧ strip s1 = lsrc I nm t :=
  ((appsPass_printed I nm t).1 s h).res1

end PModel
