import GramModel.Lemmas.DeBruijn

/-!
# Relabellings

The erasures and renamings of the development (`er`, `eraseX`, `dh`, `eraseNames`, `renameTm`,
`eraseHoleIds`; in `CCSubst`, `Oracle`, `PreservationBase`, `NamesIrrelevant`, `ResolveRename`, `Props/C08`, each
with its `X_eq_relab`) keep the shape of a term and every index.  They differ in three choices only: what a
name becomes, what a hole becomes, and whether what conversion does not look at — the domain of a
`λ`, the annotation of a definition — is kept.  `Tm.relab` is the map with these three parameters.  One that
keeps holes and annotations keeps every occurrence in its place (`occs_relab`), hence `holeFree`, `wellScoped`,
`freeVars` and the outcome of `sshift`.
-/


structure Relab where
  nm : Name → Name
  /-- the new identity of a hole; `none`: a hole becomes `type` -/
  hole : Option (Nat → Nat)
  /-- are the domain of a `λ` and the annotation of a definition kept (or replaced by `type`)? -/
  ann : Bool

def Relab.onHole (R : Relab) (id s : Nat) : Tm := R.hole.elim .type fun f => .hole (f id) s

def Relab.onAnn (R : Relab) (t : Tm) : Tm := bif R.ann then t else .type

mutual
def Tm.relab (R : Relab) : Tm → Tm
  | .var x i => .var (R.nm x) i
  | .hole id s => R.onHole id s
  | .lam x im d b => .lam (R.nm x) im (R.onAnn (d.relab R)) (b.relab R)
  | .pi x im d b => .pi (R.nm x) im (d.relab R) (b.relab R)
  | .app f a => .app (f.relab R) (a.relab R)
  | .letg ds b => .letg (ds.relab R) (b.relab R)
  | .neg a => .neg (a.relab R)
  | .bin op a b => .bin op (a.relab R) (b.relab R)
  | .ite a b c => .ite (a.relab R) (b.relab R) (c.relab R)
  | .type => .type
  | .int => .int
  | .bool => .bool
  | .tt => .tt
  | .ff => .ff
  | .lit k => .lit k
def Defs.relab (R : Relab) : Defs → Defs
  | .nil => .nil
  | .cons x a d r => .cons (R.nm x) (R.onAnn (a.relab R)) (d.relab R) (r.relab R)
end

theorem Defs.len_relab (R : Relab) : ∀ ds : Defs, (ds.relab R).len = ds.len
  | .nil => rfl
  | .cons _ _ _ r => congrArg (· + 1) (Defs.len_relab R r)

theorem Relab.onAnn_trav (R : Relab) (F : Act) (n : Nat) (t : Tm) :
    (R.onAnn t).trav F n = R.onAnn (t.trav F n) := by
  unfold Relab.onAnn; cases R.ann <;> rfl

theorem Relab.onAnn_relab (S R : Relab) (t : Tm) :
    (R.onAnn t).relab S = R.onAnn (t.relab S) := by
  unfold Relab.onAnn; cases R.ann <;> rfl

theorem relab_trav_both (R : Relab) {F G : Act} (hv : ∀ n x i, (F.var n x i).relab R = G.var n (R.nm x) i)
    (hh : ∀ n id s, (F.hole n id s).relab R = (R.onHole id s).trav G n) :
    (∀ (t : Tm) n, (t.trav F n).relab R = (t.relab R).trav G n) ∧
    ∀ (ds : Defs) n, (ds.trav F n).relab R = (ds.relab R).trav G n := by
  apply Tm.rec_both
  case var => exact fun x i n => hv n x i
  case hole => exact fun id s n => hh n id s
  all_goals intros; simp only [Tm.trav, Defs.trav, Tm.relab, Defs.relab, Defs.len_relab, Relab.onAnn_trav, *]

theorem Tm.relab_trav (R : Relab) {F G : Act} (hv : ∀ n x i, (F.var n x i).relab R = G.var n (R.nm x) i)
    (hh : ∀ n id s, (F.hole n id s).relab R = (R.onHole id s).trav G n) (t : Tm) (n : Nat) :
    (t.trav F n).relab R = (t.relab R).trav G n :=
  (relab_trav_both R hv hh).1 t n
theorem Defs.relab_trav (R : Relab) {F G : Act} (hv : ∀ n x i, (F.var n x i).relab R = G.var n (R.nm x) i)
    (hh : ∀ n id s, (F.hole n id s).relab R = (R.onHole id s).trav G n) (ds : Defs) (n : Nat) :
    (ds.trav F n).relab R = (ds.relab R).trav G n :=
  (relab_trav_both R hv hh).2 ds n

theorem Relab.ren_hole (R : Relab) (f : Nat → Nat → Nat) (n id s : Nat) :
    ((Act.ren f).hole n id s).relab R = (R.onHole id s).trav (.ren f) n := by
  show R.onHole id (f n s) = _
  unfold Relab.onHole; cases R.hole <;> rfl

theorem Tm.relab_ushift (R : Relab) (t : Tm) (c a : Nat) :
    (ushift c a t).relab R = ushift c a (t.relab R) := by
  rw [ushift_eq_trav, ushift_eq_trav]
  exact t.relab_trav R (fun _ _ _ => rfl) (R.ren_hole _) 0

theorem Defs.relab_ushiftDefs (R : Relab) (ds : Defs) (c a : Nat) :
    (ushiftDefs c a ds).relab R = ushiftDefs c a (ds.relab R) := by
  rw [ushiftDefs_eq_trav, ushiftDefs_eq_trav]
  exact ds.relab_trav R (fun _ _ _ => rfl) (R.ren_hole _) 0

theorem Relab.subst_var (R : Relab) (i : Nat) (u : Tm) (s n : Nat) (x : Name) (j : Nat) :
    ((Act.subst i u s).var n x j).relab R = (Act.subst i (u.relab R) s).var n (R.nm x) j := by
  show Tm.relab R (if j = i + n then _ else _) = if j = i + n then _ else _
  split
  · exact u.relab_ushift R 0 (s + n)
  · rfl

theorem Relab.subst_hole (R : Relab) (i : Nat) (u v : Tm) (s n id k : Nat) :
    ((Act.subst i u s).hole n id k).relab R = (R.onHole id k).trav (.subst i v s) n := by
  show R.onHole id (lowerIdx i n k) = _
  unfold Relab.onHole; cases R.hole <;> rfl

theorem Tm.relab_openT (R : Relab) (t : Tm) (i : Nat) (u : Tm) (s : Nat) :
    (openT t i u s).relab R = openT (t.relab R) i (u.relab R) s := by
  rw [openT_eq_trav, openT_eq_trav]
  exact t.relab_trav R (R.subst_var i u s) (R.subst_hole i u _ s) 0

theorem Defs.relab_openDefs (R : Relab) (ds : Defs) (i : Nat) (u : Tm) (s : Nat) :
    (openDefs ds i u s).relab R = openDefs (ds.relab R) i (u.relab R) s := by
  rw [openDefs_eq_trav, openDefs_eq_trav]
  exact ds.relab_trav R (R.subst_var i u s) (R.subst_hole i u _ s) 0

/-- first `R`, then `S` -/
def Relab.comp (S R : Relab) : Relab :=
  ⟨fun x => S.nm (R.nm x), R.hole.bind fun f => S.hole.map fun g i => g (f i), S.ann && R.ann⟩

theorem Relab.comp_onHole (S R : Relab) (id s : Nat) :
    (R.onHole id s).relab S = (S.comp R).onHole id s := by
  unfold Relab.onHole Relab.comp
  cases R.hole with
  | none => rfl
  | some f => show S.onHole (f id) s = _; unfold Relab.onHole; cases S.hole <;> rfl

theorem Relab.comp_onAnn (S R : Relab) (t : Tm) : S.onAnn (R.onAnn t) = (S.comp R).onAnn t := by
  unfold Relab.onAnn Relab.comp; cases S.ann <;> cases R.ann <;> rfl

theorem relab_relab_both (S R : Relab) : (∀ t : Tm, (t.relab R).relab S = t.relab (S.comp R)) ∧
    ∀ ds : Defs, (ds.relab R).relab S = ds.relab (S.comp R) := by
  apply Tm.rec_both
  case hole => exact S.comp_onHole R
  all_goals intros; simp only [Tm.relab, Defs.relab, Relab.onAnn_relab, Relab.comp_onAnn, *] <;> rfl

theorem Tm.relab_relab (S R : Relab) (t : Tm) : (t.relab R).relab S = t.relab (S.comp R) :=
  (relab_relab_both S R).1 t
theorem Defs.relab_relab (S R : Relab) (ds : Defs) : (ds.relab R).relab S = ds.relab (S.comp R) :=
  (relab_relab_both S R).2 ds

theorem relab_congr_both {R S : Relab} (hn : R.nm = S.nm) (ha : R.ann = S.ann) :
    (∀ t : Tm, t.holeFree = true → t.relab R = t.relab S) ∧
    ∀ ds : Defs, ds.holeFree = true → ds.relab R = ds.relab S := by
  apply Tm.rec_both
  case hole => exact fun _ _ h => nomatch h
  all_goals
    intros; rename_i h
    simp only [Tm.holeFree, Defs.holeFree, Bool.and_eq_true] at h
    simp_all only [Tm.relab, Defs.relab, Relab.onAnn]

theorem Tm.relab_congr {R S : Relab} (hn : R.nm = S.nm) (ha : R.ann = S.ann) (t : Tm) :
    t.holeFree = true → t.relab R = t.relab S :=
  (relab_congr_both hn ha).1 t
theorem Defs.relab_congr {R S : Relab} (hn : R.nm = S.nm) (ha : R.ann = S.ann) (ds : Defs) :
    ds.holeFree = true → ds.relab R = ds.relab S :=
  (relab_congr_both hn ha).2 ds

def Relab.id : Relab := ⟨fun x => x, some fun i => i, true⟩

theorem relab_id_both : (∀ t : Tm, t.relab .id = t) ∧ ∀ ds : Defs, ds.relab .id = ds := by
  apply Tm.rec_both <;> intros <;> first | rfl | simp only [Tm.relab, Defs.relab, *] <;> rfl

theorem Tm.relab_id (t : Tm) : t.relab .id = t := relab_id_both.1 t
theorem Defs.relab_id (ds : Defs) : ds.relab .id = ds := relab_id_both.2 ds

def Relab.names (ρ : Name → Name) : Relab := ⟨ρ, some fun i => i, true⟩

theorem Relab.names_onAnn (ρ : Name → Name) (t : Tm) : (Relab.names ρ).onAnn t = t := rfl

theorem Relab.onAnn_holeFree (R : Relab) {t : Tm} (h : t.holeFree = true) :
    (R.onAnn t).holeFree = true := by
  unfold Relab.onAnn; cases R.ann
  · rfl
  · exact h

theorem holeFree_relab_both {R : Relab} (h : R.hole = none) :
    (∀ t : Tm, (t.relab R).holeFree = true) ∧ ∀ ds : Defs, (ds.relab R).holeFree = true := by
  apply Tm.rec_both
  case hole => intros; simp only [Tm.relab, Relab.onHole, h]; rfl
  all_goals intros; simp only [Tm.relab, Defs.relab, Tm.holeFree, Defs.holeFree, R.onAnn_holeFree, Bool.and_self, *]

theorem Tm.holeFree_relab {R : Relab} (h : R.hole = none) (t : Tm) : (t.relab R).holeFree = true :=
  (holeFree_relab_both h).1 t
theorem Defs.holeFree_relab {R : Relab} (h : R.hole = none) (ds : Defs) : (ds.relab R).holeFree = true :=
  (holeFree_relab_both h).2 ds

def Relab.onOcc (R : Relab) (f : Nat → Nat) : Occ → Occ
  | .var x i => .var (R.nm x) i
  | .hole id s => .hole (f id) s

theorem Relab.idx_onOcc (R : Relab) (f : Nat → Nat) (l : Occ) : (R.onOcc f l).idx = l.idx := by
  cases l <;> rfl
theorem Relab.isVar_onOcc (R : Relab) (f : Nat → Nat) (l : Occ) : (R.onOcc f l).isVar = l.isVar := by
  cases l <;> rfl

theorem occs_relab_both {R : Relab} {f : Nat → Nat} (hh : R.hole = some f) (ha : R.ann = true) :
    (∀ (t : Tm) n, (t.relab R).occs n = (t.occs n).map fun o => (o.1, R.onOcc f o.2)) ∧
    ∀ (ds : Defs) n, (ds.relab R).occs n = (ds.occs n).map fun o => (o.1, R.onOcc f o.2) := by
  apply Tm.rec_both
  case hole => intros; simp only [Tm.relab, Relab.onHole, hh]; rfl
  case var => intros; rfl
  all_goals intros; simp only [Tm.relab, Defs.relab, Relab.onAnn, cond_true, Tm.occs, Defs.occs,
    Defs.len_relab, List.map_append, List.map_nil, *]

theorem Tm.occs_relab {R : Relab} {f : Nat → Nat} (hh : R.hole = some f) (ha : R.ann = true) (t : Tm) (n : Nat) :
    (t.relab R).occs n = (t.occs n).map fun o => (o.1, R.onOcc f o.2) :=
  (occs_relab_both hh ha).1 t n
theorem Defs.occs_relab {R : Relab} {f : Nat → Nat} (hh : R.hole = some f) (ha : R.ann = true) (ds : Defs)
    (n : Nat) : (ds.relab R).occs n = (ds.occs n).map fun o => (o.1, R.onOcc f o.2) :=
  (occs_relab_both hh ha).2 ds n

theorem Tm.holeFree_relab_keep {R : Relab} {f : Nat → Nat} (hh : R.hole = some f) (ha : R.ann = true)
    (t : Tm) : (t.relab R).holeFree = t.holeFree := by
  rw [Tm.holeFree_eq_occs _ 0, t.holeFree_eq_occs 0, t.occs_relab hh ha, List.all_map]
  exact List.all_congr rfl fun o => R.isVar_onOcc f o.2

theorem Defs.holeFree_relab_keep {R : Relab} {f : Nat → Nat} (hh : R.hole = some f) (ha : R.ann = true)
    (ds : Defs) : (ds.relab R).holeFree = ds.holeFree := by
  rw [Defs.holeFree_eq_occs _ 0, ds.holeFree_eq_occs 0, ds.occs_relab hh ha, List.all_map]
  exact List.all_congr rfl fun o => R.isVar_onOcc f o.2

theorem occScoped_onOcc (R : Relab) (f : Nat → Nat) (N : Nat) (o : Nat × Occ) :
    occScoped N (o.1, R.onOcc f o.2) = occScoped N o := by
  simp only [occScoped, Relab.isVar_onOcc, Relab.idx_onOcc]

theorem occIn_onOcc (R : Relab) (f : Nat → Nat) (c k : Nat) (o : Nat × Occ) :
    occIn c k (o.1, R.onOcc f o.2) = occIn c k o := by
  simp only [occIn, Relab.idx_onOcc]

theorem occFree_onOcc (R : Relab) (f : Nat → Nat) (c : Nat) (o : Nat × Occ) :
    occFree c (o.1, R.onOcc f o.2) = occFree c o := by
  simp only [occFree, Relab.isVar_onOcc, Relab.idx_onOcc]

theorem Tm.wellScoped_relab {R : Relab} {f : Nat → Nat} (hh : R.hole = some f) (ha : R.ann = true)
    (t : Tm) (N : Nat) : wellScoped N (t.relab R) = wellScoped N t := by
  rw [wellScoped_eq_occs, wellScoped_eq_occs, t.occs_relab hh ha, List.all_map]
  exact List.all_congr rfl (occScoped_onOcc R f N)

theorem Defs.wellScoped_relab {R : Relab} {f : Nat → Nat} (hh : R.hole = some f) (ha : R.ann = true)
    (ds : Defs) (N : Nat) : wellScopedDefs N (ds.relab R) = wellScopedDefs N ds := by
  rw [wellScopedDefs_eq_occs, wellScopedDefs_eq_occs, ds.occs_relab hh ha, List.all_map]
  exact List.all_congr rfl (occScoped_onOcc R f N)

theorem Tm.freeVars_relab {R : Relab} {f : Nat → Nat} (hh : R.hole = some f) (ha : R.ann = true)
    (t : Tm) (c : Nat) : freeVars (t.relab R) c = freeVars t c := by
  rw [freeVars_eq_occs, freeVars_eq_occs, t.occs_relab hh ha, List.filterMap_map]
  exact congrArg (List.filterMap · _) (funext (occFree_onOcc R f c))

theorem Defs.freeVars_relab {R : Relab} {f : Nat → Nat} (hh : R.hole = some f) (ha : R.ann = true)
    (ds : Defs) (c : Nat) : freeVarsDefs (ds.relab R) c = freeVarsDefs ds c := by
  rw [freeVarsDefs_eq_occs, freeVarsDefs_eq_occs, ds.occs_relab hh ha, List.filterMap_map]
  exact congrArg (List.filterMap · _) (funext (occFree_onOcc R f c))

theorem Tm.relab_sshift {R : Relab} {f : Nat → Nat} (hh : R.hole = some f) (ha : R.ann = true)
    (t : Tm) (c : Nat) (amt : Int) : sshift c amt (t.relab R) = (sshift c amt t).map (·.relab R) := by
  have e : ((t.relab R).occs 0).any (occIn c (-amt).toNat) = (t.occs 0).any (occIn c (-amt).toNat) := by
    rw [t.occs_relab hh ha, List.any_map]; exact List.any_congr rfl (occIn_onOcc R f c _)
  rw [sshift_eq, sshift_eq, e, ← t.relab_trav R (fun _ _ _ => rfl) (R.ren_hole _)]
  cases (t.occs 0).any (occIn c (-amt).toNat) <;> rfl

theorem Defs.relab_sshiftDefs {R : Relab} {f : Nat → Nat} (hh : R.hole = some f) (ha : R.ann = true)
    (ds : Defs) (c : Nat) (amt : Int) :
    sshiftDefs c amt (ds.relab R) = (sshiftDefs c amt ds).map (·.relab R) := by
  have e : ((ds.relab R).occs 0).any (occIn c (-amt).toNat) = (ds.occs 0).any (occIn c (-amt).toNat) := by
    rw [ds.occs_relab hh ha, List.any_map]; exact List.any_congr rfl (occIn_onOcc R f c _)
  rw [sshiftDefs_eq, sshiftDefs_eq, e, ← ds.relab_trav R (fun _ _ _ => rfl) (R.ren_hole _)]
  cases (ds.occs 0).any (occIn c (-amt).toNat) <;> rfl
