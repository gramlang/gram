import GramModel.Lemmas.ParseComplete

/-! Unambiguity (last clause of property C07): the tree-carrying segment relation `SegT` (the grammar as
written out in `Lemmas/ParserGood.lean`) assigns at most one tree to any segment of any token array.

The parser model is a function, it returns every *maximal* derivation from a tower nonterminal
(`compG`), and a derivation does not look beyond its end (`SegT.transport`).  Given two derivations
from the same nonterminal and start, cut the array after the longer one: the longer one is then
maximal, the shorter one is unless the token after it is in the extension set, and `parse_A` cannot
return both.  This is the *extension law* (`ext_law`); unambiguity is its case of equal ends. -/

namespace PModel
open Unamb

section Cut
variable {toks : Array PTok}

theorem cut_det {A A' X : NT} {e : PKind → Bool} {a b b' : Nat} {t t' : Src}
    (h1 : SegT toks A a b t) (h2 : SegT toks A' a b' t') (hb : b ≤ b')
    (hne : b < b' → NoExt toks b e)
    (c1 : ∀ toks', SegT toks' A a b t → NoExt toks' b e → RetN toks' X a ⟨t, b, true⟩)
    (c2 : ∀ toks', SegT toks' A' a b' t' → (∀ e', NoExt toks' b' e') → RetN toks' X a ⟨t', b', true⟩) :
    b = b' ∧ t = t' := by
  have hs := h2.le_size
  let toks' := toks.extract 0 b'
  have hsz : toks'.size = b' := by simp [toks']; omega
  have ag : ∀ i, i < b' → toks'[0 + i]? = toks[i]? := fun i hi => by
    simp only [toks', Array.getElem?_extract, Nat.zero_add, Nat.sub_zero]
    split
    · rfl
    · omega
  have g1 : SegT toks' A a b t := by
    simpa using h1.transport (d := 0) (fun i hi => ag i (by omega))
  have g2 : SegT toks' A' a b' t' := by simpa using h2.transport (d := 0) ag
  have n2 : ∀ e', NoExt toks' b' e' := fun _ k ⟨hlt, _⟩ => absurd hlt (by omega)
  have n1 : NoExt toks' b e := by
    rcases Nat.lt_or_ge b b' with hlt | hge
    · intro k ⟨hk, e⟩
      refine hne hlt k ⟨by omega, ?_⟩
      have := ag b hlt
      rw [Nat.zero_add, Array.getElem?_eq_getElem hk, Array.getElem?_eq_getElem (by omega)] at this
      rw [← Option.some.inj this]; exact e
    · rw [show b = b' by omega]; exact n2 e
  cases (c1 toks' g1 n1).det (c2 toks' g2 n2)
  exact ⟨rfl, rfl⟩

theorem comp_det {A : NT} (hA : A ∈ tower) {a b b' : Nat} {t t' : Src} (h1 : SegT toks A a b t)
    (h2 : SegT toks A a b' t') (hb : b ≤ b') (hne : b < b' → NoExt toks b (ext A)) :
    b = b' ∧ t = t' :=
  cut_det h1 h2 hb hne (fun _ g n => comp_tower hA _ _ _ _ (Nat.le_refl _) g n)
    (fun _ g n => comp_tower hA _ _ _ _ (Nat.le_refl _) g (n _))

end Cut

theorem ext_law {toks : Array PTok} {A : NT} (hA : A ∈ tower) {a b b' : Nat} {t t' : Src}
    (h1 : SegT toks A a b t) (h2 : SegT toks A a b' t') (hlt : b < b') :
    ∃ k, KAt toks b k ∧ ext A k = true := by
  have hs := h2.le_size
  refine ⟨toks[b].kind, ⟨by omega, rfl⟩, ?_⟩
  cases hk : ext A toks[b].kind with
  | true => rfl
  | false =>
    have := (comp_det hA h1 h2 (by omega) (fun _ => NoExt.of_kat ⟨by omega, rfl⟩ hk)).1
    omega

theorem unambiguous {toks : Array PTok} {A : NT} {a b : Nat} {t₁ t₂ : Src}
    (h1 : SegT toks A a b t₁) (h2 : SegT toks A a b t₂) : t₁ = t₂ := by
  have key : ∀ {X : NT}, X ∈ tower → SegT toks X a b t₁ → SegT toks X a b t₂ → t₁ = t₂ :=
    fun hX g1 g2 => (comp_det hX g1 g2 (Nat.le_refl _) (fun h => absurd h (Nat.lt_irrefl _))).2
  rcases towerOf_spec A with hA | ⟨hu, hA⟩
  · exact key hA h1 h2
  · exact key hA (.unit hu h1) (.unit hu h2)

/-! The extension law in the form indexed by a bound on the length of the segments (`MainLe`; `P` for the eight tower
nonterminals together): corollaries of `ext_law` and `unambiguous`. -/

namespace Unamb

variable {toks : Array PTok}

/-- The outcome of comparing two derivations with the same start: same end and same tree, or the
first is shorter and is followed by a token of the extension set `e`. -/
def Res (toks : Array PTok) (e : PKind → Bool) (b b' : Nat) (t t' : Src) : Prop :=
  (b = b' ∧ t = t') ∨ (b < b' ∧ ∃ k, KAt toks b k ∧ e k = true)

/-- The extension law for `A`, for segments of length at most `n`. -/
def MainLe (toks : Array PTok) (A : NT) (n : Nat) : Prop :=
  ∀ a b b' t t', b' - a ≤ n → SegT toks A a b t → SegT toks A a b' t' → b ≤ b' →
    Res toks (ext A) b b' t t'

theorem MainLe.tri {A : NT} {n : Nat} (h : MainLe toks A n) {a b b' : Nat} {t t' : Src}
    (h1 : SegT toks A a b t) (h2 : SegT toks A a b' t') (hb : b - a ≤ n) (hb' : b' - a ≤ n) :
    (b = b' ∧ t = t') ∨ (b < b' ∧ ∃ k, KAt toks b k ∧ ext A k = true) ∨
      (b' < b ∧ ∃ k, KAt toks b' k ∧ ext A k = true) := by
  rcases Nat.le_total b b' with hle | hle
  · rcases h a b b' t t' hb' h1 h2 hle with h | h
    · exact Or.inl h
    · exact Or.inr (Or.inl h)
  · rcases h a b' b t' t hb h2 h1 hle with h | h
    · exact Or.inl ⟨h.1.symm, h.2.symm⟩
    · exact Or.inr (Or.inr h)

theorem MainLe.anti {A : NT} {n m : Nat} (h : MainLe toks A n) (hm : m ≤ n) : MainLe toks A m :=
  fun a b b' t t' hl => h a b b' t t' (by omega)

/-- A `giant_term` against a longer `jumbo_term`. -/
def GJ (toks : Array PTok) (n : Nat) : Prop :=
  ∀ a b b' t t', b' - a ≤ n → SegT toks .giantTerm a b t → SegT toks .jumboTerm a b' t' → b < b' →
    ∃ k, KAt toks b k ∧ extGJ k = true

/-- The extension law for each of the eight tower nonterminals, and `GJ`, for segments of length at
most `n`. -/
structure P (toks : Array PTok) (n : Nat) : Prop where
  atom : MainLe toks .atom n
  small : MainLe toks .smallTerm n
  medium : MainLe toks .mediumTerm n
  large : MainLe toks .largeTerm n
  huge : MainLe toks .hugeTerm n
  giant : MainLe toks .giantTerm n
  jumbo : MainLe toks .jumboTerm n
  term : MainLe toks .term n
  gj : GJ toks n

theorem mainLe_tower {A : NT} (hA : A ∈ tower) (n : Nat) : MainLe toks A n := by
  intro a b b' t t' _ h1 h2 hb
  rcases Nat.lt_or_ge b b' with hlt | hge
  · exact Or.inr ⟨hlt, ext_law hA h1 h2 hlt⟩
  · cases (show b = b' by omega)
    exact Or.inl ⟨rfl, unambiguous h1 h2⟩

theorem P.all (n : Nat) : P toks n := by
  refine ⟨mainLe_tower (by decide) n, mainLe_tower (by decide) n, mainLe_tower (by decide) n,
    mainLe_tower (by decide) n, mainLe_tower (by decide) n, mainLe_tower (by decide) n,
    mainLe_tower (by decide) n, mainLe_tower (by decide) n, ?_⟩
  intro a b b' t t' _ h1 h2 hlt
  have hs := h2.le_size
  refine ⟨toks[b].kind, ⟨by omega, rfl⟩, ?_⟩
  cases hk : extGJ toks[b].kind with
  | true => rfl
  | false =>
    have := (cut_det h1 h2 (by omega) (fun _ => NoExt.of_kat ⟨by omega, rfl⟩ hk)
      (fun _ g n => (compG _).gj _ _ _ (Nat.le_refl _) g n)
      (fun _ g n => comp_tower (by decide) _ _ _ _ (Nat.le_refl _) g (n _))).1
    omega

theorem open_jumbo {a d : Nat} {t : Src} (o : Open toks a d t) : SegT toks .jumboTerm a d t := by
  rcases o with ⟨x, body, k1, k2, hb, rfl⟩ | ⟨x, body, k1, k2, k3, k4, hb, rfl⟩ |
    ⟨A, o, c, ar, x, b, dom, body, hm, k1, k2, k3, hd, k4, k5, hb, rfl⟩ |
    ⟨m, dom, cod, s1, k1, hc, rfl⟩ | ⟨b, c, x, y, z, k1, c1, k2, c2, k3, c3, rfl⟩
  · exact .unit (by decide) (.lambda k1 k2 hb)
  · exact .unit (by decide) (.lambdaImplicit k1 k2 k3 k4 hb)
  · exact .unit ((by decide +kernel : ∀ p ∈ binderProds, (NT.jumboTerm, p.1) ∈ unitProds) _ hm)
      (.binder hm k1 k2 k3 hd k4 k5 hb)
  · exact .unit (by decide) (.nonDependentPi s1 k1 hc)
  · exact .unit (by decide) (.ite k1 c1 k2 c2 k3 c3)

theorem open_open {n : Nat} (ih : P toks n) {a b b' : Nat} {t t' : Src} (o1 : Open toks a b t)
    (o2 : Open toks a b' t') (hl : b' - a ≤ n + 1) (hb : b ≤ b') : Res toks extTerm b b' t t' :=
  mainLe_tower (A := .jumboTerm) (by decide) (n + 1) a b b' t t' hl (open_jumbo o1) (open_jumbo o2) hb

end Unamb

theorem Seg.toSegT {toks : Array PTok} {A : NT} {a b : Nat} (h : Seg toks A a b) :
    ∃ t, SegT toks A a b t := by
  induction h with
  | unit hm _ ih => obtain ⟨t, ht⟩ := ih; exact ⟨t, .unit hm ht⟩
  | leaf hm hk => exact ⟨_, .leaf hm hk⟩
  | var hk => exact ⟨_, .var hk⟩
  | lit hk => exact ⟨_, .lit hk⟩
  | lambda h1 h2 _ ih => obtain ⟨t, ht⟩ := ih; exact ⟨_, .lambda h1 h2 ht⟩
  | lambdaImplicit h1 h2 h3 h4 _ ih => obtain ⟨t, ht⟩ := ih; exact ⟨_, .lambdaImplicit h1 h2 h3 h4 ht⟩
  | binder hm h1 h2 h3 _ h4 h5 _ ih1 ih2 =>
    obtain ⟨t1, ht1⟩ := ih1; obtain ⟨t2, ht2⟩ := ih2
    exact ⟨_, .binder hm h1 h2 h3 ht1 h4 h5 ht2⟩
  | nonDependentPi _ hk _ ih1 ih2 =>
    obtain ⟨t1, ht1⟩ := ih1; obtain ⟨t2, ht2⟩ := ih2
    exact ⟨_, .nonDependentPi ht1 hk ht2⟩
  | application _ _ ih1 ih2 =>
    obtain ⟨t1, ht1⟩ := ih1; obtain ⟨t2, ht2⟩ := ih2
    exact ⟨_, .application ht1 ht2⟩
  | letPlain h1 h2 _ h3 _ ih1 ih2 =>
    obtain ⟨t1, ht1⟩ := ih1; obtain ⟨t2, ht2⟩ := ih2
    exact ⟨_, .letPlain h1 h2 ht1 h3 ht2⟩
  | letAnn h1 h2 _ h3 _ h4 _ ih1 ih2 ih3 =>
    obtain ⟨t1, ht1⟩ := ih1; obtain ⟨t2, ht2⟩ := ih2; obtain ⟨t3, ht3⟩ := ih3
    exact ⟨_, .letAnn h1 h2 ht1 h3 ht2 h4 ht3⟩
  | negation h1 _ ih => obtain ⟨t, ht⟩ := ih; exact ⟨_, .negation h1 ht⟩
  | bin hm _ hk _ ih1 ih2 =>
    obtain ⟨t1, ht1⟩ := ih1; obtain ⟨t2, ht2⟩ := ih2
    exact ⟨_, .bin hm ht1 hk ht2⟩
  | ite h1 _ h2 _ h3 _ ih1 ih2 ih3 =>
    obtain ⟨t1, ht1⟩ := ih1; obtain ⟨t2, ht2⟩ := ih2; obtain ⟨t3, ht3⟩ := ih3
    exact ⟨_, .ite h1 ht1 h2 ht2 h3 ht3⟩
  | group h1 _ h2 ih => obtain ⟨t, ht⟩ := ih; exact ⟨_, .group h1 ht h2⟩

theorem atom_end_unique {toks : Array PTok} {a b b' : Nat} (h1 : Seg toks .atom a b)
    (h2 : Seg toks .atom a b') : b = b' := by
  obtain ⟨t, g1⟩ := h1.toSegT
  obtain ⟨t', g2⟩ := h2.toSegT
  rcases Nat.lt_trichotomy b b' with h | h | h
  · obtain ⟨k, _, e⟩ := ext_law (A := .atom) (by decide) g1 g2 h
    simp [ext] at e
  · exact h
  · obtain ⟨k, _, e⟩ := ext_law (A := .atom) (by decide) g2 g1 h
    simp [ext] at e

theorem parse_tree_unique {toks : Array PTok} {fuel : Nat} {nt : NT} {start : Nat} {r : PResult}
    {st st' : PState} (hI : CacheInvT toks st) (h : parseNT toks fuel nt start st = some (r, st'))
    (hce : collectErrors r.term = []) {t : Src} (ht : SegT toks nt start r.next t) : t = r.term :=
  unambiguous ht (parse_spans hI h hce).1

section Examples

private def toksXY : Array PTok := #[⟨.identifier 0, ⟨0, 1⟩⟩, ⟨.identifier 1, ⟨2, 3⟩⟩]

private theorem kx : KAt toksXY 0 (.identifier 0) := ⟨by decide, rfl⟩
private theorem ky : KAt toksXY 1 (.identifier 1) := ⟨by decide, rfl⟩

/-- `x` and `x y` are both `small_term`s from position 0; the token after the shorter one, `y`,
starts an atom. -/
example : ∃ t t', SegT toksXY .smallTerm 0 1 t ∧ SegT toksXY .smallTerm 0 2 t' :=
  ⟨_, _, (var_atom kx).up,
    .unit (B := .application) (by decide) (.application (var_atom kx) (var_atom ky).up)⟩

example : ∃ t, SegT toksXY .term 0 2 t :=
  ⟨_, (SegT.unit (A := .smallTerm) (B := .application) (by decide)
    (.application (var_atom kx) (var_atom ky).up)).up⟩

example : Seg toksXY .atom 0 1 := (var_atom kx).toSeg

end Examples

end PModel
