import GramModel.Lemmas.PrintedTree
import GramModel.Lemmas.Tower

/-! # The printed tokens of a printable term are a sentence

A sentence of `SegT` (the grammar as written out in `Lemmas/ParserGood.lean`), with a parse tree of the shape
`srcOf` (`sentence`: induction on the term at the level of the grammar; no packrat function is run).  `Par`:
derives, with a tree of this shape; `Atoms`: a row of atoms; `PrintedAt`: what the induction carries.
Declares into `PModel`, the parser model's namespace. -/

namespace PModel
open PrintDerives Unamb

section
variable {toks : Array PTok}

/-- the tokens `a … b-1` derive from `A`, with a parse tree of shape `e` ("parses as"; not the parallel
reduction `CCPar.Par`) -/
def Par (toks : Array PTok) (A : NT) (a b : Nat) (e : Src) : Prop :=
  ∃ tr, SegT toks A a b tr ∧ shape tr = e

theorem Par.map {A B : NT} {a b : Nat} {e : Src} (h : Par toks A a b e)
    (f : ∀ tr, SegT toks A a b tr → SegT toks B a b tr) : Par toks B a b e :=
  let ⟨tr, h1, h2⟩ := h
  ⟨tr, f tr h1, h2⟩

theorem atom_up {X : NT} (hX : X ∈ tower) {a b : Nat} {t : Src} (h : SegT toks .atom a b t) :
    SegT toks X a b t := h.up (by decide) hX (Nat.zero_le _)

/-- an alternative of a tower nonterminal up to `jumbo_term` is a `jumbo_term` -/
theorem alt_jumbo {A : NT} (hA : lvl (towerOf A) ≤ lvl .jumboTerm := by decide) {a b : Nat} {t : Src}
    (h : SegT toks A a b t) : SegT toks .jumboTerm a b t := by
  rcases towerOf_spec A with hT | ⟨hu, hT⟩
  · have e : towerOf A = A := (by decide +kernel : ∀ A ∈ tower, towerOf A = A) A hT
    exact h.up hT (by decide) (e ▸ hA)
  · exact (SegT.unit hu h).up hT (by decide) hA

/-- the tokens `a … b-1` are a non-empty row of atoms with trees of the shapes `l` -/
inductive Atoms (toks : Array PTok) : Nat → Nat → List Src → Prop
  | one {a b e} : Par toks .atom a b e → Atoms toks a b [e]
  | cons {a m b e l} : Par toks .atom a m e → Atoms toks m b l → Atoms toks a b (e :: l)

theorem Atoms.snoc {a m b : Nat} {l : List Src} {e : Src} (h : Atoms toks a m l)
    (x : Par toks .atom m b e) : Atoms toks a b (l ++ [e]) := by
  induction h with
  | one y => exact .cons y (.one x)
  | cons y _ ih => exact .cons y (ih x)

theorem Atoms.small {a b : Nat} {l : List Src} (h : Atoms toks a b l) :
    Par toks .smallTerm a b (nestL l) := by
  induction h with
  | one y => exact y.map (fun _ h => h.up)
  | @cons a m b e l y hl ih =>
    obtain ⟨f, hf, sf⟩ := y
    obtain ⟨x, hx, sx⟩ := ih
    obtain ⟨e', l', rfl⟩ : ∃ e' l', l = e' :: l' := by cases hl <;> exact ⟨_, _, rfl⟩
    exact ⟨_, .unit (B := .application) (by decide) (.application hf hx),
      by simp [shape, shapeV, nestL, mk0, sf, sx]⟩

theorem leaf_par {A : NT} {k : PKind} {a : Nat} (hm : (A, k) ∈ leafProds) (h : KAt toks a k) :
    Par toks .atom a (a + 1) (mk0 false (leafV A)) := by
  have hu : (NT.atom, A) ∈ unitProds := (by decide : ∀ p ∈ leafProds, (NT.atom, p.1) ∈ unitProds) _ hm
  have hv : shapeV (leafV A) = leafV A := by cases A <;> rfl
  exact ⟨_, .unit hu (.leaf hm h), by simp [shape, mk0, hv]⟩

theorem ident_par {x : Name} {a : Nat} (h : KAt toks a (.identifier x)) :
    Par toks .atom a (a + 1) (mk0 false (.var x)) :=
  ⟨_, var_atom h, rfl⟩

theorem literal_par {n : Nat} {a : Nat} (h : KAt toks a (.integerLiteral n)) :
    Par toks .atom a (a + 1) (mk0 false (.lit (.ofNat n))) :=
  ⟨_, .unit (B := .integerLiteral) (by decide) (.lit h), rfl⟩

/-- the tree is the inner tree with the `group` flag set; its root has no errors (`segT_facts`), as `setG` needs -/
theorem paren_par {a b : Nat} {e : Src} (h0 : KAt toks a .leftParen) (h : Par toks .term (a + 1) b e)
    (hc : KAt toks b .rightParen) : Par toks .atom a (b + 1) (setG e) := by
  obtain ⟨tr, h1, rfl⟩ := h
  refine ⟨_, .unit (B := .group) (by decide) (.group h0 h1 hc), ?_⟩
  have he := (segT_facts h1).1
  obtain ⟨r, g, v, es⟩ := tr
  cases he
  rfl

theorem neg_par {a b : Nat} {e : Src} (h0 : KAt toks a .minus) (x : Par toks .atom (a + 1) b e) :
    Par toks .jumboTerm a b (mk0 false (.neg e)) := by
  obtain ⟨tx, hx, rfl⟩ := x
  exact ⟨_, alt_jumbo (A := .negation) (by decide) (.negation h0 (atom_up (by decide) hx)), rfl⟩

theorem bin_prod (I : List Char → Name) (op : BinOp) :
    ∃ A L R, (A, L, opKindP I op, R) ∈ binProds ∧ binOpOf A = op := by
  cases op
  · exact ⟨.sum, .largeTerm, .hugeTerm, (by decide : (NT.sum, NT.largeTerm, PKind.plus, NT.hugeTerm) ∈ binProds), rfl⟩
  · exact ⟨.difference, .largeTerm, .hugeTerm,
      (by decide : (NT.difference, NT.largeTerm, PKind.minus, NT.hugeTerm) ∈ binProds), rfl⟩
  · exact ⟨.product, .smallTerm, .largeTerm,
      (by decide : (NT.product, NT.smallTerm, PKind.asterisk, NT.largeTerm) ∈ binProds), rfl⟩
  · exact ⟨.quotient, .smallTerm, .largeTerm,
      (by decide : (NT.quotient, NT.smallTerm, PKind.slash, NT.largeTerm) ∈ binProds), rfl⟩
  · exact ⟨.lessThan, .hugeTerm, .hugeTerm,
      (by decide : (NT.lessThan, NT.hugeTerm, PKind.lessThan, NT.hugeTerm) ∈ binProds), rfl⟩
  · exact ⟨.lessThanOrEqualTo, .hugeTerm, .hugeTerm,
      (by decide : (NT.lessThanOrEqualTo, NT.hugeTerm, PKind.lessThanOrEqualTo, NT.hugeTerm) ∈ binProds), rfl⟩
  · exact ⟨.equalTo, .hugeTerm, .hugeTerm,
      (by decide : (NT.equalTo, NT.hugeTerm, PKind.doubleEquals, NT.hugeTerm) ∈ binProds), rfl⟩
  · exact ⟨.greaterThan, .hugeTerm, .hugeTerm,
      (by decide : (NT.greaterThan, NT.hugeTerm, PKind.greaterThan, NT.hugeTerm) ∈ binProds), rfl⟩
  · exact ⟨.greaterThanOrEqualTo, .hugeTerm, .hugeTerm,
      (by decide : (NT.greaterThanOrEqualTo, NT.hugeTerm, PKind.greaterThanOrEqualTo, NT.hugeTerm) ∈ binProds), rfl⟩

theorem bin_par {I : List Char → Name} {op : BinOp} {a m b : Nat} {ex ey : Src}
    (x : Par toks .atom a m ex) (hop : KAt toks m (opKindP I op)) (y : Par toks .atom (m + 1) b ey) :
    Par toks .jumboTerm a b (mk0 false (.bin op ex ey)) := by
  obtain ⟨tx, hx, rfl⟩ := x
  obtain ⟨ty, hy, rfl⟩ := y
  obtain ⟨A, L, R, hm, rfl⟩ := bin_prod I op
  have hT : L ∈ tower ∧ R ∈ tower ∧ lvl (towerOf A) ≤ lvl .jumboTerm :=
    (by decide : ∀ p ∈ binProds, p.2.1 ∈ tower ∧ p.2.2.2 ∈ tower ∧ lvl (towerOf p.1) ≤ lvl .jumboTerm) _ hm
  exact ⟨_, alt_jumbo hT.2.2 (.bin hm (atom_up hT.1 hx) hop (atom_up hT.2.1 hy)), rfl⟩

theorem ite_par {a m1 m2 b : Nat} {ec ex ey : Src} (h0 : KAt toks a .if_)
    (c : Par toks .term (a + 1) m1 ec) (h1 : KAt toks m1 .then_)
    (x : Par toks .term (m1 + 1) m2 ex) (h2 : KAt toks m2 .else_)
    (y : Par toks .term (m2 + 1) b ey) : Par toks .jumboTerm a b (mk0 false (.ite ec ex ey)) := by
  obtain ⟨tc, hc, rfl⟩ := c
  obtain ⟨tx, hx, rfl⟩ := x
  obtain ⟨ty, hy, rfl⟩ := y
  exact ⟨_, .unit (B := .if_) (by decide) (.ite h0 hc h1 hx h2 hy), rfl⟩

theorem binder_par {lam imp : Bool} {a m b : Nat} {x : Name} {ed eb : Src}
    (h0 : KAt toks a (if imp then .leftCurly else .leftParen))
    (hx : KAt toks (a + 1) (.identifier x)) (hc : KAt toks (a + 1 + 1) .colon)
    (d : Par toks .jumboTerm (a + 1 + 1 + 1) m ed)
    (hcl : KAt toks m (if imp then .rightCurly else .rightParen))
    (har : KAt toks (m + 1) (if lam then .thickArrow else .thinArrow))
    (bd : Par toks .term (m + 1 + 1) b eb) :
    Par toks .jumboTerm a b (mk0 false (if lam then .lam ⟨⟨0, 0⟩, x⟩ imp (.some ed) eb
      else .pi ⟨⟨0, 0⟩, x⟩ imp ed eb)) := by
  obtain ⟨td, hd, rfl⟩ := d
  obtain ⟨tb, hb, rfl⟩ := bd
  cases lam <;> cases imp
  · exact ⟨_, .unit (B := .pi) (by decide) (.binder (by decide) h0 hx hc hd hcl har hb), rfl⟩
  · exact ⟨_, .unit (B := .piImplicit) (by decide) (.binder (by decide) h0 hx hc hd hcl har hb), rfl⟩
  · exact ⟨_, .unit (B := .annotatedLambda) (by decide)
      (.binder (by decide) h0 hx hc hd hcl har hb), rfl⟩
  · exact ⟨_, .unit (B := .annotatedLambdaImplicit) (by decide)
      (.binder (by decide) h0 hx hc hd hcl har hb), rfl⟩

theorem arrow_par {a m b : Nat} {l : List Src} {ec : Src} (s : Atoms toks a m l)
    (har : KAt toks m .thinArrow) (c : Par toks .term (m + 1) b ec) :
    Par toks .jumboTerm a b (mk0 false (.pi ⟨⟨0, 0⟩, placeholder⟩ false (nestL l) ec)) := by
  obtain ⟨ts, hs, ss⟩ := s.small
  obtain ⟨tc, hc, rfl⟩ := c
  exact ⟨_, .unit (B := .nonDependentPi) (by decide) (.nonDependentPi hs har hc),
    by simp [shape, shapeV, mk0, ss]⟩

theorem def_par {a m1 m2 b : Nat} {x : Name} {ea ed eb : Src}
    (hx : KAt toks a (.identifier x)) (hc : KAt toks (a + 1) .colon)
    (ann : Par toks .atom (a + 1 + 1) m1 ea) (heq : KAt toks m1 .equals)
    (dd : Par toks .atom (m1 + 1) m2 ed) (hterm : KAt toks m2 (.terminator .semicolon))
    (bd : Par toks .term (m2 + 1) b eb) :
    Par toks .term a b (mk0 false (.let_ ⟨⟨0, 0⟩, x⟩ (.some ea) ed eb)) := by
  obtain ⟨ta, ha, rfl⟩ := ann
  obtain ⟨td, hd, rfl⟩ := dd
  obtain ⟨tb, hb, rfl⟩ := bd
  exact ⟨_, .unit (B := .let_) (by decide)
    (.letAnn hx hc ha.up heq (atom_up (by decide) hd) hterm hb), rfl⟩

end

section Main
variable {toks : Array PTok} (I : List Char → Name) (nm : Name → List Char)

/-- the printed `t` stands at `a … b-1`: as a `term`; as a `jumbo_term` unless it is a group; as an `atom` if it
is printed bare by `group`; as a row of atoms if it is an application -/
structure PrintedAt (toks : Array PTok) (I : List Char → Name) (nm : Name → List Char) (t : Tm)
    (a b : Nat) : Prop where
  term : Par toks .term a b (srcOf I nm t)
  jumbo : isLet t = false → Par toks .jumboTerm a b (srcOf I nm t)
  atom : atomic t = true → Par toks .atom a b (srcOf I nm t)
  atoms : isApp t = true → Atoms toks a b (atomsOf I nm t)

variable {I nm}

theorem PrintedAt.ofJumbo {t : Tm} {a b : Nat} (h : Par toks .jumboTerm a b (srcOf I nm t))
    (hat : atomic t = false) (hap : isApp t = false) : PrintedAt toks I nm t a b :=
  ⟨h.map (fun _ h => h.up), fun _ => h, fun h' => Bool.noConfusion (hat.symm.trans h'),
    fun h' => Bool.noConfusion (hap.symm.trans h')⟩

theorem PrintedAt.ofAtom {t : Tm} {a b : Nat} (h : Par toks .atom a b (srcOf I nm t))
    (hap : isApp t = false) : PrintedAt toks I nm t a b :=
  ⟨h.map (fun _ => atom_up (by decide)), fun _ => h.map (fun _ => atom_up (by decide)), fun _ => h,
    fun h' => Bool.noConfusion (hap.symm.trans h')⟩

/-- what `group` prints is an atom (no relation of `CCPar.group_par`) -/
theorem group_par {t : Tm} {a b : Nat} (hs : KSeg toks a b (groupK I nm t))
    (ih : ∀ a' b', KSeg toks a' b' (pk I nm t) → PrintedAt toks I nm t a' b') :
    Par toks .atom a b (grpS I nm t) := by
  rw [groupK_eq] at hs
  unfold grpS
  by_cases hat : atomic t = true
  · rw [if_pos hat] at hs ⊢
    exact (ih a b hs).atom hat
  · simp only [if_neg hat, KSeg.cons, KSeg.append, KSeg.nil] at hs ⊢
    obtain ⟨h0, m, h1, h2, rfl⟩ := hs
    exact paren_par h0 (ih _ _ h1).term h2

theorem head_par {t : Tm} {a b : Nat} (hs : KSeg toks a b (headK I nm t))
    (ih : ∀ a' b', KSeg toks a' b' (pk I nm t) → PrintedAt toks I nm t a' b') :
    Atoms toks a b (headAtoms I nm t) := by
  rw [headK_eq] at hs
  unfold headAtoms
  by_cases hap : isApp t = true
  · rw [if_pos hap] at hs ⊢
    exact (ih a b hs).atoms hap
  · rw [if_neg hap] at hs ⊢
    exact .one (group_par hs ih)

theorem annot_par {t : Tm} {a b : Nat} (hs : KSeg toks a b (annotK I nm t))
    (ih : ∀ a' b', KSeg toks a' b' (pk I nm t) → PrintedAt toks I nm t a' b') :
    Par toks .jumboTerm a b (annS I nm t) := by
  rw [annotK_eq] at hs
  unfold annS
  by_cases hl : isLet t = true
  · simp only [if_pos hl, KSeg.cons, KSeg.append, KSeg.nil] at hs ⊢
    obtain ⟨h0, m, h1, h2, rfl⟩ := hs
    exact (paren_par h0 (ih _ _ h1).term h2).map (fun _ => atom_up (by decide))
  · rw [if_neg hl] at hs ⊢
    exact (ih a b hs).jumbo (by simpa using hl)

variable (toks I nm)

mutual
theorem sentence : ∀ (t : Tm), noImplicitArrow t = true → noNegLit t = true →
    ∀ a b, KSeg toks a b (pk I nm t) → PrintedAt toks I nm t a b
  | .hole i s, _, _, a, b, hs => by
      obtain ⟨h0, rfl⟩ := KSeg.cons.mp hs |>.imp_right KSeg.nil.mp
      exact PrintedAt.ofAtom (t := .hole i s) (by rw [srcOf]; exact ident_par h0) rfl
  | .var x i, _, _, a, b, hs => by
      obtain ⟨h0, rfl⟩ := KSeg.cons.mp hs |>.imp_right KSeg.nil.mp
      exact PrintedAt.ofAtom (t := .var x i) (by rw [srcOf]; exact ident_par h0) rfl
  | .type, _, _, a, b, hs => by
      obtain ⟨h0, rfl⟩ := KSeg.cons.mp hs |>.imp_right KSeg.nil.mp
      exact PrintedAt.ofAtom (t := .type) (by rw [srcOf]; exact leaf_par (A := .type) (k := .type_) (by decide) h0) rfl
  | .int, _, _, a, b, hs => by
      obtain ⟨h0, rfl⟩ := KSeg.cons.mp hs |>.imp_right KSeg.nil.mp
      exact PrintedAt.ofAtom (t := .int) (by rw [srcOf]; exact leaf_par (A := .integer) (k := .integer) (by decide) h0) rfl
  | .bool, _, _, a, b, hs => by
      obtain ⟨h0, rfl⟩ := KSeg.cons.mp hs |>.imp_right KSeg.nil.mp
      exact PrintedAt.ofAtom (t := .bool) (by rw [srcOf]; exact leaf_par (A := .boolean) (k := .boolean) (by decide) h0) rfl
  | .tt, _, _, a, b, hs => by
      obtain ⟨h0, rfl⟩ := KSeg.cons.mp hs |>.imp_right KSeg.nil.mp
      exact PrintedAt.ofAtom (t := .tt) (by rw [srcOf]; exact leaf_par (A := .true_) (k := .true_) (by decide) h0) rfl
  | .ff, _, _, a, b, hs => by
      obtain ⟨h0, rfl⟩ := KSeg.cons.mp hs |>.imp_right KSeg.nil.mp
      exact PrintedAt.ofAtom (t := .ff) (by rw [srcOf]; exact leaf_par (A := .false_) (k := .false_) (by decide) h0) rfl
  | .lit (.ofNat n), _, _, a, b, hs => by
      obtain ⟨h0, rfl⟩ := KSeg.cons.mp hs |>.imp_right KSeg.nil.mp
      exact PrintedAt.ofAtom (t := .lit (.ofNat n)) (by rw [srcOf]; exact literal_par h0) rfl
  | .lit (.negSucc n), _, h2, _, _, _ => by simp [noNegLit] at h2
  | .lam x imp d body, h1, h2, a, b, hs => by
      simp only [noImplicitArrow, noNegLit, Bool.and_eq_true] at h1 h2
      simp only [pk_lam, KSeg.cons, KSeg.append] at hs
      obtain ⟨h0, hx, hc, m, hsd, hcl, har, hsb⟩ := hs
      refine PrintedAt.ofJumbo ?_ rfl rfl
      rw [srcOf_lam]
      exact binder_par (lam := true) h0 hx hc (annot_par hsd (sentence d h1.1 h2.1)) hcl har
        (sentence body h1.2 h2.2 _ _ hsb).term
  | .pi x imp d c, h1, h2, a, b, hs => by
      simp only [noImplicitArrow, noNegLit, Bool.and_eq_true, Bool.or_eq_true,
        Bool.not_eq_true'] at h1 h2
      cases hfree : freeAt c 0 with
      | true =>
        simp only [pk_pi_dep I nm x d c imp hfree, KSeg.cons, KSeg.append] at hs
        obtain ⟨h0, hx, hc, m, hsd, hcl, har, hsb⟩ := hs
        refine PrintedAt.ofJumbo ?_ rfl rfl
        rw [srcOf_pi_dep I nm x imp d c hfree]
        exact binder_par (lam := false) h0 hx hc (annot_par hsd (sentence d h1.1.2 h2.1)) hcl har
          (sentence c h1.2 h2.2 _ _ hsb).term
      | false =>
        have hi : imp = false := by
          rcases h1.1.1 with h | h
          · exact h
          · rw [hfree] at h; exact absurd h (by decide)
        subst hi
        simp only [pk_arrow I nm x d c hfree, KSeg.cons, KSeg.append] at hs
        obtain ⟨m, hsd, har, hsc⟩ := hs
        refine PrintedAt.ofJumbo ?_ rfl rfl
        rw [srcOf_arrow I nm x false d c hfree]
        exact arrow_par (head_par hsd (sentence d h1.1.2 h2.1)) har (sentence c h1.2 h2.2 _ _ hsc).term
  | .letg ds body, h1, h2, a, b, hs => by
      simp only [noImplicitArrow, noNegLit, Bool.and_eq_true] at h1 h2
      simp only [pk_letg, KSeg.append] at hs
      obtain ⟨m, hsd, hsb⟩ := hs
      have hD := sentenceDefs ds h1.1 h2.1 a m b _ hsd (sentence body h1.2 h2.2 _ _ hsb).term
      exact ⟨by rw [srcOf_letg]; exact hD, fun h => by simp [isLet] at h,
        fun h => by simp [atomic, Tm.former, Former.bare] at h, fun h => by simp [isApp] at h⟩
  | .app f x, h1, h2, a, b, hs => by
      simp only [noImplicitArrow, noNegLit, Bool.and_eq_true] at h1 h2
      simp only [pk_app, KSeg.append] at hs
      obtain ⟨m, hsf, hsx⟩ := hs
      have hseq := (head_par hsf (sentence f h1.1 h2.1)).snoc (group_par hsx (sentence x h1.2 h2.2))
      have hj := hseq.small.map (fun _ h => (h.up : SegT toks .jumboTerm _ _ _))
      rw [← srcOf_app] at hj
      exact ⟨hj.map (fun _ h => h.up), fun _ => hj,
        fun h => by simp [atomic, Tm.former, Former.bare] at h,
        fun _ => by rw [atomsOf_app]; exact hseq⟩
  | .neg x, h1, h2, a, b, hs => by
      simp only [noImplicitArrow, noNegLit] at h1 h2
      simp only [pk_neg, KSeg.cons] at hs
      refine PrintedAt.ofJumbo ?_ rfl rfl
      rw [srcOf_neg]
      exact neg_par hs.1 (group_par hs.2 (sentence x h1 h2))
  | .bin op x y, h1, h2, a, b, hs => by
      simp only [noImplicitArrow, noNegLit, Bool.and_eq_true] at h1 h2
      simp only [pk_bin, KSeg.cons, KSeg.append] at hs
      obtain ⟨m, hsx, hop, hsy⟩ := hs
      refine PrintedAt.ofJumbo ?_ (by cases op <;> rfl) rfl
      rw [srcOf_bin]
      exact bin_par (group_par hsx (sentence x h1.1 h2.1)) hop (group_par hsy (sentence y h1.2 h2.2))
  | .ite c x y, h1, h2, a, b, hs => by
      simp only [noImplicitArrow, noNegLit, Bool.and_eq_true] at h1 h2
      simp only [pk_ite, KSeg.cons, KSeg.append] at hs
      obtain ⟨h0, m1, hsc, hthen, m2, hsx, helse, hsy⟩ := hs
      refine PrintedAt.ofJumbo ?_ rfl rfl
      rw [srcOf_ite]
      exact ite_par h0 (sentence c h1.1.1 h2.1.1 _ _ hsc).term hthen
        (sentence x h1.1.2 h2.1.2 _ _ hsx).term helse (sentence y h1.2 h2.2 _ _ hsy).term
theorem sentenceDefs : ∀ (ds : Defs), noImplicitArrowDefs ds = true → noNegLitDefs ds = true →
    ∀ (a m b : Nat) (e : Src), KSeg toks a m (pkDefs I nm ds) → Par toks .term m b e →
      Par toks .term a b (srcDefs I nm ds e)
  | .nil, _, _, a, m, b, e, hs, hB => by
      rw [pkDefs_nil, KSeg.nil] at hs
      rw [srcDefs_nil, ← hs]; exact hB
  | .cons x ann d r, h1, h2, a, m, b, e, hs, hB => by
      simp only [noImplicitArrowDefs, noNegLitDefs, Bool.and_eq_true] at h1 h2
      simp only [pkDefs_cons, KSeg.cons, KSeg.append] at hs
      obtain ⟨hx, hc, m1, hsa, heq, m2, hsd, hterm, hsr⟩ := hs
      rw [srcDefs_cons]
      exact def_par hx hc (group_par hsa (sentence ann h1.1.1 h2.1.1)) heq
        (group_par hsd (sentence d h1.1.2 h2.1.2)) hterm (sentenceDefs r h1.2 h2.2 _ m b e hsr hB)
end

end Main

end PModel
