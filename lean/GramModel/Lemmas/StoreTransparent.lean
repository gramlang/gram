import GramModel.Lemmas.StoreMono
import GramModel.Lemmas.StoreRead

/-!
# Transparency of the store-aware de Bruijn functions on fully solved terms (C11)

On a term all of whose reachable hole cells are solved, `sshiftS`, `ushiftS`, `openS` (`Store.lean`) and
`freeAtS` (`Print.lean`) compute what `sshift`, `ushift`, `openT`, `freeAt` compute on the zonked term and
leave the state untouched: the `Unifier(Some(..), k)` arms of `signed_shift`, `open`, `free_variables`
read a solved hole as `unsigned_shift(solution, 0, k)` and go on on that.

`…_transparent`, `…_hf_ok`, `…_total` are read off the lemmas `X_ans` of `Lemmas/StoreRead.lean`.

The file also DEFINES a model function, `freeVarsS`: `free_variables` of `term.rs` with its `Unifier` arm, of which
`Print.lean` models one use only (`freeAtS`).  Only the statements and examples of `Props/C11.lean` run it.
-/

namespace StoreTransparent

open UnifySound

/-- every hole cell reachable from `t` through the store is solved: `zonk` answers, with a hole-free
term -/
def FullySolved (σ : List (Option Tm)) (t : Tm) : Prop :=
  ∃ fuel z, zonk fuel σ t = some z ∧ z.holeFree = true

def fullySolvedB (fuel : Nat) (σ : List (Option Tm)) (t : Tm) : Bool :=
  match zonk fuel σ t with
  | some z => z.holeFree
  | none => false

theorem fullySolvedB_sound {fuel : Nat} {σ : List (Option Tm)} {t : Tm}
    (h : fullySolvedB fuel σ t = true) : FullySolved σ t := by
  unfold fullySolvedB at h
  split at h
  · next z hz => exact ⟨fuel, z, hz, h⟩
  · cases h

theorem FullySolved_iff {σ : List (Option Tm)} {t : Tm} :
    FullySolved σ t ↔ ∃ z, Zk σ t z ∧ z.holeFree = true := by
  constructor
  · rintro ⟨n, z, h, hf⟩; exact ⟨z, ⟨n, h⟩, hf⟩
  · rintro ⟨z, ⟨n, h⟩, hf⟩; exact ⟨n, z, h, hf⟩

theorem FullySolved_holeFree {σ : List (Option Tm)} {t : Tm} (hf : t.holeFree = true) :
    FullySolved σ t :=
  FullySolved_iff.2 ⟨t, Zk_holeFree t hf, hf⟩

def DetAt {α} (s : St) (m : M α) (v : α) : Prop :=
  ∀ a s', m s = .ok a s' → a = v ∧ s' = s

theorem DetAt_iff {α} {s : St} {m : M α} {v : α} :
    DetAt s m v ↔ (m s).Sat (fun a s' => a = v ∧ s' = s) fun _ => True :=
  ⟨fun h => .intro (fun a s' e => h a s' e) fun _ _ => trivial, fun h _ _ e => h.ok e⟩

theorem DetAt.panicAt {α} {s : St} {v : α} (site : String) : DetAt s (panicAt site : M α) v :=
  DetAt_iff.2 (.panicAt trivial)

theorem bind_run {α β} (m : M α) (k : α → M β) (s : St) :
    (m >>= k) s = match m s with | .ok a s' => k a s' | .fuel => .fuel | .panic p => .panic p := rfl
theorem pure_run {α} (a : α) (s : St) : (pure a : M α) s = .ok a s := rfl

variable {σ : List (Option Tm)}

theorem Reads.of_zk {t z : Tm} (h : Zk σ t z) (hf : z.holeFree = true) : ∃ k, Reads σ k t z :=
  let ⟨n, hn⟩ := h; ⟨n, (Reads.of_zonk n).1 t z hn hf⟩

theorem sshiftS_transparent {f c : Nat} {amt : Int} {t z : Tm} {s s' : St} {o : Option Tm}
    (hz : Zk s.store t z) (hf : z.holeFree = true) (h : sshiftS f c amt t s = .ok o s') :
    o = sshift c amt z ∧ s' = s :=
  let ⟨k, hr⟩ := Reads.of_zk hz hf
  ((sshiftS_ans s f).1 k t z c amt hr).inv h

theorem sshiftDefsS_hf_ok : ∀ (ds : Defs) (f c : Nat) (amt : Int) (s : St), ds.holeFree = true →
    ds.size < f → sshiftDefsS f c amt ds s = .ok (sshiftDefs c amt ds) s :=
  fun ds f c amt s h hs => ((sshiftS_ans s f).2 0 ds ds c amt (.refl ds h)).ok (by omega)

theorem sshiftS_total {n f c : Nat} {amt : Int} {t z : Tm} {s : St}
    (hz : zonk n s.store t = some z) (hf : z.holeFree = true) (hfu : n + z.size < f) :
    sshiftS f c amt t s = .ok (sshift c amt z) s :=
  ((sshiftS_ans s f).1 n t z c amt ((Reads.of_zonk n).1 t z hz hf)).ok (by omega)

theorem ushiftS_solved (f c a : Nat) (t z : Tm) (s : St) (hz : Zk s.store t z)
    (hf : z.holeFree = true) : DetAt s (ushiftS f c a t) (ushift c a z) :=
  let ⟨_, hr⟩ := Reads.of_zk hz hf
  fun _ _ h => (ushiftS_ans f c a hr).inv h

theorem ushiftS_total {n f c a : Nat} {t z : Tm} {s : St}
    (hz : zonk n s.store t = some z) (hf : z.holeFree = true) (hfu : n + z.size < f) :
    ushiftS f c a t s = .ok (ushift c a z) s :=
  (ushiftS_ans f c a ((Reads.of_zonk n).1 t z hz hf)).ok (by omega)

theorem openS_transparent {f i sh : Nat} {t u zt zu r : Tm} {s s' : St}
    (hz : Zk s.store t zt) (hf : zt.holeFree = true) (hzu : Zk s.store u zu)
    (hfu : zu.holeFree = true) (h : openS f t i u sh s = .ok r s') :
    r = openT zt i zu sh ∧ s' = s :=
  let ⟨_, hr⟩ := Reads.of_zk hz hf
  let ⟨_, hu⟩ := Reads.of_zk hzu hfu
  ((openS_ans hu f).1 _ t zt i sh hr).inv h

theorem openDefsS_hf_ok {m : Nat} {u zu : Tm} {s : St} (hzu : zonk m s.store u = some zu)
    (hfu : zu.holeFree = true) : ∀ (ds : Defs) (f i sh : Nat), ds.holeFree = true →
    ds.size + m + zu.size < f → openDefsS f ds i u sh s = .ok (openDefs ds i zu sh) s :=
  fun ds f i sh h hs =>
    ((openS_ans ((Reads.of_zonk m).1 u zu hzu hfu) f).2 0 ds ds i sh (.refl ds h)).ok (by omega)

theorem openS_total {n m f i sh : Nat} {t u zt zu : Tm} {s : St}
    (hz : zonk n s.store t = some zt) (hf : zt.holeFree = true)
    (hzu : zonk m s.store u = some zu) (hfu : zu.holeFree = true)
    (hfuel : n + zt.size + m + zu.size < f) :
    openS f t i u sh s = .ok (openT zt i zu sh) s :=
  ((openS_ans ((Reads.of_zonk m).1 u zu hzu hfu) f).1 n t zt i sh
    ((Reads.of_zonk n).1 t zt hz hf)).ok (by omega)

theorem freeAtS_transparent {f i : Nat} {σ : List (Option Tm)} {t z : Tm} {b : Bool}
    (hz : Zk σ t z) (hf : z.holeFree = true) (h : freeAtS f σ t i = some b) : b = freeAt z i :=
  let ⟨k, hr⟩ := Reads.of_zk hz hf
  ((freeAtS_ans σ f).1 k t z i hr).inv h

theorem freeAtDefsS_hf_ok (σ : List (Option Tm)) : ∀ (ds : Defs) (f i : Nat), ds.holeFree = true →
    ds.size < f → freeAtDefsS f σ ds i = some (freeAtDefs ds i) :=
  fun ds f i h hs => ((freeAtS_ans σ f).2 0 ds ds i (.refl ds h)).ok (by omega)

theorem freeAtS_total {n f i : Nat} {σ : List (Option Tm)} {t z : Tm}
    (hz : zonk n σ t = some z) (hf : z.holeFree = true) (hfuel : n + z.size < f) :
    freeAtS f σ t i = some (freeAt z i) :=
  ((freeAtS_ans σ f).1 n t z i ((Reads.of_zonk n).1 t z hz hf)).ok (by omega)

/-! ## `free_variables` with a cutoff, store-aware

`Print.lean` models the only use of `free_variables` on elaborated terms (`contains(&0)` at some
index, `freeAtS`).  `freeVarsS` is the whole function of `term.rs`, `Unifier` arm included: a solved
cell is shifted by its shift and traversed, an unsolved one contributes nothing. -/

def appO : Option (List Nat) → Option (List Nat) → Option (List Nat)
  | some a, some b => some (a ++ b)
  | _, _ => none

mutual
def freeVarsS : Nat → List (Option Tm) → Tm → Nat → Option (List Nat)
  | 0, _, _, _ => none
  | f+1, σ, t, c =>
    match t with
    | .hole id s =>
        match σ[id]? with
        | some (some sub) =>
            match sshiftS f 0 (s : Int) sub { store := σ } with
            | .ok (some sub') _ => freeVarsS f σ sub' c
            | _ => none
        | _ => some []
    | .var _ i => some (if i ≥ c then [i - c] else [])
    | .lam _ _ d b => appO (freeVarsS f σ d c) (freeVarsS f σ b (c+1))
    | .pi _ _ d b => appO (freeVarsS f σ d c) (freeVarsS f σ b (c+1))
    | .app g a => appO (freeVarsS f σ g c) (freeVarsS f σ a c)
    | .letg ds b => appO (freeVarsDefsS f σ ds (c + ds.len)) (freeVarsS f σ b (c + ds.len))
    | .neg a => freeVarsS f σ a c
    | .bin _ a b => appO (freeVarsS f σ a c) (freeVarsS f σ b c)
    | .ite a b d => appO (appO (freeVarsS f σ a c) (freeVarsS f σ b c)) (freeVarsS f σ d c)
    | _ => some []
def freeVarsDefsS : Nat → List (Option Tm) → Defs → Nat → Option (List Nat)
  | 0, _, _, _ => none
  | f+1, σ, ds, c =>
    match ds with
    | .nil => some []
    | .cons _ a d r => appO (appO (freeVarsS f σ a c) (freeVarsS f σ d c)) (freeVarsDefsS f σ r c)
end

theorem AnsO.appO {p : Prop} {a b : Option (List Nat)} {x y : List Nat} (ha : AnsO p a x)
    (hb : AnsO p b y) : AnsO p (appO a b) (x ++ y) := by
  rcases ha with rfl | ⟨hp, rfl⟩
  · rcases hb with rfl | ⟨hp, rfl⟩
    · exact .inl rfl
    · exact .inr ⟨hp, rfl⟩
  · exact .inr ⟨hp, by cases b <;> rfl⟩

theorem freeVarsS_ans (σ : List (Option Tm)) : ∀ f,
    (∀ k t z c, Reads σ k t z → AnsO (f ≤ k + z.size) (freeVarsS f σ t c) (freeVars z c)) ∧
    (∀ k ds zs c, ReadsD σ k ds zs →
      AnsO (f ≤ k + zs.size) (freeVarsDefsS f σ ds c) (freeVarsDefs zs c)) := by
  intro f
  induction f with
  | zero => exact ⟨fun _ _ _ _ _ => .inr ⟨Nat.zero_le _, by rw [freeVarsS]⟩,
      fun _ _ _ _ _ => .inr ⟨Nat.zero_le _, by rw [freeVarsDefsS]⟩⟩
  | succ f ih =>
    obtain ⟨ih1, ih2⟩ := ih
    constructor
    · intro k t z c h
      cases h
      case leaf hl =>
        cases t <;> first | cases hl | skip
        all_goals simp only [freeVarsS, freeVars]; exact .inl rfl
      case hole k id sh sub zs hsub hr =>
        simp only [freeVarsS, hsub]
        rw [ushift_size]
        rcases (sshiftS_ans { store := σ } f).1 k sub zs 0 sh hr with e | ⟨hp, e⟩
        · rw [e, sshift_ushift]
          refine (ih1 0 _ _ c (Reads.refl _ (by rw [holeFree_ushift]; exact hr.holeFree))).mono ?_
          rw [ushift_size]; omega
        · rw [e]; exact .inr ⟨by omega, rfl⟩
      case lam x im d b zd zb hd hb | pi x im d b zd zb hd hb | app d b zd zb hd hb
          | bin op d b zd zb hd hb =>
        simp only [freeVarsS, freeVars, Tm.size]
        exact .appO ((ih1 _ _ _ _ hd).mono (by omega)) ((ih1 _ _ _ _ hb).mono (by omega))
      case letg ds b zd zb hd hb =>
        simp only [freeVarsS, freeVars, Tm.size, hd.len]
        exact .appO ((ih2 _ _ _ _ hd).mono (by omega)) ((ih1 _ _ _ _ hb).mono (by omega))
      case neg a za ha =>
        simp only [freeVarsS, freeVars, Tm.size]
        exact (ih1 _ _ _ _ ha).mono (by omega)
      case ite a d b za zd zb ha hd hb =>
        simp only [freeVarsS, freeVars, Tm.size]
        exact .appO (.appO ((ih1 _ _ _ _ ha).mono (by omega)) ((ih1 _ _ _ _ hd).mono (by omega)))
          ((ih1 _ _ _ _ hb).mono (by omega))
    · intro k ds zs c h
      cases h
      case nil => simp only [freeVarsDefsS, freeVarsDefs]; exact .inl rfl
      case cons x a d r za zd zr ha hd hr =>
        simp only [freeVarsDefsS, freeVarsDefs, Defs.size]
        exact .appO (.appO ((ih1 _ _ _ _ ha).mono (by omega)) ((ih1 _ _ _ _ hd).mono (by omega)))
          ((ih2 _ _ _ _ hr).mono (by omega))

theorem freeVarsS_transparent {f c : Nat} {σ : List (Option Tm)} {t z : Tm} {l : List Nat}
    (hz : Zk σ t z) (hf : z.holeFree = true) (h : freeVarsS f σ t c = some l) : l = freeVars z c :=
  let ⟨k, hr⟩ := Reads.of_zk hz hf
  ((freeVarsS_ans σ f).1 k t z c hr).inv h

theorem sshift_hf : ∀ (t : Tm) (c : Nat) (amt : Int) (r : Tm), sshift c amt t = some r →
    r.holeFree = t.holeFree := by
  intro t c amt r h
  obtain ⟨k, rfl | rfl⟩ := Int.eq_nat_or_neg amt
  · rw [sshift_ushift] at h; cases h; exact holeFree_ushift t c k
  · rw [← ushift_of_sshift_neg t r c k h, holeFree_ushift]
theorem sshiftDefs_hf : ∀ (ds : Defs) (c : Nat) (amt : Int) (r : Defs), sshiftDefs c amt ds = some r →
    r.holeFree = ds.holeFree := by
  intro ds c amt r h
  obtain ⟨k, rfl | rfl⟩ := Int.eq_nat_or_neg amt
  · rw [sshiftDefs_ushift] at h; cases h; exact holeFree_ushiftDefs ds c k
  · rw [← FuelLemmas.ushiftDefs_of_sshiftDefs_neg ds r c k h, holeFree_ushiftDefs]

def runOut {α} : R α → Option (α × List (Option Tm))
  | .ok a s => some (a, s.store)
  | _ => none

end StoreTransparent
