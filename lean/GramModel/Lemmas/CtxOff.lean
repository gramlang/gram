import GramModel.Lemmas.PushedCtx

/-!
# What is recorded in the two contexts, and the lookups that can fail

An entry `(T, off)` at index `i` of a context (innermost first) stands for `T` lifted by `i + 1 - off`: `off` is the number
of entries that were pushed together with it or after it when `T` was written (0 for a parameter, `n - j` for definition
`j` of a group of `n`); `i + 1 - off` must not underflow, and the lookups compute it.

`EntG Q L Δ` is the one notion: every entry of a definitions context that will have grown to length `L` when it is
used has its offset in range and satisfies `Q` at the scope it was pushed in (a typing context is read as
`T.map some`); `pushCtx`, `pushD none` and `pushDefsS` keep it.  The context is judged at a length `L` it does not have
yet because a group pushes all its `n` entries before any of them is read, and each definition is scoped in the whole
group (the suffix `G` of `EntG`, `OffG`, `TScG`, `DScG`: "grown to `L`").  `DOff`, `DSc`, `TScG` are equivalent to instances
(`DOff_iff`, `DSc_iff`, `TScG_iff`), `DScG` is one, `COff` bundles `TOff`, `DOff` and equal lengths, `DHF` (in
`PushedCtx.lean`) follows from `DScG`.  `LookupSite`, `Live sc`: the lookup sites of `type_check` and
`normalize_weak_head` that can panic.

Declared into the namespaces of later files: `CheckNoPanic` (`EntG` … `Live`) and `UnifyAgree.DSc`.
-/

namespace CheckNoPanic

theorem getElem?_lt {α} {l : List α} {i : Nat} {a : α} (e : l[i]? = some a) : i < l.length :=
  (List.getElem?_eq_some_iff.1 e).1

/-- `i + 1 + (L - Δ.length)` is "index + 1" of entry `i` once the context has grown to length `L`; that minus `off` is the
lift of the entry there, and `L` minus the lift the length of the context the entry was written in. -/
def EntG (Q : Nat → Tm → Prop) (L : Nat) (Δ : List (Option (Tm × Nat))) : Prop :=
  ∀ i d off, Δ[i]? = some (some (d, off)) →
    off ≤ i + 1 + (L - Δ.length) ∧ Q (L - (i + 1 + (L - Δ.length) - off)) d

theorem EntG.mono {Q : Nat → Tm → Prop} {L L' : Nat} {Δ : List (Option (Tm × Nat))}
    (h : EntG Q L Δ) (hl : Δ.length ≤ L) (hle : L ≤ L') : EntG Q L' Δ := by
  intro i d off e
  have hi := getElem?_lt e
  obtain ⟨h1, h2⟩ := h i d off e
  have : L' - (i + 1 + (L' - Δ.length) - off) = L - (i + 1 + (L - Δ.length) - off) := by omega
  exact ⟨by omega, this ▸ h2⟩

theorem EntG.cons {Q : Nat → Tm → Prop} {L : Nat} {Δ : List (Option (Tm × Nat))} (h : EntG Q L Δ)
    (hl : Δ.length < L) (e : Option (Tm × Nat))
    (he : ∀ d off, e = some (d, off) → off ≤ L - Δ.length ∧ Q (L - (L - Δ.length - off)) d) :
    EntG Q L (e :: Δ) := by
  intro i d off hi
  cases i with
  | zero =>
    simp only [List.getElem?_cons_zero, Option.some.injEq] at hi
    have e0 : 0 + 1 + (L - (e :: Δ).length) = L - Δ.length := by
      simp only [List.length_cons]; omega
    rw [e0]
    exact he d off hi
  | succ i =>
    simp only [List.getElem?_cons_succ] at hi
    have e1 : i + 1 + 1 + (L - (e :: Δ).length) = i + 1 + (L - Δ.length) := by
      simp only [List.length_cons]; omega
    rw [e1]
    exact h i d off hi

theorem EntG.push_none {Q : Nat → Tm → Prop} {Δ : List (Option (Tm × Nat))} (h : EntG Q Δ.length Δ) :
    EntG Q (none :: Δ).length (none :: Δ) :=
  (h.mono (Nat.le_refl _) (Nat.le_succ _)).cons (Nat.lt_succ_self _) none nofun

theorem EntG.pushed {Q : Nat → Tm → Prop} {L : Nat} :
    ∀ (ds : Defs) (T : List (Tm × Nat)) (Δ : List (Option (Tm × Nat))),
    EntG Q L (T.map some) → EntG Q L Δ → T.length + ds.len = L → Δ.length = T.length →
    (∀ x a d, (x, a, d) ∈ ds.toList → Q L a ∧ Q L d) →
    EntG Q L ((pushedT ds ds.len T).map some) ∧ EntG Q L (pushedD ds ds.len Δ) ∧
      (pushedT ds ds.len T).length = L ∧ (pushedD ds ds.len Δ).length = L
  | .nil, T, Δ, hT, hD, hl, hl2, _ => by
      simp only [pushedT, pushedD]
      simp only [Defs.len_nil, Nat.add_zero] at hl
      exact ⟨hT, hD, hl, by omega⟩
  | .cons x a d r, T, Δ, hT, hD, hl, hl2, hq => by
      simp only [Defs.len_cons] at hl
      simp only [pushedT, pushedD, Defs.len_cons, Nat.add_sub_cancel]
      have e : L - (L - T.length - (r.len + 1)) = L := by omega
      have e' : L - (L - Δ.length - (r.len + 1)) = L := by omega
      have q := hq x a d (List.mem_cons_self ..)
      refine EntG.pushed r _ _
        (hT.cons (by rw [List.length_map]; omega) (some (a, r.len + 1)) fun _ _ h => by
          cases h; rw [List.length_map, e]; exact ⟨by omega, q.1⟩)
        (hD.cons (by omega) _ fun _ _ h => by cases h; rw [e']; exact ⟨by omega, q.2⟩)
        (by simp only [List.length_cons]; omega) (by simp only [List.length_cons]; omega)
        fun x' a' d' h => hq x' a' d' (List.mem_cons_of_mem _ h)

theorem getElem?_map_some {α} (l : List α) (i : Nat) (a : α) :
    (l.map some)[i]? = some (some a) ↔ l[i]? = some a := by
  rw [List.getElem?_map]; cases l[i]? <;> simp

def DOff (Δ : List (Option (Tm × Nat))) : Prop :=
  ∀ i d off, Δ[i]? = some (some (d, off)) → off ≤ i + 1
def TOff (T : List (Tm × Nat)) : Prop := ∀ i ty off, T[i]? = some (ty, off) → off ≤ i + 1

abbrev OffG := EntG (fun _ _ => True)

theorem DOff_iff {Δ : List (Option (Tm × Nat))} : DOff Δ ↔ OffG Δ.length Δ :=
  ⟨fun h i d off e => ⟨by have := h i d off e; omega, trivial⟩, fun h i d off e => by have := (h i d off e).1; omega⟩

theorem DOff.push_none {Δ : List (Option (Tm × Nat))} (h : DOff Δ) : DOff (none :: Δ) :=
  DOff_iff.2 (DOff_iff.1 h).push_none

theorem TOff.push0 {T : List (Tm × Nat)} (h : TOff T) (ty : Tm) : TOff ((ty, 0) :: T) := by
  intro i ty' off e
  cases i with
  | zero =>
    simp only [List.getElem?_cons_zero, Option.some.injEq, Prod.mk.injEq] at e
    omega
  | succ i => simp only [List.getElem?_cons_succ] at e; have := h i ty' off e; omega

/-- the invariant of the two contexts in `inferS` -/
structure COff (T : List (Tm × Nat)) (Dc : List (Option (Tm × Nat))) : Prop where
  len : T.length = Dc.length
  t : TOff T
  d : DOff Dc

theorem COff.push {T : List (Tm × Nat)} {Dc : List (Option (Tm × Nat))} (c : COff T Dc) (ty : Tm) :
    COff ((ty, 0) :: T) (none :: Dc) :=
  ⟨by simp only [List.length_cons, c.len], c.t.push0 ty, c.d.push_none⟩

theorem COff.pushed {T : List (Tm × Nat)} {Dc : List (Option (Tm × Nat))} (c : COff T Dc)
    (ds : Defs) : COff (pushedT ds ds.len T) (pushedD ds ds.len Dc) ∧
      (pushedT ds ds.len T).length = T.length + ds.len := by
  obtain ⟨h1, h2, h3, h4⟩ := EntG.pushed (Q := fun _ _ => True) (L := T.length + ds.len) ds T Dc
    (fun i ty off e => ⟨by have := c.t i ty off ((getElem?_map_some ..).1 e); omega, trivial⟩)
    (fun i d off e => ⟨by have := c.d i d off e; omega, trivial⟩) rfl c.len.symm fun _ _ _ _ => ⟨trivial, trivial⟩
  refine ⟨⟨by rw [h3, h4], ?_, ?_⟩, h3⟩
  · intro i ty off e
    have := (h1 i ty off ((getElem?_map_some ..).2 e)).1
    rw [List.length_map, h3] at this; omega
  · intro i d off e
    have := (h2 i d off e).1
    rw [h4] at this; omega

/-- typing-context entries: offset in range, hole-free type, scoped where it was pushed; stated for
a context that will have grown to length `L` when it is used -/
def TScG (L : Nat) (T : List (Tm × Nat)) : Prop :=
  ∀ i ty off, T[i]? = some (ty, off) →
    off ≤ i + 1 + (L - T.length) ∧ ty.holeFree = true ∧
      wellScoped (L - (i + 1 + (L - T.length) - off)) ty = true

/-- the same for a definitions context: `EntG HFW L Δ` written out -/
def DScG (L : Nat) (Δ : List (Option (Tm × Nat))) : Prop :=
  ∀ i d off, Δ[i]? = some (some (d, off)) →
    off ≤ i + 1 + (L - Δ.length) ∧ d.holeFree = true ∧
      wellScoped (L - (i + 1 + (L - Δ.length) - off)) d = true

/-- hole-free and well scoped at `n` -/
def HFW (n : Nat) (t : Tm) : Prop := t.holeFree = true ∧ wellScoped n t = true

theorem TScG_iff {L : Nat} {T : List (Tm × Nat)} : TScG L T ↔ EntG HFW L (T.map some) := by
  constructor
  · intro h i d off hi
    rw [List.length_map]
    exact h i d off ((getElem?_map_some ..).1 hi)
  · intro h i d off hi
    have := h i d off ((getElem?_map_some ..).2 hi)
    rwa [List.length_map] at this

theorem TScG.mono {L L' : Nat} {T : List (Tm × Nat)} (h : TScG L T) (hl : T.length ≤ L)
    (hle : L ≤ L') : TScG L' T :=
  TScG_iff.2 ((TScG_iff.1 h).mono (by rw [List.length_map]; exact hl) hle)

theorem DScG.mono {L L' : Nat} {Δ : List (Option (Tm × Nat))} (h : DScG L Δ) (hl : Δ.length ≤ L)
    (hle : L ≤ L') : DScG L' Δ := EntG.mono (Q := HFW) h hl hle

theorem TScG.push {L : Nat} {T : List (Tm × Nat)} (h : TScG L T) {ty : Tm} {off : Nat}
    (hl : T.length < L) (ho : off ≤ L - T.length) (hf : ty.holeFree = true)
    (hw : wellScoped (L - (L - T.length - off)) ty = true) : TScG L ((ty, off) :: T) :=
  TScG_iff.2 ((TScG_iff.1 h).cons (by rw [List.length_map]; exact hl) (some (ty, off))
    fun _ _ e => by cases e; rw [List.length_map]; exact ⟨ho, hf, hw⟩)

theorem DScG.push_none {L : Nat} {Δ : List (Option (Tm × Nat))} (h : DScG L Δ)
    (hl : Δ.length < L) : DScG L (none :: Δ) := EntG.cons (Q := HFW) h hl none nofun

theorem HFW.of_defs {L : Nat} : ∀ (ds : Defs), ds.holeFree = true → wellScopedDefs L ds = true →
    ∀ x a d, (x, a, d) ∈ ds.toList → HFW L a ∧ HFW L d
  | .nil, _, _, _, _, _, h => nomatch h
  | .cons y b e r, hf, hw, x, a, d, h => by
    simp only [Defs.holeFree, Bool.and_eq_true] at hf
    simp only [wellScopedDefs, Bool.and_eq_true] at hw
    rcases List.mem_cons.1 h with h | h
    · cases h; exact ⟨⟨hf.1.1, hw.1.1⟩, hf.1.2, hw.1.2⟩
    · exact HFW.of_defs r hf.2 hw.2 x a d h

theorem pushed_ok {L : Nat} (ds : Defs) (T : List (Tm × Nat)) (Δ : List (Option (Tm × Nat)))
    (hT : TScG L T) (hD : DScG L Δ) (hl : T.length + ds.len = L) (hl2 : Δ.length = T.length)
    (hf : ds.holeFree = true) (hw : wellScopedDefs L ds = true) :
    TScG L (pushedT ds ds.len T) ∧ DScG L (pushedD ds ds.len Δ) ∧
      (pushedT ds ds.len T).length = L ∧
      (pushedD ds ds.len Δ).length = L := by
  obtain ⟨a, b, c, d⟩ := EntG.pushed (Q := HFW) ds T Δ (TScG_iff.1 hT) hD hl hl2 (HFW.of_defs ds hf hw)
  exact ⟨TScG_iff.2 a, b, c, d⟩

end CheckNoPanic

namespace UnifyAgree

/-- every definition in the context has its offset in range and lives in the part of the context
below the entries pushed after its group -/
def DSc (Δ : DCtxX) : Prop :=
  ∀ i d off, Δ[i]? = some (some (d, off)) →
    off ≤ i + 1 ∧ wellScoped (Δ.length - (i + 1 - off)) d = true

theorem DSc_iff {Δ : DCtxX} : DSc Δ ↔ CheckNoPanic.EntG (fun n d => wellScoped n d = true) Δ.length Δ := by
  have e : ∀ i off, Δ.length - (i + 1 + (Δ.length - Δ.length) - off) = Δ.length - (i + 1 - off) := by omega
  exact ⟨fun h i d off hi => ⟨by have := (h i d off hi).1; omega, by rw [e]; exact (h i d off hi).2⟩,
    fun h i d off hi => ⟨by have := (h i d off hi).1; omega, by rw [← e]; exact (h i d off hi).2⟩⟩

theorem DSc.push {Δ : DCtxX} (h : DSc Δ) : DSc (none :: Δ) := DSc_iff.2 (DSc_iff.1 h).push_none

end UnifyAgree

namespace CheckNoPanic
theorem DScG.dsc {Δ : List (Option (Tm × Nat))} (h : DScG Δ.length Δ) : UnifyAgree.DSc Δ :=
  UnifyAgree.DSc_iff.2 fun i d off e => ⟨(h i d off e).1, (h i d off e).2.2⟩

open WhnfLemmas (DHF) in
theorem DScG.dhf {L : Nat} {Δ : List (Option (Tm × Nat))} (h : DScG L Δ) : DHF Δ := by
  intro e he d o heq
  obtain ⟨i, hi⟩ := List.mem_iff_getElem?.1 he
  subst heq
  exact (h i d o hi).2.1

/-- the two context indexings and the two `index + 1 - offset` subtractions -/
def LookupSite (site : String) : Prop :=
  site = "normalize_weak_head.definitions_context[index]" ∨
  site = "normalize_weak_head.index+1-offset" ∨
  site = "type_check.typing_context[index]" ∨
  site = "type_check.index+1-offset"

/-- The sites that can be live: the indexing of the definitions context always (a solved hole can bring a variable
into a scope where it does not exist, finding D18); the other three lookups only when nothing is assumed about the
contexts and the scoping of the term (`sc = false`). -/
def Live (sc : Bool) (site : String) : Prop :=
  site = "normalize_weak_head.definitions_context[index]" ∨ (sc = false ∧ LookupSite site)

/-- `h` in the form the callers have it: a contradiction from what `sc = true` assumes -/
theorem live_off (sc : Bool) {site : String} (hs : LookupSite site) (h : sc = true → False) :
    Live sc site := Or.inr ⟨by cases sc; rfl; exact (h rfl).elim, hs⟩

end CheckNoPanic
