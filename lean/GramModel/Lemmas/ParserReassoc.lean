import GramModel.Lemmas.ReassocChain
import GramModel.Lemmas.ResolveSteps
import GramModel.Lemmas.ParserNoPanicDefs
import GramModel.Lemmas.FinishParse

/-! The three re-association passes (`Parser.lean` §6) never panic on a surface tree without
`ParseError` node, and their output has no `ParseError` node either (`reassoc_noPE`; `reassoc_passes_noPE`,
`reassocAll_noPE` for the three in a row). -/

namespace PModel

def AccOK (acc : Option (Src × Link)) : Prop := ∀ ac l, acc = some (ac, l) → NoPE ac

theorem AccOK_none : AccOK none := by intro _ _ h; cases h

theorem AccOK_some {ac : Src} {l : Link} (h : NoPE ac) : AccOK (some (ac, l)) := by
  intro ac' l' e; cases e; exact h

theorem NoPE_build (r : SourceRange) (g : Bool) (es : List PErr) (l : Link) (a b : Src) :
    NoPE (.mk r g (l.build a b) es) ↔ NoPE a ∧ NoPE b := by
  cases l <;> simp [Link.build, NoPE]

theorem NoPE_reassocTail {acc : Option (Src × Link)} {reduced : Src}
    (h : NoPE reduced) (hacc : AccOK acc) : NoPE (reassocTail acc reduced) := by
  cases acc with
  | none => exact h
  | some p =>
    obtain ⟨ac, l⟩ := p
    simp only [reassocTail]
    exact (NoPE_build _ _ _ _ _ _).2 ⟨hacc ac l rfl, h⟩

def NoPEAt (fam : Family) (t : Src) : Prop :=
  ∀ acc, AccOK acc → ∃ t', reassoc fam acc t = some t' ∧ NoPE t'

section Chain
variable {fam : Family} {l : Link} {range : SourceRange} {group : Bool} {a b : Src}
  {acc : Option (Src × Link)} (IHa : NoPEAt fam a) (IHb : NoPEAt fam b) (hacc : AccOK acc)
include IHa IHb hacc

theorem rebuildStep_noPE : ∃ t', rebuildStep fam l range group a b acc = some t' ∧ NoPE t' := by
  obtain ⟨a', ha, ha'⟩ := IHa none AccOK_none
  obtain ⟨b', hb, hb'⟩ := IHb none AccOK_none
  exact ⟨_, rebuildStep_some.2 ⟨a', b', ha, hb, rfl⟩,
    NoPE_reassocTail ((NoPE_build _ _ _ _ _ _).2 ⟨ha', hb'⟩) hacc⟩

theorem chainArm_noPE : ∃ t', chainArm fam l range group a b acc = some t' ∧ NoPE t' := by
  obtain ⟨a0, ha0, ha0'⟩ := IHa none AccOK_none
  unfold chainArm
  by_cases hg : b.group = true
  · obtain ⟨b0, hb0, hb0'⟩ := IHb none AccOK_none
    cases acc with
    | none =>
      simp only [hg, if_true, ha0, hb0]
      exact ⟨_, rfl, (NoPE_build _ _ _ _ _ _).2 ⟨ha0', hb0'⟩⟩
    | some p =>
      obtain ⟨ac, l'⟩ := p
      obtain ⟨a1, ha1, ha1'⟩ := IHa _ hacc
      simp only [hg, if_true, ha1, hb0]
      exact ⟨_, rfl, (NoPE_build _ _ _ _ _ _).2 ⟨ha1', hb0'⟩⟩
  · cases acc with
    | none =>
      simp only [hg, Bool.false_eq_true, if_false, ha0]
      exact IHb _ (AccOK_some ha0')
    | some p =>
      obtain ⟨ac, l'⟩ := p
      simp only [hg, Bool.false_eq_true, if_false, ha0]
      exact IHb _ (AccOK_some ((NoPE_build _ _ _ _ _ _).2 ⟨hacc ac l' rfl, ha0'⟩))

theorem chainStep_noPE : ∃ t', chainStep fam l range group a b acc = some t' ∧ NoPE t' := by
  unfold chainStep
  split
  · obtain ⟨t, ht, ht'⟩ := chainArm_noPE (l := l) (range := range) (group := group) IHa IHb AccOK_none
    simp only [ht]
    exact ⟨_, rfl, NoPE_reassocTail ht' hacc⟩
  · exact chainArm_noPE IHa IHb hacc

end Chain

theorem reassocOpt_noPE_of {fam : Family} {o : OptSrc} (ih : o.all fun t => NoPE t → NoPEAt fam t)
    (h : NoPEOpt o) : ∃ o', reassocOpt fam o = some o' ∧ NoPEOpt o' := by
  unfold reassocOpt
  cases o with
  | none => exact ⟨_, rfl, trivial⟩
  | some t =>
    obtain ⟨t', ht, ht'⟩ := ih h none AccOK_none
    simp only [ht]
    exact ⟨_, rfl, ht'⟩

theorem reassoc_noPE (fam : Family) (t : Src) : NoPE t → NoPEAt fam t := by
  induction t using Src.induction with
  | parseError => exact fun h => (by simp [NoPE] at h)
  | type | int | bool | tt | ff | lit | var =>
    intro h acc hacc
    unfold reassoc
    exact ⟨_, rfl, NoPE_reassocTail h hacc⟩
  | lam range g x imp dom body es ihd ihb =>
    intro h acc hacc
    simp only [NoPE] at h
    obtain ⟨d', hd, hd'⟩ := reassocOpt_noPE_of ihd h.1
    obtain ⟨b', hb, hb'⟩ := ihb h.2 none AccOK_none
    exact ⟨_, reassoc_lam_some.2 ⟨d', b', hd, hb, rfl⟩,
      NoPE_reassocTail (by simp only [NoPE]; exact ⟨hd', hb'⟩) hacc⟩
  | pi range g x imp dom cod es ihd ihc =>
    intro h acc hacc
    simp only [NoPE] at h
    obtain ⟨d', hd, hd'⟩ := ihd h.1 none AccOK_none
    obtain ⟨c', hc, hc'⟩ := ihc h.2 none AccOK_none
    exact ⟨_, reassoc_pi_some.2 ⟨d', c', hd, hc, rfl⟩,
      NoPE_reassocTail (by simp only [NoPE]; exact ⟨hd', hc'⟩) hacc⟩
  | let_ range g x ann defn body es iha ihd ihb =>
    intro h acc hacc
    simp only [NoPE] at h
    obtain ⟨n', hn, hn'⟩ := reassocOpt_noPE_of iha h.1
    obtain ⟨d', hd, hd'⟩ := ihd h.2.1 none AccOK_none
    obtain ⟨b', hb, hb'⟩ := ihb h.2.2 none AccOK_none
    exact ⟨_, reassoc_let_some.2 ⟨n', d', b', hn, hd, hb, rfl⟩,
      NoPE_reassocTail (by simp only [NoPE]; exact ⟨hn', hd', hb'⟩) hacc⟩
  | neg range g a es iha =>
    intro h acc hacc
    simp only [NoPE] at h
    obtain ⟨a', ha, ha'⟩ := iha h none AccOK_none
    exact ⟨_, reassoc_neg_some.2 ⟨a', ha, rfl⟩, NoPE_reassocTail (by simp only [NoPE]; exact ha') hacc⟩
  | ite range g c a b es ihc iha ihb =>
    intro h acc hacc
    simp only [NoPE] at h
    obtain ⟨c', hc, hc'⟩ := ihc h.1 none AccOK_none
    obtain ⟨a', ha, ha'⟩ := iha h.2.1 none AccOK_none
    obtain ⟨b', hb, hb'⟩ := ihb h.2.2 none AccOK_none
    exact ⟨_, reassoc_ite_some.2 ⟨c', a', b', hc, ha, hb, rfl⟩,
      NoPE_reassocTail (by simp only [NoPE]; exact ⟨hc', ha', hb'⟩) hacc⟩
  | app range g f a es ihf iha =>
    intro h acc hacc
    simp only [NoPE] at h
    rw [reassoc_app]
    split
    · exact chainStep_noPE (ihf h.1) (iha h.2) hacc
    · exact rebuildStep_noPE (ihf h.1) (iha h.2) hacc
  | bin range g o a b es iha ihb =>
    intro h acc hacc
    simp only [NoPE] at h
    rw [reassoc_bin]
    split
    · exact chainStep_noPE (iha h.1) (ihb h.2) hacc
    · exact rebuildStep_noPE (iha h.1) (ihb h.2) hacc

theorem reassocOpt_noPE : ∀ (fam : Family) (o : OptSrc), NoPEOpt o →
    ∃ o', reassocOpt fam o = some o' ∧ NoPEOpt o' :=
  fun fam o h => reassocOpt_noPE_of (OptSrc.all_of_forall (reassoc_noPE fam) o) h

theorem reassoc_passes_noPE (t : Src) (h : NoPE t) :
    ∃ t1 t2 t3, reassociateApplications t = some t1 ∧
      reassociateProductsAndQuotients t1 = some t2 ∧
      reassociateSumsAndDifferences t2 = some t3 ∧ NoPE t3 := by
  obtain ⟨t1, h1, h1'⟩ := reassoc_noPE .applications t h none AccOK_none
  obtain ⟨t2, h2, h2'⟩ := reassoc_noPE .productsAndQuotients t1 h1' none AccOK_none
  obtain ⟨t3, h3, h3'⟩ := reassoc_noPE .sumsAndDifferences t2 h2' none AccOK_none
  exact ⟨t1, t2, t3, h1, h2, h3, h3'⟩

theorem reassocAll_noPE (t : Src) (h : NoPE t) : ∃ t3, RewriteMore.reassocAll t = some t3 ∧ NoPE t3 := by
  obtain ⟨t1, t2, t3, h1, h2, h3, hn⟩ := reassoc_passes_noPE t h
  exact ⟨t3, by simp only [RewriteMore.reassocAll, h1, h2, h3], hn⟩

end PModel
