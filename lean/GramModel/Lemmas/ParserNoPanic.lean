import GramModel.Lemmas.ParserReassoc
import GramModel.Lemmas.ParserResolve
import GramModel.Lemmas.ParserCheckDefs

/-! Panic-freedom of everything in `parse` after the parse phase (`finishParse`), assembled from
`ParserReassoc`, `ParserResolve`, `ParserCheckDefs`. -/

namespace PModel

theorem finishParse_no_panic (toks : Array PTok) (ctx : List Name) (term : Src) (next : Nat)
    (h : collectErrors term = [] → NoPE term) :
    (∃ t, finishParse toks ctx term next = .ok t) ∨ (∃ es, finishParse toks ctx term next = .errors es) := by
  rw [finishParse_stages]
  split
  · exact Or.inr ⟨_, rfl⟩
  · rename_i hs
    obtain ⟨t3, h3, hn3⟩ := reassocAll_noPE term (h (syntaxErrors_eq_nil.1 (by simpa using hs)).1)
    obtain ⟨r, st', hr, hclean⟩ := resolve_clean t3 (initialContext ctx).length
      { ctx := initialContext ctx, errors := [], nextHole := 0 } hn3
    obtain ⟨es, hes⟩ := checkDefinitions_ok r st'.ctx.length st'.errors hclean
    simp only [h3, finishResolved_some hr, hes]
    split
    · exact Or.inl ⟨_, rfl⟩
    · exact Or.inr ⟨_, rfl⟩

end PModel
