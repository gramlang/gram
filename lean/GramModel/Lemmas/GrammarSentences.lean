import GramModel.Lemmas.Derives

/-!
# Two things every sentence of `grammar.y` satisfies

In every sentence of every nonterminal a `{` is followed by an identifier (`derives_lcOk`), and no
sentence of `term` starts with `MINUS INTEGER_LITERAL THIN_ARROW` (`minus_literal_arrow_not_derivable`).
Both are what makes the two exclusions of the printable class necessary.
Declares into namespace `PrintDerives`.
-/

namespace PrintDerives

abbrev G : List (String × List String) := Generated.grammarProductions

/-- every `LEFT_CURLY` is followed by `IDENTIFIER` (in particular it is not last) -/
def lcOk : List String → Bool
  | [] => true
  | [a] => a != "LEFT_CURLY"
  | a :: b :: r => (a != "LEFT_CURLY" || b == "IDENTIFIER") && lcOk (b :: r)

def isLhs (A : String) : Bool := G.any (fun p => p.1 == A)

theorem lcOk_cons_eq (a : String) (w : List String) :
    lcOk (a :: w) = ((a != "LEFT_CURLY" || w.head? == some "IDENTIFIER") && lcOk w) := by
  cases w <;> simp [lcOk]

theorem lcOk_append : ∀ (w1 w2 : List String), lcOk w1 = true → lcOk w2 = true →
    lcOk (w1 ++ w2) = true
  | [], _, _, h2 => h2
  | a :: w1, w2, h1, h2 => by
      rw [lcOk_cons_eq, Bool.and_eq_true] at h1
      rw [List.cons_append, lcOk_cons_eq, Bool.and_eq_true]
      refine ⟨?_, lcOk_append w1 w2 h1.2 h2⟩
      cases w1 <;> simp_all

theorem rhs_lcOk : ∀ p ∈ G, lcOk p.2 = true := by decide +kernel

theorem isLhs_of_mem {A : String} {rhs : List String} (h : (A, rhs) ∈ G) : isLhs A = true :=
  List.any_eq_true.mpr ⟨_, h, by simp⟩

theorem seq_head {a : String} {rest w : List String} (hs : DerivesSeq G (a :: rest) w)
    (ha : isLhs a = false) : ∃ w', w = a :: w' := by
  cases hs with
  | term _ _ => exact ⟨_, rfl⟩
  | nonterm hd _ =>
    cases hd with
    | prod hm _ => rw [isLhs_of_mem hm] at ha; cases ha

mutual
theorem derives_lcOk : ∀ {A : String} {w : List String},
    Derives Generated.grammarProductions A w → lcOk w = true
  | _, _, .prod hm hs => lc_seq hs (rhs_lcOk _ hm)
theorem lc_seq : ∀ {rhs w : List String}, DerivesSeq G rhs w → lcOk rhs = true → lcOk w = true
  | _, _, .nil, _ => rfl
  | _, _, @DerivesSeq.term _ a rest w _ hs, hok => by
      rw [lcOk_cons_eq, Bool.and_eq_true, Bool.or_eq_true] at hok ⊢
      refine ⟨hok.1.imp_right fun h => ?_, lc_seq hs hok.2⟩
      cases rest with
      | nil => simp at h
      | cons b rest' =>
        have hb : b = "IDENTIFIER" := by simpa using h
        obtain ⟨w', rfl⟩ := seq_head hs (by rw [hb]; decide +kernel)
        simpa using hb
  | _, _, .nonterm hd hs, hok => by
      rw [lcOk_cons_eq, Bool.and_eq_true] at hok
      exact lcOk_append _ _ (derives_lcOk hd) (lc_seq hs hok.2)
end

/-! ## No sentence of `term` starts with `MINUS INTEGER_LITERAL THIN_ARROW`

Abstract every word to its first three tokens,
classified as `MINUS` / `INTEGER_LITERAL` / `THIN_ARROW` / other.  This abstraction is a monoid
homomorphism (truncated concatenation), so the sets of abstract values of the sentences of each
nonterminal are bounded by any table closed under the productions; the table below (the least one)
is checked closed by evaluation and does not contain `MINUS INTEGER_LITERAL THIN_ARROW` for `term`. -/

inductive Cls | m | l | a | o
deriving DecidableEq, Repr

def cls (s : String) : Cls :=
  if s = "MINUS" then .m else if s = "INTEGER_LITERAL" then .l else if s = "THIN_ARROW" then .a else .o

def absW (w : List String) : List Cls := (w.map cls).take 3

/-- One row per nonterminal: the least table closed under the productions.  To recompute it after a change of `grammar.y`:
start from empty rows and replace the row of `A` by the union of `seqAbs rhs` over the productions `(A, rhs)` of `G` until
nothing changes (rows and entries sorted).  Only closure is checked (`abs_closed`); any closed table whose row `term` lacks
`[.m, .l, .a]` serves. -/
def absTable : List (String × List (List Cls)) := [
  ("annotated_lambda", [[.o, .o, .o]]),
  ("annotated_lambda_implicit", [[.o, .o, .o]]),
  ("application", [[.l, .l], [.l, .l, .l], [.l, .l, .o], [.l, .o], [.l, .o, .l], [.l, .o, .m], [.l, .o, .o], [.o, .l], [.o, .l, .a], [.o, .l, .l], [.o, .l, .m], [.o, .l, .o], [.o, .m, .l], [.o, .m, .m], [.o, .m, .o], [.o, .o], [.o, .o, .a], [.o, .o, .l], [.o, .o, .m], [.o, .o, .o]]),
  ("atom", [[.l], [.o], [.o, .l, .a], [.o, .l, .l], [.o, .l, .m], [.o, .l, .o], [.o, .m, .l], [.o, .m, .m], [.o, .m, .o], [.o, .o, .a], [.o, .o, .l], [.o, .o, .m], [.o, .o, .o]]),
  ("boolean", [[.o]]),
  ("difference", [[.l, .l, .l], [.l, .l, .m], [.l, .l, .o], [.l, .m, .l], [.l, .m, .m], [.l, .m, .o], [.l, .o, .l], [.l, .o, .m], [.l, .o, .o], [.m, .l, .l], [.m, .l, .m], [.m, .l, .o], [.m, .m, .l], [.m, .m, .m], [.m, .m, .o], [.m, .o, .l], [.m, .o, .m], [.m, .o, .o], [.o, .l, .a], [.o, .l, .l], [.o, .l, .m], [.o, .l, .o], [.o, .m, .l], [.o, .m, .m], [.o, .m, .o], [.o, .o, .a], [.o, .o, .l], [.o, .o, .m], [.o, .o, .o]]),
  ("equal_to", [[.l, .l, .l], [.l, .l, .m], [.l, .l, .o], [.l, .m, .l], [.l, .m, .m], [.l, .m, .o], [.l, .o, .l], [.l, .o, .m], [.l, .o, .o], [.m, .l, .l], [.m, .l, .m], [.m, .l, .o], [.m, .m, .l], [.m, .m, .m], [.m, .m, .o], [.m, .o, .l], [.m, .o, .m], [.m, .o, .o], [.o, .l, .a], [.o, .l, .l], [.o, .l, .m], [.o, .l, .o], [.o, .m, .l], [.o, .m, .m], [.o, .m, .o], [.o, .o, .a], [.o, .o, .l], [.o, .o, .m], [.o, .o, .o]]),
  ("false", [[.o]]),
  ("giant_term", [[.l], [.l, .l], [.l, .l, .l], [.l, .l, .m], [.l, .l, .o], [.l, .m, .l], [.l, .m, .m], [.l, .m, .o], [.l, .o], [.l, .o, .l], [.l, .o, .m], [.l, .o, .o], [.m, .l], [.m, .l, .l], [.m, .l, .m], [.m, .l, .o], [.m, .m, .l], [.m, .m, .m], [.m, .m, .o], [.m, .o], [.m, .o, .l], [.m, .o, .m], [.m, .o, .o], [.o], [.o, .l], [.o, .l, .a], [.o, .l, .l], [.o, .l, .m], [.o, .l, .o], [.o, .m, .l], [.o, .m, .m], [.o, .m, .o], [.o, .o], [.o, .o, .a], [.o, .o, .l], [.o, .o, .m], [.o, .o, .o]]),
  ("greater_than", [[.l, .l, .l], [.l, .l, .m], [.l, .l, .o], [.l, .m, .l], [.l, .m, .m], [.l, .m, .o], [.l, .o, .l], [.l, .o, .m], [.l, .o, .o], [.m, .l, .l], [.m, .l, .m], [.m, .l, .o], [.m, .m, .l], [.m, .m, .m], [.m, .m, .o], [.m, .o, .l], [.m, .o, .m], [.m, .o, .o], [.o, .l, .a], [.o, .l, .l], [.o, .l, .m], [.o, .l, .o], [.o, .m, .l], [.o, .m, .m], [.o, .m, .o], [.o, .o, .a], [.o, .o, .l], [.o, .o, .m], [.o, .o, .o]]),
  ("greater_than_or_equal_to", [[.l, .l, .l], [.l, .l, .m], [.l, .l, .o], [.l, .m, .l], [.l, .m, .m], [.l, .m, .o], [.l, .o, .l], [.l, .o, .m], [.l, .o, .o], [.m, .l, .l], [.m, .l, .m], [.m, .l, .o], [.m, .m, .l], [.m, .m, .m], [.m, .m, .o], [.m, .o, .l], [.m, .o, .m], [.m, .o, .o], [.o, .l, .a], [.o, .l, .l], [.o, .l, .m], [.o, .l, .o], [.o, .m, .l], [.o, .m, .m], [.o, .m, .o], [.o, .o, .a], [.o, .o, .l], [.o, .o, .m], [.o, .o, .o]]),
  ("group", [[.o, .l, .a], [.o, .l, .l], [.o, .l, .m], [.o, .l, .o], [.o, .m, .l], [.o, .m, .m], [.o, .m, .o], [.o, .o, .a], [.o, .o, .l], [.o, .o, .m], [.o, .o, .o]]),
  ("huge_term", [[.l], [.l, .l], [.l, .l, .l], [.l, .l, .m], [.l, .l, .o], [.l, .m, .l], [.l, .m, .m], [.l, .m, .o], [.l, .o], [.l, .o, .l], [.l, .o, .m], [.l, .o, .o], [.m, .l], [.m, .l, .l], [.m, .l, .m], [.m, .l, .o], [.m, .m, .l], [.m, .m, .m], [.m, .m, .o], [.m, .o], [.m, .o, .l], [.m, .o, .m], [.m, .o, .o], [.o], [.o, .l], [.o, .l, .a], [.o, .l, .l], [.o, .l, .m], [.o, .l, .o], [.o, .m, .l], [.o, .m, .m], [.o, .m, .o], [.o, .o], [.o, .o, .a], [.o, .o, .l], [.o, .o, .m], [.o, .o, .o]]),
  ("if", [[.o, .l, .a], [.o, .l, .l], [.o, .l, .m], [.o, .l, .o], [.o, .m, .l], [.o, .m, .m], [.o, .m, .o], [.o, .o, .a], [.o, .o, .l], [.o, .o, .m], [.o, .o, .o]]),
  ("integer", [[.o]]),
  ("integer_literal", [[.l]]),
  ("jumbo_term", [[.l], [.l, .a, .l], [.l, .a, .m], [.l, .a, .o], [.l, .l], [.l, .l, .a], [.l, .l, .l], [.l, .l, .m], [.l, .l, .o], [.l, .m, .l], [.l, .m, .m], [.l, .m, .o], [.l, .o], [.l, .o, .a], [.l, .o, .l], [.l, .o, .m], [.l, .o, .o], [.m, .l], [.m, .l, .l], [.m, .l, .m], [.m, .l, .o], [.m, .m, .l], [.m, .m, .m], [.m, .m, .o], [.m, .o], [.m, .o, .l], [.m, .o, .m], [.m, .o, .o], [.o], [.o, .a, .l], [.o, .a, .m], [.o, .a, .o], [.o, .l], [.o, .l, .a], [.o, .l, .l], [.o, .l, .m], [.o, .l, .o], [.o, .m, .l], [.o, .m, .m], [.o, .m, .o], [.o, .o], [.o, .o, .a], [.o, .o, .l], [.o, .o, .m], [.o, .o, .o]]),
  ("lambda", [[.o, .o, .l], [.o, .o, .m], [.o, .o, .o]]),
  ("lambda_implicit", [[.o, .o, .o]]),
  ("large_term", [[.l], [.l, .l], [.l, .l, .l], [.l, .l, .o], [.l, .o], [.l, .o, .l], [.l, .o, .m], [.l, .o, .o], [.m, .l], [.m, .l, .l], [.m, .l, .o], [.m, .m, .l], [.m, .m, .m], [.m, .m, .o], [.m, .o], [.m, .o, .l], [.m, .o, .m], [.m, .o, .o], [.o], [.o, .l], [.o, .l, .a], [.o, .l, .l], [.o, .l, .m], [.o, .l, .o], [.o, .m, .l], [.o, .m, .m], [.o, .m, .o], [.o, .o], [.o, .o, .a], [.o, .o, .l], [.o, .o, .m], [.o, .o, .o]]),
  ("less_than", [[.l, .l, .l], [.l, .l, .m], [.l, .l, .o], [.l, .m, .l], [.l, .m, .m], [.l, .m, .o], [.l, .o, .l], [.l, .o, .m], [.l, .o, .o], [.m, .l, .l], [.m, .l, .m], [.m, .l, .o], [.m, .m, .l], [.m, .m, .m], [.m, .m, .o], [.m, .o, .l], [.m, .o, .m], [.m, .o, .o], [.o, .l, .a], [.o, .l, .l], [.o, .l, .m], [.o, .l, .o], [.o, .m, .l], [.o, .m, .m], [.o, .m, .o], [.o, .o, .a], [.o, .o, .l], [.o, .o, .m], [.o, .o, .o]]),
  ("less_than_or_equal_to", [[.l, .l, .l], [.l, .l, .m], [.l, .l, .o], [.l, .m, .l], [.l, .m, .m], [.l, .m, .o], [.l, .o, .l], [.l, .o, .m], [.l, .o, .o], [.m, .l, .l], [.m, .l, .m], [.m, .l, .o], [.m, .m, .l], [.m, .m, .m], [.m, .m, .o], [.m, .o, .l], [.m, .o, .m], [.m, .o, .o], [.o, .l, .a], [.o, .l, .l], [.o, .l, .m], [.o, .l, .o], [.o, .m, .l], [.o, .m, .m], [.o, .m, .o], [.o, .o, .a], [.o, .o, .l], [.o, .o, .m], [.o, .o, .o]]),
  ("let", [[.o, .o, .l], [.o, .o, .m], [.o, .o, .o]]),
  ("let_annotation", [[], [.o, .l], [.o, .l, .l], [.o, .l, .o], [.o, .o], [.o, .o, .l], [.o, .o, .m], [.o, .o, .o]]),
  ("medium_term", [[.l], [.l, .l], [.l, .l, .l], [.l, .l, .o], [.l, .o], [.l, .o, .l], [.l, .o, .m], [.l, .o, .o], [.o], [.o, .l], [.o, .l, .a], [.o, .l, .l], [.o, .l, .m], [.o, .l, .o], [.o, .m, .l], [.o, .m, .m], [.o, .m, .o], [.o, .o], [.o, .o, .a], [.o, .o, .l], [.o, .o, .m], [.o, .o, .o]]),
  ("negation", [[.m, .l], [.m, .l, .l], [.m, .l, .o], [.m, .m, .l], [.m, .m, .m], [.m, .m, .o], [.m, .o], [.m, .o, .l], [.m, .o, .m], [.m, .o, .o]]),
  ("non_dependent_pi", [[.l, .a, .l], [.l, .a, .m], [.l, .a, .o], [.l, .l, .a], [.l, .l, .l], [.l, .l, .o], [.l, .o, .a], [.l, .o, .l], [.l, .o, .m], [.l, .o, .o], [.o, .a, .l], [.o, .a, .m], [.o, .a, .o], [.o, .l, .a], [.o, .l, .l], [.o, .l, .m], [.o, .l, .o], [.o, .m, .l], [.o, .m, .m], [.o, .m, .o], [.o, .o, .a], [.o, .o, .l], [.o, .o, .m], [.o, .o, .o]]),
  ("pi", [[.o, .o, .o]]),
  ("pi_implicit", [[.o, .o, .o]]),
  ("product", [[.l, .l, .l], [.l, .l, .o], [.l, .o, .l], [.l, .o, .m], [.l, .o, .o], [.o, .l, .a], [.o, .l, .l], [.o, .l, .m], [.o, .l, .o], [.o, .m, .l], [.o, .m, .m], [.o, .m, .o], [.o, .o, .a], [.o, .o, .l], [.o, .o, .m], [.o, .o, .o]]),
  ("quotient", [[.l, .l, .l], [.l, .l, .o], [.l, .o, .l], [.l, .o, .m], [.l, .o, .o], [.o, .l, .a], [.o, .l, .l], [.o, .l, .m], [.o, .l, .o], [.o, .m, .l], [.o, .m, .m], [.o, .m, .o], [.o, .o, .a], [.o, .o, .l], [.o, .o, .m], [.o, .o, .o]]),
  ("small_term", [[.l], [.l, .l], [.l, .l, .l], [.l, .l, .o], [.l, .o], [.l, .o, .l], [.l, .o, .m], [.l, .o, .o], [.o], [.o, .l], [.o, .l, .a], [.o, .l, .l], [.o, .l, .m], [.o, .l, .o], [.o, .m, .l], [.o, .m, .m], [.o, .m, .o], [.o, .o], [.o, .o, .a], [.o, .o, .l], [.o, .o, .m], [.o, .o, .o]]),
  ("sum", [[.l, .l, .l], [.l, .l, .o], [.l, .o, .l], [.l, .o, .m], [.l, .o, .o], [.m, .l, .l], [.m, .l, .o], [.m, .m, .l], [.m, .m, .m], [.m, .m, .o], [.m, .o, .l], [.m, .o, .m], [.m, .o, .o], [.o, .l, .a], [.o, .l, .l], [.o, .l, .m], [.o, .l, .o], [.o, .m, .l], [.o, .m, .m], [.o, .m, .o], [.o, .o, .a], [.o, .o, .l], [.o, .o, .m], [.o, .o, .o]]),
  ("term", [[.l], [.l, .a, .l], [.l, .a, .m], [.l, .a, .o], [.l, .l], [.l, .l, .a], [.l, .l, .l], [.l, .l, .m], [.l, .l, .o], [.l, .m, .l], [.l, .m, .m], [.l, .m, .o], [.l, .o], [.l, .o, .a], [.l, .o, .l], [.l, .o, .m], [.l, .o, .o], [.m, .l], [.m, .l, .l], [.m, .l, .m], [.m, .l, .o], [.m, .m, .l], [.m, .m, .m], [.m, .m, .o], [.m, .o], [.m, .o, .l], [.m, .o, .m], [.m, .o, .o], [.o], [.o, .a, .l], [.o, .a, .m], [.o, .a, .o], [.o, .l], [.o, .l, .a], [.o, .l, .l], [.o, .l, .m], [.o, .l, .o], [.o, .m, .l], [.o, .m, .m], [.o, .m, .o], [.o, .o], [.o, .o, .a], [.o, .o, .l], [.o, .o, .m], [.o, .o, .o]]),
  ("true", [[.o]]),
  ("type", [[.o]]),
  ("variable", [[.o]])
]

def absOf (A : String) : List (List Cls) :=
  match absTable.find? (fun p => p.1 == A) with
  | some p => p.2
  | none => []

def symAbs (X : String) : List (List Cls) :=
  (if X ∈ Generated.grammarTerminals then [[cls X]] else []) ++ absOf X

def insertNew (x : List Cls) (acc : List (List Cls)) : List (List Cls) :=
  if x ∈ acc then acc else x :: acc

def dedup (l : List (List Cls)) : List (List Cls) := l.foldr insertNew []

theorem mem_dedup_iff {x : List Cls} : ∀ {l : List (List Cls)}, x ∈ dedup l ↔ x ∈ l
  | [] => Iff.rfl
  | y :: l => by
      have ih : x ∈ List.foldr insertNew [] l ↔ x ∈ l := mem_dedup_iff
      simp only [dedup, List.foldr_cons, insertNew, List.mem_cons]
      split
      · rw [ih]
        exact ⟨.inr, fun h => h.elim (fun e => ih.mp (e ▸ ‹_›)) id⟩
      · rw [List.mem_cons, ih]

def catAbs (A B : List (List Cls)) : List (List Cls) :=
  dedup (A.flatMap (fun x => B.map (fun y => (x ++ y).take 3)))

def seqAbs : List String → List (List Cls)
  | [] => [[]]
  | X :: r => catAbs (symAbs X) (seqAbs r)

theorem mem_catAbs_iff {A B : List (List Cls)} {z : List Cls} :
    z ∈ catAbs A B ↔ ∃ x ∈ A, ∃ y ∈ B, (x ++ y).take 3 = z := by
  simp only [catAbs, mem_dedup_iff, List.mem_flatMap, List.mem_map]

theorem take_append_take {α : Type} (n : Nat) (l1 l2 : List α) :
    (l1 ++ l2).take n = (l1.take n ++ l2.take n).take n := by
  simp only [List.take_append, List.take_take, List.length_take]
  congr 1
  · simp
  · congr 1; omega

theorem take_append_take_right {α : Type} (n : Nat) (l1 l2 : List α) :
    (l1 ++ l2.take n).take n = (l1 ++ l2).take n := by
  rw [take_append_take, List.take_take, Nat.min_self, ← take_append_take]

theorem absW_append (w1 w2 : List String) : absW (w1 ++ w2) = (absW w1 ++ absW w2).take 3 := by
  simp only [absW, List.map_append]
  exact take_append_take 3 _ _

/-! Closure of the table is checked by evaluation, but not with `seqAbs` itself, whose products and
list searches are slow in the kernel: `closedFrom` picks one abstract word per symbol, stops once
three letters are fixed, and tests membership in a row through a bit mask. -/

def digit : Cls → Nat
  | .m => 1 | .l => 2 | .a => 3 | .o => 4

theorem digit_bounds (c : Cls) : 1 ≤ digit c ∧ digit c ≤ 4 := by cases c <;> decide

theorem digit_inj {c d : Cls} : digit c = digit d → c = d := by
  cases c <;> cases d <;> first | (intro; rfl) | (intro h; cases h)

/-- an abstract word as a number: its letters as the digits 1–4 in base 5 -/
def code : List Cls → Nat
  | [] => 0
  | c :: r => digit c + 5 * code r

theorem code_inj : ∀ {x y : List Cls}, code x = code y → x = y
  | [], [], _ => rfl
  | [], d :: _, h => by have := digit_bounds d; simp only [code] at h; omega
  | c :: _, [], h => by have := digit_bounds c; simp only [code] at h; omega
  | c :: r, d :: s, h => by
      have := digit_bounds c
      have := digit_bounds d
      simp only [code] at h
      have : digit c = digit d ∧ code r = code s := by omega
      rw [digit_inj this.1, code_inj this.2]

def maskOf (S : List (List Cls)) : Nat := S.foldr (fun x m => m ||| 2 ^ code x) 0

theorem mem_of_testBit_maskOf {z : List Cls} : ∀ {S : List (List Cls)},
    (maskOf S).testBit (code z) = true → z ∈ S
  | [], h => by simp [maskOf] at h
  | x :: S, h => by
      rw [maskOf, List.foldr_cons, Nat.testBit_or, Bool.or_eq_true, Nat.testBit_two_pow,
        decide_eq_true_eq] at h
      exact h.elim (fun h => .tail _ (mem_of_testBit_maskOf h)) (fun e => code_inj e ▸ .head _)

/-- every word of `seqAbs rhs`, put behind `pre` and cut to three letters, is in the set `mask` -/
def closedFrom (mask : Nat) (pre : List Cls) : List String → Bool
  | [] => mask.testBit (code (pre.take 3))
  | X :: r => if 3 ≤ pre.length then mask.testBit (code (pre.take 3))
      else (symAbs X).all fun x => closedFrom mask (pre ++ x) r

theorem closedFrom_sound {mask : Nat} : ∀ {rhs : List String} {pre : List Cls},
    closedFrom mask pre rhs = true →
      ∀ z ∈ seqAbs rhs, mask.testBit (code ((pre ++ z).take 3)) = true
  | [], pre, h, z, hz => by
      rw [seqAbs, List.mem_singleton] at hz
      rwa [hz, List.append_nil]
  | X :: r, pre, h, z, hz => by
      obtain ⟨x, hx, y, hy, rfl⟩ := mem_catAbs_iff.mp hz
      rw [closedFrom] at h
      split at h
      · rwa [List.take_append_of_le_length ‹_›]
      · rw [take_append_take_right, ← List.append_assoc]
        exact closedFrom_sound (List.all_eq_true.mp h x hx) y hy

theorem abs_closed : ∀ p ∈ G, ∀ x ∈ seqAbs p.2, x.take 3 ∈ absOf p.1 := by
  have h : ∀ p ∈ G, closedFrom (maskOf (absOf p.1)) [] p.2 = true := by decide +kernel
  exact fun p hp x hx => mem_of_testBit_maskOf (closedFrom_sound (h p hp) x hx)

mutual
theorem abs_derives : ∀ {A : String} {w : List String}, Derives G A w → absW w ∈ absOf A
  | _, _, .prod hm hs => by
      have := abs_closed _ hm _ (abs_seq hs)
      rwa [absW, List.take_take, Nat.min_self] at this
theorem abs_seq : ∀ {rhs w : List String}, DerivesSeq G rhs w → absW w ∈ seqAbs rhs
  | _, _, .nil => by simp [seqAbs, absW]
  | _, _, @DerivesSeq.term _ a rest w ha hs => by
      have ih := abs_seq hs
      have e : absW (a :: w) = ([cls a] ++ absW w).take 3 := absW_append [a] w
      rw [e, seqAbs]
      exact mem_catAbs_iff.mpr ⟨_, by simp [symAbs, ha], _, ih, rfl⟩
  | _, _, @DerivesSeq.nonterm _ A rest w1 w2 hd hs => by
      have ih1 := abs_derives hd
      have ih2 := abs_seq hs
      rw [absW_append, seqAbs]
      exact mem_catAbs_iff.mpr ⟨_, by simp [symAbs, ih1], _, ih2, rfl⟩
end

theorem minus_literal_arrow_not_derivable (r : List String) :
    ¬ Derives Generated.grammarProductions "term" ("MINUS" :: "INTEGER_LITERAL" :: "THIN_ARROW" :: r) := by
  intro h
  have := abs_derives h
  revert this
  simp only [absW, List.map_cons, List.take_succ_cons, List.take_zero]
  decide +kernel

end PrintDerives
