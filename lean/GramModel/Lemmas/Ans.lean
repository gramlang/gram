import GramModel.Store

/-!
# A run that only reads: it answers a value and leaves the state alone

`Ans s small x v`: the run `x` from `s` answered `v` and left `s` alone, or — only if `small` — ran out of fuel.
What a read-only function of the store layer computes is stated in this form once (the `X_ans` and `OracleLemmas.synEqS_ans` of
`Lemmas/StoreRead.lean`); "a successful run returns `v`", "it answers `v` or runs out of fuel", "with this much
fuel it answers `v`" are read off it (`inv`, `bind_inv`, `ok`).  The file declares into `StoreTransparent`, the
namespace of the `X_ans` (`Lemmas/StoreRead.lean`, `Lemmas/StoreTransparent.lean`).
-/

namespace StoreTransparent

/-- `small`: the condition under which the run may be out of fuel — in the `X_ans` "the fuel is below this bound",
`True` where no bound is claimed. -/
def Ans {α} (s : St) (small : Prop) (x : R α) (v : α) : Prop := x = .ok v s ∨ (small ∧ x = .fuel)

section
variable {α β : Type} {s : St} {p q : Prop}

theorem Ans.pure (v : α) : Ans s p ((pure v : M α) s) v := .inl rfl
theorem Ans.fuel {v : α} (h : p) : Ans s p ((outOfFuel : M α) s) v := .inr ⟨h, rfl⟩

theorem Ans.bind {m : M α} {k : α → M β} {v : α} {w : β} (hm : Ans s p (m s) v)
    (hk : Ans s p (k v s) w) : Ans s p ((m >>= k) s) w := by
  show Ans s p (M.bind m k s) w
  rcases hm with h | ⟨hp, h⟩
  · simp only [M.bind, h]; exact hk
  · simp only [M.bind, h]; exact .inr ⟨hp, rfl⟩

theorem Ans.mono {x : R α} {v : α} (h : Ans s p x v) (hpq : p → q) : Ans s q x v :=
  h.imp id fun ⟨a, b⟩ => ⟨hpq a, b⟩

theorem Ans.ok {x : R α} {v : α} (h : Ans s p x v) (hp : ¬ p) : x = .ok v s :=
  h.resolve_right fun ⟨a, _⟩ => hp a

theorem Ans.inv {x : R α} {v a : α} {s' : St} (h : Ans s p x v) (e : x = .ok a s') : a = v ∧ s' = s := by
  rcases h with h | ⟨_, h⟩ <;> rw [h] at e <;> cases e
  exact ⟨rfl, rfl⟩
end

theorem Ans.bind_inv {s : St} {p : Prop} {α β} {m : M α} {f : α → M β} {v : α} (hm : Ans s p (m s) v)
    {s' : St} {b : β} (h : (m >>= f) s = .ok b s') : f v s = .ok b s' := by
  have h : M.bind m f s = .ok b s' := h
  rcases hm with e | ⟨_, e⟩ <;> simp only [M.bind, e] at h
  · exact h
  · cases h

theorem Ans.if_and {s : St} {p : Prop} {m : M Bool} {x : Bool} (c : Bool) (h : Ans s p (m s) x) :
    Ans s p ((if c = true then m else Pure.pure false) s) (c && x) := by
  cases c
  · exact .pure _
  · simpa using h

theorem Ans.seq_and {s : St} {p : Prop} {m1 m2 : M Bool} {x y : Bool} (h1 : Ans s p (m1 s) x)
    (h2 : Ans s p (m2 s) y) : Ans s p ((do if ← m1 then m2 else Pure.pure false) s) (x && y) := by
  refine .bind h1 ?_
  cases x
  · exact .pure _
  · simpa using h2

end StoreTransparent
