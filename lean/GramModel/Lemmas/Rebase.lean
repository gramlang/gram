import GramModel.Lemmas.Oracle

/-!
# Re-basing a context entry does not change the oracle's answers

An entry `(T, o)` at position `i` of a context stands for "`T` lifted by `i + 1 - o`".  The entry
`(ushift 0 k T, o + k)` stands for the same thing whenever `o + k ≤ i + 1`.  The relations `RebT` / `RebD`
say "the second context is the first with entry `i` re-based by `k`" pointwise on lookups, so that they are
stable under `cons` and under `pushGroupX` (the position moves outwards).  `whnfX`, `convX`, `inferX`,
`inferDefsX` give *equal* results (every fuel, every term, errors included).
-/

namespace Rebase
open OracleLemmas

def rebE (k : Nat) (p : Tm × Nat) : Tm × Nat := (ushift 0 k p.1, p.2 + k)

/-- `Δ'` is `Δ` with entry `i` re-based by `k` (and that entry stays visible from position `i`) -/
structure RebD (i k : Nat) (Δ Δ' : DCtxX) : Prop where
  other : ∀ j, j ≠ i → Δ'[j]? = Δ[j]?
  here : Δ'[i]? = (Δ[i]?).map (Option.map (rebE k))
  ok : ∀ d o, Δ[i]? = some (some (d, o)) → o + k ≤ i + 1

/-- the same for the typing context -/
structure RebT (i k : Nat) (Γ Γ' : TCtxX) : Prop where
  other : ∀ j, j ≠ i → Γ'[j]? = Γ[j]?
  here : Γ'[i]? = (Γ[i]?).map (rebE k)
  ok : ∀ T o, Γ[i]? = some (T, o) → o + k ≤ i + 1

theorem RebD.cons {i k : Nat} {Δ Δ' : DCtxX} (h : RebD i k Δ Δ') (e : Option (Tm × Nat)) :
    RebD (i+1) k (e :: Δ) (e :: Δ') := by
  refine ⟨?_, ?_, ?_⟩
  · intro j hj
    cases j with
    | zero => rfl
    | succ j => simp only [List.getElem?_cons_succ]; exact h.other j (by omega)
  · simp only [List.getElem?_cons_succ]; exact h.here
  · intro d o hg
    simp only [List.getElem?_cons_succ] at hg
    have := h.ok d o hg; omega

theorem RebT.cons {i k : Nat} {Γ Γ' : TCtxX} (h : RebT i k Γ Γ') (e : Tm × Nat) :
    RebT (i+1) k (e :: Γ) (e :: Γ') := by
  refine ⟨?_, ?_, ?_⟩
  · intro j hj
    cases j with
    | zero => rfl
    | succ j => simp only [List.getElem?_cons_succ]; exact h.other j (by omega)
  · simp only [List.getElem?_cons_succ]; exact h.here
  · intro T o hg
    simp only [List.getElem?_cons_succ] at hg
    have := h.ok T o hg; omega

theorem pushGroupX_go_reb : ∀ (ds : Defs) (m i k : Nat) (Γ Γ' : TCtxX) (Δ Δ' : DCtxX),
    RebT i k Γ Γ' → RebD i k Δ Δ' →
    RebT (i + ds.len) k (pushGroupX.go ds m (Γ, Δ)).1 (pushGroupX.go ds m (Γ', Δ')).1 ∧
    RebD (i + ds.len) k (pushGroupX.go ds m (Γ, Δ)).2 (pushGroupX.go ds m (Γ', Δ')).2
  | .nil, m, i, k, Γ, Γ', Δ, Δ', hT, hD => by
      simp only [pushGroupX.go, Defs.len_nil, Nat.add_zero]; exact ⟨hT, hD⟩
  | .cons x a d r, m, i, k, Γ, Γ', Δ, Δ', hT, hD => by
      simp only [pushGroupX.go, Defs.len_cons]
      have ih := pushGroupX_go_reb r (m - 1) (i + 1) k _ _ _ _ (hT.cons (a, m)) (hD.cons (some (d, m)))
      rw [show i + 1 + r.len = i + (r.len + 1) by omega] at ih
      exact ih

theorem pushGroupX_reb (ds : Defs) (n i k : Nat) {Γ Γ' : TCtxX} {Δ Δ' : DCtxX}
    (hT : RebT i k Γ Γ') (hD : RebD i k Δ Δ') :
    RebT (i + ds.len) k (pushGroupX ds n (Γ, Δ)).1 (pushGroupX ds n (Γ', Δ')).1 ∧
    RebD (i + ds.len) k (pushGroupX ds n (Γ, Δ)).2 (pushGroupX ds n (Γ', Δ')).2 := by
  unfold pushGroupX
  exact pushGroupX_go_reb ds ds.len i k Γ Γ' Δ Δ' hT hD

theorem whnfX_reb : ∀ (f i k : Nat) (Δ Δ' : DCtxX) (t : Tm), RebD i k Δ Δ' →
    whnfX f Δ' t = whnfX f Δ t := by
  intro f
  induction f with
  | zero => intro i k Δ Δ' t _; unfold whnfX; rfl
  | succ f ih =>
    intro i k Δ Δ' t h
    have ih' : ∀ u, whnfX f Δ' u = whnfX f Δ u := fun u => ih i k Δ Δ' u h
    cases t
    case var x j =>
      unfold whnfX
      simp only
      by_cases hj : j = i
      · subst hj
        rw [h.here]
        cases hg : Δ[j]? with
        | none => rfl
        | some e =>
          cases e with
          | none => rfl
          | some p =>
            obtain ⟨d, o⟩ := p
            have hk := h.ok d o hg
            simp only [Option.map_some, rebE, if_neg (show ¬ (j + 1 < o + k) by omega),
              if_neg (show ¬ (j + 1 < o) by omega)]
            rw [ushift_ushift, show j + 1 - (o + k) + k = j + 1 - o by omega]
            exact ih' _
      · rw [h.other j hj]
        simp only [ih']
    all_goals (unfold whnfX; simp only [ih'])

theorem convX_reb : ∀ (f i k : Nat) (Δ Δ' : DCtxX) (a b : Tm), RebD i k Δ Δ' →
    convX f Δ' a b = convX f Δ a b := by
  intro f
  induction f with
  | zero => intro i k Δ Δ' a b _; unfold convX; rfl
  | succ f ih =>
    intro i k Δ Δ' a b h
    have ih0 : ∀ u v, convX f Δ' u v = convX f Δ u v := fun u v => ih i k Δ Δ' u v h
    have ih1 : ∀ u v, convX f (none :: Δ') u v = convX f (none :: Δ) u v :=
      fun u v => ih (i+1) k _ _ u v (h.cons none)
    have hw : ∀ u, whnfX f Δ' u = whnfX f Δ u := fun u => whnfX_reb f i k Δ Δ' u h
    unfold convX
    simp only [ih0, ih1, hw]

theorem expectX_reb {f i k : Nat} {Δ Δ' : DCtxX} (h : RebD i k Δ Δ') (a b : Tm) (e : XErr) :
    expectX f Δ' a b e = expectX f Δ a b e := by
  unfold expectX; rw [convX_reb f i k Δ Δ' _ _ h]

theorem isTypeX_reb {f i k : Nat} {Δ Δ' : DCtxX} (h : RebD i k Δ Δ') (ty : Tm) :
    isTypeX f Δ' ty = isTypeX f Δ ty :=
  expectX_reb h ty .type .notType

theorem inferX_reb_aux : ∀ (f : Nat),
    (∀ (i k : Nat) (Γ Γ' : TCtxX) (Δ Δ' : DCtxX) (t : Tm), RebT i k Γ Γ' → RebD i k Δ Δ' →
      inferX f Γ' Δ' t = inferX f Γ Δ t) ∧
    (∀ (i k : Nat) (Γ Γ' : TCtxX) (Δ Δ' : DCtxX) (ds : Defs), RebT i k Γ Γ' → RebD i k Δ Δ' →
      inferDefsX f Γ' Δ' ds = inferDefsX f Γ Δ ds) := by
  intro f
  induction f with
  | zero =>
    exact ⟨fun _ _ _ _ _ _ _ _ _ => rfl, fun _ _ _ _ _ _ _ _ _ => rfl⟩
  | succ f ih =>
    obtain ⟨ih1, ih2⟩ := ih
    constructor
    · intro i k Γ Γ' Δ Δ' t hT hD
      have i0 : ∀ u, inferX f Γ' Δ' u = inferX f Γ Δ u := fun u => ih1 i k _ _ _ _ u hT hD
      have i1 : ∀ e u, inferX f (e :: Γ') (none :: Δ') u = inferX f (e :: Γ) (none :: Δ) u :=
        fun e u => ih1 (i+1) k _ _ _ _ u (hT.cons e) (hD.cons none)
      have hw : ∀ u, whnfX f Δ' u = whnfX f Δ u := fun u => whnfX_reb f i k Δ Δ' u hD
      have ht0 : ∀ u, isTypeX f Δ' u = isTypeX f Δ u := fun u => isTypeX_reb hD u
      have ht1 : ∀ u, isTypeX f (none :: Δ') u = isTypeX f (none :: Δ) u :=
        fun u => isTypeX_reb (hD.cons none) u
      have he : ∀ a b e, expectX f Δ' a b e = expectX f Δ a b e := fun a b e => expectX_reb hD a b e
      cases t
      case var x j =>
        rw [inferX_var, inferX_var]
        by_cases hj : j = i
        · subst hj
          rw [hT.here]
          cases hg : Γ[j]? with
          | none => rfl
          | some p =>
            obtain ⟨T, o⟩ := p
            have hk := hT.ok T o hg
            simp only [Option.map_some, rebE, if_neg (show ¬ (j + 1 < o + k) by omega),
              if_neg (show ¬ (j + 1 < o) by omega)]
            rw [ushift_ushift, show j + 1 - (o + k) + k = j + 1 - o by omega]
        · rw [hT.other j hj]
      case letg ds body =>
        obtain ⟨hT', hD'⟩ := pushGroupX_reb ds 0 i k hT hD
        rw [inferX_letg, inferX_letg, ih2 _ k _ _ _ _ ds hT' hD', ih1 _ k _ _ _ _ body hT' hD']
      all_goals first
        | rfl
        | simp only [inferX_lam, inferX_pi, inferX_app, inferX_neg, inferX_bin, inferX_ite, i0, i1, hw, ht0, ht1,
            he]
    · intro i k Γ Γ' Δ Δ' ds hT hD
      cases ds
      · rfl
      · simp only [inferDefsX_cons, ih1 i k _ _ _ _ _ hT hD, ih2 i k _ _ _ _ _ hT hD, isTypeX_reb hD,
          expectX_reb hD]

theorem inferX_reb {f i k : Nat} {Γ Γ' : TCtxX} {Δ Δ' : DCtxX} (hT : RebT i k Γ Γ')
    (hD : RebD i k Δ Δ') (t : Tm) : inferX f Γ' Δ' t = inferX f Γ Δ t :=
  (inferX_reb_aux f).1 i k Γ Γ' Δ Δ' t hT hD

theorem inferDefsX_reb {f i k : Nat} {Γ Γ' : TCtxX} {Δ Δ' : DCtxX} (hT : RebT i k Γ Γ')
    (hD : RebD i k Δ Δ') (ds : Defs) : inferDefsX f Γ' Δ' ds = inferDefsX f Γ Δ ds :=
  (inferX_reb_aux f).2 i k Γ Γ' Δ Δ' ds hT hD

theorem RebT.mapIdx (Γ : TCtxX) (i k : Nat) (h : ∀ T o, Γ[i]? = some (T, o) → o + k ≤ i + 1) :
    RebT i k Γ (List.mapIdx (fun j (e : Tm × Nat) => if j = i then (ushift 0 k e.1, e.2 + k) else e) Γ) := by
  refine ⟨?_, ?_, h⟩
  · intro j hj
    rw [List.getElem?_mapIdx]
    simp only [if_neg hj]
    cases Γ[j]? <;> rfl
  · rw [List.getElem?_mapIdx]
    simp only [if_true]
    rfl

theorem RebD.mapIdx (Δ : DCtxX) (i k : Nat) (h : ∀ d o, Δ[i]? = some (some (d, o)) → o + k ≤ i + 1) :
    RebD i k Δ (List.mapIdx (fun j (e : Option (Tm × Nat)) =>
      if j = i then e.map (fun p => (ushift 0 k p.1, p.2 + k)) else e) Δ) := by
  refine ⟨?_, ?_, h⟩
  · intro j hj
    rw [List.getElem?_mapIdx]
    simp only [if_neg hj]
    cases Δ[j]? <;> rfl
  · rw [List.getElem?_mapIdx]
    simp only [if_true]
    rfl

end Rebase
