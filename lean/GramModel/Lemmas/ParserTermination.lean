import GramModel.Lemmas.Parser

/-! Termination of the packrat phase: total correctness `Ok` of the 36 bodies for the position
specification `Res` under the measure `meas`, hence `runParser_ok` (the fuel `parseFuel` suffices).
`Ok.parseBody` and `Tri.parseBody` (`ParserGood.lean`) are two walks because they ask different things of
a body: `Res` holds of results with recorded errors too and shows, at every call site, that the next call
is smaller; `InvD` speaks of error-free results only and needs no guard at a call.  `Ok` is stated for a
`Frame`; the one used is `frame toks b`: every memoised result satisfies `Res` (`CacheOK`), and a run only
adds keys of measure below `b`, one per miss counted (`Step`).
Also here: `runParser_misses_le` (`misses ≤ 36 · (n + 1)`: every miss inserts a new key). -/

namespace PModel

-- an invariant `I` of the state and a preorder `R` that every run stays within
structure Frame where
  I : PState → Prop
  R : PState → PState → Prop
  refl : ∀ s, R s s
  trans : ∀ {a b c}, R a b → R b c → R a c

/-- Total correctness: from a state satisfying the invariant, `m` succeeds. -/
def Ok (F : Frame) {α : Type} (m : ParseM α) (post : α → Prop) : Prop :=
  ∀ st, F.I st → ∃ a st', m st = some (a, st') ∧ F.I st' ∧ F.R st st' ∧ post a

section Comb
variable {F : Frame} {α β : Type}

theorem Ok.pure {a : α} {post : α → Prop} (h : post a) : Ok F (Pure.pure a : ParseM α) post := by
  intro st hI
  exact ⟨a, st, rfl, hI, F.refl _, h⟩

theorem Ok.bind {m : ParseM α} {f : α → ParseM β} {p : α → Prop} {q : β → Prop}
    (hm : Ok F m p) (hf : ∀ a, p a → Ok F (f a) q) : Ok F (m >>= f) q := by
  intro st hI
  obtain ⟨a, s1, e1, hI1, hR1, hp⟩ := hm st hI
  obtain ⟨b, s2, e2, hI2, hR2, hq⟩ := hf a hp s1 hI1
  refine ⟨b, s2, ?_, hI2, F.trans hR1 hR2, hq⟩
  rw [ParseM_bind_eq, e1]; exact e2

theorem Ok.mono {m : ParseM α} {p q : α → Prop} (h : Ok F m p) (hpq : ∀ a, p a → q a) :
    Ok F m q := by
  intro st hI
  obtain ⟨a, s1, e1, hI1, hR1, hp⟩ := h st hI
  exact ⟨a, s1, e1, hI1, hR1, hpq a hp⟩

theorem Ok.ite {c : Prop} [Decidable c] {m1 m2 : ParseM α} {p : α → Prop}
    (h1 : c → Ok F m1 p) (h2 : ¬c → Ok F m2 p) : Ok F (if c then m1 else m2) p := by
  split
  · exact h1 ‹_›
  · exact h2 ‹_›

variable {toks : Array PTok} {post : PResult → Prop}

theorem Ok.consume0 {next : Nat} {kind : PKind} {k : Nat → ParseM PResult}
    (hfail : post (failAt toks next)) (hk : next < toks.size → Ok F (k (next + 1)) post) :
    Ok F (consume0 toks next kind k) post :=
  consume0_elim (P := fun c => Ok F (c k) post) (fun h _ => hk h) (Ok.pure hfail)

theorem Ok.consumeIdent {next : Nat} {k : Name → Nat → ParseM PResult}
    (hfail : post (failAt toks next)) (hk : ∀ x, next < toks.size → Ok F (k x (next + 1)) post) :
    Ok F (consumeIdent toks next k) post :=
  consumeIdent_elim (P := fun c => Ok F (c k) post) (fun h x _ => hk x h) (Ok.pure hfail)

theorem Ok.consumeLiteral {next : Nat} {k : Nat → Nat → ParseM PResult}
    (hfail : post (failAt toks next)) (hk : ∀ x, next < toks.size → Ok F (k x (next + 1)) post) :
    Ok F (consumeLiteral toks next k) post :=
  consumeLiteral_elim (P := fun c => Ok F (c k) post) (fun h x _ => hk x h) (Ok.pure hfail)

theorem Ok.tryReturn {p k : ParseM PResult} {pp : PResult → Prop} (hp : Ok F p pp)
    (hpp : ∀ r, pp r → r.term.isParseError = false → post r) (hk : Ok F k post) :
    Ok F (tryReturn p k) post := by
  unfold PModel.tryReturn
  refine Ok.bind hp (fun r hr => ?_)
  cases h : r.term.isParseError
  · simp only [Bool.false_eq_true, if_false]; exact Ok.pure (hpp r hr h)
  · simp only [if_true]; exact hk

theorem Ok.tryEval {p : ParseM PResult} {k : Src → Nat → Bool → ParseM PResult}
    {pp : PResult → Prop} (hp : Ok F p pp)
    (herr : ∀ r, pp r → r.term.isParseError = true → post r)
    (hk : ∀ r, pp r → r.term.isParseError = false → Ok F (k r.term r.next r.confident) post) :
    Ok F (tryEval p k) post := by
  unfold PModel.tryEval
  refine Ok.bind hp (fun r hr => ?_)
  cases h : r.term.isParseError
  · simp only [Bool.false_eq_true, if_false]; exact hk r hr h
  · simp only [if_true]; exact Ok.pure (herr r hr h)

end Comb

/-- What a parsing function started at `start` returns: a position between `start` and the end of
the input, strictly beyond `start` unless the result is a `ParseError`. -/
def Res (toks : Array PTok) (start : Nat) (r : PResult) : Prop :=
  start ≤ r.next ∧ r.next ≤ toks.size ∧ (r.term.isParseError = false → start < r.next)

theorem scanLoop_pos (toks : Array PTok) (target : PKind → Bool) :
    ∀ (n next depth : Nat), next ≤ toks.size →
      next ≤ (scanLoop toks target n next depth).2 ∧ (scanLoop toks target n next depth).2 ≤ toks.size ∧
      ((scanLoop toks target n next depth).1 = true → next < (scanLoop toks target n next depth).2)
  | 0, next, depth, h => by simp [scanLoop, h]
  | n + 1, next, depth, h => by
    unfold scanLoop
    split
    · rename_i hlt
      have ih := fun d => scanLoop_pos toks target n (next + 1) d hlt
      dsimp only
      split
      · simp; omega
      · split
        · have := ih (depth + 1); omega
        · split
          · have := ih (depth - 1); omega
          · simp [h]
        · split
          · simp [h]
          · have := ih depth; omega
        · have := ih depth; omega
    · simp [h]

theorem expectToken_pos (toks : Array PTok) (next : Nat) (target : PKind → Bool) (rep : Bool)
    (h : next ≤ toks.size) :
    next ≤ (expectToken toks next target rep).2.2 ∧ (expectToken toks next target rep).2.2 ≤ toks.size ∧
    ((expectToken toks next target rep).2.1 = true → next < (expectToken toks next target rep).2.2) := by
  unfold expectToken
  exact scanLoop_pos toks target _ next 0 h

-- `meas` orders the calls lexicographically: tokens left, then `rank`, the height of the nonterminal among the calls
-- made at the same position (`parse_non_dependent_pi` starts with `parse_small_term`, hence 4).  Any factor above the
-- largest rank would do; 36 is the number of nonterminals.
def NT.rank : NT → Nat
  | .term => 12 | .jumboTerm => 11 | .giantTerm => 10
  | .lessThan | .lessThanOrEqualTo | .equalTo | .greaterThan | .greaterThanOrEqualTo => 9
  | .hugeTerm => 8 | .sum | .difference => 7 | .largeTerm => 6 | .mediumTerm => 5
  | .product | .quotient => 4 | .nonDependentPi => 4 | .smallTerm => 3 | .application => 2
  | .atom => 1
  | _ => 0

theorem NT.rank_lt (nt : NT) : nt.rank < 36 := by cases nt <;> decide

def meas (toks : Array PTok) (nt : NT) (pos : Nat) : Nat := (toks.size - pos) * 36 + nt.rank

theorem meas_gt (toks : Array PTok) (nt nt' : NT) {start p : Nat} (h1 : start < p)
    (h2 : p ≤ toks.size) : meas toks nt' p < meas toks nt start := by
  have := NT.rank_lt nt'
  unfold meas; omega

theorem Res.failAt {toks : Array PTok} {start next : Nat} (h1 : start ≤ next)
    (h2 : next ≤ toks.size) : Res toks start (failAt toks next) := by
  refine ⟨h1, h2, ?_⟩
  intro h; simp [PModel.failAt, errorTerm, Src.isParseError, Src.variant, SrcV.isParseError] at h

theorem Res.weaken {toks : Array PTok} {start p : Nat} {r : PResult} (h : Res toks p r)
    (hp : start ≤ p) (he : r.term.isParseError = true) : Res toks start r :=
  ⟨Nat.le_trans hp h.1, h.2.1, fun h' => by rw [he] at h'; cases h'⟩

section Bodies
variable {F : Frame} {toks : Array PTok} {rec : NT → Nat → ParseM PResult} {M : Nat}
  (hrec : ∀ nt' pos', pos' ≤ toks.size → meas toks nt' pos' < M →
    Ok F (rec nt' pos') (Res toks pos'))

theorem Ok.parseLeaf {kind : PKind} {v : SrcV} {start : Nat} (hs : start ≤ toks.size) :
    Ok F (parseLeaf toks kind v start) (Res toks start) := by
  unfold PModel.parseLeaf
  refine Ok.consume0 (Res.failAt (Nat.le_refl _) hs) (fun h => Ok.pure ?_)
  simp only [Res]; omega

include hrec

theorem Ok.parseBinary {left right : NT} {opTok : PKind} {op : BinOp} {start : Nat}
    (hs : start ≤ toks.size) (hl : meas toks left start < M)
    (hgt : ∀ nt' p, start < p → p ≤ toks.size → meas toks nt' p < M) :
    Ok F (parseBinary toks rec left opTok right op start) (Res toks start) := by
  unfold PModel.parseBinary
  refine Ok.tryEval (hrec _ _ hs hl) (fun r hr he => hr.weaken (Nat.le_refl _) he) ?_
  intro r hr hne
  have h3 := hr.2.2 hne
  refine Ok.consume0 (Res.failAt hr.1 hr.2.1) (fun h => ?_)
  refine Ok.bind (hrec _ _ h (hgt _ _ (by omega) h)) ?_
  intro r2 hr2
  obtain ⟨t2, n2, c2⟩ := r2
  refine Ok.pure ?_
  simp only [Res] at *
  omega

theorem Ok.parseBinder {openK closeK arrowK : PKind} {mk : SrcVar → Src → Src → SrcV}
    {start : Nat} (hs : start ≤ toks.size)
    (hgt : ∀ nt' p, start < p → p ≤ toks.size → meas toks nt' p < M) :
    Ok F (parseBinder toks rec openK closeK arrowK mk start) (Res toks start) := by
  unfold PModel.parseBinder
  refine Ok.consume0 (Res.failAt (Nat.le_refl _) hs) (fun h1 => ?_)
  refine Ok.consumeIdent (Res.failAt (by omega) h1) (fun x h2 => ?_)
  refine Ok.consume0 (Res.failAt (by omega) h2) (fun h3 => ?_)
  refine Ok.tryEval (hrec _ _ h3 (hgt _ _ (by omega) h3))
    (fun r hr he => hr.weaken (by omega) he) ?_
  intro r hr hne
  refine Ok.consume0 (Res.failAt (by have := hr.1; omega) hr.2.1) (fun h4 => ?_)
  refine Ok.consume0 (Res.failAt (by have := hr.1; omega) h4) (fun h5 => ?_)
  refine Ok.bind (hrec _ _ h5 (hgt _ _ (by have := hr.1; omega) h5)) ?_
  intro r2 hr2
  obtain ⟨t2, n2, c2⟩ := r2
  refine Ok.pure ?_
  simp only [Res] at *
  omega

theorem Ok.recGt {nt' : NT} {start p : Nat}
    (hgt : ∀ nt' p, start < p → p ≤ toks.size → meas toks nt' p < M)
    (h1 : start < p) (h2 : p ≤ toks.size) : Ok F (rec nt' p) (Res toks p) :=
  hrec _ _ h2 (hgt _ _ h1 h2)

theorem Ok.parseLambda {start : Nat} (hs : start ≤ toks.size)
    (hgt : ∀ nt' p, start < p → p ≤ toks.size → meas toks nt' p < M) :
    Ok F (parseLambda toks rec start) (Res toks start) := by
  unfold PModel.parseLambda
  refine Ok.consumeIdent (Res.failAt (Nat.le_refl _) hs) (fun x h1 => ?_)
  refine Ok.consume0 (Res.failAt (by omega) h1) (fun h2 => ?_)
  refine Ok.bind (Ok.recGt hrec hgt (by omega) h2) ?_
  intro r2 hr2
  obtain ⟨t2, n2, c2⟩ := r2
  refine Ok.pure ?_
  simp only [Res] at *
  omega

theorem Ok.parseLambdaImplicit {start : Nat} (hs : start ≤ toks.size)
    (hgt : ∀ nt' p, start < p → p ≤ toks.size → meas toks nt' p < M) :
    Ok F (parseLambdaImplicit toks rec start) (Res toks start) := by
  unfold PModel.parseLambdaImplicit
  refine Ok.consume0 (Res.failAt (Nat.le_refl _) hs) (fun h1 => ?_)
  refine Ok.consumeIdent (Res.failAt (by omega) h1) (fun x h2 => ?_)
  refine Ok.consume0 (Res.failAt (by omega) h2) (fun h3 => ?_)
  refine Ok.consume0 (Res.failAt (by omega) h3) (fun h4 => ?_)
  refine Ok.bind (Ok.recGt hrec hgt (by omega) h4) ?_
  intro r2 hr2
  obtain ⟨t2, n2, c2⟩ := r2
  refine Ok.pure ?_
  simp only [Res] at *
  omega

theorem Ok.parseNegation {start : Nat} (hs : start ≤ toks.size)
    (hgt : ∀ nt' p, start < p → p ≤ toks.size → meas toks nt' p < M) :
    Ok F (parseNegation toks rec start) (Res toks start) := by
  unfold PModel.parseNegation
  refine Ok.consume0 (Res.failAt (Nat.le_refl _) hs) (fun h1 => ?_)
  refine Ok.bind (Ok.recGt hrec hgt (by omega) h1) ?_
  intro r2 hr2
  obtain ⟨t2, n2, c2⟩ := r2
  refine Ok.pure ?_
  simp only [Res] at *
  omega

theorem Ok.parseNonDependentPi {start : Nat} (hs : start ≤ toks.size)
    (hl : meas toks .smallTerm start < M)
    (hgt : ∀ nt' p, start < p → p ≤ toks.size → meas toks nt' p < M) :
    Ok F (parseNonDependentPi toks rec start) (Res toks start) := by
  unfold PModel.parseNonDependentPi
  refine Ok.tryEval (hrec _ _ hs hl) (fun r hr he => hr.weaken (Nat.le_refl _) he) ?_
  intro r hr hne
  have h3 := hr.2.2 hne
  refine Ok.consume0 (Res.failAt hr.1 hr.2.1) (fun h => ?_)
  refine Ok.bind (Ok.recGt hrec hgt (by omega) h) ?_
  intro r2 hr2
  obtain ⟨t2, n2, c2⟩ := r2
  refine Ok.pure ?_
  simp only [Res] at *
  omega

theorem Ok.parseApplication {start : Nat} (hs : start ≤ toks.size)
    (hl : meas toks .atom start < M)
    (hgt : ∀ nt' p, start < p → p ≤ toks.size → meas toks nt' p < M) :
    Ok F (parseApplication rec start) (Res toks start) := by
  unfold PModel.parseApplication
  refine Ok.tryEval (hrec _ _ hs hl) (fun r hr he => hr.weaken (Nat.le_refl _) he) ?_
  intro r hr hne
  have h3 := hr.2.2 hne
  refine Ok.tryEval (Ok.recGt hrec hgt h3 hr.2.1) (fun r hr he => hr.weaken (by omega) he) ?_
  intro r2 hr2 hne2
  refine Ok.pure ?_
  simp only [Res] at *
  omega

theorem Ok.parseGroup {start : Nat} (hs : start ≤ toks.size)
    (hgt : ∀ nt' p, start < p → p ≤ toks.size → meas toks nt' p < M) :
    Ok F (parseGroup toks rec start) (Res toks start) := by
  unfold PModel.parseGroup
  refine Ok.consume0 (Res.failAt (Nat.le_refl _) hs) (fun h1 => ?_)
  refine Ok.tryEval (Ok.recGt hrec hgt (by omega) h1) (fun r hr he => hr.weaken (by omega) he) ?_
  intro r hr hne
  have hp := expectToken_pos toks r.next (· = .rightParen) r.confident hr.2.1
  generalize expectToken toks r.next (· = .rightParen) r.confident = e at hp
  obtain ⟨errs, found, nx⟩ := e
  dsimp only at hp ⊢
  refine Ok.pure ?_
  simp only [Res] at *
  omega

theorem Ok.optTerm {start next : Nat} {found : Bool} {jp : PResult → ParseM PResult}
    {post : PResult → Prop}
    (hgt : ∀ nt' p, start < p → p ≤ toks.size → meas toks nt' p < M)
    (h1 : start < next) (h2 : next ≤ toks.size)
    (hk : ∀ r, Res toks next r → Ok F (jp r) post) :
    Ok F (if found = true then rec .term next >>= jp
          else (Pure.pure ⟨skippedTerm toks next, next, false⟩ : ParseM PResult) >>= jp) post := by
  refine Ok.ite (fun _ => Ok.bind (Ok.recGt hrec hgt h1 h2) hk) (fun _ => Ok.bind (Ok.pure ?_) hk)
  refine ⟨Nat.le_refl _, h2, ?_⟩
  intro h; simp [skippedTerm, Src.isParseError, Src.variant, SrcV.isParseError] at h

theorem Ok.parseIf {start : Nat} (hs : start ≤ toks.size)
    (hgt : ∀ nt' p, start < p → p ≤ toks.size → meas toks nt' p < M) :
    Ok F (parseIf toks rec start) (Res toks start) := by
  unfold PModel.parseIf
  refine Ok.consume0 (Res.failAt (Nat.le_refl _) hs) (fun h1 => ?_)
  refine Ok.bind (Ok.recGt hrec hgt (by omega) h1) ?_
  intro r1 hr1
  obtain ⟨t1, n1, c1⟩ := r1
  dsimp only
  have hp := expectToken_pos toks n1 (· = .then_) c1 hr1.2.1
  generalize expectToken toks n1 (· = .then_) c1 = e at hp
  obtain ⟨errs, found, nx⟩ := e
  dsimp only at hp ⊢
  have := hr1.1
  refine Ok.optTerm hrec hgt (by dsimp only at this; omega) hp.2.1 ?_
  intro r2 hr2
  obtain ⟨t2, n2, c2⟩ := r2
  dsimp only
  have hp2 := expectToken_pos toks n2 (· = .else_) c2 hr2.2.1
  generalize expectToken toks n2 (· = .else_) c2 = e2 at hp2
  obtain ⟨errs2, found2, nx2⟩ := e2
  dsimp only at hp2 ⊢
  have := hr2.1
  refine Ok.optTerm hrec hgt (by dsimp only at *; omega) hp2.2.1 ?_
  intro r3 hr3
  obtain ⟨t3, n3, c3⟩ := r3
  refine Ok.pure ?_
  simp only [Res] at *
  omega

theorem Ok.parseLetRest {start next : Nat} {vr : SourceRange} {x : Name} {ann : OptSrc}
    {errors : List PErr} {ef : Bool}
    (hgt : ∀ nt' p, start < p → p ≤ toks.size → meas toks nt' p < M)
    (h1 : start < next) (h2 : next ≤ toks.size) :
    Ok F (parseLetRest toks rec vr x ann next errors ef) (Res toks start) := by
  unfold PModel.parseLetRest
  refine Ok.optTerm hrec hgt h1 h2 ?_
  intro r2 hr2
  obtain ⟨t2, n2, c2⟩ := r2
  dsimp only
  have hp2 := expectToken_pos toks n2 PKind.isTerminator c2 hr2.2.1
  generalize expectToken toks n2 PKind.isTerminator c2 = e2 at hp2
  obtain ⟨errs2, found2, nx2⟩ := e2
  dsimp only at hp2 ⊢
  have := hr2.1
  refine Ok.optTerm hrec hgt (by dsimp only at *; omega) hp2.2.1 ?_
  intro r3 hr3
  obtain ⟨t3, n3, c3⟩ := r3
  refine Ok.pure ?_
  simp only [Res] at *
  omega

theorem Ok.parseLet {start : Nat} (hs : start ≤ toks.size)
    (hgt : ∀ nt' p, start < p → p ≤ toks.size → meas toks nt' p < M) :
    Ok F (parseLet toks rec start) (Res toks start) := by
  rw [parseLet_eq]
  refine Ok.consumeIdent (Res.failAt (Nat.le_refl _) hs) (fun x h1 => ?_)
  split
  · split
    · refine Ok.consume0 (Res.failAt (by omega) h1) (fun h2 => ?_)
      refine Ok.tryEval (Ok.recGt hrec hgt (by omega) h2) (fun r hr he => hr.weaken (by omega) he) ?_
      intro r hr hne
      have hp := expectToken_pos toks r.next (· = .equals) r.confident hr.2.1
      exact Ok.parseLetRest hrec hgt (by have := hr.1; omega) hp.2.1
    · refine Ok.consume0 (Res.failAt (by omega) h1) (fun h2 => ?_)
      exact Ok.parseLetRest hrec hgt (by omega) h2
  · refine Ok.consume0 (Res.failAt (by omega) h1) (fun h2 => ?_)
    exact Ok.parseLetRest hrec hgt (by omega) h2

end Bodies

theorem meas_lt_of_rank (toks : Array PTok) {nt nt' : NT} (s : Nat) (h : nt'.rank < nt.rank) :
    meas toks nt' s < meas toks nt s := Nat.add_lt_add_left h _

-- `alt_tac hrec hs`: a choice function (`tryReturn` chain ending in `noParse`): every alternative has
-- a smaller rank at the same position `hs : start ≤ toks.size`.
macro "alt_tac" hrec:ident hs:ident : tactic => `(tactic|
  repeat (first
    | exact Ok.pure (Res.failAt (Nat.le_refl _) $hs)
    | refine Ok.tryReturn ($hrec _ _ $hs (meas_lt_of_rank _ _ (by decide))) (fun r hr _ => hr) ?_))

theorem Ok.parseBody {F : Frame} {toks : Array PTok} {rec : NT → Nat → ParseM PResult}
    (nt : NT) (start : Nat) (hs : start ≤ toks.size)
    (hrec : ∀ nt' pos', pos' ≤ toks.size → meas toks nt' pos' < meas toks nt start →
      Ok F (rec nt' pos') (Res toks pos')) :
    Ok F (parseBody toks rec nt start) (Res toks start) := by
  have hgt : ∀ nt' p, start < p → p ≤ toks.size → meas toks nt' p < meas toks nt start :=
    fun nt' p h1 h2 => meas_gt toks nt nt' h1 h2
  cases nt <;> simp only [PModel.parseBody]
  case term => unfold parseTerm noParse; alt_tac hrec hs
  case type => exact Ok.parseLeaf hs
  case «variable» =>
    unfold parseVariable
    refine Ok.consumeIdent (Res.failAt (Nat.le_refl _) hs) (fun x h => Ok.pure ?_)
    simp only [Res]; omega
  case lambda => exact Ok.parseLambda hrec hs hgt
  case lambdaImplicit => exact Ok.parseLambdaImplicit hrec hs hgt
  case annotatedLambda => exact Ok.parseBinder hrec hs hgt
  case annotatedLambdaImplicit => exact Ok.parseBinder hrec hs hgt
  case pi => exact Ok.parseBinder hrec hs hgt
  case piImplicit => exact Ok.parseBinder hrec hs hgt
  case nonDependentPi => exact Ok.parseNonDependentPi hrec hs (meas_lt_of_rank _ _ (by decide)) hgt
  case application => exact Ok.parseApplication hrec hs (meas_lt_of_rank _ _ (by decide)) hgt
  case let_ => exact Ok.parseLet hrec hs hgt
  case integer => exact Ok.parseLeaf hs
  case integerLiteral =>
    unfold parseIntegerLiteral
    refine Ok.consumeLiteral (Res.failAt (Nat.le_refl _) hs) (fun x h => Ok.pure ?_)
    simp only [Res]; omega
  case negation => exact Ok.parseNegation hrec hs hgt
  case sum => exact Ok.parseBinary hrec hs (meas_lt_of_rank _ _ (by decide)) hgt
  case difference => exact Ok.parseBinary hrec hs (meas_lt_of_rank _ _ (by decide)) hgt
  case product => exact Ok.parseBinary hrec hs (meas_lt_of_rank _ _ (by decide)) hgt
  case quotient => exact Ok.parseBinary hrec hs (meas_lt_of_rank _ _ (by decide)) hgt
  case lessThan => exact Ok.parseBinary hrec hs (meas_lt_of_rank _ _ (by decide)) hgt
  case lessThanOrEqualTo => exact Ok.parseBinary hrec hs (meas_lt_of_rank _ _ (by decide)) hgt
  case equalTo => exact Ok.parseBinary hrec hs (meas_lt_of_rank _ _ (by decide)) hgt
  case greaterThan => exact Ok.parseBinary hrec hs (meas_lt_of_rank _ _ (by decide)) hgt
  case greaterThanOrEqualTo => exact Ok.parseBinary hrec hs (meas_lt_of_rank _ _ (by decide)) hgt
  case boolean => exact Ok.parseLeaf hs
  case true_ => exact Ok.parseLeaf hs
  case false_ => exact Ok.parseLeaf hs
  case if_ => exact Ok.parseIf hrec hs hgt
  case group => exact Ok.parseGroup hrec hs hgt
  case atom => unfold parseAtom noParse; alt_tac hrec hs
  case smallTerm => unfold parseSmallTerm noParse; alt_tac hrec hs
  case mediumTerm => unfold parseMediumTerm noParse; alt_tac hrec hs
  case largeTerm => unfold parseLargeTerm noParse; alt_tac hrec hs
  case hugeTerm => unfold parseHugeTerm noParse; alt_tac hrec hs
  case giantTerm => unfold parseGiantTerm noParse; alt_tac hrec hs
  case jumboTerm => unfold parseJumboTerm noParse; alt_tac hrec hs

def sumN (a : Array Nat) : Nat := a.foldl (· + ·) 0

theorem list_sum_modify_succ : ∀ (l : List Nat) (i : Nat),
    (l.modify i (· + 1)).sum = l.sum + if i < l.length then 1 else 0
  | [], i => by simp
  | x :: xs, 0 => by simp; omega
  | x :: xs, i + 1 => by
    have := list_sum_modify_succ xs i
    simp only [List.modify_succ_cons, List.sum_cons, List.length_cons, Nat.add_lt_add_iff_right]
    omega

theorem sumN_modify (a : Array Nat) (i : Nat) :
    sumN (a.modify i (· + 1)) = sumN a + if i < a.size then 1 else 0 := by
  unfold sumN
  rw [← Array.sum_eq_foldl_nat, ← Array.sum_eq_foldl_nat, ← Array.sum_toList, ← Array.sum_toList,
    Array.toList_modify, list_sum_modify_succ, Array.length_toList]

theorem sumN_modify_le (a : Array Nat) (i : Nat) : sumN (a.modify i (· + 1)) ≤ sumN a + 1 := by
  rw [sumN_modify]; split <;> omega

def CacheOK (toks : Array PTok) (st : PState) : Prop :=
  ∀ (i s : Nat) (r : PResult), st.cache[(i, s)]? = some r → Res toks s r

/-- What a run may do to the state: every new key `(nt', s)` has `s ≤ toks.size` and measure below
`b`, and the misses counted are paid for by new keys. -/
def Step (toks : Array PTok) (b : Nat) (st st' : PState) : Prop :=
  (∀ k, k ∈ st'.cache → k ∈ st.cache ∨
    ∃ nt' s, k = (nt'.idx, s) ∧ s ≤ toks.size ∧ meas toks nt' s < b) ∧
  sumN st'.misses + st.cache.size ≤ sumN st.misses + st'.cache.size

theorem Step.mono {toks : Array PTok} {b b' : Nat} {st st' : PState} (h : Step toks b st st')
    (hb : b ≤ b') : Step toks b' st st' :=
  ⟨fun k hk => (h.1 k hk).imp id (fun ⟨nt', s, e, h1, h2⟩ => ⟨nt', s, e, h1, Nat.lt_of_lt_of_le h2 hb⟩),
   h.2⟩

def frame (toks : Array PTok) (b : Nat) : Frame where
  I := CacheOK toks
  R := Step toks b
  refl := fun s => ⟨fun k hk => Or.inl hk, Nat.le_refl _⟩
  trans := fun {a b c} h1 h2 =>
    ⟨fun k hk => (h2.1 k hk).elim (fun h => h1.1 k h) Or.inr, by have := h1.2; have := h2.2; omega⟩

theorem Ok.frame_mono {toks : Array PTok} {b b' : Nat} {α : Type} {m : ParseM α}
    {post : α → Prop} (h : Ok (frame toks b) m post) (hb : b ≤ b') : Ok (frame toks b') m post := by
  intro st hI
  obtain ⟨a, st', e, hI', hR, hp⟩ := h st hI
  exact ⟨a, st', e, hI', Step.mono hR hb, hp⟩

theorem Ok.cacheCheck {toks : Array PTok} {nt : NT} {start : Nat} {body : ParseM PResult}
    (hs : start ≤ toks.size)
    (hb : Ok (frame toks (meas toks nt start)) body (Res toks start)) :
    Ok (frame toks (meas toks nt start + 1)) (cacheCheck nt start body) (Res toks start) := by
  intro st hI
  have hI : CacheOK toks st := hI
  cases hc : st.cache[(nt.idx, start)]? with
  | some r0 =>
    rw [cacheCheck_hit nt start body st r0 hc]
    refine ⟨_, _, rfl, ?_, ?_, hI _ _ _ hc⟩
    · show CacheOK toks _
      exact hI
    · show Step toks _ _ _
      exact ⟨fun k hk => Or.inl hk, Nat.le_refl _⟩
  | none =>
    rw [cacheCheck_miss nt start body st hc]
    obtain ⟨r, st1, e, hI1, hR1, hp⟩ := hb { st with misses := st.misses.modify nt.idx (· + 1) } hI
    rw [e]
    have hI1 : CacheOK toks st1 := hI1
    have hR1 : Step toks _ _ _ := hR1
    refine ⟨_, _, rfl, ?_, ?_, hp⟩
    · show CacheOK toks _
      intro i s r' hr'
      rcases cache_insert_lookup hr' with ⟨hk, rfl⟩ | h'
      · rw [← (Prod.mk.inj hk).2]; exact hp
      · exact hI1 i s r' h'
    show Step toks _ _ _
    refine ⟨?_, ?_⟩
    · intro k hk
      rcases Std.HashMap.mem_insert.mp hk with h | h
      · simp only [beq_iff_eq] at h
        exact Or.inr ⟨nt, start, h.symm, hs, Nat.lt_succ_self _⟩
      · exact (hR1.1 k h).imp id
          (fun ⟨nt', s, e, h1, h2⟩ => ⟨nt', s, e, h1, Nat.lt_succ_of_lt h2⟩)
    · have hnot : ¬ (nt.idx, start) ∈ st1.cache := by
        intro hmem
        rcases hR1.1 _ hmem with h | ⟨nt', s, e, h1, h2⟩
        · have : (nt.idx, start) ∈ st.cache := h
          rw [Std.HashMap.mem_iff_isSome_getElem?, hc] at this
          cases this
        · simp only [Prod.mk.injEq] at e
          have := NT.idx_inj e.1
          subst this; rw [← e.2] at h2; exact Nat.lt_irrefl _ h2
      have h2 := hR1.2
      have h3 := sumN_modify_le st.misses nt.idx
      simp only [Std.HashMap.size_insert, hnot, if_false] at h2 ⊢
      omega

theorem Ok.parseNT (toks : Array PTok) : ∀ (fuel : Nat) (nt : NT) (start : Nat),
    start ≤ toks.size → meas toks nt start < fuel →
    Ok (frame toks (meas toks nt start + 1)) (parseNT toks fuel nt start) (Res toks start)
  | 0, _, _, _, h => absurd h (Nat.not_lt_zero _)
  | fuel + 1, nt, start, hs, hf => by
    unfold PModel.parseNT
    refine Ok.cacheCheck hs (Ok.parseBody nt start hs ?_)
    intro nt' pos' hp hm
    exact (Ok.parseNT toks fuel nt' pos' hp (by omega)).frame_mono hm

theorem CacheOK.init (toks : Array PTok) : CacheOK toks PState.init := by
  intro i s r h
  simp [PState.init] at h

theorem runParser_ok (toks : Array PTok) :
    ∃ r st', runParser toks = some (r, st') ∧ CacheOK toks st' ∧
      Step toks (meas toks .term 0 + 1) PState.init st' ∧ Res toks 0 r := by
  have h := Ok.parseNT toks (parseFuel toks) .term 0 (Nat.zero_le _)
    (by unfold meas parseFuel; simp only [NT.rank]; omega)
  exact h PState.init (CacheOK.init toks)

theorem cache_size_le {V : Type} (m : Std.HashMap (Nat × Nat) V) (a b : Nat)
    (h : ∀ k, k ∈ m → k.1 < a ∧ k.2 < b) : m.size ≤ a * b := by
  rw [← Std.HashMap.length_keys]
  have hsub : m.keys ⊆ (List.range a).flatMap (fun i => (List.range b).map (fun j => (i, j))) := by
    intro k hk
    have := h k (Std.HashMap.mem_keys.mp hk)
    simp only [List.mem_flatMap, List.mem_range, List.mem_map]
    exact ⟨k.1, this.1, k.2, this.2, rfl⟩
  have hlen := List.Nodup.length_le_of_subset Std.HashMap.nodup_keys hsub
  have : ((List.range a).flatMap (fun i => (List.range b).map (fun j => (i, j)))).length = a * b := by
    simp [List.length_flatMap, List.map_const', List.sum_replicate_nat]
  omega

theorem sumN_replicate_zero (n : Nat) : sumN (Array.replicate n 0) = 0 := by
  unfold sumN; rw [← Array.sum_eq_foldl_nat]; simp

theorem runParser_misses_le (toks : Array PTok) (r : PResult) (st' : PState)
    (h : runParser toks = some (r, st')) : sumN st'.misses ≤ 36 * (toks.size + 1) := by
  obtain ⟨r0, st0, e, _, hstep, _⟩ := runParser_ok toks
  rw [h] at e
  simp only [Option.some.injEq, Prod.mk.injEq] at e
  obtain ⟨_, rfl⟩ := e
  have h1 := hstep.2
  have h2 : st'.cache.size ≤ 36 * (toks.size + 1) := by
    apply cache_size_le
    intro k hk
    rcases hstep.1 k hk with hin | ⟨nt', s, rfl, hs, _⟩
    · simp [PState.init] at hin
    · exact ⟨NT.idx_lt nt', Nat.lt_succ_of_le hs⟩
  simp only [PState.init, sumN_replicate_zero, Std.HashMap.size_empty] at h1
  omega

end PModel
