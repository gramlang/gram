import GramModel.Lemmas.PrintedParse
import GramModel.Lemmas.ParserReassoc
import GramModel.Lemmas.PrintedReassoc
import GramModel.Lemmas.ParsePrinted12
import GramModel.Props.C08

/-! # Reading a printed term back: parse phase, re-association and name resolution composed

Name resolution goes through the specification `toDB` of Props/C08.lean: in a scope without repeated names (`ScopeOK`) the
tree `lsrc I nm t` of a term that carries the indices of its names (`scopedOK`) resolves to `canon t` (`toDB_lsrc`; the
definitions of a group as a chain, `toDBChain_lsrcDefs`), and the specification does not see layout.
Declares into namespace `PModel`. -/

namespace PModel
open RewriteMore PrintDerives

theorem reassoc_printed_app (toks : Array PTok) (I : List Char → Name) (nm : Name → List Char)
    (t : Tm) (h1 : noImplicitArrow t = true) (h2 : noNegLit t = true) (happ : isApp t = true)
    (hk : toks.toList.map (·.kind) = (printKinds nm t).map (kindP I)) :
    ∃ r st l l', runParser toks = some (r, st) ∧ IsChain r.term l ∧
      l.map shape = atomsOf I nm t ∧ Ops l l' ∧ 2 ≤ l.length ∧
      (reassociateApplications r.term).map strip = some (chainRes none (l'.map strip)) := by
  obtain ⟨r, st, hr, _, _, hce, hs, _⟩ := parse_printed toks I nm t h1 h2 hk
  have hnoPE : NoPE r.term := (runParser_good hr).2 hce
  obtain ⟨f, a, rfl⟩ : ∃ f a, t = .app f a := by
    cases t <;> simp [isApp] at happ
    exact ⟨_, _, rfl⟩
  have hne : atomsOf I nm (.app f a) ≠ [] := by rw [atomsOf_app]; simp
  rw [srcOf_isApp I nm happ] at hs
  obtain ⟨l, hc, hl⟩ := isChain_of_shape _ r.term hne hs
  have hlen : 2 ≤ l.length := by
    have : l.length = (atomsOf I nm (.app f a)).length := by rw [← hl]; simp
    rw [this, atomsOf_app]
    have : headAtoms I nm f ≠ [] := headAtoms_ne_nil I nm f
    have := List.length_pos_iff.mpr this
    simp; omega
  have hops : ∀ (l0 : List Src), (∀ x ∈ l0, NoPE x ∧ atomish (shape x)) → ∃ l0', Ops l0 l0' := by
    intro l0
    induction l0 with
    | nil => exact fun _ => ⟨[], .nil⟩
    | cons x l0 ih =>
      intro h
      obtain ⟨l0', h0⟩ := ih (fun y hy => h y (by simp [hy]))
      obtain ⟨hx1, hx2⟩ := h x (by simp)
      obtain ⟨x', hx', _⟩ := reassoc_noPE .applications x hx1 none AccOK_none
      exact ⟨x' :: l0', .cons ⟨atomish_of_shape rfl hx2, hx'⟩ h0⟩
  obtain ⟨l', hl'⟩ := hops l (fun x hx => ⟨hc.noPE hnoPE x hx,
    atomsOf_atomish I nm _ _ (by rw [← hl]; exact List.mem_map_of_mem hx)⟩)
  refine ⟨r, st, l, l', hr, hc, hl, hl', hlen, ?_⟩
  have := reassoc_chain hc l' hl' none (Or.inl rfl)
  simpa [reassociateApplications] using this

theorem reassocAll_printed (toks : Array PTok) (I : List Char → Name) (nm : Name → List Char)
    (t : Tm) (h1 : noImplicitArrow t = true) (h2 : noNegLit t = true)
    (hk : toks.toList.map (·.kind) = (printKinds nm t).map (kindP I)) :
    ∃ r st s3, runParser toks = some (r, st) ∧ reassocAll r.term = some s3 ∧
      strip s3 = lsrc I nm t := by
  obtain ⟨r, st, hr, _, _, _, hs, _⟩ := parse_printed toks I nm t h1 h2 hk
  obtain ⟨s3, h3, h4⟩ := reassocAll_shape I nm t r.term hs
  exact ⟨r, st, s3, hr, h3, h4⟩

/-- no definition group in the term (the same function as `CheckSound.noLet`) -/
def noLet : Tm → Bool
  | .lam _ _ d b => noLet d && noLet b
  | .pi _ _ d c => noLet d && noLet c
  | .app f a => noLet f && noLet a
  | .letg _ _ => false
  | .neg a => noLet a
  | .bin _ a b => noLet a && noLet b
  | .ite c a b => noLet c && noLet a && noLet b
  | _ => true

/-- no name (other than the placeholder slots) occurs twice in the scope -/
def ScopeOK : List Name → Prop
  | [] => True
  | y :: ys => (y = placeholder ∨ y ∉ ys) ∧ ScopeOK ys

theorem index_scope : ∀ (scope : List Name), ScopeOK scope → ∀ (i : Nat) (x : Name),
    x ≠ placeholder → scope[i]? = some x → Stack.index (scope.map slot) x = some i
  | [], _, i, x, _, h => by simp at h
  | y :: ys, hok, 0, x, hx, h => by
    simp at h; subst h
    rw [List.map_cons, Stack.index_cons, if_pos (slot_eq_some.mpr ⟨rfl, hx⟩)]
  | y :: ys, hok, i + 1, x, hx, h => by
    simp at h
    have hmem : x ∈ ys := List.mem_of_getElem? h
    have hne : ¬ slot y = some x := by
      intro e
      obtain ⟨rfl, hy⟩ := slot_eq_some.mp e
      rcases hok.1 with h1 | h1
      · exact hy h1
      · exact h1 hmem
    rw [List.map_cons, Stack.index_cons, if_neg hne, index_scope ys hok.2 i x hx h]
    rfl

theorem scopeOK_of_nodup : ∀ l : List Name, l.Nodup → ScopeOK l
  | [], _ => trivial
  | y :: ys, h => by
    rw [List.nodup_cons] at h
    exact ⟨Or.inr h.1, scopeOK_of_nodup ys h.2⟩

theorem ehiDefs : ∀ ds : Defs, (eraseHoleIdsDefs ds).holeFree = true → eraseHoleIdsDefs ds = ds :=
  eraseHoleIdsDefs_of_holeFree

/-- the variant is not a `let` -/
def notLetV (v : SrcV) : Prop := ∀ x a d b, v ≠ .let_ x a d b

theorem bind_fresh {scope : List Name} {x : Name} (hx : x ≠ placeholder) (hn : x ∉ scope) :
    Stack.bind (scope.map slot) x = some ((x :: scope).map slot) := by
  rw [Stack.bind_eq, Stack.index_none scope x hn]
  simp [slot, hx]

/-- the fresh, pairwise distinct names `xs` are pushed one by one, and the scope stays `ScopeOK` -/
theorem bindAll_fresh : ∀ (xs scope : List Name), (∀ x ∈ xs, x ≠ placeholder ∧ x ∉ scope) → xs.Nodup →
    Stack.bindAll (scope.map slot) xs = some ((xs.reverse ++ scope).map slot) ∧
      (ScopeOK scope → ScopeOK (xs.reverse ++ scope))
  | [], scope, _, _ => ⟨rfl, by simp⟩
  | x :: xs, scope, hf, hnd => by
    rw [List.nodup_cons] at hnd
    obtain ⟨hx, hnotin⟩ := hf x (by simp)
    rw [Stack.bindAll, bind_fresh hx hnotin]
    have ih := bindAll_fresh xs (x :: scope)
      (fun y hy => ⟨(hf y (by simp [hy])).1, by
        intro hm
        rcases List.mem_cons.mp hm with rfl | hm
        · exact hnd.1 hy
        · exact (hf y (by simp [hy])).2 hm⟩) hnd.2
    simpa [List.reverse_cons, List.append_assoc] using And.intro ih.1 fun h => ih.2 ⟨Or.inr hnotin, h⟩

theorem canon_holeFree (t : Tm) : (canon t).holeFree = t.holeFree := by
  induction t using Tm.rec (motive_2 := fun ds => (canonDefs ds).holeFree = ds.holeFree) with
  | pi x imp d c ihd ihc => simp only [canon]; split <;> simp only [Tm.holeFree, ihd, ihc]
  | _ => simp only [canon, canonDefs, Tm.holeFree, Defs.holeFree, *]

theorem scopedOK_holeFree (t : Tm) : ∀ scope, scopedOK scope t = true → t.holeFree = true := by
  induction t using Tm.rec
    (motive_2 := fun ds => ∀ scope, scopedDefsOK scope ds = true → ds.holeFree = true) with
  | hole => intro _ h; simp [scopedOK] at h
  | var | type | int | bool | tt | ff | lit => exact fun _ _ => rfl
  | nil => rfl
  | pi x imp d c ihd ihc =>
      intro scope h
      simp only [scopedOK] at h
      split at h <;> simp only [Bool.and_eq_true] at h
      · simp only [Tm.holeFree, ihd _ h.1.2, ihc _ h.2, Bool.and_self]
      · simp only [Tm.holeFree, ihd _ h.1, ihc _ h.2, Bool.and_self]
  | lam x imp d b ihd ihb =>
      intro scope h; simp only [scopedOK, Bool.and_eq_true] at h
      simp only [Tm.holeFree, ihd _ h.1.2, ihb _ h.2, Bool.and_self]
  | app f a ih1 ih2 | bin _ f a ih1 ih2 =>
      intro scope h; simp only [scopedOK, Bool.and_eq_true] at h
      simp only [Tm.holeFree, ih1 _ h.1, ih2 _ h.2, Bool.and_self]
  | letg ds b ihd ihb =>
      intro scope h; simp only [scopedOK, Bool.and_eq_true] at h
      simp only [Tm.holeFree, ihd _ h.1.2, ihb _ h.2, Bool.and_self]
  | neg a ih => exact fun scope h => ih scope (by simpa only [scopedOK] using h)
  | ite c a b ih0 ih1 ih2 =>
      intro scope h; simp only [scopedOK, Bool.and_eq_true] at h
      simp only [Tm.holeFree, ih0 _ h.1.1, ih1 _ h.1.2, ih2 _ h.2, Bool.and_self]
  | cons x a d r iha ihd ihr =>
      rename_i scope h; simp only [scopedDefsOK, Bool.and_eq_true] at h
      simp only [Defs.holeFree, iha _ h.1.1, ihd _ h.1.2, ihr _ h.2, Bool.and_self]

section
variable (I : List Char → Name) (nm : Name → List Char)

theorem lsrc_notLetV {b : Tm} (hb : isLet b = false) : notLetV (lsrc I nm b).variant := by
  intro x a d b' hv
  cases b <;> simp [isLet] at hb <;> first
    | (simp [lsrc, mk00, Src.variant] at hv; done)
    | (rw [lsrc] at hv; split at hv <;> simp [mk00, Src.variant] at hv)

variable (hI : ∀ x, I (nm x) = x)
include hI

theorem letNames_lsrcDefs {e : Src} (he : notLetV e.variant) :
    ∀ r : Defs, letNames (lsrcDefs I nm r e) = Defs.names r
  | .nil => by
    rw [lsrcDefs]
    obtain ⟨r, g, v, es⟩ := e
    cases v <;> first | rfl | exact absurd rfl (he _ _ _ _)
  | .cons y a d r => by
    rw [lsrcDefs, mk00, letNames, hI, letNames_lsrcDefs he r]; rfl

mutual
theorem toDB_lsrc : ∀ (t : Tm) (scope : List Name), scopedOK scope t = true → ScopeOK scope →
    toDB (scope.map slot) (lsrc I nm t) = some (canon t)
  | .hole _ _, _, h, _ => by simp [scopedOK] at h
  | .type, _, _, _ | .int, _, _, _ | .bool, _, _, _ | .tt, _, _, _ | .ff, _, _, _ | .lit _, _, _, _ => by
    rw [lsrc]; rfl
  | .var x i, scope, hsc, hok => by
    simp only [scopedOK, Bool.and_eq_true, bne_iff_ne, ne_eq, beq_iff_eq] at hsc
    have := index_scope scope hok i _ hsc.1 hsc.2
    simp [lsrc, mk00, hI, toDB, toDBV, hsc.1, this, canon]
  | .lam x imp d b, scope, hsc, hok => by
    simp only [scopedOK, Bool.and_eq_true, bne_iff_ne, ne_eq, Bool.not_eq_true',
      List.contains_eq_mem, decide_eq_false_iff_not] at hsc
    obtain ⟨⟨⟨hx, hnotin⟩, hsd⟩, hsb⟩ := hsc
    have ihd := toDB_lsrc d scope hsd hok
    have ihb := toDB_lsrc b (x :: scope) hsb ⟨Or.inr hnotin, hok⟩
    simp only [lsrc, mk00, hI, toDB, toDBV, toDBOpt, bind_fresh hx hnotin, ihd, ihb, canon]
  | .pi x imp d c, scope, hsc, hok => by
    cases hf : freeAt c 0 with
    | true =>
      simp only [scopedOK, hf, if_true, Bool.and_eq_true, bne_iff_ne, ne_eq, Bool.not_eq_true',
        List.contains_eq_mem, decide_eq_false_iff_not] at hsc
      obtain ⟨⟨⟨hx, hnotin⟩, hsd⟩, hsb⟩ := hsc
      have ihd := toDB_lsrc d scope hsd hok
      have ihb := toDB_lsrc c (x :: scope) hsb ⟨Or.inr hnotin, hok⟩
      simp only [lsrc, hf, if_true, mk00, hI, toDB, toDBV, bind_fresh hx hnotin, ihd, ihb, canon]
    | false =>
      simp only [scopedOK, hf, if_false, Bool.false_eq_true, Bool.and_eq_true] at hsc
      have ihd := toDB_lsrc d scope hsc.1 hok
      have ihb := toDB_lsrc c (placeholder :: scope) hsc.2 ⟨Or.inl rfl, hok⟩
      have hbind : Stack.bind (scope.map slot) placeholder = some ((placeholder :: scope).map slot) := by
        simp [Stack.bind, slot]
      simp only [lsrc, hf, if_false, Bool.false_eq_true, mk00, toDB, toDBV, hbind, ihd, ihb, canon]
  | .app f a, scope, hsc, hok => by
    simp only [scopedOK, Bool.and_eq_true] at hsc
    have ih1 := toDB_lsrc f scope hsc.1 hok
    have ih2 := toDB_lsrc a scope hsc.2 hok
    simp only [lsrc, mk00, toDB, toDBV, ih1, ih2, canon]
  | .letg .nil b, scope, hsc, _ => by simp [scopedOK, Defs.names] at hsc
  | .letg (.cons x a d r) b, scope, hsc, hok => by
    simp only [scopedOK, Defs.names, scopedDefsOK, Bool.and_eq_true, Bool.not_eq_true',
      List.all_eq_true, bne_iff_ne, ne_eq, List.contains_eq_mem, decide_eq_false_iff_not] at hsc
    obtain ⟨⟨⟨⟨⟨_, hfresh⟩, hnd⟩, hbl⟩, ⟨⟨hsa, hsd⟩, hsr⟩⟩, hsb⟩ := hsc
    have hfresh' : ∀ y ∈ x :: Defs.names r, y ≠ placeholder ∧ y ∉ scope := hfresh
    have hnd' : (x :: Defs.names r).Nodup := of_decide_eq_true hnd
    -- all names of the group are pushed first; annotations, definitions and body are resolved in that scope
    obtain ⟨hba, hok'⟩ := bindAll_fresh (x :: Defs.names r) scope hfresh' hnd'
    replace hok' := hok' hok
    have iha := toDB_lsrc a _ hsa hok'
    have ihd := toDB_lsrc d _ hsd hok'
    have ihb := toDB_lsrc b _ hsb hok'
    have hnl := lsrc_notLetV I nm hbl
    have hnames := letNames_lsrcDefs I nm hI hnl r
    -- the remaining definitions, walked as a chain behind the first
    have ihr := fun n => toDBChain_lsrcDefs r _ n 1 (lsrc I nm b) (canon b) hsr hok' hnl ihb
    generalize List.map slot ((x :: Defs.names r).reverse ++ scope) = Γ' at iha ihd ihr hba
    simp only [lsrc, lsrcDefs, mk00, hI, toDB, toDBV, hnames, hba, toDBAnn, iha, ihd, ihr _,
      canon, canonDefs]
  | .neg a, scope, hsc, hok => by
    simp only [scopedOK] at hsc
    have ih1 := toDB_lsrc a scope hsc hok
    simp only [lsrc, mk00, toDB, toDBV, ih1, canon]
  | .bin op a b, scope, hsc, hok => by
    simp only [scopedOK, Bool.and_eq_true] at hsc
    have ih1 := toDB_lsrc a scope hsc.1 hok
    have ih2 := toDB_lsrc b scope hsc.2 hok
    simp only [lsrc, mk00, toDB, toDBV, ih1, ih2, canon]
  | .ite c a b, scope, hsc, hok => by
    simp only [scopedOK, Bool.and_eq_true] at hsc
    have ih0 := toDB_lsrc c scope hsc.1.1 hok
    have ih1 := toDB_lsrc a scope hsc.1.2 hok
    have ih2 := toDB_lsrc b scope hsc.2 hok
    simp only [lsrc, mk00, toDB, toDBV, ih0, ih1, ih2, canon]
theorem toDBChain_lsrcDefs : ∀ (ds : Defs) (scope : List Name) (n i : Nat) (e : Src) (cb : Tm),
    scopedDefsOK scope ds = true → ScopeOK scope → notLetV e.variant →
    toDB (scope.map slot) e = some cb →
    toDBChain (scope.map slot) n i (lsrcDefs I nm ds e) = some (canonDefs ds, cb)
  | .nil, scope, n, i, ⟨rr, g, v, es⟩, cb, _, _, he, h => by
    rw [toDB] at h
    rw [lsrcDefs, toDBChain, C08_chain_body_is_toDB _ _ _ v he, h]; rfl
  | .cons y a d r, scope, n, i, e, cb, hsc, hok, he, h => by
    simp only [scopedDefsOK, Bool.and_eq_true] at hsc
    have iha := toDB_lsrc a scope hsc.1.1 hok
    have ihd := toDB_lsrc d scope hsc.1.2 hok
    have ihr := toDBChain_lsrcDefs r scope n (i + 1) e cb hsc.2 hok he h
    simp only [lsrcDefs, mk00, hI, toDBChain, toDBChainV, toDBAnn, iha, ihd, ihr, canonDefs]
end

theorem toDB_of_strip_lsrc (t : Tm) (scope : List Name) (s : Src) (hsc : scopedOK scope t = true)
    (hok : ScopeOK scope) (hs : strip s = lsrc I nm t) :
    toDB (scope.map slot) s = some (canon t) ∧ (canon t).holeFree = true := by
  rw [← toDB_strip, hs, canon_holeFree]
  exact ⟨toDB_lsrc I nm hI t scope hsc hok, scopedOK_holeFree t scope hsc⟩

theorem toDBChain_lsrc : ∀ (ds : Defs) (scope : List Name) (n i : Nat) (E : Src) (cb : Tm) (s : Src),
    scopedDefsOK scope ds = true → ScopeOK scope →
    (∀ s, strip s = E → notLetV s.variant ∧ toDB (scope.map slot) s = some cb ∧
      cb.holeFree = true) →
    strip s = lsrcDefs I nm ds E →
    toDBChain (scope.map slot) n i s = some (canonDefs ds, cb) ∧ (canonDefs ds).holeFree = true ∧
      cb.holeFree = true
  | .nil, scope, n, i, E, cb, ⟨rr, g, v, es⟩, _, _, hE, h => by
    rw [lsrcDefs] at h
    obtain ⟨h1, h2, h3⟩ := hE _ h
    rw [toDB] at h2
    rw [toDBChain, C08_chain_body_is_toDB _ _ _ v h1, h2]
    simp [canonDefs, Defs.holeFree, h3]
  | .cons y a d r, scope, n, i, E, cb, ⟨rr, g, v, es⟩, hsc, hok, hE, h => by
    rw [lsrcDefs, hI] at h
    cases v <;> simp [strip, stripV, mk00] at h
    rename_i v' ann sd sb
    obtain ⟨hv, ha, hd, hb⟩ := h
    cases ann with
    | none => simp [stripO] at ha
    | some sa =>
      simp only [stripO, OptSrc.some.injEq] at ha
      simp only [scopedDefsOK, Bool.and_eq_true] at hsc
      have iha := toDB_of_strip_lsrc I nm hI a scope sa hsc.1.1 hok ha
      have ihd := toDB_of_strip_lsrc I nm hI d scope sd hsc.1.2 hok hd
      have ihr := toDBChain_lsrc r scope n (i + 1) E cb sb hsc.2 hok hE hb
      simp [toDBChain, toDBChainV, toDBAnn, iha.1, ihd.1, ihr.1, hv, canonDefs, Defs.holeFree,
        iha.2, ihd.2, ihr.2.1, ihr.2.2]

end

theorem resolve_printed (I : List Char → Name) (nm : Name → List Char) (names : List Name)
    (t : Tm) (s : Src) (hI : ∀ x, I (nm x) = x) (hnd : names.Nodup)
    (hph : ∀ x ∈ names, x ≠ placeholder)
    (hsc : scopedOK names.reverse t = true) (hs : strip s = lsrc I nm t) :
    ∃ rt st, resolve s (initialContext names).length
        { ctx := initialContext names, errors := [], nextHole := 0 } = some (rt, st) ∧
      rt.erase = canon t ∧ st.errors = [] := by
  obtain ⟨hdb, hhf⟩ := toDB_of_strip_lsrc I nm hI t names.reverse s hsc
    (scopeOK_of_nodup _ (List.pairwise_reverse.2 (hnd.imp Ne.symm))) hs
  obtain ⟨r, st, hres, herr, her⟩ := resolve_initial_complete hnd hph hdb
  exact ⟨r, st, hres, by rw [← her]; exact (eraseHoleIds_of_holeFree r.erase (by rw [her]; exact hhf)).symm, herr⟩

theorem read_back (toks : Array PTok) (I : List Char → Name) (nm : Name → List Char)
    (names : List Name) (t : Tm) (hI : ∀ x, I (nm x) = x) (hnd : names.Nodup)
    (hph : ∀ x ∈ names, x ≠ placeholder) (hsc : scopedOK names.reverse t = true)
    (h1 : noImplicitArrow t = true) (h2 : noNegLit t = true)
    (hk : toks.toList.map (·.kind) = (printKinds nm t).map (kindP I)) :
    readBack toks names = some (canon t, []) := by
  obtain ⟨r, st, s3, hr, h3, hs3⟩ := reassocAll_printed toks I nm t h1 h2 hk
  obtain ⟨rt, st', hres, her, herr⟩ := resolve_printed I nm names t s3 hI hnd hph hsc hs3
  simp [readBack, hr, h3, hres, her, herr]

end PModel
