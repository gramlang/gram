import GramModel.Lemmas.CCUnify
import GramModel.Lemmas.CCGroup
import GramModel.Lemmas.CheckNoPanic

/-!
# No wrong rejection: the model of gram's checker never reports an error on an explicit hole-free
program the independent checker accepts (C05)

The induction (`InferC`): on a hole-free program without implicit binders that the independent checker accepts, a run
of `inferS` that answers reports no error, and the type it computes is hole-free, explicit and joinable, on erasures,
with the oracle's (`Join (erD Δ) 0 (er ty) (er T)`).  That is what every check needs: on hole-free terms with joinable
erasures `unifyS` never answers `false` (`unifyS_ok_true`).  `explicitT` is there because the application rule builds
an explicit `Π`: a function with an implicit parameter is rejected (`wImplicit`).  `er`, `erD`, `Join`, `DWF` and the
confluence behind them are `Lemmas/CCSubst`, `CCPar`, `CCJoin` (which opens this namespace with `par_conv`); `explicitT`,
`TEX`, `DEX`, `unifyS_ok_true`, `unify_pi_fresh_x`, `unify_solved_true` are `Lemmas/CCUnify`, `group_transfer` is
`Lemmas/CCGroup`.
-/

namespace CheckComplete

open CCSubst CCPar WhnfLemmas UnifyAgree CheckNoPanic CheckSound TypingSound OracleLemmas
open StoreMono (bind_ok pure_ok StoreLe)

theorem TEX_cons {Γ : TCtxX} {d : Tm} {k : Nat} (hd : explicitT d = true) (h : TEX Γ) :
    TEX ((d, k) :: Γ) := by
  intro e he
  rcases List.mem_cons.1 he with e' | e'
  · subst e'; exact hd
  · exact h e e'

theorem DEX_some {Δ : DCtxX} {d : Tm} {k : Nat} (hd : explicitT d = true) (h : DEX Δ) :
    DEX (some (d, k) :: Δ) := by
  intro e he d' o hd'
  rcases List.mem_cons.1 he with e' | e'
  · subst e'; cases hd'; exact hd
  · exact h e e' d' o hd'

theorem pushed_EX : ∀ (ds : Defs) (k : Nat) (Γ : TCtxX) (Δ : DCtxX), explicitDefs ds = true →
    TEX Γ → DEX Δ → TEX (pushedT ds k Γ) ∧ DEX (pushedD ds k Δ)
  | .nil, _, _, _, _, hΓ, hΔ => ⟨hΓ, hΔ⟩
  | .cons x a d r, k, Γ, Δ, h, hΓ, hΔ => by
      simp only [explicitDefs, Bool.and_eq_true] at h
      simp only [pushedT, pushedD]
      exact pushed_EX r (k-1) _ _ h.2 (TEX_cons h.1.1 hΓ) (DEX_some h.1.2 hΔ)

theorem letTypeX_explicit (ds : Defs) (hds : explicitDefs ds = true) : ∀ (k i : Nat) (acc : Tm),
    explicitT acc = true → explicitT (letTypeX ds k i acc) = true := by
  intro k
  induction k with
  | zero => intro i acc h; exact h
  | succ k ih =>
    intro i acc h
    unfold letTypeX
    refine ih _ _ (explicit_openT _ _ _ _ h ?_)
    simp only [explicitT, Bool.and_eq_true, and_true]
    rw [explicitDefs_ushiftDefs]; exact hds

/-- the invariants of the two contexts of a state -/
structure StateOK (s : St) : Prop where
  thf : THF s.tctx
  dhf : DHF s.dctx
  tex : TEX s.tctx
  dex : DEX s.dctx
  off : COff s.tctx s.dctx

theorem StateOK.dwf {s : St} (h : StateOK s) : DWF s.dctx := h.off.d

theorem StateOK.of_eq {s s1 : St} (h : StateOK s) (c1 : s1.tctx = s.tctx) (c2 : s1.dctx = s.dctx) :
    StateOK s1 := by
  obtain ⟨a, b, c, d, e⟩ := h
  exact ⟨by rw [c1]; exact a, by rw [c2]; exact b, by rw [c1]; exact c, by rw [c2]; exact d,
    by rw [c1, c2]; exact e⟩

theorem StateOK.push {s : St} (h : StateOK s) {d : Tm} (hd : d.holeFree = true)
    (xd : explicitT d = true) :
    StateOK { s with tctx := (d, 0) :: s.tctx, dctx := none :: s.dctx } :=
  ⟨THF_cons hd h.thf, DHF.push h.dhf, TEX_cons xd h.tex, h.dex.push, h.off.push d⟩

/-- a check `if !(← unifyS a b) then reportError` of two hole-free types with joinable erasures:
nothing is reported and the state is untouched -/
theorem check_true {β} {f : Nat} {a b : Tm} {K : M β} {s s' : St} {x : β}
    (ha : a.holeFree = true) (hb : b.holeFree = true) (hD : DHF s.dctx) (hW : DWF s.dctx)
    (hj : Join (erD s.dctx) 0 (er a) (er b))
    (h : (unifyS f a b >>= fun r => if (!r) = true then (do reportError; K) else K) s = .ok x s') :
    K s = .ok x s' := by
  obtain ⟨r, s1, h1, h2⟩ := bind_ok h
  obtain ⟨rfl, rfl⟩ := unifyS_ok_true ha hb hD hW hj h1
  simpa using h2

theorem convX_join {g : Nat} {Δ : DCtxX} {a b : Tm} (ha : a.holeFree = true) (hb : b.holeFree = true)
    (hD : DHF Δ) (hW : DWF Δ) (h : convX g Δ a b = some true) : Join (erD Δ) 0 (er a) (er b) :=
  Conv.join (convX_sound g Δ a b ha hb hD h) hW

theorem jtrans {Δ : DCtxX} (hW : DWF Δ) {n : Nat} {a b c : Tm} (h1 : Join (erD Δ) n a b)
    (h2 : Join (erD Δ) n b c) : Join (erD Δ) n a c :=
  Join.trans (DWF_erD hW) (DHF_erD _) h1 h2

/-- what the induction proves about a run of `inferS` that answers, on a term the oracle accepts -/
def InferC (f : Nat) : Prop :=
  ∀ (t : Tm) (s : St) (e ty : Tm) (s' : St) (g : Nat) (T : Tm), t.holeFree = true →
    explicitT t = true → StateOK s → inferX g s.tctx s.dctx t = .ok T →
    inferS f t s = .ok (e, ty) s' →
    s'.nerrs = s.nerrs ∧ ty.holeFree = true ∧ explicitT ty = true ∧
      Join (erD s.dctx) 0 (er ty) (er T)
def InferDefsC (f : Nat) : Prop :=
  ∀ (ds : Defs) (s : St) (l : List Tm) (s' : St) (g : Nat), ds.holeFree = true →
    explicitDefs ds = true → StateOK s → inferDefsX g s.tctx s.dctx ds = .ok () →
    inferDefsS f ds s = .ok l s' → s'.nerrs = s.nerrs

theorem infer_sub {f : Nat} (ih : InferC f) {β} {t : Tm} {K : Tm × Tm → M β} {s s' : St} {x : β}
    {g : Nat} {T : Tm} (ht : t.holeFree = true) (hx : explicitT t = true) (hs : StateOK s)
    (hX : inferX g s.tctx s.dctx t = .ok T) (h : (inferS f t >>= K) s = .ok x s') :
    ∃ ty s1, K (t, ty) s1 = .ok x s' ∧ s1.tctx = s.tctx ∧ s1.dctx = s.dctx ∧
      s1.nerrs = s.nerrs ∧ StoreLe s.store s1.store ∧ ty.holeFree = true ∧ explicitT ty = true ∧
      T.holeFree = true ∧ Join (erD s.dctx) 0 (er ty) (er T) := by
  obtain ⟨⟨t', ty⟩, s1, h1, h2⟩ := bind_ok h
  obtain ⟨n1, hty, xty, j⟩ := ih _ _ _ _ _ _ _ ht hx hs hX h1
  obtain ⟨⟨c1, c2, le1, -⟩, et⟩ := ((StoreMono.inferS_le_ctx false f).1 t s nofun nofun).ok h1
  cases et
  exact ⟨ty, s1, h2, c1, c2, n1, le1, hty, xty, inferX_type_holeFree ht hs.thf hs.dhf hX, j⟩

/-- a sub-call of `inferS` whose type is then checked against `E`, when the oracle found the type
convertible with `E`: nothing is reported and the check leaves the state alone -/
theorem infer_sub_check {f : Nat} (ih : InferC f) {β} {t E : Tm} {K : Tm × Tm → M β} {s s' : St}
    {x : β} {g : Nat} {T : Tm} (ht : t.holeFree = true) (hx : explicitT t = true) (hs : StateOK s)
    (hX : inferX g s.tctx s.dctx t = .ok T) (hE : E.holeFree = true)
    (hc : convX g s.dctx T E = some true)
    (h : (inferS f t >>= fun p => unifyS f p.2 E >>= fun r =>
      if (!r) = true then (do reportError; K p) else K p) s = .ok x s') :
    ∃ ty s1, K (t, ty) s1 = .ok x s' ∧ s1.tctx = s.tctx ∧ s1.dctx = s.dctx ∧
      s1.nerrs = s.nerrs ∧ StoreLe s.store s1.store ∧ ty.holeFree = true ∧ explicitT ty = true ∧
      T.holeFree = true ∧ Join (erD s.dctx) 0 (er ty) (er T) := by
  obtain ⟨ty, s1, h1, c1, c2, n1, le1, hty, xty, hT, j⟩ := infer_sub ih ht hx hs hX h
  have hs1 := hs.of_eq c1 c2
  have jt : Join (erD s1.dctx) 0 (er ty) (er E) := by
    rw [c2]
    exact jtrans hs.dwf j (convX_join hT hE hs.dhf hs.dwf hc)
  exact ⟨ty, s1, check_true hty hE hs1.dhf hs1.dwf jt h1, c1, c2, n1, le1, hty, xty, hT, j⟩

theorem infer_stepC_simple (f : Nat) (ih1 : InferC f) (t : Tm) (s : St) (e ty : Tm) (s' : St)
    (g : Nat) (T : Tm) (ht : t.holeFree = true) (hx : explicitT t = true) (hs : StateOK s)
    (hX : inferX (g+1) s.tctx s.dctx t = .ok T) (h : inferS (f+1) t s = .ok (e, ty) s')
    (hna : ∀ g0 a, t ≠ .app g0 a) (hnl : ∀ ds b, t ≠ .letg ds b) :
    s'.nerrs = s.nerrs ∧ ty.holeFree = true ∧ explicitT ty = true ∧
      Join (erD s.dctx) 0 (er ty) (er T) := by
  have hW := hs.dwf
  have hD := hs.dhf
  -- each arm: invert the oracle's run (`inferX_…_inv`), then follow gram's arm with `infer_sub` (a sub-run: contexts
  -- as before, no error, a type joinable with the oracle's) and `infer_sub_check` (a sub-run and the check after it)
  cases t
  case hole => cases ht
  case app => exact (hna _ _ rfl).elim
  case letg => exact (hnl _ _ rfl).elim
  case type | int | bool | tt | ff | lit =>
    unfold inferS at h; obtain ⟨e', rfl⟩ := pure_ok h; cases e'
    simp only [inferX] at hX; cases hX
    exact ⟨rfl, rfl, rfl, Join.refl _ _⟩
  case var x i =>
    unfold inferS at h
    dsimp only at h
    obtain ⟨st, s1, h1, h2⟩ := bind_ok h
    cases h1
    obtain ⟨ty0, off, heq, hlt, rfl⟩ := inferX_var_inv hX
    rw [heq] at h2
    dsimp only at h2
    rw [if_neg hlt] at h2
    have hty0 : ty0.holeFree = true := hs.thf.get heq
    have h2 := (ushiftS_P f 0 (i + 1 - off) ty0 hty0 _).bind_inv h2
    obtain ⟨e', rfl⟩ := pure_ok h2
    cases e'
    refine ⟨rfl, by rw [holeFree_ushift]; exact hty0, ?_, Join.refl _ _⟩
    rw [explicit_ushift]; exact hs.tex _ (List.mem_of_getElem? heq)
  case lam x im d b =>
    simp only [Tm.holeFree, Bool.and_eq_true] at ht
    simp only [explicitT, Bool.and_eq_true] at hx
    unfold inferS at h
    dsimp only at h
    obtain ⟨dty, cod, h1, h2, h3, rfl⟩ := inferX_lam_inv hX
    obtain ⟨dtyS, s1, h5, c1, c2, n1, -⟩ :=
      infer_sub_check ih1 ht.1 hx.1.2 hs h1 rfl (isTypeX_ok h2) h
    have hs1 := hs.of_eq c1 c2
    obtain ⟨u, s2, h6, h7⟩ := bind_ok h5
    cases h6
    have hs2 := hs1.push ht.1 hx.1.2
    obtain ⟨codS, s3, h8, c3, c4, n3, _, hcod, xcod, _, jb⟩ :=
      infer_sub ih1 ht.2 hx.2 hs2 (by show inferX g ((d, 0) :: s1.tctx) (none :: s1.dctx) b = _
                                      rw [c1, c2]; exact h3) h7
    dsimp only at h8
    obtain ⟨u2, s4, h9, h10⟩ := bind_ok h8
    cases h9
    obtain ⟨e', rfl⟩ := pure_ok h10
    cases e'
    refine ⟨by show s3.nerrs = s.nerrs; rw [n3]; exact n1, by simp [Tm.holeFree, ht.1, hcod],
      by simp [explicitT, hx.1.1, hx.1.2, xcod], ?_⟩
    simp only [er]
    have jb' : Join (erD (none :: s.dctx)) 0 (er codS) (er cod) := by rw [← c2]; exact jb
    exact Join.map2 (DHF_erD _) (.pi 0 im) (.pi 0 im) (er_holeFree _) (er_holeFree _) (er_holeFree _)
      (er_holeFree _) (Join.refl _ _) (Join.push1 jb')
  case pi x im d c =>
    simp only [Tm.holeFree, Bool.and_eq_true] at ht
    simp only [explicitT, Bool.and_eq_true] at hx
    unfold inferS at h
    dsimp only at h
    obtain ⟨dty, cty, h1, h2, h3, h3', rfl⟩ := inferX_pi_inv hX
    obtain ⟨dtyS, s1, h5, c1, c2, n1, -⟩ :=
      infer_sub_check ih1 ht.1 hx.1.2 hs h1 rfl (isTypeX_ok h2) h
    have hs1 := hs.of_eq c1 c2
    obtain ⟨u, s2, h6, h7⟩ := bind_ok h5
    cases h6
    have hs2 := hs1.push ht.1 hx.1.2
    obtain ⟨ctyS, s3, h9, -, -, n3, -⟩ :=
      infer_sub_check (g := g) ih1 ht.2 hx.2 hs2
        (by show inferX g ((d, 0) :: s1.tctx) (none :: s1.dctx) c = _
            rw [c1, c2]; exact h3) rfl
        (by show convX g (none :: s1.dctx) cty .type = some true
            rw [c2]; exact isTypeX_ok h3') h7
    obtain ⟨u2, s4, h10, h11⟩ := bind_ok h9
    cases h10
    obtain ⟨e', rfl⟩ := pure_ok h11
    cases e'
    exact ⟨by show s3.nerrs = s.nerrs; rw [n3]; exact n1, rfl, rfl, Join.refl _ _⟩
  case neg a =>
    simp only [Tm.holeFree] at ht
    simp only [explicitT] at hx
    unfold inferS at h
    dsimp only at h
    obtain ⟨aty, h1, h2, rfl⟩ := inferX_neg_inv hX
    obtain ⟨atyS, s1, h5, -, -, n1, -⟩ := infer_sub_check ih1 ht hx hs h1 rfl (expectX_ok h2) h
    obtain ⟨e', rfl⟩ := pure_ok h5
    cases e'
    exact ⟨n1, rfl, rfl, Join.refl _ _⟩
  case bin op a b =>
    simp only [Tm.holeFree, Bool.and_eq_true] at ht
    simp only [explicitT, Bool.and_eq_true] at hx
    unfold inferS at h
    dsimp only at h
    obtain ⟨aty, bty, h1, h2, h3, h3', rfl⟩ := inferX_bin_inv hX
    obtain ⟨atyS, s1, h5, c1, c2, n1, -⟩ :=
      infer_sub_check ih1 ht.1 hx.1 hs h1 rfl (expectX_ok h2) h
    obtain ⟨btyS, s2, h7, -, -, n2, -⟩ :=
      infer_sub_check (g := g) ih1 ht.2 hx.2 (hs.of_eq c1 c2) (by rw [c1, c2]; exact h3) rfl
        (by rw [c2]; exact expectX_ok h3') h5
    obtain ⟨e', rfl⟩ := pure_ok h7
    cases e'
    refine ⟨by rw [n2]; exact n1, ?_, ?_, Join.refl _ _⟩
    · cases op <;> rfl
    · cases op <;> rfl
  case ite c a b =>
    simp only [Tm.holeFree, Bool.and_eq_true] at ht
    simp only [explicitT, Bool.and_eq_true] at hx
    unfold inferS at h
    dsimp only at h
    obtain ⟨cty, bty, h1, h2, h3, h3', h3''⟩ := inferX_ite_inv hX
    obtain ⟨ctyS, s1, h5, c1, c2, n1, -⟩ :=
      infer_sub_check ih1 ht.1.1 hx.1.1 hs h1 rfl (expectX_ok h2) h
    have hs1 := hs.of_eq c1 c2
    obtain ⟨atyS, s2, h6, c3, c4, n2, _, haty, xaty, hatyX, ja⟩ :=
      infer_sub ih1 ht.1.2 hx.1.2 hs1 (by rw [c1, c2]; exact h3) h5
    dsimp only at h6
    have hs2 := hs1.of_eq c3 c4
    obtain ⟨btyS, s3, h7, c5, c6, n3, _, hbty, _, hbtyX, jb⟩ :=
      infer_sub ih1 ht.2 hx.2 hs2 (by rw [c3, c4, c1, c2]; exact h3') h6
    dsimp only at h7
    have hs3 := hs2.of_eq c5 c6
    have ja' : Join (erD s.dctx) 0 (er atyS) (er T) := by rw [← c2]; exact ja
    have jb' : Join (erD s.dctx) 0 (er btyS) (er bty) := by rw [← c2, ← c4]; exact jb
    have jt2 : Join (erD s3.dctx) 0 (er atyS) (er btyS) := by
      rw [c6, c4, c2]
      exact jtrans hW ja' (jtrans hW (convX_join hatyX hbtyX hD hW (expectX_ok h3''))
        jb'.symm)
    have h8 := check_true haty hbty hs3.dhf hs3.dwf jt2 h7
    obtain ⟨e', rfl⟩ := pure_ok h8
    cases e'
    exact ⟨by rw [n3, n2]; exact n1, haty, xaty, ja'⟩

theorem infer_appC (f : Nat) (ih1 : InferC f) (g0 a : Tm) (s : St) (e ty : Tm) (s' : St)
    (g : Nat) (T : Tm) (ht : (Tm.app g0 a).holeFree = true) (hx : explicitT (Tm.app g0 a) = true)
    (hs : StateOK s) (hX : inferX (g+1) s.tctx s.dctx (.app g0 a) = .ok T)
    (h : inferS (f+1) (.app g0 a) s = .ok (e, ty) s') :
    s'.nerrs = s.nerrs ∧ ty.holeFree = true ∧ explicitT ty = true ∧
      Join (erD s.dctx) 0 (er ty) (er T) := by
  have hW := hs.dwf
  have hD := hs.dhf
  simp only [Tm.holeFree, Bool.and_eq_true] at ht
  simp only [explicitT, Bool.and_eq_true] at hx
  unfold inferS at h
  dsimp only at h
  -- the oracle's run: `g0 : gty`, `gty` has the weak head normal form `W`, `a : aty`
  obtain ⟨gty, W, aty, h1, hw, h2, hW'⟩ := inferX_app_inv hX
  have hgtyX := inferX_type_holeFree ht.1 hs.thf hD h1
  have cw := whnfX_conv hw
  have hpi := whnfX_holeFree hw hD hgtyX
  rcases hW' with ⟨x, im, dom, cod, rfl, h3, rfl⟩ | ⟨id, sh, rfl, _⟩
  · simp only [Tm.holeFree, Bool.and_eq_true] at hpi
    -- gram's run on `g0`: a type `gtyS` joinable with `gty`, hence with `Π (x : dom). cod`
    obtain ⟨gtyS, s1, h4, c1, c2, n1, _, hgty, xgty, _, jg⟩ := infer_sub ih1 ht.1 hx.1 hs h1 h
    dsimp only at h4
    have hs1 := hs.of_eq c1 c2
    obtain ⟨i, s2, hi, h5⟩ := bind_ok h4
    cases hi
    obtain ⟨j, s3, hj, h6⟩ := bind_ok h5
    cases hj
    obtain ⟨r, s4, hu, h7⟩ := bind_ok h6
    have jpi : Join (erD s.dctx) 0 (er gtyS) (er (.pi x im dom cod)) :=
      jtrans hW jg (Conv.join cw hW)
    -- the first check succeeds and solves both cells: `gtyS ≡ Π (y : A). B`, `?i := A`, `?j := B`
    obtain ⟨rfl, y, A, B, es4, hA, hB, xA, xB, cg⟩ := unify_pi_fresh_x
      (s := { s1 with store := (s1.store ++ [none]) ++ [none] }) (i := s1.store.length)
      (j := (s1.store ++ [none]).length) (cellVal_fresh1 _) (cellVal_fresh2 _)
      (show (s1.store ++ [none]).length ≠ s1.store.length by simp) hgty hs1.dhf hs1.dwf xgty
      hs1.dex (P := .pi x im dom cod) (by simp [Tm.holeFree, hpi]) ⟨_, _, _, _, rfl⟩
      (by show Join (erD s1.dctx) 0 _ _; rw [c2]; exact jpi) hu
    simp only [Bool.not_true, Bool.false_eq_true, if_false] at h7
    obtain ⟨t4, d4, n4, ci4, cj4⟩ := pi_cells es4
    clear es4
    have hs4 := hs1.of_eq t4 d4
    -- so `A` is joinable with `dom` and `B` with `cod`
    have cg' : Conv s.dctx gtyS (.pi y false A B) := by
      have : Conv s1.dctx gtyS (.pi y false A B) := cg
      rw [c2] at this; exact this
    have jpp : Join (erD s.dctx) 0 (er (.pi y false A B)) (er (.pi x im dom cod)) :=
      jtrans hW (Conv.join cg' hW).symm jpi
    simp only [er] at jpp
    obtain ⟨_, jA, jB⟩ := Join.pi_inv jpp
    -- gram's run on `a`: a type `atyS` joinable with `aty`; the cells still hold `A` and `B`
    obtain ⟨atyS, s5, h8, c5, c6, n5, le5, haty, _, hatyX, ja⟩ :=
      infer_sub ih1 ht.2 hx.2 hs4 (by rw [t4, d4, c1, c2]; exact h2) h7
    dsimp only at h8
    have hs5 := hs4.of_eq c5 c6
    obtain ⟨r2, s6, hu2, h9⟩ := bind_ok h8
    have hci := cellVal_of_le le5 ci4
    have hcj := cellVal_of_le le5 cj4
    have ja' : Join (erD s.dctx) 0 (er atyS) (er aty) := by rw [← c2, ← d4]; exact ja
    -- the second check succeeds: `A` ~ `dom` ~ `aty` (the oracle's own check) ~ `atyS`
    have jAa : Join (erD s5.dctx) 0 (er A) (er atyS) := by
      rw [c6, d4, c2]
      exact jtrans hW jA (jtrans hW (convX_join hatyX hpi.1 hD hW (expectX_ok h3)).symm ja'.symm)
    obtain ⟨rfl, rfl⟩ := unify_solved_true hci hA haty hs5.dhf hs5.dwf jAa hu2
    simp only [Bool.not_true, Bool.false_eq_true, if_false] at h9
    -- the reported type is `B` opened with `a`, joinable with `cod` opened with `a`
    obtain ⟨tyv, s7, h10, h11⟩ := bind_ok h9
    obtain ⟨rfl, rfl⟩ := openS_solved hcj hB ht.2 h10
    obtain ⟨e', rfl⟩ := pure_ok h11
    cases e'
    refine ⟨by rw [n5, n4]; exact n1, openT_holeFree _ _ _ _ hB ht.2,
      explicit_openT _ _ _ _ xB hx.2, ?_⟩
    rw [er_openT, er_openT]
    have := Join.subst (DWF_erD hW) (DHF_erD _) (Join.refl 0 (er a)) (er_holeFree _)
      (er_holeFree _) 0 (Nat.le_refl _) (m := 0) (t := er B) (t' := er cod) jB (er_holeFree _)
      (er_holeFree _)
    exact this
  · cases hpi

theorem infer_letgC (f : Nat) (ih1 : InferC f) (ih2 : InferDefsC f) (ds : Defs)
    (body : Tm) (s : St) (e ty : Tm) (s' : St) (g : Nat) (T : Tm)
    (ht : (Tm.letg ds body).holeFree = true) (hx : explicitT (Tm.letg ds body) = true)
    (hs : StateOK s) (hX : inferX (g+1) s.tctx s.dctx (.letg ds body) = .ok T)
    (h : inferS (f+1) (.letg ds body) s = .ok (e, ty) s') :
    s'.nerrs = s.nerrs ∧ ty.holeFree = true ∧ explicitT ty = true ∧
      Join (erD s.dctx) 0 (er ty) (er T) := by
  have hW := hs.dwf
  have hD := hs.dhf
  simp only [Tm.holeFree, Bool.and_eq_true] at ht
  simp only [explicitT, Bool.and_eq_true] at hx
  unfold inferS at h
  dsimp only at h
  -- the oracle's run: the definitions are accepted, the body has type `bty` under the group
  obtain ⟨bty, h1, h2, rfl⟩ := inferX_letg_inv hX
  -- the push: the contexts under the group are the oracle's, and the invariants hold there
  obtain ⟨u, s1, hp, h3⟩ := bind_ok h
  have es1 := pushDefsS_state _ _ _ _ _ hp
  have t1 : s1.tctx = (pushGroupX ds 0 (s.tctx, s.dctx)).1 := by rw [es1, pushGroupX_eq]
  have d1 : s1.dctx = (pushGroupX ds 0 (s.tctx, s.dctx)).2 := by rw [es1, pushGroupX_eq]
  have d1' : s1.dctx = pushedD ds ds.len s.dctx := by rw [es1]
  have n1 : s1.nerrs = s.nerrs := by rw [es1]
  have hs1 : StateOK s1 := by
    obtain ⟨hΓ', hD'⟩ := pushGroupX_HF ds 0 s.tctx s.dctx ht.1 hs.thf hD
    obtain ⟨xΓ', xD'⟩ := pushed_EX ds ds.len s.tctx s.dctx hx.1 hs.tex hs.dex
    refine ⟨by rw [t1]; exact hΓ', by rw [d1]; exact hD', ?_, ?_, ?_⟩
    · rw [es1]; exact xΓ'
    · rw [es1]; exact xD'
    · rw [es1]; exact (hs.off.pushed ds).1
  clear es1
  -- gram's run on the definitions reports nothing
  obtain ⟨ds', s2, h4, h5⟩ := bind_ok h3
  have n2 := ih2 _ _ _ _ g ht.1 hx.1 hs1 (by rw [t1, d1]; exact h1) h4
  obtain ⟨⟨t2, d2, -⟩, e⟩ := ((StoreMono.inferS_le_ctx false f).2 ds s1 nofun nofun).ok h4
  rw [e] at h5
  have hs2 := hs1.of_eq t2 d2
  -- gram's run on the body: a type `btyS` joinable with `bty` under the group
  obtain ⟨btyS, s3, h6, t3, d3, n3, _, hbty, xbty, hbtyX, jb⟩ :=
    infer_sub ih1 ht.2 hx.2 hs2 (by rw [t2, d2, t1, d1]; exact h2) h5
  dsimp only at h6
  -- the fold computes `groupTypeX ds btyS`; the pop reports nothing
  have h7 := (letTypeS_P f ds ht.1 ds.len 0 btyS hbty _).bind_inv h6
  obtain ⟨u2, s4, h8, h9⟩ := bind_ok h7
  obtain ⟨e', rfl⟩ := pure_ok h9
  cases e'
  rw [popN_eq] at h8
  cases h8
  refine ⟨by show s3.nerrs = s.nerrs; rw [n3, n2]; exact n1, letTypeX_holeFree ds ht.1 _ _ _ hbty,
    letTypeX_explicit ds hx.1 _ _ _ xbty, ?_⟩
  -- `groupTypeX ds btyS` ~ `ds; btyS` (the group type) ~ `ds; bty` (joinability transfers to the closed groups)
  have j1 : Join (erD s.dctx) 0 (er (groupTypeX ds btyS)) (er (.letg ds btyS)) :=
    (Conv.join (group_type_conv s.dctx ds btyS ht.1 hbty) hW).symm
  have jb' : Join (erD (pushedD ds ds.len s.dctx)) 0 (er btyS) (er bty) := by
    rw [← d1', ← d2]; exact jb
  exact jtrans hW j1 (group_transfer s.dctx ds btyS bty hW jb')

theorem inferDefs_stepC (f : Nat) (ih1 : InferC f) (ih2 : InferDefsC f) : InferDefsC (f+1) := by
  intro ds s l s' g hds hxs hs hX h
  have hW := hs.dwf
  have hD := hs.dhf
  obtain ⟨g, rfl⟩ := inferDefsX_ok_succ hX
  cases ds with
  | nil =>
    unfold inferDefsS at h
    obtain ⟨_, rfl⟩ := pure_ok h
    rfl
  | cons x ann d r =>
    simp only [Defs.holeFree, Bool.and_eq_true] at hds
    simp only [explicitDefs, Bool.and_eq_true] at hxs
    unfold inferDefsS at h
    dsimp only at h
    obtain ⟨annTy, dty, h1, h2, h3, h4, h5⟩ := inferDefsX_cons_inv hX
    obtain ⟨annTyS, s1, h6, c1, c2, n1, -⟩ :=
      infer_sub_check ih1 hds.1.1 hxs.1.1 hs h1 rfl (isTypeX_ok h2) h
    have hs1 := hs.of_eq c1 c2
    obtain ⟨dtyS, s2, h8, c3, c4, n2, -⟩ :=
      infer_sub_check (g := g) ih1 hds.1.2 hxs.1.2 hs1 (by rw [c1, c2]; exact h3) hds.1.1
        (by rw [c2]; exact expectX_ok h4) h6
    have hs2 := hs1.of_eq c3 c4
    obtain ⟨rest, s3, h9, h10⟩ := bind_ok h8
    have n3 := ih2 _ _ _ _ g hds.2 hxs.2 hs2 (by rw [c3, c4, c1, c2]; exact h5) h9
    obtain ⟨_, rfl⟩ := pure_ok h10
    rw [n3, n2]; exact n1

theorem infer_stepC (f : Nat) (ih1 : InferC f) (ih2 : InferDefsC f) :
    InferC (f+1) := by
  intro t s e ty s' g T ht hx hs hX h
  obtain ⟨g, rfl⟩ := inferX_ok_succ hX
  by_cases hna : ∃ g0 a, t = .app g0 a
  · obtain ⟨g0, a, rfl⟩ := hna
    exact infer_appC f ih1 g0 a s e ty s' g T ht hx hs hX h
  · by_cases hnl : ∃ ds b, t = .letg ds b
    · obtain ⟨ds, b, rfl⟩ := hnl
      exact infer_letgC f ih1 ih2 ds b s e ty s' g T ht hx hs hX h
    · exact infer_stepC_simple f ih1 t s e ty s' g T ht hx hs hX h
        (fun g0 a e => hna ⟨g0, a, e⟩) (fun ds b e => hnl ⟨ds, b, e⟩)

theorem infer_complete : ∀ f, InferC f ∧ InferDefsC f := by
  intro f
  induction f with
  | zero =>
    constructor
    · intro t s e ty s' g T _ _ _ _ h; rw [inferS] at h; cases h
    · intro ds s l s' g _ _ _ _ h; rw [inferDefsS] at h; cases h
  | succ f ih => exact ⟨infer_stepC f ih.1 ih.2, inferDefs_stepC f ih.1 ih.2⟩

theorem StateOK_nil : StateOK {} := by
  refine ⟨THF_nil, DHF.nil, ?_, ?_, ⟨rfl, ?_, ?_⟩⟩
  · intro e he; cases he
  · intro e he; cases he
  · intro i ty off e; simp at e
  · intro i d off e; simp at e

theorem checker_no_wrong_rejection_join {f g : Nat} {t T e ty : Tm} {s : St}
    (ht : t.holeFree = true) (hx : explicitT t = true) (hX : inferX g [] [] t = .ok T)
    (h : inferS f t {} = .ok (e, ty) s) :
    e = t ∧ s.nerrs = 0 ∧ ty.holeFree = true ∧ Join [] 0 (er ty) (er T) := by
  obtain ⟨n, hty, _, j⟩ := (infer_complete f).1 t {} e ty s g T ht hx StateOK_nil hX h
  exact ⟨inferS_elab_id h, n, hty, j⟩

/-- **No wrong rejection.**  On an explicit hole-free closed program the oracle accepts, a run of the
checker model that answers (at whatever fuel) reports no error, returns the program itself, and its
type is hole-free and convertible with the oracle's. -/
theorem checker_no_wrong_rejection {f g : Nat} {t T e ty : Tm} {s : St}
    (ht : t.holeFree = true) (hx : explicitT t = true) (hX : inferX g [] [] t = .ok T)
    (h : inferS f t {} = .ok (e, ty) s) :
    e = t ∧ s.nerrs = 0 ∧ ty.holeFree = true ∧ Conv [] ty T := by
  obtain ⟨he, hn, hty, j⟩ := checker_no_wrong_rejection_join ht hx hX h
  exact ⟨he, hn, hty, join_er_conv hty (inferX_type_holeFree ht THF_nil DHF.nil hX) j⟩

theorem zonkDefs_hf_some (σ : List (Option Tm)) : ∀ (ds : Defs) (n : Nat), ds.holeFree = true →
    ds.size < n → zonkDefs n σ ds = some ds :=
  UnifySound.zonkDefs_hf_some σ

/-- **No wrong rejection, all-fuel form.**  At every fuel the run either runs out of fuel or accepts (the `zonk`
conjunct: the reported type is its own zonked form). -/
theorem checker_fuel_or_accept {g : Nat} {t T : Tm} (ht : t.holeFree = true)
    (hx : explicitT t = true) (hX : inferX g [] [] t = .ok T) (f : Nat) :
    inferS f t {} = .fuel ∨ ∃ (ty : Tm) (s : St), inferS f t {} = .ok (t, ty) s ∧ s.nerrs = 0 ∧
      ty.holeFree = true ∧ zonk (ty.size + 1) s.store ty = some ty ∧ Conv [] ty T := by
  have hw : wellScoped 0 t = true := (inferX_scoped_aux g).1 [] [] t T ht hX
  cases h : inferS f t {} with
  | fuel => exact Or.inl rfl
  | panic site => exact (CheckNoPanic.inferS_holeFree_no_panic f 0 t site hw ht h).elim
  | ok p s =>
    obtain ⟨e, ty⟩ := p
    obtain ⟨rfl, hn, hty, c⟩ := checker_no_wrong_rejection ht hx hX h
    exact Or.inr ⟨ty, s, rfl, hn, hty, UnifySound.zonk_hf_some _ _ _ hty (Nat.lt_succ_self _), c⟩

/-- a function with an implicit parameter cannot be applied: `({a : type} => a) int` -/
def wImplicit : Tm := .app (.lam 1 true .type (.var 1 0)) .int

theorem wImplicit_props : wImplicit.holeFree = true ∧ wellScoped 0 wImplicit = true ∧
    inferX 3 [] [] wImplicit = .ok .type := ⟨by decide, by decide, by rfl⟩

theorem wImplicit_rejected :
    (match inferS 5 wImplicit {} with
     | .ok _ s => s.nerrs == 1
     | _ => false) = true := by decide

end CheckComplete
