import GramModel.Lemmas.StoreMono
import GramModel.Lemmas.StoreRead
import GramModel.Lemmas.Fuel

/-!
# `unifyS` and `convX` agree on hole-free terms (C06)

Refinement: on hole-free input `whnfS` and `unifyS` are the oracle's `whnfX` and `convX` at the same fuel, the state
untouched; the only panics are the two context lookups of `normalize_weak_head`, and on well-scoped input there is none
(`letLoopS_hf`, `whnfS_hf`, `head_sim`, `unifyS_sim`).  `WhnfLemmas.whnfS_sim`, `WhnfLemmas.whnf_agree` are declared into a
namespace that has no file.
-/

namespace UnifyAgree

open OracleLemmas (convHead convX_succ whnfX_var_some whnfX_app_some whnfX_letg_some whnfX_neg_some whnfX_bin_some
  whnfX_ite_some)

open WhnfLemmas

theorem letLoopS_hf : ∀ (f : Nat) (todo : Defs) (body : Tm) (s : St),
    todo.holeFree = true → body.holeFree = true →
    (letLoopS f todo body s).Sat (fun b s' => s' = s ∧ (b.holeFree = true ∧
      ∀ n, wellScopedDefs (n + todo.len) todo = true → wellScoped (n + todo.len) body = true → wellScoped n b = true) ∧
      letAllX (f+1) todo body = some b) Nev := by
  intro f
  induction f with
  | zero => intro todo body s _ _; rw [letLoopS]; trivial
  | succ f ih =>
    intro todo body s hd hb
    cases todo with
    | nil =>
      unfold letLoopS
      exact R.Sat.pure ⟨rfl, ⟨⟨hb, fun n _ h => by simpa using h⟩, rfl⟩⟩
    | cons x a d r =>
      simp only [Defs.holeFree, Bool.and_eq_true] at hd
      have hu := unfoldDef_holeFree x a d r.len hd.1.1 hd.1.2
      unfold letLoopS
      dsimp only
      refine R.Sat.bind_ans (unfoldDefS_P f x a d r.len hd.1.1 hd.1.2 _) ?_
      refine R.Sat.bind_ans (openS_P f a r.len _ 0 hd.1.1 hu _) ?_
      refine R.Sat.bind_ans (openS_P f d r.len _ 0 hd.1.2 hu _) ?_
      refine R.Sat.bind_ans (substDefsS_P f r r.len _ hd.2 hu _) ?_
      refine R.Sat.bind_ans (openS_P f body r.len _ 0 hb hu _) ?_
      refine (ih _ _ s (openDefs_holeFree _ _ _ _ hd.2 hu) (openT_holeFree _ _ _ _ hb hu)).post ?_
      rintro b _ ⟨e, ⟨hbf, hsc⟩, ex⟩
      refine ⟨e, ⟨hbf, fun n hds hbody => ?_⟩, ex⟩
      simp only [Defs.len_cons, wellScopedDefs, Bool.and_eq_true] at hds hbody
      have husc : wellScoped (n + r.len) (unfoldDef x a d r.len) = true :=
        ws_unfoldDef x a d r.len (n + r.len) hds.1.1 hds.1.2 (by omega)
      refine hsc n ?_ ?_
      · rw [openDefs_len]
        exact wsDefs_openDefs r _ _ _ _ _ 0 hds.2 (Nat.le_refl _) (by omega) husc (by omega)
      · rw [openDefs_len]
        exact ws_openT body _ _ _ _ _ 0 hbody (Nat.le_refl _) (by omega) husc (by omega)

/-- the two context-lookup sites of `normalize_weak_head` -/
def IdxSite (site : String) : Prop :=
  site = "normalize_weak_head.definitions_context[index]" ∨
  site = "normalize_weak_head.index+1-offset"

/-- panic sites allowed: a lookup site, and only when no scoping is assumed (on hole-free terms scoping excludes the
indexing of the definitions context too, unlike `Live`) -/
def IdxLive (sc : Bool) (site : String) : Prop := IdxSite site ∧ sc = false

/-- what the two inductions below carry for every term: hole-free, and well scoped when scoping is
assumed (`sc = true`) -/
def HW (sc : Bool) (n : Nat) (t : Tm) : Prop :=
  t.holeFree = true ∧ (sc = true → wellScoped n t = true)

section
variable {sc : Bool} {n : Nat}
theorem HW_lam {x im d b} : HW sc n (.lam x im d b) ↔ HW sc n d ∧ HW sc (n + 1) b := by
  simp only [HW, Tm.holeFree, wellScoped, Bool.and_eq_true, imp_and]; exact and_and_and_comm
theorem HW_pi {x im d b} : HW sc n (.pi x im d b) ↔ HW sc n d ∧ HW sc (n + 1) b := by
  simp only [HW, Tm.holeFree, wellScoped, Bool.and_eq_true, imp_and]; exact and_and_and_comm
theorem HW_app {g a} : HW sc n (.app g a) ↔ HW sc n g ∧ HW sc n a := by
  simp only [HW, Tm.holeFree, wellScoped, Bool.and_eq_true, imp_and]; exact and_and_and_comm
theorem HW_bin {op a b} : HW sc n (.bin op a b) ↔ HW sc n a ∧ HW sc n b := by
  simp only [HW, Tm.holeFree, wellScoped, Bool.and_eq_true, imp_and]; exact and_and_and_comm
theorem HW_neg {a} : HW sc n (.neg a) ↔ HW sc n a := by simp only [HW, Tm.holeFree, wellScoped]
theorem HW_ite {c a b} : HW sc n (.ite c a b) ↔ HW sc n c ∧ HW sc n a ∧ HW sc n b := by
  simp only [HW, Tm.holeFree, wellScoped, Bool.and_eq_true, imp_and]
  exact ⟨fun ⟨⟨⟨c, a⟩, b⟩, ⟨c', a'⟩, b'⟩ => ⟨⟨c, c'⟩, ⟨a, a'⟩, b, b'⟩,
    fun ⟨⟨c, c'⟩, ⟨a, a'⟩, b, b'⟩ => ⟨⟨⟨c, a⟩, b⟩, ⟨c', a'⟩, b'⟩⟩
end

theorem whnfS_hf (sc : Bool) : ∀ (f : Nat) (t : Tm) (s : St), HW sc s.dctx.length t →
    DHF s.dctx → (sc = true → DSc s.dctx) →
    (whnfS f t s).Sat (fun r s' => s' = s ∧ HW sc s.dctx.length r ∧ whnfX f s.dctx t = some r) (IdxLive sc) := by
  intro f
  induction f with
  | zero => intro t s _ _ _; rw [whnfS]; trivial
  | succ f ih =>
    intro t s ht hD hS
    -- a tail call: what it returns is what `whnfX` returns, by the equation of `whnfX` for this arm
    have tail : ∀ {t' : Tm}, HW sc s.dctx.length t' → (∀ r, whnfX f s.dctx t' = some r → whnfX (f+1) s.dctx t = some r) →
        (whnfS f t' s).Sat (fun r s' => s' = s ∧ HW sc s.dctx.length r ∧ whnfX (f+1) s.dctx t = some r)
          (IdxLive sc) :=
      fun h e => (ih _ s h hD hS).post fun r _ q => ⟨q.1, q.2.1, e r q.2.2⟩
    cases t with
    | hole id sh => cases ht.1
    | type | int | bool | tt | ff | lit | lam | pi => unfold whnfS; exact R.Sat.pure ⟨rfl, ⟨ht, by simp only [whnfX]⟩⟩
    | var x i =>
      unfold whnfS
      dsimp only
      rw [getSt_bind]
      rcases heq : s.dctx[i]? with _ | _ | ⟨d, off⟩ <;> dsimp only
      · refine R.Sat.panicAt ⟨Or.inl rfl, ?_⟩
        cases sc with
        | false => rfl
        | true =>
          have := ht.2 rfl
          simp only [wellScoped, decide_eq_true_eq] at this
          rw [List.getElem?_eq_none_iff] at heq
          omega
      · exact R.Sat.pure ⟨rfl, ⟨ht, whnfX_var_some.2 (.inl ⟨heq, rfl⟩)⟩⟩
      · have hd : d.holeFree = true := hD.get heq
        split
        · refine R.Sat.panicAt ⟨Or.inr rfl, ?_⟩
          cases sc with
          | false => rfl
          | true =>
            have := (hS rfl i d off heq).1
            omega
        · next hlt =>
          refine R.Sat.bind_ans (ushiftS_P f 0 (i + 1 - off) d hd _) ?_
          refine tail ⟨by rw [holeFree_ushift]; exact hd, fun h => ?_⟩
            fun r e => whnfX_var_some.2 (.inr ⟨_, _, heq, hlt, e⟩)
          obtain ⟨h1, h2⟩ := hS h i d off heq
          have hlen : i < s.dctx.length := by
            simpa only [wellScoped, decide_eq_true_eq] using ht.2 h
          exact ws_ushift d _ _ 0 _ h2 (by omega)
    | app g0 a =>
      obtain ⟨hg, ha⟩ := HW_app.1 ht
      unfold whnfS
      dsimp only
      refine R.Sat.bind_ro (ih g0 s hg hD hS) ?_
      rintro g' ⟨hg', ex⟩
      split
      · next x im d body =>
        have hb := (HW_lam.1 hg').2
        refine R.Sat.bind_ans (openS_P f body 0 a 0 hb.1 ha.1 _) ?_
        exact tail ⟨openT_holeFree _ _ _ _ hb.1 ha.1, fun h => ws_openT body _ _ 0 a _ 0 (hb.2 h)
          (Nat.le_refl _) (by omega) (ha.2 h) (by omega)⟩ fun r e => whnfX_app_some.2 ⟨_, ex, .inl ⟨_, _, _, _, rfl, e⟩⟩
      · next hnl =>
        exact R.Sat.pure ⟨rfl, ⟨HW_app.2 ⟨hg', ha⟩, whnfX_app_some.2 ⟨_, ex, .inr ⟨hnl, rfl⟩⟩⟩⟩
    | letg ds body =>
      simp only [HW, Tm.holeFree, wellScoped, Bool.and_eq_true, imp_and] at ht
      unfold whnfS
      dsimp only
      refine R.Sat.bind_ro (letLoopS_hf f ds body s ht.1.1 ht.1.2).nev ?_
      rintro b ⟨⟨hb, hbsc⟩, ex⟩
      exact tail ⟨hb, fun h => hbsc _ (ht.2.1 h) (ht.2.2 h)⟩ fun r e => whnfX_letg_some.2 ⟨_, ex, e⟩
    | neg a =>
      unfold whnfS
      dsimp only
      refine R.Sat.bind_ro (ih a s (HW_neg.1 ht) hD hS) ?_
      rintro a' ⟨ha', ex⟩
      split
      · exact R.Sat.pure ⟨rfl, ⟨⟨rfl, fun _ => rfl⟩, whnfX_neg_some.2 ⟨_, ex, .inl ⟨_, rfl, rfl⟩⟩⟩⟩
      · next hn => exact R.Sat.pure ⟨rfl, ⟨HW_neg.2 ha', whnfX_neg_some.2 ⟨_, ex, .inr ⟨hn, rfl⟩⟩⟩⟩
    | bin op a b =>
      obtain ⟨ha, hb⟩ := HW_bin.1 ht
      unfold whnfS
      dsimp only
      refine R.Sat.bind_ro (ih a s ha hD hS) ?_
      rintro a' ⟨ha', ex1⟩
      refine R.Sat.bind_ro (ih b s hb hD hS) ?_
      rintro b' ⟨hb', ex2⟩
      split
      · next x y =>
        cases hdl : delta op x y with
        | some rr => exact R.Sat.pure ⟨rfl, ⟨⟨delta_holeFree hdl, fun _ => delta_scoped hdl _⟩,
          whnfX_bin_some.2 ⟨_, _, ex1, ex2, .inl ⟨_, _, rfl, rfl, hdl⟩⟩⟩⟩
        | none => exact R.Sat.pure ⟨rfl, ⟨HW_bin.2 ⟨ha', hb'⟩, by simp only [whnfX, ex1, ex2, hdl]⟩⟩
      · next hn =>
        exact R.Sat.pure ⟨rfl, ⟨HW_bin.2 ⟨ha', hb'⟩,
          whnfX_bin_some.2 ⟨_, _, ex1, ex2, .inr ⟨fun x y e1 e2 => (hn x y e1 e2).elim, rfl⟩⟩⟩⟩
    | ite c a b =>
      obtain ⟨hc, ha, hb⟩ := HW_ite.1 ht
      unfold whnfS
      dsimp only
      refine R.Sat.bind_ro (ih c s hc hD hS) ?_
      rintro c' ⟨hc', ex⟩
      split
      · exact tail ha fun r e => whnfX_ite_some.2 ⟨_, ex, .inl ⟨rfl, e⟩⟩
      · exact tail hb fun r e => whnfX_ite_some.2 ⟨_, ex, .inr (.inl ⟨rfl, e⟩)⟩
      · next hn1 hn2 =>
        exact R.Sat.pure ⟨rfl, ⟨HW_ite.2 ⟨hc', ha, hb⟩, whnfX_ite_some.2 ⟨_, ex, .inr (.inr ⟨hn1, hn2, rfl⟩)⟩⟩⟩

theorem whnfS_out (sc : Bool) (f : Nat) (t : Tm) (s : St) (ht : HW sc s.dctx.length t) (hD : DHF s.dctx)
    (hS : sc = true → DSc s.dctx) :
    (whnfS f t s).Sat (fun r s' => s' = s ∧ HW sc s.dctx.length r) (IdxLive sc) :=
  (whnfS_hf sc f t s ht hD hS).post fun _ _ h => ⟨h.1, h.2.1⟩

theorem _root_.WhnfLemmas.whnfS_sim (f : Nat) (t : Tm) (s : St) (r : Tm) (s' : St) (hf : t.holeFree = true)
    (hD : DHF s.dctx) (h : whnfS f t s = .ok r s') : s' = s ∧ r.holeFree = true ∧ whnfX f s.dctx t = some r :=
  let q := (whnfS_hf false f t s ⟨hf, nofun⟩ hD nofun).ok h
  ⟨q.1, q.2.1.1, q.2.2⟩

theorem _root_.WhnfLemmas.whnf_agree : ∀ (f : Nat) (t : Tm) (s : St) (r : Tm) (s' : St), t.holeFree = true →
    DHF s.dctx → whnfS f t s = .ok r s' →
    s' = s ∧ r.holeFree = true ∧ ∀ g r', whnfX g s.dctx t = some r' → r = r' := by
  intro f t s r s' hf hD h
  obtain ⟨e, hr, hx⟩ := whnfS_sim f t s r s' hf hD h
  refine ⟨e, hr, fun g r' hx' => ?_⟩
  have h1 := FuelLemmas.whnfX_mono_le (Nat.le_max_left f g) hx
  rw [FuelLemmas.whnfX_mono_le (Nat.le_max_right f g) hx'] at h1
  exact (Option.some.inj h1).symm

theorem unifyHead_holeFree (f : Nat) (w1 w2 : Tm) (h1 : w1.holeFree = true)
    (h2 : w2.holeFree = true) : unifyHead f w1 w2 = structM f w1 w2 := by
  have hr : rightM f w1 w2 = structM f w1 w2 := by
    cases w2 <;> first | rfl | cases h2
  rw [unifyHead_eq, ← hr]
  cases w1 <;> first | rfl | cases h1

/-- `if ← m1 then m2 else pure false` against the way `convHead` sequences two answers (`match c1 with | some true => c2 | r => r`) -/
theorem out3_seq {s : St} {P : String → Prop} {m1 m2 : M Bool} {c1 c2 : Option Bool}
    (h1 : (m1 s).Sat (fun r s' => s' = s ∧ c1 = some r) P)
    (h2 : (m2 s).Sat (fun r s' => s' = s ∧ c2 = some r) P) :
    ((do if ← m1 then m2 else pure false) s).Sat
      (fun r s' => s' = s ∧ (match c1 with | some true => c2 | r => r) = some r) P := by
  refine R.Sat.bind_ro h1 (fun r1 hr1 => ?_)
  subst hr1
  cases r1
  · exact R.Sat.pure ⟨rfl, rfl⟩
  · exact h2

theorem head_sim (sc : Bool) (f : Nat)
    (ih : ∀ (a b : Tm) (s : St), HW sc s.dctx.length a → HW sc s.dctx.length b → DHF s.dctx →
      (sc = true → DSc s.dctx) →
      (unifyS f a b s).Sat (fun r s' => s' = s ∧ convX f s.dctx a b = some r) (IdxLive sc))
    (w1 w2 : Tm) (s : St) (h1 : HW sc s.dctx.length w1) (h2 : HW sc s.dctx.length w2)
    (n1 : NotLet w1) (n2 : NotLet w2) (hD : DHF s.dctx) (hS : sc = true → DSc s.dctx) :
    (unifyHead f w1 w2 s).Sat (fun r s' => s' = s ∧ convHead f s.dctx w1 w2 = some r) (IdxLive sc) := by
  have under : ∀ b1 b2, HW sc (s.dctx.length + 1) b1 → HW sc (s.dctx.length + 1) b2 →
      ((do pushD none; let r ← unifyS f b1 b2; popD; pure r) s).Sat
        (fun r s' => s' = s ∧ convX f (none :: s.dctx) b1 b2 = some r) (IdxLive sc) :=
    fun b1 b2 w1 w2 => .under ((ih b1 b2 { s with dctx := none :: s.dctx } w1 w2 (DHF.push hD)
      (fun h => (hS h).push)).post fun _ _ q => ⟨q.1 ▸ rfl, q.2⟩)
  rw [unifyHead_holeFree f w1 w2 h1.1 h2.1]
  fun_cases structM f w1 w2
  all_goals try simp only [HW_lam, HW_pi, HW_app, HW_neg, HW_bin, HW_ite] at h1 h2
  iterate 6 exact R.Sat.pure ⟨rfl, rfl⟩  -- constants and variables
  · next hi => simp only [convHead, hi, if_true]; exact under _ _ h1.2 h2.2  -- λ against λ
  · next hi => exact R.Sat.pure ⟨rfl, (by simp only [convHead, hi, Bool.false_eq_true, if_false])⟩
  · next hi =>  -- Π against Π
    simp only [convHead, hi, if_true]
    exact out3_seq (ih _ _ s h1.1 h2.1 hD hS) (under _ _ h1.2 h2.2)
  · next hi => exact R.Sat.pure ⟨rfl, (by simp only [convHead, hi, Bool.false_eq_true, if_false])⟩
  · -- application
    simp only [convHead]; exact out3_seq (ih _ _ s h1.1 h2.1 hD hS) (ih _ _ s h1.2 h2.2 hD hS)
  · exact R.Sat.pure ⟨rfl, rfl⟩  -- literals
  · exact ih _ _ s h1 h2 hD hS  -- negation
  · next ho =>  -- binary operator
    simp only [convHead, ho, if_true]
    exact out3_seq (ih _ _ s h1.1 h2.1 hD hS) (ih _ _ s h1.2 h2.2 hD hS)
  · next ho => exact R.Sat.pure ⟨rfl, (by simp only [convHead, ho, Bool.false_eq_true, if_false])⟩
  · -- conditional
    simp only [convHead]
    exact out3_seq (ih _ _ s h1.1 h2.1 hD hS)
      (out3_seq (ih _ _ s h1.2.1 h2.2.1 hD hS) (ih _ _ s h1.2.2 h2.2.2 hD hS))
  · exact (n1 _ _ rfl).elim  -- a `let` on either side: excluded
  · exact (n2 _ _ rfl).elim
  · -- the heads differ: `convHead` answers `false` as well
    refine R.Sat.pure ⟨rfl, ?_⟩
    show convHead f s.dctx w1 w2 = some false
    fun_cases convHead f s.dctx w1 w2
    all_goals first
      | cases h1.1; done  -- a hole on the left: excluded, the terms are hole-free
      | cases h2.1; done  -- a hole on the right
      | rfl  -- the last arm of `convHead`
      | (exfalso; solve_by_elim only [*, rfl])  -- equal heads: one of the arms of `structM` above would have fired

theorem unifyS_sim (sc : Bool) : ∀ (f : Nat) (a b : Tm) (s : St), HW sc s.dctx.length a →
    HW sc s.dctx.length b → DHF s.dctx → (sc = true → DSc s.dctx) →
    (unifyS f a b s).Sat (fun r s' => s' = s ∧ convX f s.dctx a b = some r) (IdxLive sc) := by
  intro f
  induction f with
  | zero => intro a b s _ _ _ _; rw [unifyS]; trivial
  | succ f ih =>
    intro a b s ha hb hD hS
    have whnf : ∀ t, HW sc s.dctx.length t → (whnfS f t s).Sat (fun r s' => s' = s ∧ (HW sc s.dctx.length r ∧
        whnfX f s.dctx t = some r) ∧ NotLet r) (IdxLive sc) := fun t ht =>
      ((whnfS_hf sc f t s ht hD hS).andOk fun _ _ hx => whnfS_notLet' hx).post fun _ _ q => ⟨q.1.1, q.1.2, q.2⟩
    rw [unifyS_succ, convX_succ]
    refine R.Sat.bind_ans ((OracleLemmas.synEqS_ans s f).1 a b ha.1 hb.1) ?_
    cases hs : sameX a b
    · simp only [Bool.false_eq_true, if_false]
      refine R.Sat.bind_ro (whnf a ha) ?_
      rintro w1 ⟨⟨hw1, e1⟩, n1⟩
      refine R.Sat.bind_ro (whnf b hb) ?_
      rintro w2 ⟨⟨hw2, e2⟩, n2⟩
      rw [e1, e2]
      exact head_sim sc f ih w1 w2 s hw1 hw2 n1 n2 hD hS
    · exact R.Sat.pure ⟨rfl, rfl⟩

theorem unify_agree (f : Nat) (a b : Tm) (s : St) (ha : a.holeFree = true) (hb : b.holeFree = true)
    (hD : DHF s.dctx) :
    (∀ site, unifyS f a b s = .panic site → IdxSite site) ∧
    ∀ (r : Bool) (s' : St), unifyS f a b s = .ok r s' →
      s' = s ∧ ∀ (g : Nat) (r' : Bool), convX g s.dctx a b = some r' → r = r' := by
  have h := unifyS_sim false f a b s ⟨ha, nofun⟩ ⟨hb, nofun⟩ hD nofun
  refine ⟨fun site e => (h.panic e).1, fun r s' e => ⟨(h.ok e).1, fun g r' hx' => ?_⟩⟩
  have h1 := FuelLemmas.convX_mono_le (Nat.le_max_left f g) (h.ok e).2
  rw [FuelLemmas.convX_mono_le (Nat.le_max_right f g) hx'] at h1
  exact (Option.some.inj h1).symm

theorem unify_no_panic (f : Nat) (a b : Tm) (s : St) (ha : a.holeFree = true)
    (hb : b.holeFree = true) (hD : DHF s.dctx) (hsa : wellScoped s.dctx.length a = true)
    (hsb : wellScoped s.dctx.length b = true) (hS : DSc s.dctx) :
    ∀ site, unifyS f a b s ≠ .panic site :=
  fun _ e => nomatch
    ((unifyS_sim true f a b s ⟨ha, fun _ => hsa⟩ ⟨hb, fun _ => hsb⟩ hD fun _ => hS).panic e).2

theorem whnf_no_panic (f : Nat) (t : Tm) (s : St) (ht : t.holeFree = true) (hD : DHF s.dctx)
    (hst : wellScoped s.dctx.length t = true) (hS : DSc s.dctx) :
    (∀ site, whnfS f t s ≠ .panic site) ∧
    ∀ r s', whnfS f t s = .ok r s' → wellScoped s.dctx.length r = true := by
  have h := whnfS_out true f t s ⟨ht, fun _ => hst⟩ hD fun _ => hS
  exact ⟨fun site e => (nomatch (h.panic e).2), fun r s' e => (h.ok e).2.2 rfl⟩

end UnifyAgree
