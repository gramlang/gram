/-!
# Syntax of gram terms (model of `src/term.rs`)

`Tm` mirrors `term::Variant`.  The nine binary operators of the Rust enum are one constructor
`bin op a b`; names are opaque identifiers (`Nat`, interned by the harness) because no semantic
function of the code ever compares them (property C19: `C19_names_irrelevant_*`).  A unification hole
`Unifier(cell, shift)` is `hole id shift`, where `id` identifies the `Rc<RefCell<..>>` cell; the
contents of cells live in an explicit store (see `Store.lean`).  Source ranges are not part of the
semantic term; they are modelled separately where a property speaks about them.

Conventions.  `var x i`: the index `i` is what counts, the name is for printing.  `imp` is the implicit
flag of a binder (`{x : A}`).  In `letg ds b` the annotations, the definitions and the body all live under
`ds.len` binders, and the i-th definition (source order, from 0) is variable `ds.len − 1 − i`.
`hole id shift`: the contents of the cell live `shift` binders above the occurrence and are read as
`ushift 0 shift contents`.
-/

inductive BinOp
  | sum | diff | prod | quot | lt | le | eq | gt | ge
deriving DecidableEq, Repr, Inhabited

abbrev Name := Nat

mutual
inductive Tm : Type
  | hole (id : Nat) (shift : Nat)
  | type | int | bool | tt | ff
  | lit (n : Int)
  | var (name : Name) (i : Nat)
  | lam (name : Name) (imp : Bool) (dom body : Tm)
  | pi (name : Name) (imp : Bool) (dom cod : Tm)
  | app (f a : Tm)
  | letg (defs : Defs) (body : Tm)
  | neg (a : Tm)
  | bin (op : BinOp) (a b : Tm)
  | ite (c t e : Tm)
inductive Defs : Type
  | nil
  | cons (name : Name) (ann defn : Tm) (rest : Defs)
end

instance : Inhabited Tm := ⟨.type⟩
instance : Inhabited Defs := ⟨.nil⟩

mutual
def Tm.beq : Tm → Tm → Bool
  | .hole i s, .hole j r => i == j && s == r
  | .type, .type | .int, .int | .bool, .bool | .tt, .tt | .ff, .ff => true
  | .lit n, .lit m => n == m
  | .var x i, .var y j => x == y && i == j
  | .lam x im d b, .lam y jm e c => x == y && im == jm && Tm.beq d e && Tm.beq b c
  | .pi x im d b, .pi y jm e c => x == y && im == jm && Tm.beq d e && Tm.beq b c
  | .app f a, .app g b => Tm.beq f g && Tm.beq a b
  | .letg ds b, .letg es c => Defs.beq ds es && Tm.beq b c
  | .neg a, .neg b => Tm.beq a b
  | .bin o a b, .bin p c d => o == p && Tm.beq a c && Tm.beq b d
  | .ite a b c, .ite d e f => Tm.beq a d && Tm.beq b e && Tm.beq c f
  | _, _ => false
def Defs.beq : Defs → Defs → Bool
  | .nil, .nil => true
  | .cons x a d r, .cons y b e s => x == y && Tm.beq a b && Tm.beq d e && Defs.beq r s
  | _, _ => false
end

instance : BEq Tm := ⟨Tm.beq⟩
instance : BEq Defs := ⟨Defs.beq⟩

mutual
def Tm.size : Tm → Nat
  | .lam _ _ d b => d.size + b.size + 1
  | .pi _ _ d b => d.size + b.size + 1
  | .app f a => f.size + a.size + 1
  | .letg ds b => ds.size + b.size + 1
  | .neg a => a.size + 1
  | .bin _ a b => a.size + b.size + 1
  | .ite c t e => c.size + t.size + e.size + 1
  | _ => 1
def Defs.size : Defs → Nat
  | .nil => 0
  | .cons _ a d r => a.size + d.size + r.size + 1
end

theorem Tm.size_pos (t : Tm) : 1 ≤ t.size := by
  cases t <;> simp only [Tm.size] <;> omega

def Defs.len : Defs → Nat
  | .nil => 0
  | .cons _ _ _ r => r.len + 1

def Defs.toList : Defs → List (Name × Tm × Tm)
  | .nil => []
  | .cons x a d r => (x, a, d) :: r.toList

def Defs.ofList : List (Name × Tm × Tm) → Defs
  | [] => .nil
  | (x, a, d) :: r => .cons x a d (Defs.ofList r)

def Defs.append : Defs → Defs → Defs
  | .nil, e => e
  | .cons x a d r, e => .cons x a d (r.append e)

@[simp] theorem Defs.len_nil : Defs.nil.len = 0 := rfl
@[simp] theorem Defs.len_cons (x a d r) : (Defs.cons x a d r).len = r.len + 1 := rfl

-- `holeFree`: no hole occurs in the term.
mutual
def Tm.holeFree : Tm → Bool
  | .hole _ _ => false
  | .lam _ _ d b => d.holeFree && b.holeFree
  | .pi _ _ d b => d.holeFree && b.holeFree
  | .app f a => f.holeFree && a.holeFree
  | .letg ds b => ds.holeFree && b.holeFree
  | .neg a => a.holeFree
  | .bin _ a b => a.holeFree && b.holeFree
  | .ite c t e => c.holeFree && t.holeFree && e.holeFree
  | _ => true
def Defs.holeFree : Defs → Bool
  | .nil => true
  | .cons _ a d r => a.holeFree && d.holeFree && r.holeFree
end

-- `Tm.beq` of two constructor applications reduces by itself, so `cases h` decides the fourteen mismatches;
-- `simp [Tm.beq]` would ask for the 225 equation lemmas of its two-argument match.
mutual
theorem Tm.eq_of_beq : ∀ (a b : Tm), Tm.beq a b = true → a = b
  | .hole i s, t, h => by
      cases t <;> try cases h
      obtain ⟨hi, hs⟩ := Bool.and_eq_true_iff.mp h
      rw [eq_of_beq hi, eq_of_beq hs]
  | .type, t, h | .int, t, h | .bool, t, h | .tt, t, h | .ff, t, h => by
      cases t <;> first | rfl | cases h
  | .lit n, t, h => by
      cases t <;> try cases h
      rw [eq_of_beq h]
  | .var x i, t, h => by
      cases t <;> try cases h
      obtain ⟨hx, hi⟩ := Bool.and_eq_true_iff.mp h
      rw [eq_of_beq hx, eq_of_beq hi]
  | .lam x im d b, t, h => by
      cases t <;> try cases h
      obtain ⟨h, hb⟩ := Bool.and_eq_true_iff.mp h
      obtain ⟨h, hd⟩ := Bool.and_eq_true_iff.mp h
      obtain ⟨hx, hi⟩ := Bool.and_eq_true_iff.mp h
      rw [eq_of_beq hx, eq_of_beq hi, Tm.eq_of_beq d _ hd, Tm.eq_of_beq b _ hb]
  | .pi x im d b, t, h => by
      cases t <;> try cases h
      obtain ⟨h, hb⟩ := Bool.and_eq_true_iff.mp h
      obtain ⟨h, hd⟩ := Bool.and_eq_true_iff.mp h
      obtain ⟨hx, hi⟩ := Bool.and_eq_true_iff.mp h
      rw [eq_of_beq hx, eq_of_beq hi, Tm.eq_of_beq d _ hd, Tm.eq_of_beq b _ hb]
  | .app f a, t, h => by
      cases t <;> try cases h
      obtain ⟨hf, ha⟩ := Bool.and_eq_true_iff.mp h
      rw [Tm.eq_of_beq f _ hf, Tm.eq_of_beq a _ ha]
  | .letg ds b, t, h => by
      cases t <;> try cases h
      obtain ⟨hds, hb⟩ := Bool.and_eq_true_iff.mp h
      rw [Defs.eq_of_beq ds _ hds, Tm.eq_of_beq b _ hb]
  | .neg a, t, h => by
      cases t <;> try cases h
      rw [Tm.eq_of_beq a _ h]
  | .bin o a b, t, h => by
      cases t <;> try cases h
      obtain ⟨h, hb⟩ := Bool.and_eq_true_iff.mp h
      obtain ⟨ho, ha⟩ := Bool.and_eq_true_iff.mp h
      rw [eq_of_beq ho, Tm.eq_of_beq a _ ha, Tm.eq_of_beq b _ hb]
  | .ite a b c, t, h => by
      cases t <;> try cases h
      obtain ⟨h, hc⟩ := Bool.and_eq_true_iff.mp h
      obtain ⟨ha, hb⟩ := Bool.and_eq_true_iff.mp h
      rw [Tm.eq_of_beq a _ ha, Tm.eq_of_beq b _ hb, Tm.eq_of_beq c _ hc]
theorem Defs.eq_of_beq : ∀ (a b : Defs), Defs.beq a b = true → a = b
  | .nil, t, h => by cases t <;> first | rfl | cases h
  | .cons x a d r, t, h => by
      cases t <;> try cases h
      obtain ⟨h, hr⟩ := Bool.and_eq_true_iff.mp h
      obtain ⟨h, hd⟩ := Bool.and_eq_true_iff.mp h
      obtain ⟨hx, ha⟩ := Bool.and_eq_true_iff.mp h
      rw [eq_of_beq hx, Tm.eq_of_beq a _ ha, Tm.eq_of_beq d _ hd, Defs.eq_of_beq r _ hr]
end

private theorem band_intro {a b : Bool} (ha : a = true) (hb : b = true) : (a && b) = true := by
  rw [ha, hb]; rfl

mutual
theorem Tm.beq_refl : ∀ (a : Tm), Tm.beq a a = true
  | .type | .int | .bool | .tt | .ff => rfl
  | .lit n => beq_self_eq_true n
  | .hole i s => band_intro (beq_self_eq_true i) (beq_self_eq_true s)
  | .var x i => band_intro (beq_self_eq_true x) (beq_self_eq_true i)
  | .lam x im d b | .pi x im d b =>
      band_intro (band_intro (band_intro (beq_self_eq_true x) (beq_self_eq_true im)) (Tm.beq_refl d))
        (Tm.beq_refl b)
  | .app f a => band_intro (Tm.beq_refl f) (Tm.beq_refl a)
  | .letg ds b => band_intro (Defs.beq_refl ds) (Tm.beq_refl b)
  | .neg a => Tm.beq_refl a
  | .bin o a b => band_intro (band_intro (beq_self_eq_true o) (Tm.beq_refl a)) (Tm.beq_refl b)
  | .ite a b c => band_intro (band_intro (Tm.beq_refl a) (Tm.beq_refl b)) (Tm.beq_refl c)
theorem Defs.beq_refl : ∀ (a : Defs), Defs.beq a a = true
  | .nil => rfl
  | .cons x a d r =>
      band_intro (band_intro (band_intro (beq_self_eq_true x) (Tm.beq_refl a)) (Tm.beq_refl d))
        (Defs.beq_refl r)
end

instance : DecidableEq Tm := fun a b =>
  if h : Tm.beq a b = true then isTrue (Tm.eq_of_beq a b h)
  else isFalse (fun e => h (e ▸ Tm.beq_refl a))

instance : DecidableEq Defs := fun a b =>
  if h : Defs.beq a b = true then isTrue (Defs.eq_of_beq a b h)
  else isFalse (fun e => h (e ▸ Defs.beq_refl a))
