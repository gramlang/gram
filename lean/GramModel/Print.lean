import GramModel.DeBruijn
import GramModel.Store
import GramModel.Generated.Terms

/-!
# The printer (model of `impl Display for Variant`, `annotation`, `group` in `src/term.rs`)

Two layers, as everywhere in this model.

* The **pure** layer (`printTm`, `groupP`, `annotP`, `headP`) is structurally recursive on the term and
  treats a hole the way the Rust treats an *unresolved* unifier (it prints `_`, and `group` leaves
  it bare).  The theorems of C16 are about this layer.
* The **store** layer (`printS`, `groupS`, `annotS`, `headS`, `freeAtS`) follows resolved cells the
  way the Rust does: `Display`, `group` and `annotation` look *through* a resolved unifier (without
  applying its shift — only names are printed), while the dependent/non-dependent test of `Pi`
  goes through `free_variables`, which does shift the contents of a resolved cell.  It takes fuel
  (decremented at every call); the driver runs this layer.  On hole-free terms both layers agree
  (`Lemmas/PrintStore.lean`).

Text is `List Char`; names are looked up in `nm : Name → List Char` (the harness ships the code
points of every name).  The text fragments are assembled by the `…Text` functions below, shared by
the two layers.
-/

/-! ## The bare / parenthesised partition of `group` -/

/-- the variants of `term::Variant`, in declaration order -/
inductive Former
  | unifier | type | variable | lambda | pi | application | letG | integer | integerLiteral
  | negation | sum | difference | product | quotient | lessThan | lessThanOrEqualTo | equalTo
  | greaterThan | greaterThanOrEqualTo | boolean | true_ | false_ | if_
deriving DecidableEq, Repr, Inhabited

def Former.all : List Former :=
  [.unifier, .type, .variable, .lambda, .pi, .application, .letG, .integer, .integerLiteral,
   .negation, .sum, .difference, .product, .quotient, .lessThan, .lessThanOrEqualTo, .equalTo,
   .greaterThan, .greaterThanOrEqualTo, .boolean, .true_, .false_, .if_]

/-- the Rust name of the variant (what `extract.py` reads off `term.rs`) -/
def Former.name : Former → String
  | .unifier => "Unifier" | .type => "Type" | .variable => "Variable" | .lambda => "Lambda"
  | .pi => "Pi" | .application => "Application" | .letG => "Let" | .integer => "Integer"
  | .integerLiteral => "IntegerLiteral" | .negation => "Negation" | .sum => "Sum"
  | .difference => "Difference" | .product => "Product" | .quotient => "Quotient"
  | .lessThan => "LessThan" | .lessThanOrEqualTo => "LessThanOrEqualTo" | .equalTo => "EqualTo"
  | .greaterThan => "GreaterThan" | .greaterThanOrEqualTo => "GreaterThanOrEqualTo"
  | .boolean => "Boolean" | .true_ => "True" | .false_ => "False" | .if_ => "If"

def Former.ofOp : BinOp → Former
  | .sum => .sum | .diff => .difference | .prod => .product | .quot => .quotient
  | .lt => .lessThan | .le => .lessThanOrEqualTo | .eq => .equalTo | .gt => .greaterThan
  | .ge => .greaterThanOrEqualTo

def Tm.former : Tm → Former
  | .hole _ _ => .unifier
  | .type => .type | .int => .integer | .bool => .boolean | .tt => .true_ | .ff => .false_
  | .lit _ => .integerLiteral
  | .var _ _ => .variable
  | .lam _ _ _ _ => .lambda
  | .pi _ _ _ _ => .pi
  | .app _ _ => .application
  | .letg _ _ => .letG
  | .neg _ => .negation
  | .bin op _ _ => Former.ofOp op
  | .ite _ _ _ => .if_

/-- Hand-written copy of the partition made by `group`: `true` = printed as is, `false` = printed
inside parentheses.  A unifier is *followed* by `group`; an unresolved one prints `_` as is.
`C16_atomic_table` checks this against the table regenerated from `term.rs`. -/
def Former.bare : Former → Bool
  | .unifier => true
  | .type | .variable | .integer | .integerLiteral | .boolean | .true_ | .false_ => true
  | .lambda | .pi | .application | .letG | .negation | .sum | .difference | .product | .quotient
  | .lessThan | .lessThanOrEqualTo | .equalTo | .greaterThan | .greaterThanOrEqualTo | .if_ => false

/-- `group` prints the term without parentheses -/
def atomic (t : Tm) : Bool := t.former.bare

/-! ## Text fragments -/

def kwType : List Char := "type".toList
def kwInt : List Char := "int".toList
def kwBool : List Char := "bool".toList
def kwTrue : List Char := "true".toList
def kwFalse : List Char := "false".toList
def holeText : List Char := ['_']

/-- `BigInt`'s `Display`: decimal, `-` for negative numbers -/
def intChars : Int → List Char
  | .ofNat n => Nat.toDigits 10 n
  | .negSucc n => '-' :: Nat.toDigits 10 (n + 1)

def opChars : BinOp → List Char
  | .sum => ['+'] | .diff => ['-'] | .prod => ['*'] | .quot => ['/']
  | .lt => ['<'] | .le => ['<', '='] | .eq => ['=', '='] | .gt => ['>'] | .ge => ['>', '=']

def parenC (s : List Char) : List Char := '(' :: s ++ [')']

/-- `group`, given the text of the term -/
def wrapGroup (t : Tm) (s : List Char) : List Char := if atomic t then s else parenC s

/-- the head of an application / the domain of a non-dependent explicit `->`:
an application is printed as is, anything else through `group` -/
def wrapHead (t : Tm) (s : List Char) : List Char :=
  match t with
  | .app _ _ => s
  | _ => wrapGroup t s

/-- `annotation`: a `let` is parenthesised, anything else printed as is -/
def wrapAnnot (t : Tm) (s : List Char) : List Char :=
  match t with
  | .letg _ _ => parenC s
  | _ => s

/-- `(x : A) => b` / `{x : A} => b` -/
def lamText (imp : Bool) (x ann body : List Char) : List Char :=
  if imp then '{' :: x ++ " : ".toList ++ ann ++ "} => ".toList ++ body
  else '(' :: x ++ " : ".toList ++ ann ++ ") => ".toList ++ body

/-- `(x : A) -> B` / `{x : A} -> B` -/
def piDepText (imp : Bool) (x ann cod : List Char) : List Char :=
  if imp then '{' :: x ++ " : ".toList ++ ann ++ "} -> ".toList ++ cod
  else '(' :: x ++ " : ".toList ++ ann ++ ") -> ".toList ++ cod

/-- `{A} -> B` -/
def piImpText (dom cod : List Char) : List Char := '{' :: dom ++ "} -> ".toList ++ cod

/-- `A -> B` -/
def arrowText (dom cod : List Char) : List Char := dom ++ " -> ".toList ++ cod

def appText (f a : List Char) : List Char := f ++ ' ' :: a
def negText (a : List Char) : List Char := '-' :: a
def binText (op : BinOp) (a b : List Char) : List Char := a ++ ' ' :: opChars op ++ ' ' :: b
def iteText (c a b : List Char) : List Char :=
  "if ".toList ++ c ++ " then ".toList ++ a ++ " else ".toList ++ b
/-- `x : A = d; ` -/
def defText (x ann d : List Char) : List Char :=
  x ++ " : ".toList ++ ann ++ " = ".toList ++ d ++ "; ".toList

/-! ## The pure layer -/

mutual
def printTm (nm : Name → List Char) : Tm → List Char
  | .hole _ _ => holeText
  | .type => kwType
  | .int => kwInt
  | .bool => kwBool
  | .tt => kwTrue
  | .ff => kwFalse
  | .lit n => intChars n
  | .var x _ => nm x
  | .lam x imp d b => lamText imp (nm x) (wrapAnnot d (printTm nm d)) (printTm nm b)
  | .pi x imp d c =>
      if freeAt c 0 then piDepText imp (nm x) (wrapAnnot d (printTm nm d)) (printTm nm c)
      else if imp then piImpText (printTm nm d) (printTm nm c)
      else arrowText (wrapHead d (printTm nm d)) (printTm nm c)
  | .app f a => appText (wrapHead f (printTm nm f)) (wrapGroup a (printTm nm a))
  | .letg ds b => printDefs nm ds ++ printTm nm b
  | .neg a => negText (wrapGroup a (printTm nm a))
  | .bin op a b => binText op (wrapGroup a (printTm nm a)) (wrapGroup b (printTm nm b))
  | .ite c a b => iteText (printTm nm c) (printTm nm a) (printTm nm b)
def printDefs (nm : Name → List Char) : Defs → List Char
  | .nil => []
  | .cons x a d r =>
      defText (nm x) (wrapGroup a (printTm nm a)) (wrapGroup d (printTm nm d)) ++ printDefs nm r
end

/-- `group(term)` -/
def groupP (nm : Name → List Char) (t : Tm) : List Char := wrapGroup t (printTm nm t)
/-- `annotation(term)` -/
def annotP (nm : Name → List Char) (t : Tm) : List Char := wrapAnnot t (printTm nm t)
/-- application head / explicit non-dependent domain -/
def headP (nm : Name → List Char) (t : Tm) : List Char := wrapHead t (printTm nm t)

/-! ## The store layer -/

def orO : Option Bool → Option Bool → Option Bool
  | some a, some b => some (a || b)
  | _, _ => none

/- `free_variables(t, i, ..).contains(0)`: a resolved cell is shifted by its shift
(`unsigned_shift(&subterm, 0, shift)`, which also substitutes every resolved cell inside) and
then traversed. -/
mutual
def freeAtS : Nat → List (Option Tm) → Tm → Nat → Option Bool
  | 0, _, _, _ => none
  | f+1, σ, t, i =>
    match t with
    | .hole id s =>
        match σ[id]? with
        | some (some sub) =>
            match sshiftS f 0 (s : Int) sub { store := σ } with
            | .ok (some sub') _ => freeAtS f σ sub' i
            | _ => none
        | _ => some false
    | .var _ j => some (j == i)
    | .lam _ _ d b => orO (freeAtS f σ d i) (freeAtS f σ b (i+1))
    | .pi _ _ d b => orO (freeAtS f σ d i) (freeAtS f σ b (i+1))
    | .app g a => orO (freeAtS f σ g i) (freeAtS f σ a i)
    | .letg ds b => orO (freeAtDefsS f σ ds (i + ds.len)) (freeAtS f σ b (i + ds.len))
    | .neg a => freeAtS f σ a i
    | .bin _ a b => orO (freeAtS f σ a i) (freeAtS f σ b i)
    | .ite a b d => orO (orO (freeAtS f σ a i) (freeAtS f σ b i)) (freeAtS f σ d i)
    | _ => some false
def freeAtDefsS : Nat → List (Option Tm) → Defs → Nat → Option Bool
  | 0, _, _, _ => none
  | f+1, σ, ds, i =>
    match ds with
    | .nil => some false
    | .cons _ a d r => orO (orO (freeAtS f σ a i) (freeAtS f σ d i)) (freeAtDefsS f σ r i)
end

def map2O (g : List Char → List Char → List Char) : Option (List Char) → Option (List Char) → Option (List Char)
  | some a, some b => some (g a b)
  | _, _ => none

def map3O (g : List Char → List Char → List Char → List Char) :
    Option (List Char) → Option (List Char) → Option (List Char) → Option (List Char)
  | some a, some b, some c => some (g a b c)
  | _, _, _ => none

mutual
/-- `impl Display for Variant` -/
def printS (nm : Name → List Char) (σ : List (Option Tm)) : Nat → Tm → Option (List Char)
  | 0, _ => none
  | f+1, t =>
    match t with
    | .hole id _ =>
        match σ[id]? with
        | some (some sub) => printS nm σ f sub
        | _ => some holeText
    | .type => some kwType
    | .int => some kwInt
    | .bool => some kwBool
    | .tt => some kwTrue
    | .ff => some kwFalse
    | .lit n => some (intChars n)
    | .var x _ => some (nm x)
    | .lam x imp d b => map2O (lamText imp (nm x)) (annotS nm σ f d) (printS nm σ f b)
    | .pi x imp d c =>
        match freeAtS f σ c 0 with
        | none => none
        | some true => map2O (piDepText imp (nm x)) (annotS nm σ f d) (printS nm σ f c)
        | some false =>
            if imp then map2O piImpText (printS nm σ f d) (printS nm σ f c)
            else map2O arrowText (headS nm σ f d) (printS nm σ f c)
    | .app g a => map2O appText (headS nm σ f g) (groupS nm σ f a)
    | .letg ds b => map2O (· ++ ·) (printDefsS nm σ f ds) (printS nm σ f b)
    | .neg a => (groupS nm σ f a).map negText
    | .bin op a b => map2O (binText op) (groupS nm σ f a) (groupS nm σ f b)
    | .ite c a b => map3O iteText (printS nm σ f c) (printS nm σ f a) (printS nm σ f b)
/-- `group` -/
def groupS (nm : Name → List Char) (σ : List (Option Tm)) : Nat → Tm → Option (List Char)
  | 0, _ => none
  | f+1, t =>
    match t with
    | .hole id _ =>
        match σ[id]? with
        | some (some sub) => groupS nm σ f sub
        | _ => printS nm σ f t
    | t => (printS nm σ f t).map (wrapGroup t)
/-- `annotation` -/
def annotS (nm : Name → List Char) (σ : List (Option Tm)) : Nat → Tm → Option (List Char)
  | 0, _ => none
  | f+1, t =>
    match t with
    | .hole id _ =>
        match σ[id]? with
        | some (some sub) => annotS nm σ f sub
        | _ => printS nm σ f t
    | t => (printS nm σ f t).map (wrapAnnot t)
/-- the `match applicand.variant` / `match domain.variant` of the `Application` and `Pi` arms: the
variant is inspected *without* following a cell -/
def headS (nm : Name → List Char) (σ : List (Option Tm)) : Nat → Tm → Option (List Char)
  | 0, _ => none
  | f+1, t =>
    match t with
    | .app _ _ => printS nm σ f t
    | t => groupS nm σ f t
def printDefsS (nm : Name → List Char) (σ : List (Option Tm)) : Nat → Defs → Option (List Char)
  | 0, _ => none
  | f+1, ds =>
    match ds with
    | .nil => some []
    | .cons x a d r =>
        map3O (fun a' d' r' => defText (nm x) a' d' ++ r')
          (groupS nm σ f a) (groupS nm σ f d) (printDefsS nm σ f r)
end

/-! ## Specification vocabulary for C16 -/

mutual
/-- forget every de Bruijn index (and the identity and shift of every hole); names, implicitness,
literals and the shape are kept -/
def eraseIdx : Tm → Tm
  | .hole _ _ => .hole 0 0
  | .var x _ => .var x 0
  | .lam x im d b => .lam x im (eraseIdx d) (eraseIdx b)
  | .pi x im d b => .pi x im (eraseIdx d) (eraseIdx b)
  | .app f a => .app (eraseIdx f) (eraseIdx a)
  | .letg ds b => .letg (eraseIdxDefs ds) (eraseIdx b)
  | .neg a => .neg (eraseIdx a)
  | .bin op a b => .bin op (eraseIdx a) (eraseIdx b)
  | .ite c a b => .ite (eraseIdx c) (eraseIdx a) (eraseIdx b)
  | .type => .type
  | .int => .int
  | .bool => .bool
  | .tt => .tt
  | .ff => .ff
  | .lit n => .lit n
def eraseIdxDefs : Defs → Defs
  | .nil => .nil
  | .cons x a d r => .cons x (eraseIdx a) (eraseIdx d) (eraseIdxDefs r)
end

mutual
/-- no function type occurs in the term -/
def noPi : Tm → Bool
  | .pi _ _ _ _ => false
  | .lam _ _ d b => noPi d && noPi b
  | .app f a => noPi f && noPi a
  | .letg ds b => noPiDefs ds && noPi b
  | .neg a => noPi a
  | .bin _ a b => noPi a && noPi b
  | .ite c a b => noPi c && noPi a && noPi b
  | _ => true
def noPiDefs : Defs → Bool
  | .nil => true
  | .cons _ a d r => noPi a && noPi d && noPiDefs r
end

mutual
/-- the dependent/non-dependent verdict of every function type of `t` is the same after erasing
the indices in `u` -- used to state what exactly the printer reads off the indices -/
def sameDeps : Tm → Tm → Bool
  | .pi _ _ d c, .pi _ _ d' c' => (freeAt c 0 == freeAt c' 0) && sameDeps d d' && sameDeps c c'
  | .lam _ _ d b, .lam _ _ d' b' => sameDeps d d' && sameDeps b b'
  | .app f a, .app f' a' => sameDeps f f' && sameDeps a a'
  | .letg ds b, .letg ds' b' => sameDepsDefs ds ds' && sameDeps b b'
  | .neg a, .neg a' => sameDeps a a'
  | .bin _ a b, .bin _ a' b' => sameDeps a a' && sameDeps b b'
  | .ite c a b, .ite c' a' b' => sameDeps c c' && sameDeps a a' && sameDeps b b'
  | _, _ => true
def sameDepsDefs : Defs → Defs → Bool
  | .cons _ a d r, .cons _ a' d' r' => sameDeps a a' && sameDeps d d' && sameDepsDefs r r'
  | _, _ => true
end
