import GramModel.Syntax
import GramModel.DeBruijn
import GramModel.Eval
import Std.Data.HashMap

/-!
# Parser (model of `src/parser.rs`)

An executable model of gram's packrat parser, function by function:

* §1  tokens (`token::Token`), source ranges, the private surface tree `parser::Term` (`Src`);
* §2  the memo table (`Cache`), the hit/miss hook of `cache_check!`, the parse monad;
* §3  the macros `consume_token_*!`, `expect_token_*!`, `try_return!`, `try_eval!`;
* §4  the 36 `parse_*` functions (non-recursive bodies, parameterised by the recursive call) and
      the fuel-indexed knot `parseNT`;
* §5  `collect_error_factories`;
* §6  the three re-association passes;
* §7  `resolve_variables` / `collect_definitions` (output `RTm`, a `term::Term` with ranges);
* §8  `check_definitions` / `check_definition`;
* §9  `parse` (`parseModel`).

An error is represented by the list of source ranges it passes to `error::listing` when its message
is rendered (one range, or two for "This parenthesis was never closed ... expected to be closed
before"); message texts are not modelled.  Where the Rust would `panic!` the model returns the
distinct outcome `Fail.panic`; running out of recursion fuel is the distinct outcome
`Fail.outOfFuel` (parse phase: `none` of `ParseM`).
-/

namespace PModel

/-! ## §1 Tokens, ranges, surface tree -/

/-- `error::SourceRange` (byte offsets, `end` exclusive). -/
structure SourceRange where
  start : Nat
  stop : Nat
deriving DecidableEq, Repr, Inhabited

/-- `span(x, y)`. -/
def span (x y : SourceRange) : SourceRange := ⟨x.start, y.stop⟩

/-- `token::TerminatorType`. -/
inductive TerminatorType
  | lineBreak | semicolon
deriving DecidableEq, Repr, Inhabited

/-- `token::Variant`; identifiers carry their interned name (`_` is name 0). -/
inductive PKind
  | asterisk | boolean | colon | doubleEquals | else_ | equals | false_ | greaterThan
  | greaterThanOrEqualTo | identifier (x : Name) | if_ | integer | integerLiteral (n : Nat)
  | leftCurly | leftParen | lessThan | lessThanOrEqualTo | minus | plus | rightCurly | rightParen
  | slash | terminator (t : TerminatorType) | then_ | thickArrow | thinArrow | true_ | type_
deriving DecidableEq, Repr, Inhabited

/-- Same numbering as `TokKind.tag` (`Token.lean`) and the harness. -/
def PKind.tag : PKind → Nat
  | .asterisk => 0 | .boolean => 1 | .colon => 2 | .doubleEquals => 3 | .else_ => 4 | .equals => 5
  | .false_ => 6 | .greaterThan => 7 | .greaterThanOrEqualTo => 8 | .identifier _ => 9 | .if_ => 10
  | .integer => 11 | .integerLiteral _ => 12 | .leftCurly => 13 | .leftParen => 14 | .lessThan => 15
  | .lessThanOrEqualTo => 16 | .minus => 17 | .plus => 18 | .rightCurly => 19 | .rightParen => 20
  | .slash => 21 | .terminator .lineBreak => 22 | .terminator .semicolon => 23 | .then_ => 24
  | .thickArrow => 25 | .thinArrow => 26 | .true_ => 27 | .type_ => 28

/-- `token::Token`. -/
structure PTok where
  kind : PKind
  range : SourceRange
deriving DecidableEq, Repr, Inhabited

/-- `PLACEHOLDER_VARIABLE` (`"_"`): the harness interns it as name 0. -/
def placeholder : Name := 0

/-- `token_source_range(tokens, position)`.  (The Rust indexes `tokens[position]` and would panic
for `position > tokens.len()`; no caller produces such a position, the model returns the
end-of-file range there too.) -/
def tokenRange (toks : Array PTok) (pos : Nat) : SourceRange :=
  if h : pos < toks.size then toks[pos].range
  else match toks.back? with
    | some t => ⟨t.range.stop, t.range.stop⟩
    | none => ⟨0, 0⟩

/-- `empty_source_range(tokens, position)`. -/
def emptyRange (toks : Array PTok) (pos : Nat) : SourceRange :=
  let r := tokenRange toks pos
  ⟨r.start, r.start⟩

/-- An `ErrorFactory`, reduced to the ranges it passes to `listing` (in order). -/
abbrev PErr := List SourceRange

/-- `error_factory(tokens, position, _)`: one listing, of `token_source_range`. -/
def errorFactory (toks : Array PTok) (pos : Nat) : PErr := [tokenRange toks pos]

/-- `SourceVariable`. -/
structure SrcVar where
  range : SourceRange
  name : Name
deriving DecidableEq, Repr, Inhabited

mutual
/-- The parser's private `Term` struct. -/
inductive Src : Type
  | mk (range : SourceRange) (group : Bool) (variant : SrcV) (errors : List PErr)
/-- The parser's private `Variant` enum (the nine binary operators are one constructor). -/
inductive SrcV : Type
  | parseError
  | type
  | var (x : Name)
  | lam (v : SrcVar) (imp : Bool) (dom : OptSrc) (body : Src)
  | pi (v : SrcVar) (imp : Bool) (dom : Src) (cod : Src)
  | app (f a : Src)
  | let_ (v : SrcVar) (ann : OptSrc) (defn : Src) (body : Src)
  | int
  | lit (n : Int)
  | neg (a : Src)
  | bin (op : BinOp) (a b : Src)
  | bool | tt | ff
  | ite (c t e : Src)
/-- `Option<Rc<Term>>`. -/
inductive OptSrc : Type
  | none
  | some (t : Src)
end

instance : Inhabited Src := ⟨.mk ⟨0, 0⟩ false .parseError []⟩

def Src.range : Src → SourceRange | .mk r _ _ _ => r
def Src.group : Src → Bool | .mk _ g _ _ => g
def Src.variant : Src → SrcV | .mk _ _ v _ => v
def Src.errors : Src → List PErr | .mk _ _ _ e => e

def SrcV.isParseError : SrcV → Bool
  | .parseError => true
  | _ => false

def Src.isParseError (t : Src) : Bool := t.variant.isParseError

def OptSrc.isSome : OptSrc → Bool
  | .none => false
  | .some _ => true

/-- `error_term(tokens, position, _)`. -/
def errorTerm (toks : Array PTok) (pos : Nat) : Src :=
  .mk (emptyRange toks pos) false .parseError [errorFactory toks pos]

/-- The error-less `ParseError` placeholder built by `parse_let` / `parse_if` when a branch is
skipped. -/
def skippedTerm (toks : Array PTok) (pos : Nat) : Src :=
  .mk (emptyRange toks pos) false .parseError []

/-! ## §2 Nonterminals, memo table, parse monad -/

/-- `enum Nonterminal`, in declaration order. -/
inductive NT
  | term | type | variable | lambda | lambdaImplicit | annotatedLambda | annotatedLambdaImplicit
  | pi | piImplicit | nonDependentPi | application | let_ | integer | integerLiteral | negation
  | sum | difference | product | quotient | lessThan | lessThanOrEqualTo | equalTo | greaterThan
  | greaterThanOrEqualTo | boolean | true_ | false_ | if_ | group | atom | smallTerm | mediumTerm
  | largeTerm | hugeTerm | giantTerm | jumboTerm
deriving DecidableEq, Repr, Inhabited

/-- `Nonterminal as usize`. -/
def NT.idx : NT → Nat
  | .term => 0 | .type => 1 | .variable => 2 | .lambda => 3 | .lambdaImplicit => 4
  | .annotatedLambda => 5 | .annotatedLambdaImplicit => 6 | .pi => 7 | .piImplicit => 8
  | .nonDependentPi => 9 | .application => 10 | .let_ => 11 | .integer => 12
  | .integerLiteral => 13 | .negation => 14 | .sum => 15 | .difference => 16 | .product => 17
  | .quotient => 18 | .lessThan => 19 | .lessThanOrEqualTo => 20 | .equalTo => 21
  | .greaterThan => 22 | .greaterThanOrEqualTo => 23 | .boolean => 24 | .true_ => 25
  | .false_ => 26 | .if_ => 27 | .group => 28 | .atom => 29 | .smallTerm => 30 | .mediumTerm => 31
  | .largeTerm => 32 | .hugeTerm => 33 | .giantTerm => 34 | .jumboTerm => 35

def NT.count : Nat := 36

/-- The value type of `Cache`: `(Term, usize, bool)` — the term, the new position, and whether the function is
confident in the new position (`expect_token_*!` reports a missing token only after a confident result). -/
structure PResult where
  term : Src
  next : Nat
  confident : Bool
deriving Inhabited

/-- `Cache` plus the `verif-hooks` counters (`CACHE_STATS`). -/
structure PState where
  cache : Std.HashMap (Nat × Nat) PResult
  hits : Array Nat
  misses : Array Nat

def PState.init : PState :=
  { cache := {}, hits := Array.replicate NT.count 0, misses := Array.replicate NT.count 0 }

/-- State-passing parse computations; `none` = out of fuel. -/
abbrev ParseM := StateT PState Option

/-- `cache_check!` … `cache_return!`: every exit of a parsing function goes through
`cache_return!` with the function's own key, so a parsing function is `cacheCheck nt start body`
where `body` computes the value that is cached and returned. -/
def cacheCheck (nt : NT) (start : Nat) (body : ParseM PResult) : ParseM PResult := fun st =>
  match st.cache[(nt.idx, start)]? with
  | some r => some (r, { st with hits := st.hits.modify nt.idx (· + 1) })
  | none =>
    match body { st with misses := st.misses.modify nt.idx (· + 1) } with
    | none => none
    | some (r, st') => some (r, { st' with cache := st'.cache.insert (nt.idx, start) r })

/-! ## §3 The macros -/

/-- The failure value of `consume_token_*!`: `(error_term(tokens, next, _), next, false)`. -/
def failAt (toks : Array PTok) (next : Nat) : PResult := ⟨errorTerm toks next, next, false⟩

/-- `consume_token_0!`: `k` is the rest of the function, run with `next + 1`. -/
def consume0 (toks : Array PTok) (next : Nat) (kind : PKind) (k : Nat → ParseM PResult) :
    ParseM PResult :=
  if h : next < toks.size then
    if toks[next].kind = kind then k (next + 1) else pure (failAt toks next)
  else pure (failAt toks next)

/-- `consume_token_1!(…, Identifier, …)`. -/
def consumeIdent (toks : Array PTok) (next : Nat) (k : Name → Nat → ParseM PResult) :
    ParseM PResult :=
  if h : next < toks.size then
    match toks[next].kind with
    | .identifier x => k x (next + 1)
    | _ => pure (failAt toks next)
  else pure (failAt toks next)

/-- `consume_token_1!(…, IntegerLiteral, …)`. -/
def consumeLiteral (toks : Array PTok) (next : Nat) (k : Nat → Nat → ParseM PResult) :
    ParseM PResult :=
  if h : next < toks.size then
    match toks[next].kind with
    | .integerLiteral n => k n (next + 1)
    | _ => pure (failAt toks next)
  else pure (failAt toks next)

/-- `try_return!`: accept the alternative unless its variant is `ParseError`. -/
def tryReturn (p : ParseM PResult) (k : ParseM PResult) : ParseM PResult := do
  let r ← p
  if r.term.isParseError then k else pure r

/-- `try_eval!`: propagate a failing child unchanged. -/
def tryEval (p : ParseM PResult) (k : Src → Nat → Bool → ParseM PResult) : ParseM PResult := do
  let r ← p
  if r.term.isParseError then pure r else k r.term r.next r.confident

def PKind.isTerminator : PKind → Bool
  | .terminator _ => true
  | _ => false

/-- The scanning loop of `expect_token_*!`.  `target` recognises the expected token.  The first
argument bounds the number of iterations; it is always `tokens.len() - next`, so reaching 0
coincides with the loop condition `next < tokens.len()` failing. -/
def scanLoop (toks : Array PTok) (target : PKind → Bool) : Nat → Nat → Nat → Bool × Nat
  | 0, next, _ => (false, next)
  | n + 1, next, depth =>
    if h : next < toks.size then
      let k := toks[next].kind
      if target k && depth == 0 then (true, next + 1)
      else match k with
        | .leftParen => scanLoop toks target n (next + 1) (depth + 1)
        | .rightParen =>
          if depth > 0 then scanLoop toks target n (next + 1) (depth - 1) else (false, next)
        | .terminator _ =>
          if depth == 0 then (false, next) else scanLoop toks target n (next + 1) depth
        | _ => scanLoop toks target n (next + 1) depth
    else (false, next)

/-- `expect_token_0!` / `expect_token_1!`: returns the errors to push, whether the token was found
and the position after the scan. -/
def expectToken (toks : Array PTok) (next : Nat) (target : PKind → Bool) (reportError : Bool) :
    List PErr × Bool × Nat :=
  let errs :=
    if reportError then
      if h : next < toks.size then
        if target toks[next].kind then [] else [errorFactory toks next]
      else [errorFactory toks next]
    else []
  let (found, next') := scanLoop toks target (toks.size - next) next 0
  (errs, found, next')

/-! ## §4 The 36 parsing functions

Each `parseX toks rec start` is the body of the Rust `parse_x` *between* `cache_check!` and
`cache_return!`; `rec nt pos` stands for the call of `parse_nt(cache, tokens, pos)`.  The knot is
tied by `parseNT` below. -/

section Bodies
variable (toks : Array PTok) (rec : NT → Nat → ParseM PResult)

/-- A keyword-like atom: `consume_token_0!` then a leaf node. -/
def parseLeaf (kind : PKind) (v : SrcV) (start : Nat) : ParseM PResult :=
  consume0 toks start kind fun next =>
  pure ⟨.mk (tokenRange toks start) false v [], next, true⟩

/-- The common ending `(error_term(tokens, start, "an expression"), start, false)`. -/
def noParse (start : Nat) : ParseM PResult := pure (failAt toks start)

/-- `parse_term`. -/
def parseTerm (start : Nat) : ParseM PResult :=
  tryReturn (rec .let_ start) <|
  tryReturn (rec .jumboTerm start) <|
  noParse toks start

/-- `parse_type`. -/
def parseType (start : Nat) : ParseM PResult := parseLeaf toks .type_ .type start

/-- `parse_variable`. -/
def parseVariable (start : Nat) : ParseM PResult :=
  let variableRange := tokenRange toks start
  consumeIdent toks start fun x next =>
  pure ⟨.mk variableRange false (.var x) [], next, true⟩

/-- `parse_lambda`. -/
def parseLambda (start : Nat) : ParseM PResult :=
  consumeIdent toks start fun x next =>
  consume0 toks next .thickArrow fun next => do
  let ⟨body, next, confident⟩ ← rec .term next
  pure ⟨.mk (span (tokenRange toks start) body.range) false
          (.lam ⟨tokenRange toks start, x⟩ false .none body) [], next, confident⟩

/-- `parse_lambda_implicit`. -/
def parseLambdaImplicit (start : Nat) : ParseM PResult :=
  consume0 toks start .leftCurly fun next =>
  let variableRange := tokenRange toks next
  consumeIdent toks next fun x next =>
  consume0 toks next .rightCurly fun next =>
  consume0 toks next .thickArrow fun next => do
  let ⟨body, next, confident⟩ ← rec .term next
  pure ⟨.mk (span (tokenRange toks start) body.range) false
          (.lam ⟨variableRange, x⟩ true .none body) [], next, confident⟩

/-- The shared shape of `parse_annotated_lambda`, `parse_annotated_lambda_implicit`, `parse_pi`,
`parse_pi_implicit`: `OPEN x : jumbo_term CLOSE ARROW term`. -/
def parseBinder (openK closeK arrowK : PKind)
    (mk : SrcVar → Src → Src → SrcV) (start : Nat) : ParseM PResult :=
  consume0 toks start openK fun next =>
  let variableRange := tokenRange toks next
  consumeIdent toks next fun x next =>
  consume0 toks next .colon fun next =>
  tryEval (rec .jumboTerm next) fun domain next _ =>
  consume0 toks next closeK fun next =>
  consume0 toks next arrowK fun next => do
  let ⟨body, next, confident⟩ ← rec .term next
  pure ⟨.mk (span (tokenRange toks start) body.range) false
          (mk ⟨variableRange, x⟩ domain body) [], next, confident⟩

/-- `parse_annotated_lambda`. -/
def parseAnnotatedLambda (start : Nat) : ParseM PResult :=
  parseBinder toks rec .leftParen .rightParen .thickArrow
    (fun v d b => .lam v false (.some d) b) start

/-- `parse_annotated_lambda_implicit`. -/
def parseAnnotatedLambdaImplicit (start : Nat) : ParseM PResult :=
  parseBinder toks rec .leftCurly .rightCurly .thickArrow
    (fun v d b => .lam v true (.some d) b) start

/-- `parse_pi`. -/
def parsePi (start : Nat) : ParseM PResult :=
  parseBinder toks rec .leftParen .rightParen .thinArrow (fun v d b => .pi v false d b) start

/-- `parse_pi_implicit`. -/
def parsePiImplicit (start : Nat) : ParseM PResult :=
  parseBinder toks rec .leftCurly .rightCurly .thinArrow (fun v d b => .pi v true d b) start

/-- `parse_non_dependent_pi`. -/
def parseNonDependentPi (start : Nat) : ParseM PResult :=
  tryEval (rec .smallTerm start) fun domain next _ =>
  consume0 toks next .thinArrow fun next => do
  let ⟨codomain, next, confident⟩ ← rec .term next
  pure ⟨.mk (span domain.range codomain.range) false
          (.pi ⟨emptyRange toks start, placeholder⟩ false domain codomain) [], next, confident⟩

/-- `parse_application`. -/
def parseApplication (start : Nat) : ParseM PResult :=
  tryEval (rec .atom start) fun applicand next _ =>
  tryEval (rec .smallTerm next) fun argument next confident =>
  pure ⟨.mk (span applicand.range argument.range) false (.app applicand argument) [],
        next, confident⟩

/-- `parse_let` (with its two error-recovery scans). -/
def parseLet (start : Nat) : ParseM PResult :=
  let variableRange := tokenRange toks start
  consumeIdent toks start fun x next =>
  -- the rest of the function, once the optional annotation is known
  let rest (annotation : OptSrc) (next : Nat) (errors : List PErr)
      (equalsFound : Bool) : ParseM PResult := do
    -- Parse the definition, unless the equals sign is missing.
    let ⟨definition, next, definitionConfident⟩ ←
      if equalsFound then rec .term next
      else pure ⟨skippedTerm toks next, next, false⟩
    -- Consume the terminator.
    let (errs2, terminatorFound, next) :=
      expectToken toks next PKind.isTerminator definitionConfident
    let errors := errors ++ errs2
    -- Parse the body, unless the terminator is missing.
    let ⟨body, next, bodyConfident⟩ ←
      if terminatorFound then rec .term next
      else pure ⟨skippedTerm toks next, next, false⟩
    pure ⟨.mk (span variableRange body.range) false
            (.let_ ⟨variableRange, x⟩ annotation definition body) errors, next, bodyConfident⟩
  -- Parse the annotation, if there is one.
  if h : next < toks.size then
    if toks[next].kind = .colon then
      consume0 toks next .colon fun next =>
      tryEval (rec .smallTerm next) fun annotation next annotationConfident =>
      -- We have an annotation: scan for the equals sign.
      let (errs1, equalsFound, next) :=
        expectToken toks next (· = .equals) annotationConfident
      rest (.some annotation) next errs1 equalsFound
    else
      consume0 toks next .equals fun next => rest .none next [] true
  else
    consume0 toks next .equals fun next => rest .none next [] true

/-- `parse_integer`. -/
def parseInteger (start : Nat) : ParseM PResult := parseLeaf toks .integer .int start

/-- `parse_integer_literal`. -/
def parseIntegerLiteral (start : Nat) : ParseM PResult :=
  consumeLiteral toks start fun n next =>
  pure ⟨.mk (tokenRange toks start) false (.lit (Int.ofNat n)) [], next, true⟩

/-- `parse_negation`. -/
def parseNegation (start : Nat) : ParseM PResult :=
  consume0 toks start .minus fun next => do
  let ⟨subterm, next, confident⟩ ← rec .largeTerm next
  pure ⟨.mk (span (tokenRange toks start) subterm.range) false (.neg subterm) [],
        next, confident⟩

/-- The shared shape of the nine binary operator functions:
`try_eval!(left)`, `consume_token_0!(operator)`, right operand taken as is. -/
def parseBinary (left : NT) (opTok : PKind) (right : NT) (op : BinOp) (start : Nat) :
    ParseM PResult :=
  tryEval (rec left start) fun term1 next _ =>
  consume0 toks next opTok fun next => do
  let ⟨term2, next, confident⟩ ← rec right next
  pure ⟨.mk (span term1.range term2.range) false (.bin op term1 term2) [], next, confident⟩

/-- `parse_sum`. -/
def parseSum := parseBinary toks rec .largeTerm .plus .hugeTerm .sum
/-- `parse_difference`. -/
def parseDifference := parseBinary toks rec .largeTerm .minus .hugeTerm .diff
/-- `parse_product`. -/
def parseProduct := parseBinary toks rec .smallTerm .asterisk .largeTerm .prod
/-- `parse_quotient`. -/
def parseQuotient := parseBinary toks rec .smallTerm .slash .largeTerm .quot
/-- `parse_less_than`. -/
def parseLessThan := parseBinary toks rec .hugeTerm .lessThan .hugeTerm .lt
/-- `parse_less_than_or_equal_to`. -/
def parseLessThanOrEqualTo := parseBinary toks rec .hugeTerm .lessThanOrEqualTo .hugeTerm .le
/-- `parse_equal_to`. -/
def parseEqualTo := parseBinary toks rec .hugeTerm .doubleEquals .hugeTerm .eq
/-- `parse_greater_than`. -/
def parseGreaterThan := parseBinary toks rec .hugeTerm .greaterThan .hugeTerm .gt
/-- `parse_greater_than_or_equal_to`. -/
def parseGreaterThanOrEqualTo :=
  parseBinary toks rec .hugeTerm .greaterThanOrEqualTo .hugeTerm .ge

/-- `parse_boolean`. -/
def parseBoolean (start : Nat) : ParseM PResult := parseLeaf toks .boolean .bool start
/-- `parse_true`. -/
def parseTrue (start : Nat) : ParseM PResult := parseLeaf toks .true_ .tt start
/-- `parse_false`. -/
def parseFalse (start : Nat) : ParseM PResult := parseLeaf toks .false_ .ff start

/-- `parse_if` (with its two error-recovery scans). -/
def parseIf (start : Nat) : ParseM PResult :=
  consume0 toks start .if_ fun next => do
  let ⟨condition, next, conditionConfident⟩ ← rec .term next
  let (errs1, foundThen, next) := expectToken toks next (· = .then_) conditionConfident
  let ⟨thenBranch, next, thenConfident⟩ ←
    if foundThen then rec .term next else pure ⟨skippedTerm toks next, next, false⟩
  let (errs2, foundElse, next) := expectToken toks next (· = .else_) thenConfident
  let ⟨elseBranch, next, elseConfident⟩ ←
    if foundElse then rec .term next else pure ⟨skippedTerm toks next, next, false⟩
  pure ⟨.mk (span (tokenRange toks start) elseBranch.range) false
          (.ite condition thenBranch elseBranch) (errs1 ++ errs2), next, elseConfident⟩

/-- The "This parenthesis was never closed" error of `parse_group`: the left parenthesis, then
(unless at the end of the file) the unexpected token. -/
def neverClosed (start next : Nat) : PErr :=
  if next = toks.size then [tokenRange toks start]
  else [tokenRange toks start, tokenRange toks next]

/-- `parse_group`. -/
def parseGroup (start : Nat) : ParseM PResult :=
  consume0 toks start .leftParen fun next =>
  tryEval (rec .term next) fun term next confident =>
  let (phonyErrors, found, next) := expectToken toks next (· = .rightParen) confident
  let errors := term.errors
  let errors := if found then errors ++ phonyErrors else errors
  let errors := if !found then errors ++ [neverClosed toks start next] else errors
  pure ⟨.mk (span (tokenRange toks start) (tokenRange toks (next - 1))) true term.variant errors,
        next, found⟩

/-- `parse_atom`. -/
def parseAtom (start : Nat) : ParseM PResult :=
  tryReturn (rec .type start) <|
  tryReturn (rec .variable start) <|
  tryReturn (rec .integer start) <|
  tryReturn (rec .integerLiteral start) <|
  tryReturn (rec .boolean start) <|
  tryReturn (rec .true_ start) <|
  tryReturn (rec .false_ start) <|
  tryReturn (rec .group start) <|
  noParse toks start

/-- `parse_small_term`. -/
def parseSmallTerm (start : Nat) : ParseM PResult :=
  tryReturn (rec .application start) <|
  tryReturn (rec .atom start) <|
  noParse toks start

/-- `parse_medium_term`. -/
def parseMediumTerm (start : Nat) : ParseM PResult :=
  tryReturn (rec .product start) <|
  tryReturn (rec .quotient start) <|
  tryReturn (rec .smallTerm start) <|
  noParse toks start

/-- `parse_large_term`. -/
def parseLargeTerm (start : Nat) : ParseM PResult :=
  tryReturn (rec .negation start) <|
  tryReturn (rec .mediumTerm start) <|
  noParse toks start

/-- `parse_huge_term`. -/
def parseHugeTerm (start : Nat) : ParseM PResult :=
  tryReturn (rec .sum start) <|
  tryReturn (rec .difference start) <|
  tryReturn (rec .largeTerm start) <|
  noParse toks start

/-- `parse_giant_term`. -/
def parseGiantTerm (start : Nat) : ParseM PResult :=
  tryReturn (rec .lessThan start) <|
  tryReturn (rec .lessThanOrEqualTo start) <|
  tryReturn (rec .equalTo start) <|
  tryReturn (rec .greaterThan start) <|
  tryReturn (rec .greaterThanOrEqualTo start) <|
  tryReturn (rec .hugeTerm start) <|
  noParse toks start

/-- `parse_jumbo_term`. -/
def parseJumboTerm (start : Nat) : ParseM PResult :=
  tryReturn (rec .lambda start) <|
  tryReturn (rec .lambdaImplicit start) <|
  tryReturn (rec .annotatedLambda start) <|
  tryReturn (rec .annotatedLambdaImplicit start) <|
  tryReturn (rec .pi start) <|
  tryReturn (rec .piImplicit start) <|
  tryReturn (rec .nonDependentPi start) <|
  tryReturn (rec .if_ start) <|
  tryReturn (rec .giantTerm start) <|
  noParse toks start

/-- Dispatch from a nonterminal to the body of its parsing function. -/
def parseBody (nt : NT) (start : Nat) : ParseM PResult :=
  match nt with
  | .term => parseTerm toks rec start
  | .type => parseType toks start
  | .variable => parseVariable toks start
  | .lambda => parseLambda toks rec start
  | .lambdaImplicit => parseLambdaImplicit toks rec start
  | .annotatedLambda => parseAnnotatedLambda toks rec start
  | .annotatedLambdaImplicit => parseAnnotatedLambdaImplicit toks rec start
  | .pi => parsePi toks rec start
  | .piImplicit => parsePiImplicit toks rec start
  | .nonDependentPi => parseNonDependentPi toks rec start
  | .application => parseApplication rec start
  | .let_ => parseLet toks rec start
  | .integer => parseInteger toks start
  | .integerLiteral => parseIntegerLiteral toks start
  | .negation => parseNegation toks rec start
  | .sum => parseSum toks rec start
  | .difference => parseDifference toks rec start
  | .product => parseProduct toks rec start
  | .quotient => parseQuotient toks rec start
  | .lessThan => parseLessThan toks rec start
  | .lessThanOrEqualTo => parseLessThanOrEqualTo toks rec start
  | .equalTo => parseEqualTo toks rec start
  | .greaterThan => parseGreaterThan toks rec start
  | .greaterThanOrEqualTo => parseGreaterThanOrEqualTo toks rec start
  | .boolean => parseBoolean toks start
  | .true_ => parseTrue toks start
  | .false_ => parseFalse toks start
  | .if_ => parseIf toks rec start
  | .group => parseGroup toks rec start
  | .atom => parseAtom toks rec start
  | .smallTerm => parseSmallTerm toks rec start
  | .mediumTerm => parseMediumTerm toks rec start
  | .largeTerm => parseLargeTerm toks rec start
  | .hugeTerm => parseHugeTerm toks rec start
  | .giantTerm => parseGiantTerm toks rec start
  | .jumboTerm => parseJumboTerm toks rec start

end Bodies

/-- The memoised parsing functions.  Structural in the fuel: a chain of nested calls visits
positions in non-decreasing order and, at one position, pairwise different nonterminals (no left
recursion), so its length is at most `36 * (tokens.len() + 1)`.  Fuel 0 is the distinct outcome
`none`. -/
def parseNT (toks : Array PTok) : Nat → NT → Nat → ParseM PResult
  | 0, _, _ => fun _ => none
  | fuel + 1, nt, start => cacheCheck nt start (parseBody toks (parseNT toks fuel) nt start)

def parseFuel (toks : Array PTok) : Nat := 36 * (toks.size + 1) + 1

/-! ## §5 `collect_error_factories` -/

mutual
/-- `collect_error_factories`: children first (in field order), then the node's own errors. -/
def collectErrors (t : Src) : List PErr :=
  match t with
  | .mk _ _ v errors =>
    (match v with
      | .parseError | .type | .var _ | .int | .lit _ | .bool | .tt | .ff => []
      | .lam _ _ dom body => collectErrorsOpt dom ++ collectErrors body
      | .pi _ _ dom cod => collectErrors dom ++ collectErrors cod
      | .app f a => collectErrors f ++ collectErrors a
      | .let_ _ ann defn body => collectErrorsOpt ann ++ collectErrors defn ++ collectErrors body
      | .neg a => collectErrors a
      | .bin _ a b => collectErrors a ++ collectErrors b
      | .ite c a b => collectErrors c ++ collectErrors a ++ collectErrors b)
    ++ errors
termination_by structural t
def collectErrorsOpt (o : OptSrc) : List PErr :=
  match o with
  | .none => []
  | .some t => collectErrors t
termination_by structural o
end

/-! ## §6 Re-association

`reassociate_applications`, `reassociate_products_and_quotients`,
`reassociate_sums_and_differences` share one shape: a *chain operator family* (`app`; `*` `/`;
`+` `-`) is flipped from right- to left-nested, everything else is rebuilt with `acc = None`.
The model has one function `reassoc fam` instantiated three times; its arms follow the Rust arms.

`none` = the Rust `panic!` ("called on a ParseError").

The guard arm `Chain(_, _) if acc.is_some() && term.group => reassociate(None, term)` calls the
function on the *same* term with `acc = None`; that call necessarily lands in the chain arm (the
guard is false for `None`).  To stay structurally recursive the model inlines that one step: the
chain arm is the local function `arm`, and the guard arm is `arm none` followed by the common
tail. -/

/-- Which operator family a pass re-associates. -/
inductive Family
  | applications | productsAndQuotients | sumsAndDifferences
deriving DecidableEq, Repr

/-- A link of a chain: `Application`, or one of the family's two binary operators
(`ProductOrQuotient` / `SumOrDifference`). -/
inductive Link
  | app
  | op (o : BinOp)
deriving DecidableEq, Repr

/-- The variant a link builds. -/
def Link.build : Link → Src → Src → SrcV
  | .app, a, b => .app a b
  | .op o, a, b => .bin o a b

/-- The common tail: `if let Some((acc, operator)) = acc { acc OP reduced } else { reduced }`.
For applications the accumulator carries no operator; the model stores `Link.app`. -/
def reassocTail (acc : Option (Src × Link)) (reduced : Src) : Src :=
  match acc with
  | some (ac, l) => .mk (span ac.range reduced.range) true (l.build ac reduced) []
  | none => reduced

mutual
def reassoc (fam : Family) (acc : Option (Src × Link)) (t : Src) : Option Src :=
  match t with
  | .mk range group v _ =>
    match v with
    | .parseError => none
    | .type => some (reassocTail acc t)
    | .var _ => some (reassocTail acc t)
    | .int => some (reassocTail acc t)
    | .lit _ => some (reassocTail acc t)
    | .bool => some (reassocTail acc t)
    | .tt => some (reassocTail acc t)
    | .ff => some (reassocTail acc t)
    | .lam x imp dom body =>
      match reassocOpt fam dom, reassoc fam none body with
      | some dom', some body' =>
        some (reassocTail acc (.mk range group (.lam x imp dom' body') []))
      | _, _ => none
    | .pi x imp dom cod =>
      match reassoc fam none dom, reassoc fam none cod with
      | some dom', some cod' => some (reassocTail acc (.mk range group (.pi x imp dom' cod') []))
      | _, _ => none
    | .let_ x ann defn body =>
      match reassocOpt fam ann, reassoc fam none defn, reassoc fam none body with
      | some ann', some defn', some body' =>
        some (reassocTail acc (.mk range group (.let_ x ann' defn' body') []))
      | _, _, _ => none
    | .neg a =>
      match reassoc fam none a with
      | some a' => some (reassocTail acc (.mk range group (.neg a') []))
      | none => none
    | .ite c a b =>
      match reassoc fam none c, reassoc fam none a, reassoc fam none b with
      | some c', some a', some b' =>
        some (reassocTail acc (.mk range group (.ite c' a' b') []))
      | _, _, _ => none
    | .app f a =>
      if fam = .applications then
        -- the `Variant::Application(applicand, argument) => { return … }` arm
        let arm (acc : Option (Src × Link)) : Option Src :=
          if a.group then
            match acc with
            | some (ac, l) =>
              match reassoc fam (some (ac, l)) f, reassoc fam none a with
              | some f', some a' => some (.mk (span ac.range a.range) true (.app f' a') [])
              | _, _ => none
            | none =>
              match reassoc fam none f, reassoc fam none a with
              | some f', some a' => some (.mk range group (.app f' a') [])
              | _, _ => none
          else
            match reassoc fam none f with
            | some f' =>
              let acc' := match acc with
                | some (ac, l) => Src.mk (span ac.range f.range) true (l.build ac f') []
                | none => f'
              reassoc fam (some (acc', .app)) a
            | none => none
        if acc.isSome && group then
          -- `Variant::Application(_, _) if acc.is_some() && term.group`
          match arm none with
          | some reduced => some (reassocTail acc reduced)
          | none => none
        else arm acc
      else
        match reassoc fam none f, reassoc fam none a with
        | some f', some a' => some (reassocTail acc (.mk range group (.app f' a') []))
        | _, _ => none
    | .bin o a b =>
      if (fam = .productsAndQuotients ∧ (o = .prod ∨ o = .quot))
          ∨ (fam = .sumsAndDifferences ∧ (o = .sum ∨ o = .diff)) then
        -- the `Variant::Product(term1, term2) => { return … }` arm (resp. Quotient, Sum,
        -- Difference): `o` is both the rebuilt variant and the operator stored in the accumulator
        let arm (acc : Option (Src × Link)) : Option Src :=
          if b.group then
            match acc with
            | some (ac, l) =>
              match reassoc fam (some (ac, l)) a, reassoc fam none b with
              | some a', some b' => some (.mk (span ac.range b.range) true (.bin o a' b') [])
              | _, _ => none
            | none =>
              match reassoc fam none a, reassoc fam none b with
              | some a', some b' => some (.mk range group (.bin o a' b') [])
              | _, _ => none
          else
            match reassoc fam none a with
            | some a' =>
              let acc' := match acc with
                | some (ac, l) => Src.mk (span ac.range a.range) true (l.build ac a') []
                | none => a'
              reassoc fam (some (acc', .op o)) b
            | none => none
        if acc.isSome && group then
          -- `Variant::Product(_, _) | Variant::Quotient(_, _) if acc.is_some() && term.group`
          match arm none with
          | some reduced => some (reassocTail acc reduced)
          | none => none
        else arm acc
      else
        match reassoc fam none a, reassoc fam none b with
        | some a', some b' => some (reassocTail acc (.mk range group (.bin o a' b') []))
        | _, _ => none
termination_by structural t
def reassocOpt (fam : Family) (o : OptSrc) : Option OptSrc :=
  match o with
  | .none => some .none
  | .some t =>
    match reassoc fam none t with
    | some t' => some (.some t')
    | none => none
termination_by structural o
end

/-- `reassociate_applications(None, term)`. -/
def reassociateApplications (t : Src) : Option Src := reassoc .applications none t
/-- `reassociate_products_and_quotients(None, term)`. -/
def reassociateProductsAndQuotients (t : Src) : Option Src := reassoc .productsAndQuotients none t
/-- `reassociate_sums_and_differences(None, term)`. -/
def reassociateSumsAndDifferences (t : Src) : Option Src := reassoc .sumsAndDifferences none t

/-! ## §7 `resolve_variables`

Output: `RTm`, the public `term::Term` with its `source_range : Option<SourceRange>`.  Every
`Rc::new(RefCell::new(None))` is a fresh hole id. -/

mutual
/-- `term::Term` (with source range). -/
inductive RTm : Type
  | mk (range : Option SourceRange) (v : RTmV)
/-- `term::Variant`. -/
inductive RTmV : Type
  | hole (id : Nat) (shift : Nat)
  | type | int | bool | tt | ff
  | lit (n : Int)
  | var (x : Name) (i : Nat)
  | lam (x : Name) (imp : Bool) (dom body : RTm)
  | pi (x : Name) (imp : Bool) (dom cod : RTm)
  | app (f a : RTm)
  | letg (defs : RDefs) (body : RTm)
  | neg (a : RTm)
  | bin (op : BinOp) (a b : RTm)
  | ite (c t e : RTm)
/-- The definitions vector of `term::Variant::Let`. -/
inductive RDefs : Type
  | nil
  | cons (x : Name) (ann defn : RTm) (rest : RDefs)
end

instance : Inhabited RTm := ⟨.mk none .type⟩

def RTm.range : RTm → Option SourceRange | .mk r _ => r
def RTm.variant : RTm → RTmV | .mk _ v => v

mutual
/-- Forget the source ranges: the semantic term of `Syntax.lean`. -/
def RTm.erase (t : RTm) : Tm :=
  match t with
  | .mk _ v =>
    match v with
    | .hole id s => .hole id s
    | .type => .type | .int => .int | .bool => .bool | .tt => .tt | .ff => .ff
    | .lit n => .lit n
    | .var x i => .var x i
    | .lam x imp d b => .lam x imp d.erase b.erase
    | .pi x imp d b => .pi x imp d.erase b.erase
    | .app f a => .app f.erase a.erase
    | .letg ds b => .letg ds.erase b.erase
    | .neg a => .neg a.erase
    | .bin o a b => .bin o a.erase b.erase
    | .ite c a b => .ite c.erase a.erase b.erase
termination_by structural t
def RDefs.erase (ds : RDefs) : Defs :=
  match ds with
  | .nil => .nil
  | .cons x a d r => .cons x a.erase d.erase r.erase
termination_by structural ds
end

def RDefs.len : RDefs → Nat
  | .nil => 0
  | .cons _ _ _ r => r.len + 1

def RDefs.toList : RDefs → List (Name × RTm × RTm)
  | .nil => []
  | .cons x a d r => (x, a, d) :: r.toList

/-- `collect_definitions`: follow the body chain of nested lets (whatever their `group` flag). -/
def collectDefinitions (t : Src) : List (SrcVar × OptSrc × Src) × Src :=
  match t with
  | .mk _ _ (.let_ v ann defn body) _ =>
    let (ds, inner) := collectDefinitions body
    ((v, ann, defn) :: ds, inner)
  | _ => ([], t)

/-- The `HashMap<&str, usize>` context as an association list with unique keys. -/
abbrev Ctx := List (Name × Nat)

def Ctx.get (c : Ctx) (x : Name) : Option Nat := c.lookup x
def Ctx.containsKey (c : Ctx) (x : Name) : Bool := (c.lookup x).isSome
def Ctx.remove (c : Ctx) (x : Name) : Ctx := c.filter (fun p => p.1 != x)
def Ctx.insert (c : Ctx) (x : Name) (d : Nat) : Ctx := (x, d) :: Ctx.remove c x

/-- The mutable state of `resolve_variables`: `context`, `errors`, and the allocator of cells. -/
structure RState where
  ctx : Ctx
  errors : List PErr
  nextHole : Nat

/-- `none` = `panic!` ("called on a ParseError"). -/
abbrev ResolveM := StateT RState Option

def freshHole (range : Option SourceRange) (shift : Nat) : ResolveM RTm := fun st =>
  some (.mk range (.hole st.nextHole shift), { st with nextHole := st.nextHole + 1 })

def pushError (e : PErr) : ResolveM Unit := fun st =>
  some ((), { st with errors := st.errors ++ [e] })

/-- Binder entry shared by the `Lambda`, `Pi` and `Let` arms: unless the name is the placeholder,
report "already exists" if it is bound, then `insert` it anyway. -/
def bindName (v : SrcVar) (depth : Nat) : ResolveM Unit := fun st =>
  if v.name != placeholder then
    let errors := if st.ctx.containsKey v.name then st.errors ++ [[v.range]] else st.errors
    some ((), { st with errors := errors, ctx := st.ctx.insert v.name depth })
  else some ((), st)

/-- The `defer!` of the `Lambda` / `Pi` arms: `context.remove(variable.name)`. -/
def unbindName (x : Name) : ResolveM Unit := fun st =>
  some ((), { st with ctx := st.ctx.remove x })

/-- First loop of the `Let` arm: bind definition `i` at `depth + i`. -/
def bindDefinitions (depth : Nat) : List (SrcVar × OptSrc × Src) → Nat → ResolveM Unit
  | [], _ => pure ()
  | (v, _, _) :: rest, i => do
    bindName v (depth + i)
    bindDefinitions depth rest (i + 1)

/-- The `defer!` of the `Let` arm: remove every name in `variables_added`. -/
def unbindDefinitions : List (SrcVar × OptSrc × Src) → ResolveM Unit
  | [] => pure ()
  | (v, _, _) :: rest => do
    if v.name != placeholder then unbindName v.name
    unbindDefinitions rest

/-! The `Let` arm first calls `collect_definitions` and then resolves, in this order, annotation 0,
definition 0, annotation 1, definition 1, …, the innermost body — all at `new_depth`.  Iterating
over the collected vector is not structurally recursive, so the model walks the chain of nested
lets a second time instead: `resolveAux t (some (n, i)) newDepth` is "`t` is what follows
definition `i - 1` in a chain of `n` definitions": if `t` is a let it is definition `i` (resolve
its annotation and definition, continue with its body), otherwise it is the innermost body
(resolve it like any term).  `resolveAux t none depth` is `resolve_variables` proper; it returns
`(nil, term)`. -/

mutual
def resolveAux (t : Src) (chain : Option (Nat × Nat)) (depth : Nat) : ResolveM (RDefs × RTm) :=
  match t with
  | .mk range _ v _ =>
    match v with
    | .parseError => fun _ => none
    | .type => pure (.nil, .mk (some range) .type)
    | .var x => fun st =>
      match st.ctx.get x with
      | some variableDepth =>
        some ((.nil, .mk (some range) (.var x (depth - 1 - variableDepth))), st)
      | none =>
        -- not in scope: an error unless it is the placeholder; a fresh unifier either way
        let errors := if x != placeholder then st.errors ++ [[range]] else st.errors
        some ((.nil, .mk (some range) (.hole st.nextHole 0)),
              { st with errors := errors, nextHole := st.nextHole + 1 })
    | .lam x imp dom body => do
      let dom' ← resolveOpt dom depth
      bindName x depth
      let dom'' ← match dom' with
        | some d => pure d
        | none => freshHole none 0
      let (_, body') ← resolveAux body none (depth + 1)
      unbindName x.name
      pure (.nil, .mk (some range) (.lam x.name imp dom'' body'))
    | .pi x imp dom cod => do
      let (_, dom') ← resolveAux dom none depth
      bindName x depth
      let (_, cod') ← resolveAux cod none (depth + 1)
      unbindName x.name
      pure (.nil, .mk (some range) (.pi x.name imp dom' cod'))
    | .app f a => do
      let (_, f') ← resolveAux f none depth
      let (_, a') ← resolveAux a none depth
      pure (.nil, .mk (some range) (.app f' a'))
    | .let_ x ann defn body =>
      match chain with
      | some (n, i) => do
        -- definition `i` of an enclosing chain (`depth` is that chain's `new_depth`)
        let ann' ← resolveAnnotation ann n i depth
        let (_, defn') ← resolveAux defn none depth
        let (rest, body') ← resolveAux body (some (n, i + 1)) depth
        pure (.cons x.name ann' defn' rest, body')
      | none => do
        -- the `Variant::Let` arm
        let definitions := (x, ann, defn) :: (collectDefinitions body).1
        let n := definitions.length
        bindDefinitions depth definitions 0
        let newDepth := depth + n
        let ann' ← resolveAnnotation ann n 0 newDepth
        let (_, defn') ← resolveAux defn none newDepth
        let (rest, body') ← resolveAux body (some (n, 1)) newDepth
        unbindDefinitions definitions
        pure (.nil, .mk (some range) (.letg (.cons x.name ann' defn' rest) body'))
    | .int => pure (.nil, .mk (some range) .int)
    | .lit n => pure (.nil, .mk (some range) (.lit n))
    | .neg a => do
      let (_, a') ← resolveAux a none depth
      pure (.nil, .mk (some range) (.neg a'))
    | .bin o a b => do
      let (_, a') ← resolveAux a none depth
      let (_, b') ← resolveAux b none depth
      pure (.nil, .mk (some range) (.bin o a' b'))
    | .bool => pure (.nil, .mk (some range) .bool)
    | .tt => pure (.nil, .mk (some range) .tt)
    | .ff => pure (.nil, .mk (some range) .ff)
    | .ite c a b => do
      let (_, c') ← resolveAux c none depth
      let (_, a') ← resolveAux a none depth
      let (_, b') ← resolveAux b none depth
      pure (.nil, .mk (some range) (.ite c' a' b'))
termination_by structural t
/-- An optional lambda domain. -/
def resolveOpt (o : OptSrc) (depth : Nat) : ResolveM (Option RTm) :=
  match o with
  | .none => pure none
  | .some t => do
    let (_, t') ← resolveAux t none depth
    pure (some t')
termination_by structural o
/-- The annotation of definition `i` of `n`: resolved at `new_depth`, or a fresh hole shifted by
`definitions.len() - i`. -/
def resolveAnnotation (o : OptSrc) (n i newDepth : Nat) : ResolveM RTm :=
  match o with
  | .none => freshHole none (n - i)
  | .some t => do
    let (_, t') ← resolveAux t none newDepth
    pure t'
termination_by structural o
end

/-- `resolve_variables(…, term, depth, context, errors)`. -/
def resolve (t : Src) (depth : Nat) : ResolveM RTm := do
  let (_, t') ← resolveAux t none depth
  pure t'

/-! ## §8 `check_definitions` / `check_definition` -/

/-- The abnormal outcomes of the phases after parsing. -/
inductive Fail
  | panic       -- a Rust `panic!` / failed `assert_eq!`
  | outOfFuel   -- the model's recursion fuel ran out (never a default)
deriving DecidableEq, Repr

/-- Insert into an ascending duplicate-free list. -/
def insertSorted (x : Nat) : List Nat → List Nat
  | [] => [x]
  | y :: ys => if x < y then x :: y :: ys else if x = y then y :: ys else y :: insertSorted x ys

/-- `HashSet` → `Vec` → `sort_unstable`: the distinct elements in ascending order. -/
def sortDedup (xs : List Nat) : List Nat := xs.foldr insertSorted []

/-- The mutable state of `check_definition`: the `visited` set and the `errors` vector. -/
abbrev CheckSt := List Nat × List PErr

/-- The `for variable in variables` loop of `check_definition`; `rec` is the recursive call
`check_definition(…, start_index, definition_index, visited, errors)`. -/
def checkVariables (defs : Array (Name × RTm × RTm)) (start : Nat)
    (rec : Nat → CheckSt → Option CheckSt) : List Nat → CheckSt → Option CheckSt
  | [], st => some st
  | var :: rest, (visited, errors) =>
    if var < defs.size then
      let definitionIndex := defs.size - 1 - var
      if visited.contains definitionIndex then
        checkVariables defs start rec rest (visited, errors)
      else
        let visited := definitionIndex :: visited
        if isValue (defs[definitionIndex]!).2.2.erase then
          match rec definitionIndex (visited, errors) with
          | none => none
          | some st => checkVariables defs start rec rest st
        else if definitionIndex ≥ start then
          -- "The definition of … references … which will not be available in time":
          -- the listing is that of `definitions[start_index].2.source_range`, if any
          let e : PErr := match (defs[start]!).2.2.range with
            | some r => [r]
            | none => []
          checkVariables defs start rec rest (visited, errors ++ [e])
        else checkVariables defs start rec rest (visited, errors)
    else checkVariables defs start rec rest (visited, errors)

/-- `check_definition(…, definitions, start_index, current_index, visited, errors)`.  Every nested
call has inserted a new index `< definitions.len()` into `visited`, so the nesting depth is at
most `definitions.len()`; `none` = out of fuel. -/
def checkDefinition (defs : Array (Name × RTm × RTm)) (start : Nat) :
    Nat → Nat → CheckSt → Option CheckSt
  | 0, _, _ => none
  | fuel + 1, current, st =>
    let variables := sortDedup (freeVars (defs[current]!).2.2.erase 0)
    checkVariables defs start (checkDefinition defs start fuel) variables st

/-- First loop of the `Let` arm of `check_definitions`: for every non-value definition `i`,
`check_definition(definitions, i, i, {}, errors)`. -/
def checkEachDefinition (defs : Array (Name × RTm × RTm)) :
    List Nat → List PErr → Except Fail (List PErr)
  | [], errors => .ok errors
  | i :: rest, errors =>
    if !isValue (defs[i]!).2.2.erase then
      match checkDefinition defs i (defs.size + 1) i ([], errors) with
      | none => .error .outOfFuel
      | some (_, errors) => checkEachDefinition defs rest errors
    else checkEachDefinition defs rest errors

mutual
/-- `check_definitions(…, term, depth, errors)`.  All cells are unresolved at this point, so the
`Unifier` arm reduces to its `assert_eq!(*subterm_shift, 0)`. -/
def checkDefinitions (t : RTm) (depth : Nat) (errors : List PErr) : Except Fail (List PErr) :=
  match t with
  | .mk _ v =>
    match v with
    | .type | .var _ _ | .int | .lit _ | .bool | .tt | .ff => .ok errors
    | .hole _ shift => if shift = 0 then .ok errors else .error .panic
    | .lam _ _ dom body =>
      match checkDefinitions dom depth errors with
      | .ok errors => checkDefinitions body (depth + 1) errors
      | .error f => .error f
    | .pi _ _ dom cod =>
      match checkDefinitions dom depth errors with
      | .ok errors => checkDefinitions cod (depth + 1) errors
      | .error f => .error f
    | .app f a =>
      match checkDefinitions f depth errors with
      | .ok errors => checkDefinitions a depth errors
      | .error f => .error f
    | .letg defs body =>
      let newDepth := depth + defs.len
      let arr := defs.toList.toArray
      match checkEachDefinition arr (List.range arr.size) errors with
      | .error f => .error f
      | .ok errors =>
        match checkDefinitionsDefs defs newDepth errors with
        | .ok errors => checkDefinitions body newDepth errors
        | .error f => .error f
    | .neg a => checkDefinitions a depth errors
    | .bin _ a b =>
      match checkDefinitions a depth errors with
      | .ok errors => checkDefinitions b depth errors
      | .error f => .error f
    | .ite c a b =>
      match checkDefinitions c depth errors with
      | .ok errors =>
        match checkDefinitions a depth errors with
        | .ok errors => checkDefinitions b depth errors
        | .error f => .error f
      | .error f => .error f
termination_by structural t
/-- `for (_, _, definition) in definitions { check_definitions(definition, new_depth) }` — the
annotations are not visited. -/
def checkDefinitionsDefs (ds : RDefs) (newDepth : Nat) (errors : List PErr) :
    Except Fail (List PErr) :=
  match ds with
  | .nil => .ok errors
  | .cons _ _ defn rest =>
    match checkDefinitions defn newDepth errors with
    | .ok errors => checkDefinitionsDefs rest newDepth errors
    | .error f => .error f
termination_by structural ds
end

/-! ## §9 `parse` -/

/-- The result of `parse`, plus the model's two abnormal outcomes. -/
inductive ParseOutcome
  | ok (t : RTm)
  | errors (es : List PErr)
  | panic
  | outOfFuel

/-- The parse phase alone: `parse_term(&mut cache, tokens, 0)` from an empty cache. -/
def runParser (toks : Array PTok) : Option (PResult × PState) :=
  parseNT toks (parseFuel toks) .term 0 PState.init

/-- The initial `HashMap` built from the `context` slice (`(name, i)` pairs, later wins). -/
def initialContext (context : List Name) : Ctx :=
  (context.zipIdx).foldl (fun c p => Ctx.insert c p.1 p.2) []

/-- Everything in `parse` after the parse phase, given its result `(term, next, _)`. -/
def finishParse (toks : Array PTok) (context : List Name) (term : Src) (next : Nat) :
    ParseOutcome :=
  -- Collect the parsing errors; complain about the first unparsed token if there are none.
  let errorFactories := collectErrors term
  let errorFactories :=
    if errorFactories.isEmpty && next != toks.size then
      errorFactories ++ [errorFactory toks next]
    else errorFactories
  if !errorFactories.isEmpty then .errors errorFactories else
  -- Re-associate: applications, then products and quotients, then sums and differences.
  match reassociateApplications term with
  | none => .panic
  | some t1 =>
  match reassociateProductsAndQuotients t1 with
  | none => .panic
  | some t2 =>
  match reassociateSumsAndDifferences t2 with
  | none => .panic
  | some reassociated =>
  -- Resolve variables.
  let ctx := initialContext context
  match resolve reassociated ctx.length { ctx := ctx, errors := [], nextHole := 0 } with
  | none => .panic
  | some (resolved, st) =>
  -- Check that definitions will be evaluated before they are used (`context.len()` is taken
  -- from the context as `resolve_variables` left it).
  match checkDefinitions resolved st.ctx.length st.errors with
  | .error .panic => .panic
  | .error .outOfFuel => .outOfFuel
  | .ok errors => if errors.isEmpty then .ok resolved else .errors errors

/-- `parse(_, _, tokens, context)`. -/
def parseModel (toks : Array PTok) (context : List Name) : ParseOutcome :=
  match runParser toks with
  | none => .outOfFuel
  | some (r, _) => finishParse toks context r.term r.next

/-- The `CACHE_STATS` counters after the parse phase: `(hits, misses)` per nonterminal. -/
def parseStats (toks : Array PTok) : Option (Array Nat × Array Nat) :=
  match runParser toks with
  | none => none
  | some (_, st) => some (st.hits, st.misses)

end PModel
