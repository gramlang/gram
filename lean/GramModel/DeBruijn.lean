import GramModel.Syntax

/-!
# De Bruijn operations (model of `src/de_bruijn.rs` and `term.rs::free_variables`)

This is the *pure* layer: a hole is treated the way the Rust treats an **unresolved** unifier
(`signed_shift` adjusts a shift at or above the cutoff like an index, failing if it would fall below the
cutoff, and leaves a smaller one alone; `open` decrements the shift above the replaced index;
`free_variables` ignores it).  On hole-free terms — the domain of
property C11 — this is exactly the Rust.  The store-aware layer (`Store.lean`) follows resolved
cells and allocates the fresh cell that `open` creates; `openT` keeps the `id` of the hole, so on terms
with holes it is not what the Rust returns.  `openT t i u s` is
`open(term_to_open, index_to_replace, term_to_insert, shift_amount)`: `u`, lifted by `s`, replaces variable `i`.
-/

mutual
def sshift (c : Nat) (amt : Int) : Tm → Option Tm
  | .var x i =>
      if i ≥ c then
        if (i : Int) + amt ≥ (c : Int) then some (.var x ((i : Int) + amt).toNat) else none
      else some (.var x i)
  | .hole id s =>
      if s ≥ c then
        if (s : Int) + amt ≥ (c : Int) then some (.hole id ((s : Int) + amt).toNat) else none
      else some (.hole id s)
  | .lam x im d b =>
      match sshift c amt d with
      | none => none
      | some d' => match sshift (c+1) amt b with
        | none => none
        | some b' => some (.lam x im d' b')
  | .pi x im d b =>
      match sshift c amt d with
      | none => none
      | some d' => match sshift (c+1) amt b with
        | none => none
        | some b' => some (.pi x im d' b')
  | .app f a =>
      match sshift c amt f with
      | none => none
      | some f' => match sshift c amt a with
        | none => none
        | some a' => some (.app f' a')
  | .letg ds b =>
      match sshiftDefs (c + ds.len) amt ds with
      | none => none
      | some ds' => match sshift (c + ds.len) amt b with
        | none => none
        | some b' => some (.letg ds' b')
  | .neg a =>
      match sshift c amt a with
      | none => none
      | some a' => some (.neg a')
  | .bin op a b =>
      match sshift c amt a with
      | none => none
      | some a' => match sshift c amt b with
        | none => none
        | some b' => some (.bin op a' b')
  | .ite a b d =>
      match sshift c amt a with
      | none => none
      | some a' => match sshift c amt b with
        | none => none
        | some b' => match sshift c amt d with
          | none => none
          | some d' => some (.ite a' b' d')
  | .type => some .type
  | .int => some .int
  | .bool => some .bool
  | .tt => some .tt
  | .ff => some .ff
  | .lit n => some (.lit n)
def sshiftDefs (c : Nat) (amt : Int) : Defs → Option Defs
  | .nil => some .nil
  | .cons x a d r =>
      match sshift c amt a with
      | none => none
      | some a' => match sshift c amt d with
        | none => none
        | some d' => match sshiftDefs c amt r with
          | none => none
          | some r' => some (.cons x a' d' r')
end

mutual
def ushift (c a : Nat) : Tm → Tm
  | .var x i => if i ≥ c then .var x (i + a) else .var x i
  | .hole id s => if s ≥ c then .hole id (s + a) else .hole id s
  | .lam x im d b => .lam x im (ushift c a d) (ushift (c+1) a b)
  | .pi x im d b => .pi x im (ushift c a d) (ushift (c+1) a b)
  | .app f g => .app (ushift c a f) (ushift c a g)
  | .letg ds b => .letg (ushiftDefs (c + ds.len) a ds) (ushift (c + ds.len) a b)
  | .neg t => .neg (ushift c a t)
  | .bin op t u => .bin op (ushift c a t) (ushift c a u)
  | .ite t u v => .ite (ushift c a t) (ushift c a u) (ushift c a v)
  | .type => .type
  | .int => .int
  | .bool => .bool
  | .tt => .tt
  | .ff => .ff
  | .lit n => .lit n
def ushiftDefs (c a : Nat) : Defs → Defs
  | .nil => .nil
  | .cons x t u r => .cons x (ushift c a t) (ushift c a u) (ushiftDefs c a r)
end

mutual
def openT (t : Tm) (i : Nat) (u : Tm) (s : Nat) : Tm :=
  match t with
  | .var x j => if j = i then ushift 0 s u else if j > i then .var x (j - 1) else .var x j
  | .hole id k => if k > i then .hole id (k - 1) else .hole id k
  | .lam x im d b => .lam x im (openT d i u s) (openT b (i+1) u (s+1))
  | .pi x im d b => .pi x im (openT d i u s) (openT b (i+1) u (s+1))
  | .app f a => .app (openT f i u s) (openT a i u s)
  | .letg ds b => .letg (openDefs ds (i + ds.len) u (s + ds.len)) (openT b (i + ds.len) u (s + ds.len))
  | .neg a => .neg (openT a i u s)
  | .bin op a b => .bin op (openT a i u s) (openT b i u s)
  | .ite a b c => .ite (openT a i u s) (openT b i u s) (openT c i u s)
  | .type => .type
  | .int => .int
  | .bool => .bool
  | .tt => .tt
  | .ff => .ff
  | .lit n => .lit n
def openDefs (ds : Defs) (i : Nat) (u : Tm) (s : Nat) : Defs :=
  match ds with
  | .nil => .nil
  | .cons x a d r => .cons x (openT a i u s) (openT d i u s) (openDefs r i u s)
end

-- `freeVars t c`: the list (with repetitions, in traversal order) of `index - c` for every
-- variable occurrence whose index is `≥ c`; the Rust collects the same numbers into a set.
mutual
def freeVars (t : Tm) (c : Nat) : List Nat :=
  match t with
  | .var _ i => if i ≥ c then [i - c] else []
  | .lam _ _ d b => freeVars d c ++ freeVars b (c+1)
  | .pi _ _ d b => freeVars d c ++ freeVars b (c+1)
  | .app f a => freeVars f c ++ freeVars a c
  | .letg ds b => freeVarsDefs ds (c + ds.len) ++ freeVars b (c + ds.len)
  | .neg a => freeVars a c
  | .bin _ a b => freeVars a c ++ freeVars b c
  | .ite a b d => freeVars a c ++ freeVars b c ++ freeVars d c
  | _ => []
def freeVarsDefs (ds : Defs) (c : Nat) : List Nat :=
  match ds with
  | .nil => []
  | .cons _ a d r => freeVars a c ++ freeVars d c ++ freeVarsDefs r c
end

-- `freeAt t i`: variable `i` occurs free in `t`.
mutual
def freeAt (t : Tm) (i : Nat) : Bool :=
  match t with
  | .var _ j => j == i
  | .lam _ _ d b => freeAt d i || freeAt b (i+1)
  | .pi _ _ d b => freeAt d i || freeAt b (i+1)
  | .app f a => freeAt f i || freeAt a i
  | .letg ds b => freeAtDefs ds (i + ds.len) || freeAt b (i + ds.len)
  | .neg a => freeAt a i
  | .bin _ a b => freeAt a i || freeAt b i
  | .ite a b d => freeAt a i || freeAt b i || freeAt d i
  | _ => false
def freeAtDefs (ds : Defs) (i : Nat) : Bool :=
  match ds with
  | .nil => false
  | .cons _ a d r => freeAt a i || freeAt d i || freeAtDefs r i
end

-- `wellScoped n t`: every free variable of `t` is `< n` (and every hole shift is `≤ n`, i.e. the
-- hole's home scope exists).
mutual
def wellScoped (n : Nat) : Tm → Bool
  | .var _ i => decide (i < n)
  | .hole _ s => decide (s ≤ n)
  | .lam _ _ d b => wellScoped n d && wellScoped (n+1) b
  | .pi _ _ d b => wellScoped n d && wellScoped (n+1) b
  | .app f a => wellScoped n f && wellScoped n a
  | .letg ds b => wellScopedDefs (n + ds.len) ds && wellScoped (n + ds.len) b
  | .neg a => wellScoped n a
  | .bin _ a b => wellScoped n a && wellScoped n b
  | .ite a b d => wellScoped n a && wellScoped n b && wellScoped n d
  | _ => true
def wellScopedDefs (n : Nat) : Defs → Bool
  | .nil => true
  | .cons _ a d r => wellScoped n a && wellScoped n d && wellScopedDefs n r
end

-- `lowFree t c k`: some variable (or hole shift) of `t` lies in `[c, c+k)` — exactly the
-- occurrences that would become unbound when shifting down by `k` at cutoff `c`.
mutual
def lowFree (t : Tm) (c k : Nat) : Bool :=
  match t with
  | .var _ i => decide (c ≤ i ∧ i < c + k)
  | .hole _ s => decide (c ≤ s ∧ s < c + k)
  | .lam _ _ d b => lowFree d c k || lowFree b (c+1) k
  | .pi _ _ d b => lowFree d c k || lowFree b (c+1) k
  | .app f a => lowFree f c k || lowFree a c k
  | .letg ds b => lowFreeDefs ds (c + ds.len) k || lowFree b (c + ds.len) k
  | .neg a => lowFree a c k
  | .bin _ a b => lowFree a c k || lowFree b c k
  | .ite a b d => lowFree a c k || lowFree b c k || lowFree d c k
  | _ => false
def lowFreeDefs (ds : Defs) (c k : Nat) : Bool :=
  match ds with
  | .nil => false
  | .cons _ a d r => lowFree a c k || lowFree d c k || lowFreeDefs r c k
end
